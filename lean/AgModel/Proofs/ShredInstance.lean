import AgModel.Proofs.Shred
/-!
A lawful instance of `AgModel.Shred.Env` (non-vacuity of `Env.Laws`, the hypotheses of the C11 / C12 theorems).

The code is trivially MDS: every recovery shard carries, per position, the whole column of the 32 originals,
encoded injectively into one natural number (`pair a b = 2^a·(2b+1)`, folded over the column). The cipher
and the key mask are the identity, the leaf id is the same list encoding (with the length).
-/
namespace AgModel.Shred.Instance
open AgModel.Pad

/-- number of times 2 divides `n` (fuel `f`) -/
def v2F : Nat → Nat → Nat
  | 0, _ => 0
  | f + 1, n => if n % 2 = 0 ∧ 0 < n then 1 + v2F f (n / 2) else 0

def pair (a b : Nat) : Nat := 2 ^ a * (2 * b + 1)
def fstP (n : Nat) : Nat := v2F n n
def sndP (n : Nat) : Nat := (n / 2 ^ fstP n - 1) / 2

theorem v2F_pair (f a b : Nat) (hf : a < f) : v2F f (pair a b) = a := by
  induction a generalizing f with
  | zero =>
    cases f with
    | zero => omega
    | succ f => simp only [v2F, pair, Nat.pow_zero, Nat.one_mul]; rw [if_neg (by omega)]
  | succ a ih =>
    cases f with
    | zero => omega
    | succ f =>
      have hp : pair (a + 1) b = 2 * pair a b := by
        unfold pair; rw [Nat.pow_succ, Nat.mul_comm _ 2, Nat.mul_assoc]
      have hpos : 0 < pair a b := Nat.mul_pos (Nat.two_pow_pos a) (by omega)
      simp only [v2F, hp]
      rw [if_pos ⟨Nat.mul_mod_right 2 _, Nat.mul_pos (by decide) hpos⟩, Nat.mul_div_cancel_left _ (by decide),
        ih f (Nat.lt_of_succ_lt_succ hf), Nat.add_comm]

theorem fstP_pair (a b : Nat) : fstP (pair a b) = a := by
  unfold fstP
  apply v2F_pair
  have h1 : a < 2 ^ a := Nat.lt_two_pow_self
  have h2 : 2 ^ a ≤ pair a b := Nat.le_mul_of_pos_right _ (by omega)
  omega

theorem sndP_pair (a b : Nat) : sndP (pair a b) = b := by
  unfold sndP
  rw [fstP_pair]
  unfold pair
  rw [Nat.mul_div_cancel_left _ (Nat.two_pow_pos a), Nat.add_sub_cancel, Nat.mul_div_cancel_left _ (by decide)]

/-- injective encoding of a list of naturals -/
def encL : List Nat → Nat
  | [] => 0
  | a :: l => pair a (encL l)

/-- `i`-th element out of an encoded list -/
def nthP : Nat → Nat → Nat
  | n, 0 => fstP n
  | n, i + 1 => nthP (sndP n) i

theorem nthP_encL (l : List Nat) (i : Nat) (h : i < l.length) : nthP (encL l) i = l[i] := by
  induction l generalizing i with
  | nil => simp at h
  | cons a l ih =>
    cases i with
    | zero => simp [nthP, encL, fstP_pair]
    | succ i =>
      simp only [nthP, encL, sndP_pair, List.getElem_cons_succ]
      exact ih i (by simpa using h)

def encB (b : List Nat) : Nat := pair b.length (encL b)

theorem encB_inj (a b : List Nat) (h : encB a = encB b) : a = b := by
  have hl : a.length = b.length := by
    have := congrArg fstP h
    simpa [encB, fstP_pair] using this
  have he : encL a = encL b := by
    have := congrArg sndP h
    simpa [encB, sndP_pair] using this
  apply List.ext_getElem hl
  intro i h1 h2
  rw [← nthP_encL a i h1, ← nthP_encL b i h2, he]

/-- column `p` of the originals -/
def col (D : List Bytes) (p : Nat) : List Nat := D.map (·.getD p 0)

def encode (nc : Nat) (D : List Bytes) : List Bytes :=
  List.replicate nc ((List.range ((D.head?.map List.length).getD 0)).map fun p => encL (col D p))

def restore (_nc _sb : Nat) (_orig rcv : List (Nat × Bytes)) (i : Nat) : Bytes :=
  match rcv with
  | [] => []
  | (_, c) :: _ => c.map fun x => nthP x i

def env : Env := ⟨encode, restore, fun _ b => b, fun _ k => k, encB⟩

theorem head_length (D : List Bytes) (sb : Nat) (hD : D.length = DATA) (hs : ∀ d ∈ D, d.length = sb) :
    (D.head?.map List.length).getD 0 = sb := by
  cases D with
  | nil => cases hD
  | cons d D => exact hs d List.mem_cons_self

theorem laws : env.Laws where
  encode_length := by intro nc D; simp [env, encode]
  encode_size := by
    intro nc D sb hD hs c hc
    simp only [env, encode] at hc
    rw [List.eq_of_mem_replicate hc, List.length_map, List.length_range, head_length D sb hD hs]
  restore_spec := by
    intro nc sb D orig rcv i hD hs ho hr hno hnr hcnt hi hni
    have hiD : i < D.length := by rw [hD]; exact hi
    rw [List.getElem?_eq_getElem hiD]
    cases rcv with
    | nil =>
      -- 32 distinct original indices below 32 plus `i` is one too many
      exfalso
      have hb : ∀ x ∈ i :: orig.map Prod.fst, x < 32 := by
        intro x hx
        rcases List.mem_cons.mp hx with rfl | hx
        · rw [DATA_eq] at hi; exact hi
        · obtain ⟨p, hp, rfl⟩ := List.mem_map.mp hx
          have := ho p hp
          have := (List.getElem?_eq_some_iff.mp this).1
          rw [hD, DATA_eq] at this; exact this
      have := (List.nodup_cons.mpr ⟨hni, hno⟩).length_le_of_subset (l₂ := List.range 32)
        fun x hx => List.mem_range.mpr (hb x hx)
      simp only [List.length_cons, List.length_map, List.length_nil, Nat.add_zero, DATA_eq, List.length_range] at this hcnt
      omega
    | cons p rest =>
      obtain ⟨j, c⟩ := p
      have hc := hr (j, c) List.mem_cons_self
      simp only [env, encode] at hc
      have hc' := List.mem_of_getElem? hc
      have hceq := List.eq_of_mem_replicate hc'
      simp only [env, restore, hceq, head_length D sb hD hs, List.map_map, Option.some.injEq]
      apply List.ext_getElem
      · rw [List.length_map, List.length_range, hs _ (List.getElem_mem hiD)]
      · intro p h1 h2
        simp only [List.length_map, List.length_range] at h1
        simp only [List.getElem_map, List.getElem_range, Function.comp_apply]
        rw [nthP_encL (col D p) i (by simp [col, hiD])]
        simp [col, List.getD_eq_getElem?_getD, List.getElem?_eq_getElem h2]
  keystream_invol := by intro k b; rfl
  keystream_length := by intro k b; rfl
  mask_invol := by intro ct k _; rfl
  mask_length := by intro ct k h; exact h
  leafId_inj := by intro a b h; exact encB_inj a b h

end AgModel.Shred.Instance
