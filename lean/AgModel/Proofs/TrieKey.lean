import AgModel.Model.TrieKey
/-! The 52 chunks of an address are the base-32 digits of `16 * address` (`chunks_val`); chunk-lexicographic order and
    injectivity of `chunks` are read off the numbers. Core Lean only. -/
namespace AgModel.Trie

theorem bitsPerLevel_eq : bitsPerLevel = 5 := rfl

theorem numChunks_eq : numChunks = 52 := by decide

theorem chunkAt_lt (k : Key) (d : Nat) : chunkAt k d < 32 := by
  simp only [chunkAt, bitsPerLevel_eq]
  exact Nat.mod_lt _ (by decide)

theorem chunks_length (k : Key) : (chunks k).length = 52 := by
  simp [chunks, numChunks_eq]

/-- value of a big-endian digit list in base `b` -/
def val (b : Nat) : List Nat → Nat
  | [] => 0
  | x :: xs => x * b ^ xs.length + val b xs

theorem mul_add_lt {x y P u v : Nat} (hxy : x < y) (hu : u < P) : x * P + u < y * P + v := by
  have : (x + 1) * P ≤ y * P := Nat.mul_le_mul_right _ hxy
  rw [Nat.add_mul] at this
  omega

theorem val_lt (b : Nat) (l : List Nat) (h : ∀ x ∈ l, x < b) : val b l < b ^ l.length := by
  induction l with
  | nil => simp [val]
  | cons x xs ih =>
    have hx : x < b := h x (by simp)
    have ih' := ih (fun y hy => h y (by simp [hy]))
    simp only [val, List.length_cons, Nat.pow_succ]
    have := @mul_add_lt x b (b ^ xs.length) (val b xs) 0 hx ih'
    rw [Nat.mul_comm (b ^ xs.length) b]
    omega

theorem val_append (b : Nat) (l1 l2 : List Nat) :
    val b (l1 ++ l2) = val b l1 * b ^ l2.length + val b l2 := by
  induction l1 with
  | nil => simp [val]
  | cons x xs ih =>
    simp only [List.cons_append, val, ih, List.length_append, Nat.pow_add, Nat.add_mul,
      Nat.mul_assoc, Nat.add_assoc]

theorem lexLt_append_left (P a b : List Nat) : lexLt (P ++ a) (P ++ b) = lexLt a b := by
  induction P with
  | nil => rfl
  | cons x P ih => simp [lexLt, ih]

theorem lexLt_eq_val (b : Nat) (a c : List Nat) (hl : a.length = c.length)
    (ha : ∀ x ∈ a, x < b) (hc : ∀ x ∈ c, x < b) :
    lexLt a c = decide (val b a < val b c) := by
  induction a generalizing c with
  | nil =>
    cases c with
    | nil => rfl
    | cons y ys => cases hl
  | cons x xs ih =>
    cases c with
    | nil => cases hl
    | cons y ys =>
      have hl' : xs.length = ys.length := Nat.succ.inj hl
      have ha' := (List.forall_mem_cons.1 ha).2
      have hc' := (List.forall_mem_cons.1 hc).2
      have hxs := val_lt b xs ha'
      have hys := val_lt b ys hc'
      rw [lexLt, val, val, hl', ih ys hl' ha' hc']
      rw [hl'] at hxs
      -- the leading digits decide unless they are equal
      rcases Nat.lt_trichotomy x y with hxy | rfl | hxy
      · rw [decide_eq_true hxy, Bool.true_or, decide_eq_true (mul_add_lt hxy hxs)]
      · rw [decide_eq_false (Nat.lt_irrefl x), Bool.false_or, beq_self_eq_true, Bool.true_and]
        exact decide_eq_decide.2 Nat.add_lt_add_iff_left.symm
      · rw [decide_eq_false (Nat.lt_asymm hxy), Bool.false_or, beq_false_of_ne (Nat.ne_of_gt hxy), Bool.false_and,
          decide_eq_false (Nat.lt_asymm (mul_add_lt hxy hys))]

theorem val_inj (b : Nat) (a c : List Nat) (hl : a.length = c.length)
    (ha : ∀ x ∈ a, x < b) (hc : ∀ x ∈ c, x < b) (hv : val b a = val b c) : a = c := by
  induction a generalizing c with
  | nil =>
    cases c with
    | nil => rfl
    | cons y ys => cases hl
  | cons x xs ih =>
    cases c with
    | nil => cases hl
    | cons y ys =>
      have hl' : xs.length = ys.length := Nat.succ.inj hl
      have ha' := (List.forall_mem_cons.1 ha).2
      have hc' := (List.forall_mem_cons.1 hc).2
      have hxs := val_lt b xs ha'
      have hys := val_lt b ys hc'
      rw [val, val, hl'] at hv
      rw [hl'] at hxs
      -- unequal leading digits would order the values
      rcases Nat.lt_trichotomy x y with h | rfl | h
      · exact absurd hv (Nat.ne_of_lt (mul_add_lt h hxs))
      · rw [ih ys hl' ha' hc' (Nat.add_left_cancel hv)]
      · exact absurd hv.symm (Nat.ne_of_lt (mul_add_lt h hys))

theorem val_concat (b : Nat) (l : List Nat) (x : Nat) : val b (l ++ [x]) = val b l * b + x := by
  rw [val_append]
  simp only [val, List.length_cons, List.length_nil, Nat.pow_zero, Nat.pow_succ, Nat.mul_one, Nat.add_zero,
    Nat.one_mul]

theorem val_div_pow (b : Nat) (l1 l2 : List Nat) (h2 : ∀ x ∈ l2, x < b) :
    val b (l1 ++ l2) / b ^ l2.length = val b l1 := by
  have hlt := val_lt b l2 h2
  rw [val_append, Nat.mul_comm, Nat.mul_add_div (Nat.pos_of_ne_zero (by omega)), Nat.div_eq_of_lt hlt,
    Nat.add_zero]

theorem val_getD2 (b : Nat) (l : List Nat) (hl : ∀ x ∈ l, x < b) (i : Nat) (hi : i + 1 < l.length) :
    l.getD i 0 * b + l.getD (i + 1) 0 = val b l / b ^ (l.length - 2 - i) % (b * b) := by
  have hi0 : i < l.length := Nat.lt_of_succ_lt hi
  have hx : l[i] < b := hl _ (List.getElem_mem hi0)
  have hy : l[i + 1] < b := hl _ (List.getElem_mem hi)
  have key : val b (l.take i ++ [l[i]] ++ [l[i + 1]] ++ l.drop (i + 2)) / b ^ (l.drop (i + 2)).length % (b * b)
      = l[i] * b + l[i + 1] := by
    rw [val_div_pow b _ _ (fun x hx => hl x (List.mem_of_mem_drop hx)), val_concat, val_concat, Nat.add_mul,
      Nat.add_assoc, Nat.mul_assoc, Nat.mul_add_mod_self_right, Nat.mod_eq_of_lt]
    exact Nat.lt_of_lt_of_le (Nat.add_lt_add_left hy _) (by rw [← Nat.succ_mul]; exact Nat.mul_le_mul_right b hx)
  rw [← List.take_succ_eq_append_getElem hi0, ← List.take_succ_eq_append_getElem hi, List.take_append_drop,
    List.length_drop, Nat.sub_add_eq] at key
  rw [List.getD_eq_getElem?_getD, List.getD_eq_getElem?_getD, List.getElem?_eq_getElem hi0,
    List.getElem?_eq_getElem hi, Option.getD_some, Option.getD_some, Nat.sub_right_comm, key]

theorem val_digits (b n m : Nat) :
    val b ((List.range n).map (fun d => m / b ^ (n - 1 - d) % b)) = m % b ^ n := by
  induction n generalizing m with
  | zero => simp [val, Nat.mod_one]
  | succ n ih =>
    have h : (List.range n).map (fun d => m / b ^ (n + 1 - 1 - d) % b)
        = (List.range n).map (fun d => m / b / b ^ (n - 1 - d) % b) := by
      apply List.map_congr_left
      intro d hd
      have : n + 1 - 1 - d = (n - 1 - d) + 1 := by have := List.mem_range.mp hd; omega
      rw [this, Nat.pow_succ, Nat.mul_comm, Nat.div_div_eq_div_mul]
    rw [List.range_succ, List.map_append, List.map_singleton, val_concat, h, ih, Nat.pow_succ,
      Nat.mul_comm (b ^ n), Nat.mod_mul, Nat.add_sub_cancel, Nat.sub_self, Nat.pow_zero, Nat.div_one,
      Nat.mul_comm, Nat.add_comm]

/-- `get(i).map_or(0, ..)` past the end reads the same as one appended zero byte -/
theorem getD_append_zero (l : List Nat) (j : Nat) : (l ++ [0]).getD j 0 = l.getD j 0 := by
  simp only [List.getD_eq_getElem?_getD, List.getElem?_append]
  split
  · rfl
  · next h => rw [List.getElem?_eq_none (Nat.le_of_not_lt h)]; cases j - l.length <;> rfl

/-- shifting a 16-bit window right by `s` and keeping 5 bits only looks at bits below 16 -/
theorem mod_div_window (x s : Nat) (hs : s ≤ 11) : x % 2 ^ 16 / 2 ^ s % 2 ^ 5 = x / 2 ^ s % 2 ^ 5 := by
  have e : 2 ^ 16 = 2 ^ s * 2 ^ (16 - s) := by rw [← Nat.pow_add]; congr 1; omega
  rw [e, Nat.mod_mul_right_div_self, Nat.mod_mod_of_dvd _ (Nat.pow_dvd_pow 2 (by omega))]

/-- `chunk_at(d)` is the bit field `[5d, 5d + 5)` of the key read as a big-endian number with one zero byte
    appended, for a key of any length, as long as the byte `key[5d / 8]` exists (where Rust would not panic).
    The two bytes of the window are the digits `i = 5d / 8` and `i + 1` of the padded key (`val_getD2`), i.e. the
    low 16 bits of `X / 256 ^ (len - 1 - i)`. -/
theorem chunkAt_eq_div (k : Key) (hb : ∀ x ∈ k, x < 256) (d : Nat) (hd : d * 5 / 8 < k.length) :
    chunkAt k d = val 256 k * 256 / 2 ^ (8 * k.length + 3 - d * 5) % 32 := by
  have e1 : k.length + 1 - 2 - d * 5 / 8 = k.length - 1 - d * 5 / 8 := rfl
  have e2 : (256 : Nat) ^ (k.length - 1 - d * 5 / 8) * 2 ^ (16 - 5 - d * 5 % 8)
      = 2 ^ (8 * k.length + 3 - d * 5) := by
    show (2 ^ 8) ^ _ * _ = _
    rw [← Nat.pow_mul, ← Nat.pow_add]; congr 1
    have hdm := Nat.div_add_mod (d * 5) 8
    have hr := Nat.mod_lt (d * 5) (by decide : 0 < 8)
    generalize d * 5 / 8 = i at *
    generalize d * 5 % 8 = r at *
    omega
  have hs : 16 - 5 - d * 5 % 8 ≤ 11 := Nat.sub_le _ _
  have hK : ∀ x ∈ k ++ [0], x < 256 := by
    intro x hx
    rcases List.mem_append.mp hx with h | h
    · exact hb x h
    · rw [List.mem_singleton.mp h]; decide
  have hlen : (k ++ [0]).length = k.length + 1 := by rw [List.length_append]; rfl
  have g := val_getD2 256 _ hK (d * 5 / 8) (by rw [hlen]; exact Nat.succ_lt_succ hd)
  rw [getD_append_zero, getD_append_zero, val_concat, Nat.add_zero (val 256 k * 256), hlen, e1] at g
  simp only [chunkAt, bitsPerLevel_eq]
  rw [g]
  show _ % 2 ^ 16 / _ % 2 ^ 5 = _
  rw [mod_div_window _ _ hs, Nat.div_div_eq_div_mul, e2]

/-- the factor 16: 256 bits padded to 52 * 5 = 260 -/
theorem chunks_val (k : Key) (h : ValidKey k) : val 32 (chunks k) = 16 * val 256 k := by
  obtain ⟨hl, hb⟩ := h
  have hl : k.length = 32 := hl
  have e : chunks k = (List.range 52).map (fun d => 16 * val 256 k / 32 ^ (52 - 1 - d) % 32) := by
    rw [chunks, numChunks_eq]
    apply List.map_congr_left
    intro d hd
    have hd := List.mem_range.mp hd
    have e1 : 2 ^ (8 * 32 + 3 - d * 5) = 16 * 32 ^ (52 - 1 - d) := by
      show _ = 2 ^ 4 * (2 ^ 5) ^ _
      rw [← Nat.pow_mul, ← Nat.pow_add]; congr 1; omega
    rw [chunkAt_eq_div k hb d (by rw [hl]; exact Nat.div_lt_of_lt_mul (by omega)), hl, e1, ← Nat.div_div_eq_div_mul, show (256 : Nat) = 16 * 16 from rfl,
      ← Nat.mul_assoc, Nat.mul_div_cancel _ (by decide), Nat.mul_comm]
  have hlt : 16 * val 256 k < 32 ^ 52 := by
    have := val_lt 256 k hb
    rw [hl] at this
    have e2 : (32 : Nat) ^ 52 = 16 * 256 ^ 32 := by decide
    omega
  rw [e, val_digits, Nat.mod_eq_of_lt hlt]

theorem chunks_digits (k : Key) : ∀ x ∈ chunks k, x < 32 := by
  intro x hx
  simp only [chunks, List.mem_map] at hx
  obtain ⟨d, _, rfl⟩ := hx
  exact chunkAt_lt k d

def keyNum (k : Key) : Nat := val 32 (chunks k)

theorem keyLt_iff {a b : Key} : keyLt a b = true ↔ keyNum a < keyNum b := by
  rw [keyLt, lexLt_eq_val 32 _ _ (by rw [chunks_length, chunks_length]) (chunks_digits a) (chunks_digits b),
    decide_eq_true_iff]
  rfl

theorem keyLt_irrefl (k : Key) : keyLt k k = false := Bool.eq_false_iff.2 fun h => Nat.lt_irrefl _ (keyLt_iff.1 h)
theorem keyLt_trans {a b c : Key} (h1 : keyLt a b = true) (h2 : keyLt b c = true) : keyLt a c = true :=
  keyLt_iff.2 (Nat.lt_trans (keyLt_iff.1 h1) (keyLt_iff.1 h2))
theorem keyLt_asymm {a b : Key} (h : keyLt a b = true) : keyLt b a = false :=
  Bool.eq_false_iff.2 fun h' => Nat.lt_asymm (keyLt_iff.1 h) (keyLt_iff.1 h')
theorem keyLt_ne {a b : Key} (h : keyLt a b = true) : a ≠ b := by
  intro e; subst e; rw [keyLt_irrefl] at h; cases h

/-- a valid key is determined by its 52 chunks (the 5-bit windows cover all 256 bits) -/
theorem chunks_injective (k1 k2 : Key) (h1 : ValidKey k1) (h2 : ValidKey k2) (hc : chunks k1 = chunks k2) :
    k1 = k2 := by
  have hv : 16 * val 256 k1 = 16 * val 256 k2 := by
    rw [← chunks_val k1 h1, ← chunks_val k2 h2, hc]
  exact val_inj 256 k1 k2 (h1.1.trans h2.1.symm) h1.2 h2.2 (by omega)

/-- chunk-lexicographic order (the trie's iteration order) is byte-lexicographic order on real addresses -/
theorem chunks_lex_iff (k1 k2 : Key) (h1 : ValidKey k1) (h2 : ValidKey k2) : keyLt k1 k2 = lexLt k1 k2 := by
  rw [Bool.eq_iff_iff, keyLt_iff, keyNum, keyNum, chunks_val k1 h1, chunks_val k2 h2,
    lexLt_eq_val 256 k1 k2 (h1.1.trans h2.1.symm) h1.2 h2.2, decide_eq_true_iff]
  omega

end AgModel.Trie
