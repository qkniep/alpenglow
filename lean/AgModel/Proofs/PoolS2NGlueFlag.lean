import AgModel.Proofs.PoolS2NGlueSlots
/-! Pool-level glue for C06: **flag completeness**. For every registered pair (block, parent) whose slot is
    retained, the slot state of the block exists and the block's parent entry is `true`, or it is `false`, the pool
    holds no certificate for the parent, and the block waits in the waiting map under its parent (`FlagOk`).
    While `add_valid_cert` runs, the children of the block being certified (`x = some par0`) are exempt from
    "no certificate held" until `notify_waiting_children` has gone through them (`rem` = children still to wake).
    `add_block` opens the same exemption for the pair it registers (`x = some par`, `rem = [b]`) until it has notified or
    queued the block. -/
namespace AgModel.Pool

def FlagOk (p : Pool) (x : Option (Nat × Nat)) (rem : List (Nat × Nat)) (r : Reg) : Prop :=
  p.fin.first ≤ r.1.1 → ∃ st, p.getSlot r.1.1 = some st ∧
    (st.parents.lookup r.1.2 = some true ∨
     (st.parents.lookup r.1.2 = some false ∧
       ((x = some r.2 ∧ r.1 ∈ rem) ∨ (x ≠ some r.2 ∧ ¬ Held p r.2 ∧ r.1 ∈ kidsOf p r.2))))

theorem FlagOk.known {p : Pool} {x : Option (Nat × Nat)} {rem : List (Nat × Nat)} {r : Reg} (h : FlagOk p x rem r)
    (hf : p.fin.first ≤ r.1.1) : ∃ st, p.getSlot r.1.1 = some st ∧ (st.parents.lookup r.1.2).isSome = true := by
  obtain ⟨st, hg, hc⟩ := h hf
  refine ⟨st, hg, ?_⟩
  rcases hc with hc | ⟨hc, _⟩ <;> rw [hc] <;> rfl

/-- how the invariant sees any step from `p` to `q`: the watermark does not fall, flags only rise, a certificate appears
    only for the exempt block, waiting children above the watermark keep waiting, and a child leaves `rem` with its flag set -/
theorem FlagOk.transfer {p q : Pool} {x : Option (Nat × Nat)} {rem rem' : List (Nat × Nat)} {r : Reg}
    (h : FlagOk p x rem r)
    (hf : q.fin.first ≤ r.1.1 → p.fin.first ≤ r.1.1)
    (hslot : q.fin.first ≤ r.1.1 → ∀ st, p.getSlot r.1.1 = some st → ∃ st', q.getSlot r.1.1 = some st' ∧
        ∀ f, st.parents.lookup r.1.2 = some f → st'.parents.lookup r.1.2 = some f ∨ st'.parents.lookup r.1.2 = some true)
    (hheld : x ≠ some r.2 → Held q r.2 → Held p r.2)
    (hkids : x ≠ some r.2 → q.fin.first ≤ r.1.1 → r.1 ∈ kidsOf p r.2 → r.1 ∈ kidsOf q r.2)
    (hrem : q.fin.first ≤ r.1.1 → r.1 ∈ rem →
      r.1 ∈ rem' ∨ ∃ st', q.getSlot r.1.1 = some st' ∧ st'.parents.lookup r.1.2 = some true) :
    FlagOk q x rem' r := by
  intro hq
  obtain ⟨st, hg, hc⟩ := h (hf hq)
  obtain ⟨st', hg', hl⟩ := hslot hq st hg
  refine ⟨st', hg', ?_⟩
  rcases hc with hc | ⟨hc, hw⟩
  · left; rcases hl true hc with a | a <;> exact a
  · rcases hl false hc with a | a
    · rcases hw with ⟨hx, hr⟩ | ⟨hx, hnh, hk⟩
      · rcases hrem hq hr with b | ⟨st'', hg'', ht⟩
        · right; exact ⟨a, Or.inl ⟨hx, b⟩⟩
        · left; rw [hg'] at hg''; cases hg''; exact ht
      · right; exact ⟨a, Or.inr ⟨hx, fun hh => hnh (hheld hx hh), hkids hx hq hk⟩⟩
    · left; exact a

theorem held_old {p : Pool} {s y : Nat} (hh : (p.slotState s).2.isNfOrStronger y = true) : Held p (s, y) := by
  cases hg : p.getSlot s with
  | none => rw [slotState_snd_of_none hg, isNfOrStronger_init] at hh; cases hh
  | some st => rw [slotState_snd_of_some hg] at hh; exact ⟨st, hg, hh⟩

theorem Held.of_mod {p : Pool} {s : Nat} {st' : SlotState} {par : Nat × Nat} (hs : st'.slot = s)
    (h : Held ((p.slotState s).1.putSlot st') par) :
    (par.1 = s ∧ st'.isNfOrStronger par.2 = true) ∨ (par.1 ≠ s ∧ Held p par) := by
  obtain ⟨st, hg, hh⟩ := h
  rw [getSlot_mod p s st' hs] at hg
  by_cases he : par.1 = s
  · simp only [he, if_true] at hg; cases hg; exact Or.inl ⟨he, hh⟩
  · simp only [he, if_false] at hg; exact Or.inr ⟨he, st, hg, hh⟩

theorem Held.of_advance {p : Pool} {t : Finality.Tracker} {r : ParentReady.Res} {par : Nat × Nat}
    (h : Held (p.advance t r) par) : Held p par := by
  obtain ⟨st, hg, hh⟩ := h
  rw [getSlot_advance] at hg
  split at hg
  · exact ⟨st, hg, hh⟩
  · cases hg

theorem Held.of_getSlot {p q : Pool} {par : Nat × Nat} (hs : ∀ s, q.getSlot s = p.getSlot s) (h : Held q par) : Held p par := by
  obtain ⟨st, hg, hh⟩ := h
  exact ⟨st, by rw [← hs]; exact hg, hh⟩

theorem FlagOk.of_views {p q : Pool} {x : Option (Nat × Nat)} {rem : List (Nat × Nat)} {r : Reg} (h : FlagOk p x rem r)
    (hf : q.fin = p.fin) (hs : ∀ s, q.getSlot s = p.getSlot s) (hw : q.waiting = p.waiting) : FlagOk q x rem r := by
  apply h.transfer
  · intro hq; rw [hf] at hq; exact hq
  · intro _ st hg; exact ⟨st, by rw [hs]; exact hg, fun f hf' => Or.inl hf'⟩
  · intro _ hh; exact hh.of_getSlot hs
  · intro _ _ hk; unfold kidsOf at *; rw [hw]; exact hk
  · intro _ hr; exact Or.inl hr

/-- one slot state is replaced: entries of `parents` only move from `false` to `true`, and the only certificate that
    may appear is one for the exempt block `x` -/
theorem FlagOk.mod {p : Pool} {s : Nat} {st' : SlotState} {x : Option (Nat × Nat)} {rem rem' : List (Nat × Nat)} {r : Reg}
    (hs : st'.slot = s) (h : FlagOk p x rem r)
    (hpar : ∀ y f, (p.slotState s).2.parents.lookup y = some f → st'.parents.lookup y = some f ∨ st'.parents.lookup y = some true)
    (hcert : ∀ y, st'.isNfOrStronger y = true → (p.slotState s).2.isNfOrStronger y = true ∨ x = some (s, y))
    (hrem : ∀ k ∈ rem, k ∈ rem' ∨ (k.1 = s ∧ st'.parents.lookup k.2 = some true)) :
    FlagOk ((p.slotState s).1.putSlot st') x rem' r := by
  have hfr := mod_frame p s st'
  apply h.transfer
  · intro hq; rw [hfr.fin] at hq; exact hq
  · intro _ st hg
    rw [getSlot_mod p s st' hs]
    by_cases he : r.1.1 = s
    · simp only [he, if_true]
      refine ⟨st', rfl, fun f hf => ?_⟩
      have : (p.slotState s).2 = st := slotState_snd_of_some (he ▸ hg)
      rw [← this] at hf
      exact hpar _ f hf
    · simp only [he, if_false]
      exact ⟨st, hg, fun f hf => Or.inl hf⟩
  · intro hx hh
    rcases Held.of_mod hs hh with ⟨h1, h2⟩ | ⟨_, h2⟩
    · rcases hcert _ h2 with h3 | h3
      · have : Held p (s, r.2.2) := held_old h3
        rw [← h1] at this; exact this
      · exfalso; apply hx; rw [h3, ← h1]
    · exact h2
  · intro _ _ hk; unfold kidsOf at *; rw [hfr.waiting]; exact hk
  · intro _ hr
    rcases hrem _ hr with a | ⟨a, b⟩
    · exact Or.inl a
    · right; refine ⟨st', ?_, b⟩; rw [getSlot_mod p s st' hs, if_pos a]

/-- `slot_state(s)` is writing the slot state of `s` back unchanged, as far as the invariant can see -/
theorem FlagOk.slotState {p : Pool} {x : Option (Nat × Nat)} {rem : List (Nat × Nat)} {r : Reg} (h : FlagOk p x rem r) (s : Nat) :
    FlagOk (p.slotState s).1 x rem r :=
  (h.mod (slotState_snd_slot p s) (fun _ _ hy => Or.inl hy) (fun _ hy => Or.inl hy) (fun _ hk => Or.inl hk)).of_views
    ((slotState_frame p s).fin.trans (mod_frame p s _).fin.symm)
    (fun s' => by rw [getSlot_slotState, getSlot_mod p s _ (slotState_snd_slot p s)])
    ((slotState_frame p s).waiting.trans (mod_frame p s _).waiting.symm)

theorem FlagOk.certified {p : Pool} {s y : Nat} {e : Epoch} {st' : SlotState} {evs : List Event} {x : Option (Nat × Nat)}
    {rem rem' : List (Nat × Nat)} {r : Reg} (h : FlagOk p x rem r)
    (hn : (p.slotState s).2.notifyParentCertified e y = some (st', evs)) (hrem : ∀ k ∈ rem, k ∈ rem' ∨ k = (s, y)) :
    FlagOk ((p.slotState s).1.putSlot st') x rem' r := by
  obtain ⟨n1, _, n3, n4⟩ := notifyParentCertified_spec hn
  apply h.mod (n1.trans (slotState_snd_slot p s))
  · intro z f hz
    rw [n3]
    by_cases hzy : z = y
    · right; rw [if_pos hzy, hz]; rfl
    · left; rw [if_neg hzy]; exact hz
  · intro z hz; left; rw [← n4]; exact hz
  · intro k hk
    rcases hrem k hk with a | rfl
    · exact Or.inl a
    · exact Or.inr ⟨rfl, notifyParentCertified_true hn⟩

theorem FlagOk.advance {p : Pool} {x : Option (Nat × Nat)} {rem rem' : List (Nat × Nat)} {r : Reg}
    (t : Finality.Tracker) (r0 : ParentReady.Res) (hm : p.fin.first ≤ t.first) (h : FlagOk p x rem r)
    (hrem : ∀ k ∈ rem, t.first ≤ k.1 → k ∈ rem') : FlagOk (p.advance t r0) x rem' r := by
  have hfin := advance_fin p t r0
  apply h.transfer
  · intro hq; rw [hfin] at hq; omega
  · intro hq st hg
    rw [hfin] at hq
    rw [getSlot_advance, if_pos hq]
    exact ⟨st, hg, fun f hf => Or.inl hf⟩
  · intro _ hh; exact hh.of_advance
  · intro _ hq hk; rw [hfin] at hq; exact kidsOf_advance t r0 hk hq
  · intro hq hr; rw [hfin] at hq; exact Or.inl (hrem _ hr hq)

theorem FlagOk.addWaiting {p : Pool} {rem : List (Nat × Nat)} {r : Reg} {x : Option (Nat × Nat)} (h : FlagOk p x rem r) (par b : Nat × Nat) :
    FlagOk (Pool.addWaiting p par b) x rem r := by
  apply h.transfer
  · intro hq; rw [(addWaiting_frame p par b).2] at hq; exact hq
  · intro _ st hg; exact ⟨st, by rw [getSlot_addWaiting]; exact hg, fun f hf' => Or.inl hf'⟩
  · intro _ hh; exact hh.of_getSlot (getSlot_addWaiting p par b)
  · intro _ _ hk; exact (kidsOf_addWaiting p par b).1 _ _ hk
  · intro _ hr; exact Or.inl hr

/-- the same pool under another exemption: only the waiting clause of a `false` entry is re-examined -/
theorem FlagOk.reindex {p : Pool} {x x' : Option (Nat × Nat)} {rem rem' : List (Nat × Nat)} {r : Reg} (h : FlagOk p x rem r)
    (hw : (x = some r.2 ∧ r.1 ∈ rem) ∨ (x ≠ some r.2 ∧ ¬ Held p r.2 ∧ r.1 ∈ kidsOf p r.2) →
      (x' = some r.2 ∧ r.1 ∈ rem') ∨ (x' ≠ some r.2 ∧ ¬ Held p r.2 ∧ r.1 ∈ kidsOf p r.2)) : FlagOk p x' rem' r := by
  intro hq
  obtain ⟨st, hg, hc⟩ := h hq
  exact ⟨st, hg, hc.imp_right (fun ⟨hc, w⟩ => ⟨hc, hw w⟩)⟩

theorem FlagOk.none_rem {p : Pool} {rem rem' : List (Nat × Nat)} {r : Reg} (h : FlagOk p none rem r) : FlagOk p none rem' r :=
  h.reindex (fun w => w.elim (fun ⟨hx, _⟩ => by cases hx) Or.inr)

/-- opening the exemption: the children of `par0` are (for the moment) only required to wait under `par0` -/
theorem FlagOk.exempt {p : Pool} {r : Reg} (h : FlagOk p none [] r) (par0 : Nat × Nat) :
    FlagOk p (some par0) (kidsOf p par0) r := by
  refine h.reindex (fun w => w.elim (fun ⟨hx, _⟩ => by cases hx) (fun ⟨_, hnh, hk⟩ => ?_))
  by_cases he : some par0 = some r.2
  · exact Or.inl ⟨he, Option.some.inj he ▸ hk⟩
  · exact Or.inr ⟨he, hnh, hk⟩

/-- closing the exemption once every child has been woken -/
theorem FlagOk.close {p : Pool} {r : Reg} {par0 : Nat × Nat} (h : FlagOk p (some par0) [] r) : FlagOk p none [] r :=
  h.reindex (fun w => w.elim (fun ⟨_, hr⟩ => by cases hr) (fun ⟨_, hnh, hk⟩ => Or.inr ⟨by simp, hnh, hk⟩))

/-- `notify_waiting_children(par0)` closes the exemption, and never hits `parent not known`: a child still to be woken is
    registered, so its entry exists -/
theorem notifyWaiting_flag (R : List Reg) (p : Pool) (par0 : Nat × Nat) (hW : WaitReg R p)
    (hF : ∀ r ∈ R, FlagOk p (some par0) (kidsOf p par0) r) :
    (∀ r ∈ R, FlagOk (p.notifyWaiting par0).1 none [] r) ∧ Event.panic ∉ (p.notifyWaiting par0).2 := by
  have := notifyWaiting_ind
    (fun ks q A => (∀ k ∈ ks, (k, par0) ∈ R) ∧ (∀ r ∈ R, FlagOk q (some par0) ks r) ∧ Event.panic ∉ A)
    ?_ ?_ ?_ p par0 ⟨fun k hk => hW.kidsOf hk, fun r hr => ?_, List.not_mem_nil⟩
  · exact ⟨fun r hr => (this.2.1 r hr).close, this.2.2⟩
  · intro k ks q A hlt ⟨h1, h2, h3⟩
    refine ⟨fun k' hk' => h1 k' (List.mem_cons_of_mem _ hk'), fun r hr => ?_, h3⟩
    apply (h2 r hr).transfer (fun hq => hq) (fun _ st hg => ⟨st, hg, fun f hf => Or.inl hf⟩) (fun _ hh => hh)
      (fun _ _ hk => hk)
    intro hq hm
    rcases List.mem_cons.mp hm with he | hm
    · rw [he] at hq; omega
    · exact Or.inl hm
  · intro k ks q A hge hn ⟨h1, h2, _⟩
    obtain ⟨st0, hg0, hk0⟩ := (h2 _ (h1 k List.mem_cons_self)).known hge
    rw [slotState_snd_of_some hg0] at hn
    exact absurd hn (notifyParentCertified_known hk0)
  · intro k ks q A st' evs hge hn ⟨h1, h2, h3⟩
    exact ⟨fun k' hk' => h1 k' (List.mem_cons_of_mem _ hk'),
      fun r hr => (h2 r hr).certified hn (fun k' hk' => (List.mem_cons.mp hk').symm),
      List.not_mem_append h3 (notifyParentCertified_events hn)⟩
  · -- the entry of `par0` leaves the waiting map: the children of every other block keep waiting
    refine (hF r hr).transfer (rem' := kidsOf p par0) (q := { p with waiting := p.waiting.filter (·.1 ≠ par0) }) (fun hq => hq)
      (fun _ st hg => ⟨st, hg, fun f hf => Or.inl hf⟩) (fun _ hh => hh) ?_ (fun _ hm => Or.inl hm)
    intro hx _ hk
    unfold kidsOf at hk ⊢
    dsimp only
    rw [lookup_filter _ _ fun _ _ => decide_eq_true (show r.2 ≠ par0 from fun e => hx (by rw [e]))]; exact hk

/-- the block whose children `add_valid_cert(c)` wakes -/
def wakes (c : Cert) : Option (Nat × Nat) :=
  match c.kind with
  | .skip | .final => none
  | _ => some (c.slot, c.hash)

theorem wakes_strong {c : Cert} (h : c.strong) : wakes c = some (c.slot, c.hash) := by
  unfold wakes; rcases h with h | h | h <;> rw [h]

theorem wakes_weak {c : Cert} (h : c.kind = .skip ∨ c.kind = .final) : wakes c = none := by
  unfold wakes; rcases h with h | h <;> rw [h]

def FlagInv (R : List Reg) (p : Pool) : Prop := WaitReg R p ∧ ∀ r ∈ R, FlagOk p none [] r

def FlagMid (R : List Reg) (c : Cert) (p : Pool) : Prop :=
  WaitReg R p ∧ ∀ r ∈ R, FlagOk p (wakes c) (kidsOf p (c.slot, c.hash)) r

/-- storing the certificate opens the exemption for the children of the certified block -/
theorem FlagInv.stored {R : List Reg} {p : Pool} (h : FlagInv R p) (c : Cert) : FlagMid R c (p.stored c) := by
  unfold Pool.stored
  have hfr := mod_frame p c.slot ((p.slotState c.slot).2.addCert c)
  refine ⟨h.1.of_waiting hfr.waiting, fun r hr => ?_⟩
  have h0 : FlagOk p (wakes c) (kidsOf p (c.slot, c.hash)) r := by
    have hc : c.strong ∨ c.kind = .skip ∨ c.kind = .final := by unfold Cert.strong; cases c.kind <;> simp
    rcases hc with hs | hs
    · rw [wakes_strong hs]; exact (h.2 r hr).exempt _
    · rw [wakes_weak hs]; exact (h.2 r hr).none_rem
  have hk : kidsOf ((p.slotState c.slot).1.putSlot ((p.slotState c.slot).2.addCert c)) (c.slot, c.hash) = kidsOf p (c.slot, c.hash) := by
    unfold kidsOf; rw [hfr.waiting]
  rw [hk]
  apply h0.mod ((addCert_slot _ c).trans (slotState_snd_slot p c.slot))
  · intro y f hy; left; rw [addCert_parents]; exact hy
  · intro y hy
    rcases addCert_isNfOrStronger _ c y hy with a | ⟨a, b⟩
    · exact Or.inl a
    · right; rw [wakes_strong a, b]
  · intro k hk'; exact Or.inl hk'

theorem FlagMid.advance {R : List Reg} {c : Cert} {q : Pool} (hq : FlagMid R c q) (t : Finality.Tracker) (r : ParentReady.Res)
    (hm : q.fin.first ≤ t.first) : FlagMid R c (q.advance t r) :=
  ⟨hq.1.advance t r, fun r' hr' => (hq.2 r' hr').advance t r hm (fun _ hk hf => kidsOf_advance t r hk hf)⟩

theorem FlagMid.wake {R : List Reg} {c : Cert} {q : Pool} (hq : FlagMid R c q) (hs : c.strong) :
    FlagInv R (q.notifyWaiting (c.slot, c.hash)).1 ∧ Event.panic ∉ (q.notifyWaiting (c.slot, c.hash)).2 := by
  unfold FlagMid at hq
  rw [wakes_strong hs] at hq
  have := notifyWaiting_flag R q _ hq.1 hq.2
  exact ⟨⟨hq.1.notifyWaiting _, this.1⟩, this.2⟩

theorem addValidCert_flag (R : List Reg) (c : Cert) (p : Pool) (h : FlagInv R p) : FlagInv R (p.addValidCert c).1 := by
  apply addValidCert_ind c p (FlagInv R) (FlagMid R c) (h.stored c) (fun q t r hm hq => hq.advance t r hm)
  · intro q r hq
    obtain ⟨_, hf, hw⟩ := applyPr_frame q r
    exact ⟨hq.1.of_waiting hw, fun r' hr' => (hq.2 r' hr').of_views hf (getSlot_applyPr q r) hw⟩
  · intro hs q hq; exact (hq.wake hs).1
  · intro hs q hq
    unfold FlagMid at hq
    rw [wakes_weak hs] at hq
    exact ⟨hq.1, fun r hr => (hq.2 r hr).none_rem⟩

theorem FlagInv.slotState {R : List Reg} {p : Pool} (h : FlagInv R p) (s : Nat) : FlagInv R (p.slotState s).1 :=
  ⟨h.1.of_waiting (slotState_frame p s).waiting, fun r hr => (h.2 r hr).slotState s⟩

theorem FlagInv.voted {R : List Reg} {p : Pool} (h : FlagInv R p) (v : Vote) : FlagInv R (p.voted v) := by
  refine ⟨h.1.of_waiting (mod_frame p v.slot _).waiting, fun r hr => ?_⟩
  apply (h.2 r hr).mod ((addVote_slot _ _ v).trans (slotState_snd_slot p v.slot))
  · intro y f hy; left; rw [addVote_parents]; exact hy
  · intro y hy; left; rw [addVote_isNfOrStronger] at hy; exact hy
  · intro k hk; exact Or.inl hk

theorem known_known (q : Pool) (b : Nat × Nat) :
    ∃ st, (q.known b).getSlot b.1 = some st ∧ (st.parents.lookup b.2).isSome = true := by
  obtain ⟨k1, k2, _⟩ := notifyParentKnown_spec (q.slotState b.1).2 b.2
  refine ⟨_, ?_, k2⟩
  unfold Pool.known
  rw [getSlot_mod q b.1 _ (k1.trans (slotState_snd_slot q b.1)), if_pos rfl]

theorem FlagOk.knownStep {q : Pool} {x : Reg} (h : FlagOk q none [] x) (b : Nat × Nat) : FlagOk (q.known b) none [] x := by
  obtain ⟨k1, _, k3, _, k5⟩ := notifyParentKnown_spec (q.slotState b.1).2 b.2
  unfold Pool.known
  apply h.mod (k1.trans (slotState_snd_slot q b.1))
  · intro y f hy; exact Or.inl (k3 y f hy)
  · intro y hy; left; rw [← k5]; exact hy
  · intro k hk; exact Or.inl hk

theorem addBlockTail_flagOk (r : Pool) (b par : Nat × Nat) (e0 : List Event) (cert : Bool) {x : Reg}
    (h : FlagOk r none [] x) : FlagOk (Pool.addBlockTail r b par e0 cert).1 none [] x :=
  addBlockTail_ind (fun q _ => FlagOk q none [] x) r b par e0 cert (fun _ hq => hq.addWaiting par b)
    (fun _ _ => h.slotState b.1) (fun _ _ _ hn => h.certified hn (fun _ hk => Or.inl hk)) h

theorem addBlockTail_waitReg (R : List Reg) (r : Pool) (b par : Nat × Nat) (e0 : List Event) (cert : Bool)
    (hb : (b, par) ∈ R) (hW : WaitReg R r) : WaitReg R (Pool.addBlockTail r b par e0 cert).1 :=
  addBlockTail_ind (fun q _ => WaitReg R q) r b par e0 cert (fun _ hq => hq.addWaiting par b hb)
    (fun _ _ => hW.of_waiting (slotState_frame r b.1).waiting) (fun _ st' _ _ => hW.of_waiting (mod_frame r b.1 st').waiting) hW

/-- the freshly registered pair enters as a child of `par` still to be woken: `add_block` wakes it itself when the pool holds
    a certificate for `par`, and queues it otherwise -/
theorem addBlockTail_new (r : Pool) (b par : Nat × Nat) (e0 : List Event)
    (hk : ∃ st, r.getSlot b.1 = some st ∧ (st.parents.lookup b.2).isSome = true) :
    FlagOk (Pool.addBlockTail r b par e0 (r.certifiedB par)).1 none [] (b, par) := by
  obtain ⟨st0, hg0, hk0⟩ := hk
  have h0 : FlagOk r (some par) [b] (b, par) := by
    refine fun _ => ⟨st0, hg0, ?_⟩
    cases hl : st0.parents.lookup b.2 with
    | none => rw [hl] at hk0; cases hk0
    | some f => cases f with
      | true => exact Or.inl rfl
      | false => exact Or.inr ⟨rfl, Or.inl ⟨rfl, List.mem_singleton_self b⟩⟩
  unfold Pool.addBlockTail
  split
  · split
    · rename_i hn
      rw [slotState_snd_of_some hg0] at hn
      exact absurd hn (notifyParentCertified_known hk0)
    · rename_i st' evs hn
      have h1 := (h0.certified (rem' := []) hn (fun k hk => Or.inr (List.mem_singleton.mp hk))).close
      split
      · exact h1.addWaiting par b
      · exact h1
  · rename_i hc
    exact (h0.addWaiting par b).reindex fun _ => Or.inr ⟨(fun h => nomatch h),
      fun hh => hc ((certifiedB_iff_held r par).mpr (Held.of_getSlot (getSlot_addWaiting r par b) hh)), (kidsOf_addWaiting r par b).2⟩

/-- `add_block`'s own call of `notify_parent_certified` is for the entry it has just created: no `parent not known` -/
theorem addBlockTail_no_panic (r : Pool) (b par : Nat × Nat) (e0 : List Event) (cert : Bool)
    (hk : ∃ st, r.getSlot b.1 = some st ∧ (st.parents.lookup b.2).isSome = true) (h0 : Event.panic ∉ e0) :
    Event.panic ∉ (Pool.addBlockTail r b par e0 cert).2 := by
  obtain ⟨st0, hg0, hk0⟩ := hk
  apply addBlockTail_ind (fun _ A => Event.panic ∉ A) r b par e0 cert (fun _ h => h) ?_ ?_ h0
  · intro _ hn
    rw [slotState_snd_of_some hg0] at hn
    exact absurd hn (notifyParentCertified_known hk0)
  · intro _ st' evs hn
    exact List.not_mem_append h0 (notifyParentCertified_events hn)

theorem FlagInv.advance {R : List Reg} {p : Pool} (h : FlagInv R p) (t : Finality.Tracker) (r : ParentReady.Res)
    (hm : p.fin.first ≤ t.first) : FlagInv R (p.advance t r) :=
  ⟨h.1.advance t r, fun x hx => (h.2 x hx).advance t r hm (fun _ hk _ => hk)⟩

theorem addBlock_flag (R : List Reg) (p : Pool) (b par : Nat × Nat) (h : FlagInv R p) :
    FlagInv (R ++ regsOf p (.block b par)) (p.addBlock b par).1 := by
  rcases addBlock_outcomes p b par with ⟨hn, h1⟩ | ⟨t, ev, hgt, hst, hm, h1⟩ <;> rw [h1]
  · rw [show regsOf p (.block b par) = [] by simp [regsOf, hn], List.append_nil]; exact h
  · rw [show regsOf p (.block b par) = [(b, par)] by simp [regsOf, accepted, hgt, hst]]
    have hq := h.advance t (ParentReady.handleFinalization p.pr ev) hm
    have hq1 : WaitReg (R ++ [(b, par)]) (p.advance t (ParentReady.handleFinalization p.pr ev)) :=
      hq.1.mono (fun x hx => List.mem_append_left _ hx)
    split
    · -- a block of a decided slot: its pair is below the watermark
      rename_i hlt
      refine ⟨hq1, fun x hx => ?_⟩
      rcases List.mem_append.mp hx with hx | hx
      · exact hq.2 x hx
      · rw [List.mem_singleton.mp hx]
        intro hf
        rw [advance_fin] at hf
        exact absurd hlt (Nat.not_lt.mpr hf)
    · refine ⟨addBlockTail_waitReg _ _ b par _ _ (by simp) (hq1.of_waiting (known_frame _ b).waiting), fun x hx => ?_⟩
      rcases List.mem_append.mp hx with hx | hx
      · exact addBlockTail_flagOk _ b par _ _ ((hq.2 x hx).knownStep b)
      · rw [List.mem_singleton.mp hx]; exact addBlockTail_new _ b par _ (known_known _ b)

theorem poolStep_flag (R : List Reg) (p : Pool) (op : PoolOp) (h : FlagInv R p) :
    FlagInv (R ++ regsOf p op) (poolStep p op).1 := by
  cases op with
  | vote v =>
    simp only [regsOf, List.append_nil, poolStep]
    exact addVote_ind (FlagInv R) p v (fun s hp => hp.slotState s) (fun _ _ => h.voted v)
      (fun c _ _ q hq => addValidCert_flag R c q hq) h
  | cert c =>
    simp only [regsOf, List.append_nil, poolStep]
    exact addCert_ind (FlagInv R) p c (fun s hp => hp.slotState s) (fun _ q hq => addValidCert_flag R c q hq) h
  | block b par => exact addBlock_flag R p b par h

theorem poolRun_flag (ops : List PoolOp) (R : List Reg) (p : Pool) (h : FlagInv R p) :
    FlagInv (R ++ regsRun p ops) (poolRun p ops).1 :=
  poolRun_ind (fun R _ q => FlagInv R q) (fun R _ p op h => poolStep_flag R p op h) ops R [] p h

theorem FlagInv.init (e : Epoch) : FlagInv [] { epoch := e } :=
  ⟨fun _ _ hm => by simp at hm, fun _ hr => by simp at hr⟩

theorem regsRun_append (p : Pool) (a b : List PoolOp) :
    regsRun p (a ++ b) = regsRun p a ++ regsRun (poolRun p a).1 b := by
  induction a generalizing p with
  | nil => simp [regsRun, poolRun]
  | cons op a ih => simp only [List.cons_append, regsRun, poolRun, ih, List.append_assoc]

theorem mem_regsRun (p : Pool) (pre post : List PoolOp) (b par : Nat × Nat) (ha : accepted (poolRun p pre).1 b par) :
    (b, par) ∈ regsRun p (pre ++ .block b par :: post) := by
  rw [regsRun_append]
  apply List.mem_append_right
  simp [regsRun, regsOf, ha]

theorem regsRun_mem (ops : List PoolOp) (p : Pool) (x : Reg) (hx : x ∈ regsRun p ops) :
    ∃ pre post, ops = pre ++ .block x.1 x.2 :: post ∧ accepted (poolRun p pre).1 x.1 x.2 := by
  induction ops generalizing p with
  | nil => simp [regsRun] at hx
  | cons op ops ih =>
    simp only [regsRun, List.mem_append] at hx
    rcases hx with hx | hx
    · cases op with
      | vote v => simp [regsOf] at hx
      | cert c => simp [regsOf] at hx
      | block b par =>
        simp only [regsOf] at hx
        split at hx
        · rename_i ha
          simp only [List.mem_singleton] at hx; subst hx
          exact ⟨[], ops, rfl, ha⟩
        · cases hx
    · obtain ⟨pre, post, he, ha⟩ := ih _ hx
      exact ⟨op :: pre, post, by rw [he]; rfl, ha⟩

end AgModel.Pool
