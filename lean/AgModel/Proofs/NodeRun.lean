import AgModel.Model.Node
import AgModel.Proofs.VotorExt
import AgModel.Proofs.NodePanic
/-!
Operations and runs of the composed node (`Model/Node.lean`: Pool ∘ Votor with the FIFO event queue).

A node operation is a pool operation whose events are queued, or hands one event to Votor: one from outside, or the head of
the queue. So an invariant of the node in three parts (`Lifted`) — `PI` for the pool, `G` for every queued event, `HV` for
Votor — is kept by every node operation as soon as (`Lift`) the pool keeps `PI` and the events it emits that have a Votor
form are `G` events, a `G` event that Votor takes from the queue is one (`E`) under which a Votor step keeps `HV`, and
what `PI` and `G` say relative to Votor's log survives when the log grows. `Lift.step` is the one walk over `nodeStep`;
the node invariants are its instances. The first: `VInv`, "the voting task has only seen well-formed events", used by C10
(`votor_never_panics`) and by C05 (`Props/C05.lean`, `node_pool_ordered`).
-/
namespace AgModel.NodePanic
open AgModel AgModel.Node

/-- inputs of the composed node: the network side (validated votes / certificates, reconstructed blocks) and what
    the runtime may schedule for the voting task -/
inductive NodeOp where
  | recvVote (v : Pool.Vote)
  | recvCert (c : Pool.Cert)
  | poolBlock (b par : Nat × Nat)
  | pump
  | votorBlock (slot : Nat) (b : Votor.BlockInfo)
  | firstShred (slot : Nat)
  | invalidBlock (slot : Nat)
  | timeout (slot : Nat)
  | timeoutCrashed (slot : Nat)

def nodeStep (n : Node) : NodeOp → Node
  | .recvVote v => (recvVote n v).1
  | .recvCert c => (recvCert n c).1
  | .poolBlock b par => (poolBlock n b par).1
  | .pump => (pump n).1
  | .votorBlock s b => (votorStep n (.block s b)).1
  | .firstShred s => (votorStep n (.firstShred s)).1
  | .invalidBlock s => (votorStep n (.invalidBlock s)).1
  | .timeout s => (votorStep n (.timeout s)).1
  | .timeoutCrashed s => (votorStep n (.timeoutCrashed s)).1

def nodeRun (n : Node) : List NodeOp → Node
  | [] => n
  | op :: ops => nodeRun (nodeStep n op) ops

def poolNode (n : Node) (op : Pool.PoolOp) : Node :=
  if n.dead then n else enqueue { n with pool := (Pool.poolStep n.pool op).1 } (Pool.poolStep n.pool op).2

theorem enqueue_votor (n : Node) (evs : List Pool.Event) : (enqueue n evs).votor = n.votor := by
  unfold enqueue; split <;> rfl

theorem poolNode_votor (n : Node) (op : Pool.PoolOp) : (poolNode n op).votor = n.votor := by
  unfold poolNode; split
  · rfl
  · exact enqueue_votor _ _

theorem nodeStep_recvVote (n : Node) (v : Pool.Vote) : nodeStep n (.recvVote v) = poolNode n (.vote v) := by
  simp only [nodeStep, recvVote, poolNode]; split <;> rfl

theorem nodeStep_recvCert (n : Node) (c : Pool.Cert) : nodeStep n (.recvCert c) = poolNode n (.cert c) := by
  simp only [nodeStep, recvCert, poolNode]; split <;> rfl

theorem nodeStep_poolBlock (n : Node) (b par : Nat × Nat) : nodeStep n (.poolBlock b par) = poolNode n (.block b par) := by
  simp only [nodeStep, poolBlock, poolNode]; split <;> rfl

theorem pump_ind {C : Node × List Votor.Out → Prop} (n : Node) (h0 : C (n, []))
    (h : ∀ qe rest, n.queue = qe :: rest →
      C ({ n with queue := rest }, []) ∧ ∀ ve, toVotor qe = some ve → C (votorStep { n with queue := rest } ve)) :
    C (pump n) := by
  unfold pump
  split
  · exact h0
  · rename_i qe rest hq
    split
    · rename_i ve hve
      exact (h qe rest hq).2 ve hve
    · exact (h qe rest hq).1

section
variable (PI : List Votor.Item → Pool.Pool → Prop) (G : List Votor.Item → Pool.Event → Prop)
  (E : Votor.Event → Votor.V → Prop) (HV : Votor.V → Prop)

structure Lifted (n : Node) : Prop where
  pool : PI n.votor.log n.pool
  queue : ∀ ev ∈ n.queue, G n.votor.log ev
  votor : HV n.votor

/-- what the parts must supply; `ok` is the premise on a pool operation -/
structure Lift (ok : List Votor.Item → Pool.Pool → Pool.PoolOp → Prop) : Prop where
  mono : ∀ {L L' : List Votor.Item}, (∀ x ∈ L, x ∈ L') → (∀ p, PI L p → PI L' p) ∧ ∀ ev, G L ev → G L' ev
  pool : ∀ {L p op}, ok L p op → PI L p →
    PI L (Pool.poolStep p op).1 ∧ ∀ ev ∈ (Pool.poolStep p op).2, (toVotor ev).isSome = true → G L ev
  toV : ∀ {v qe ve}, G v.log qe → toVotor qe = some ve → E ve v
  votor : ∀ {v ve}, E ve v → HV v → HV (Votor.step v ve)

/-- a premise on a node operation from one on pool operations and one on the events handed to Votor from outside -/
def NodeOp.okFor (okP : Pool.PoolOp → Prop) (okV : Votor.Event → Prop) : NodeOp → Prop
  | .recvVote v => okP (.vote v)
  | .recvCert c => okP (.cert c)
  | .poolBlock b p => okP (.block b p)
  | .pump => True
  | .votorBlock s b => okV (.block s b)
  | .firstShred s => okV (.firstShred s)
  | .invalidBlock s => okV (.invalidBlock s)
  | .timeout s => okV (.timeout s)
  | .timeoutCrashed s => okV (.timeoutCrashed s)

/-- the invariant a `Lift` is about: its predicates are spelt once, in the statement of the `Lift` -/
abbrev Lift.Inv {PI G E HV} {ok : List Votor.Item → Pool.Pool → Pool.PoolOp → Prop} (_ : Lift PI G E HV ok) : Node → Prop :=
  Lifted PI G HV

theorem NodeOp.okFor.trivial (op : NodeOp) : NodeOp.okFor (fun _ => True) (fun _ => True) op := by
  cases op <;> exact True.intro

variable {PI G E HV} {ok : List Votor.Item → Pool.Pool → Pool.PoolOp → Prop}

theorem Lift.votorStep (h : Lift PI G E HV ok) (n : Node) (ve : Votor.Event) (he : E ve n.votor)
    (i : Lifted PI G HV n) : Lifted PI G HV (votorStep n ve).1 := by
  unfold Node.votorStep
  split
  · exact i
  · obtain ⟨m1, m2⟩ := h.mono (Votor.step_log_sub n.votor ve)
    exact ⟨m1 _ i.pool, fun ev hev => m2 ev (i.queue ev hev), h.votor he i.votor⟩

theorem Lift.poolNode (h : Lift PI G E HV ok) (n : Node) (op : Pool.PoolOp) (hop : ok n.votor.log n.pool op)
    (i : Lifted PI G HV n) : Lifted PI G HV (poolNode n op) := by
  obtain ⟨h1, h2⟩ := h.pool hop i.pool
  unfold NodePanic.poolNode; split
  · exact i
  · unfold enqueue
    split
    · exact ⟨h1, i.queue, i.votor⟩
    · exact ⟨h1, fun ev hev => (List.mem_append.mp hev).elim (i.queue ev) fun h' => h2 ev (List.mem_filter.mp h').1 (List.mem_filter.mp h').2, i.votor⟩

theorem Lift.step (h : Lift PI G E HV ok) (n : Node) (op : NodeOp) (i : Lifted PI G HV n)
    (hok : NodeOp.okFor (ok n.votor.log n.pool) (E · n.votor) op) : Lifted PI G HV (nodeStep n op) := by
  cases op with
  | recvVote v => rw [nodeStep_recvVote]; exact h.poolNode n _ hok i
  | recvCert c => rw [nodeStep_recvCert]; exact h.poolNode n _ hok i
  | poolBlock b par => rw [nodeStep_poolBlock]; exact h.poolNode n _ hok i
  | pump =>
    refine pump_ind (C := fun r => Lifted PI G HV r.1) n i fun qe rest hq => ?_
    have i' : Lifted PI G HV { n with queue := rest } :=
      ⟨i.pool, fun ev hev => i.queue ev (hq ▸ List.mem_cons_of_mem _ hev), i.votor⟩
    exact ⟨i', fun ve hve => h.votorStep _ ve (h.toV (i.queue qe (hq ▸ List.mem_cons_self)) hve) i'⟩
  | _ => exact h.votorStep n _ hok i

theorem Lift.run (h : Lift PI G E HV ok) (ops : List NodeOp) (n : Node) (i : Lifted PI G HV n)
    (hok : ∀ op ∈ ops, ∀ m : Node, Lifted PI G HV m → NodeOp.okFor (ok m.votor.log m.pool) (E · m.votor) op) :
    Lifted PI G HV (nodeRun n ops) := by
  induction ops generalizing n with
  | nil => exact i
  | cons op ops ih =>
    exact ih _ (h.step n op i (hok op List.mem_cons_self n i)) fun x hx => hok x (List.mem_cons_of_mem _ hx)

/-- two lifted invariants side by side; the premise of the second may then rest on the first -/
theorem Lift.both {PI' : List Votor.Item → Pool.Pool → Prop} {G' : List Votor.Item → Pool.Event → Prop}
    {E' : Votor.Event → Votor.V → Prop} {HV' : Votor.V → Prop} {ok' : List Votor.Item → Pool.Pool → Pool.PoolOp → Prop}
    (h : Lift PI G E HV ok) (h' : Lift PI' G' E' HV' ok') :
    Lift (fun L p => PI L p ∧ PI' L p) (fun L ev => G L ev ∧ G' L ev) (fun ve v => E ve v ∧ E' ve v)
      (fun v => HV v ∧ HV' v) (fun L p op => ok L p op ∧ ok' L p op) where
  mono hs := ⟨fun p a => ⟨(h.mono hs).1 p a.1, (h'.mono hs).1 p a.2⟩, fun ev a => ⟨(h.mono hs).2 ev a.1, (h'.mono hs).2 ev a.2⟩⟩
  pool hop i := ⟨⟨(h.pool hop.1 i.1).1, (h'.pool hop.2 i.2).1⟩,
    fun ev hev hs => ⟨(h.pool hop.1 i.1).2 ev hev hs, (h'.pool hop.2 i.2).2 ev hev hs⟩⟩
  toV hg hv := ⟨h.toV hg.1 hv, h'.toV hg.2 hv⟩
  votor he i := ⟨h.votor he.1 i.1, h'.votor he.2 i.2⟩

end

theorem toVotor_wf (evs : List Pool.Event) (h : PROk evs) : ∀ e ∈ evs, ∀ ve, toVotor e = some ve → Votor.Event.wellFormed ve := by
  intro e he ve hv
  cases e with
  | parentReady s ps ph =>
    cases hv
    have := h s ps ph he
    simpa [Votor.Event.wellFormed, ParentReady.isWindowStart, ParentReady.W, Votor.W] using this
  | _ => cases hv <;> trivial

theorem liftWf : Lift (fun _ _ => True) (fun _ ev => ∀ ve, toVotor ev = some ve → Votor.Event.wellFormed ve)
    (fun ve _ => Votor.Event.wellFormed ve)
    (fun v => ∃ es, (∀ e ∈ es, Votor.Event.wellFormed e) ∧ v = Votor.run Votor.init es) (fun _ _ _ => True) where
  mono _ := ⟨fun _ h => h, fun _ h => h⟩
  pool {_ p op} _ _ := ⟨trivial, fun ev hev _ => toVotor_wf _ (poolStep_prOk p op) ev hev⟩
  toV h hv := h _ hv
  votor {v ve} hw := fun ⟨es, hes, hrun⟩ =>
    ⟨es ++ [ve], fun x hx => (List.mem_append.mp hx).elim (hes x) fun h => List.mem_singleton.mp h ▸ hw,
      by rw [Votor.run_append, ← hrun]; rfl⟩

/-- the voting task has only seen well-formed events, and only well-formed ones are queued for it -/
abbrev VInv : Node → Prop := liftWf.Inv

theorem VInv.init (p : Pool.Pool) : VInv { pool := p } :=
  ⟨trivial, fun _ h => (nomatch h), [], fun _ h => (nomatch h), rfl⟩

theorem nodeRun_inv (ops : List NodeOp) (n : Node) (i : VInv n) : VInv (nodeRun n ops) :=
  liftWf.run ops n i fun op _ _ _ => .trivial op

theorem nodeRun_votor (p : Pool.Pool) (ops : List NodeOp) :
    ∃ es, (∀ e ∈ es, Votor.Event.wellFormed e) ∧ (nodeRun { pool := p } ops).votor = Votor.run Votor.init es :=
  (nodeRun_inv ops _ (VInv.init p)).votor

end AgModel.NodePanic
