import AgModel.Proofs.PoolCheck
/-!
The invariant `Inv` of a per-slot pool state (`SlotState`), and the shape of `SlotState.addVote`: the vote is stored
and counted (`stored`), the checks its kind can trigger run (`voteTail`), then the own-vote re-check (`ownWrap`).
The checks touch only the safe-to-notar / safe-to-skip bookkeeping; `checks_induction` is the way to say so for
any property.
-/
namespace AgModel.Pool

/-- everything except the safe-to-notar / safe-to-skip bookkeeping (`parents`, `pending`, `sent`, `sentS2S`) -/
def SlotState.core (st : SlotState) : SlotState :=
  { st with parents := [], pending := [], sent := [], sentS2S := false }

theorem checkS2N_core (e : Epoch) (st : SlotState) (h : Nat) : (st.checkS2N e h).1.core = st.core := by
  obtain ⟨p, s, hh⟩ := checkS2N_writes e st h
  rw [hh]; rfl

theorem s2sCheck_core (e : Epoch) (st : SlotState) : (st.s2sCheck e).1.core = st.core := by
  unfold SlotState.s2sCheck; split <;> rfl

/-- vote stores and counters: stores hold each validator at most once per class, the accepted votes of
    one validator are conflict-free, and every counter is the stake recount of the stored votes -/
structure InvV (e : Epoch) (st : SlotState) : Prop where
  notarNodup : (st.vNotar.map Prod.fst).Nodup
  nfNodup : st.vNf.Nodup
  skipNodup : st.vSkip.Nodup
  sfNodup : st.vSf.Nodup
  finNodup : st.vFin.Nodup
  cNotar : ∀ h, lookupD st.sNotar h = stakeOf e (st.notarVoters e.n h)
  cNf : ∀ h, lookupD st.sNf h = stakeOf e (st.nfVoters e.n h)
  cSkip : st.sSkip = stakeOf e (st.skipVoters e.n)
  cSf : st.sSf = stakeOf e (st.sfVoters e.n)
  cFin : st.sFin = stakeOf e (st.finVoters e.n)
  cNotarOrSkip : st.sNotarOrSkip =
    stakeOf e ((List.range e.n).filter (fun v => (st.vNotar.lookup v).isSome)) + st.sSkip
  topGe : ∀ h, lookupD st.sNotar h ≤ st.sTopNotar
  topAttained : st.sTopNotar = 0 ∨ ∃ h, lookupD st.sNotar h = st.sTopNotar
  noSkipNotar : ∀ v, v ∈ st.vSkip → st.vNotar.lookup v = none
  noFinSkip : ∀ v, v ∈ st.vFin → v ∉ st.vSkip ∧ v ∉ st.vSf ∧ ∀ h, (v, h) ∉ st.vNf
  noSkipSf : ∀ v, v ∈ st.vSkip → v ∉ st.vSf
  noNotarNfSame : ∀ v h, (v, h) ∈ st.vNf → st.vNotar.lookup v ≠ some h

/-- timeliness: whenever the counted stake reaches a threshold the certificate is held -/
structure InvT (e : Epoch) (st : SlotState) : Prop where
  tNotar : ∀ h, e.isQuorum (lookupD st.sNotar h) = true → st.cNotar.isSome = true
  tFf : ∀ h, e.isStrong (lookupD st.sNotar h) = true → st.cFf.isSome = true
  tNf : ∀ h, e.isQuorum (lookupD st.sNf h + lookupD st.sNotar h) = true → st.isNf h = true
  tSkip : e.isQuorum (st.sSkip + st.sSf) = true → st.cSkip.isSome = true
  tFin : e.isQuorum st.sFin = true → st.cFin.isSome = true

def Inv (e : Epoch) (st : SlotState) : Prop := InvV e st ∧ InvT e st

theorem InvV.init (e : Epoch) (s : Nat) : InvV e { slot := s } := by
  constructor <;> simp [lookupD, stakeOf, SlotState.notarVoters, SlotState.nfVoters, SlotState.skipVoters,
    SlotState.sfVoters, SlotState.finVoters, filter_false_sum]

theorem Inv.init (e : Epoch) (s : Nat) (hpos : 0 < e.total) : Inv e { slot := s } := by
  have hq : ∀ num den, 0 < num → isMet num den 0 e.total = false := fun _ _ => isMet_no_stake hpos
  exact ⟨InvV.init e s, by
    constructor <;> simp [lookupD, SlotState.isNf, Epoch.isQuorum, Epoch.isStrong, hq, Gen.QUORUM_THRESHOLD_NUM,
      Gen.STRONG_QUORUM_THRESHOLD_NUM]⟩

def SlotState.stored (e : Epoch) (st : SlotState) (v : Vote) : SlotState :=
  match v.kind with
  | .notar => { st with vNotar := st.vNotar ++ [(v.signer, v.hash)], sNotar := addTo st.sNotar v.hash (e.stake v.signer),
                        sNotarOrSkip := st.sNotarOrSkip + e.stake v.signer,
                        sTopNotar := max (lookupD (addTo st.sNotar v.hash (e.stake v.signer)) v.hash) st.sTopNotar }
  | .nf => { st with vNf := st.vNf ++ [(v.signer, v.hash)], sNf := addTo st.sNf v.hash (e.stake v.signer) }
  | .skip => { st with vSkip := st.vSkip ++ [v.signer], sNotarOrSkip := st.sNotarOrSkip + e.stake v.signer,
                       sSkip := st.sSkip + e.stake v.signer }
  | .sf => { st with vSf := st.vSf ++ [v.signer], sSf := st.sSf + e.stake v.signer }
  | .final => { st with vFin := st.vFin ++ [v.signer], sFin := st.sFin + e.stake v.signer }

structure CoreEq (a b : SlotState) : Prop where
  eq : a.core = b.core

theorem CoreEq.refl (a : SlotState) : CoreEq a a := ⟨rfl⟩
theorem CoreEq.trans {a b c : SlotState} (h1 : CoreEq a b) (h2 : CoreEq b c) : CoreEq a c := ⟨h1.eq.trans h2.eq⟩
theorem CoreEq.symm {a b : SlotState} (h1 : CoreEq a b) : CoreEq b a := ⟨h1.eq.symm⟩

theorem CoreEq.congr {α : Sort _} {a b : SlotState} (h : CoreEq a b) (f : SlotState → α) (hf : ∀ s, f s = f s.core) :
    f a = f b := by
  rw [hf a, hf b, h.eq]

/-- the store-and-count part of `add_vote` -/
def countOf (e : Epoch) (st : SlotState) (v : Vote) : SlotState × List Cert × List Event :=
  match v.kind with
  | .notar => SlotState.countNotar e { st with vNotar := st.vNotar ++ [(v.signer, v.hash)] } v.hash (e.stake v.signer)
  | .nf => SlotState.countNf e { st with vNf := st.vNf ++ [(v.signer, v.hash)] } v.hash (e.stake v.signer)
  | .skip => SlotState.countSkip e { st with vSkip := st.vSkip ++ [v.signer], sNotarOrSkip := st.sNotarOrSkip + e.stake v.signer } (e.stake v.signer) false
  | .sf => SlotState.countSkip e { st with vSf := st.vSf ++ [v.signer] } (e.stake v.signer) true
  | .final => SlotState.countFin e { st with vFin := st.vFin ++ [v.signer] } (e.stake v.signer)

/-- the own-vote re-check at the end of `add_vote` -/
def ownWrap (e : Epoch) (v : Vote) (r : SlotState × List Cert × List Event) : SlotState × List Cert × List Event :=
  if v.signer = e.own then
    ((SlotState.recheckPending e r.1 r.1.pending []).1, r.2.1, r.2.2 ++ (SlotState.recheckPending e r.1 r.1.pending []).2)
  else (r.1, r.2.1, r.2.2)

theorem addVote_eq (e : Epoch) (st : SlotState) (v : Vote) : st.addVote e v = ownWrap e v (countOf e st v) := by
  unfold SlotState.addVote ownWrap countOf
  cases v.kind <;> rfl

/-- the tail of `count_notar_stake` after the counters were updated (state `A`) -/
def notarTail (e : Epoch) (A : SlotState) (h : Nat) : SlotState × List Event :=
  if !A.sent.contains h then
    (((A.checkS2N e h).1.s2sCheck e).1,
      s2nOut (A.checkS2N e h).1.slot h (A.checkS2N e h).2 ++ ((A.checkS2N e h).1.s2sCheck e).2)
  else ((A.s2sCheck e).1, [] ++ (A.s2sCheck e).2)

theorem countNotar_tail (e : Epoch) (st : SlotState) (h stake : Nat) :
    ((SlotState.countNotar e st h stake).1, (SlotState.countNotar e st h stake).2.2) =
      notarTail e { st with sNotar := addTo st.sNotar h stake, sNotarOrSkip := st.sNotarOrSkip + stake,
                            sTopNotar := max (lookupD (addTo st.sNotar h stake) h) st.sTopNotar } h := by
  unfold SlotState.countNotar notarTail
  dsimp only
  split <;> rfl

/-- the tail of `count_skip_stake` after the counter was updated (state `A`) -/
def skipTail (e : Epoch) (A : SlotState) : SlotState × List Event :=
  (((SlotState.recheckPending e A A.pending []).1.s2sCheck e).1,
    (SlotState.recheckPending e A A.pending []).2 ++ ((SlotState.recheckPending e A A.pending []).1.s2sCheck e).2)

theorem countSkip_tail (e : Epoch) (st : SlotState) (stake : Nat) (fb : Bool) :
    ((SlotState.countSkip e st stake fb).1, (SlotState.countSkip e st stake fb).2.2) =
      skipTail e (if fb then { st with sSf := st.sSf + stake } else { st with sSkip := st.sSkip + stake }) := by
  unfold SlotState.countSkip skipTail
  rfl

/-- what `add_vote` does after the vote was stored and counted (state `A`): the safe-to-notar and
    safe-to-skip checks that a vote of this kind can trigger -/
def voteTail (e : Epoch) (A : SlotState) (v : Vote) : SlotState × List Event :=
  match v.kind with
  | .notar => notarTail e A v.hash
  | .skip | .sf => skipTail e A
  | .nf | .final => (A, [])

theorem countOf_tail (e : Epoch) (st : SlotState) (v : Vote) :
    (countOf e st v).1 = (voteTail e (st.stored e v) v).1 ∧ (countOf e st v).2.2 = (voteTail e (st.stored e v) v).2 := by
  unfold countOf voteTail SlotState.stored
  cases v.kind
  · exact Prod.mk.inj (countNotar_tail e _ v.hash (e.stake v.signer))
  · exact ⟨rfl, rfl⟩
  · exact Prod.mk.inj (countSkip_tail e _ (e.stake v.signer) false)
  · exact Prod.mk.inj (countSkip_tail e _ (e.stake v.signer) true)
  · exact ⟨rfl, rfl⟩

/-- Induction over the parts of `add_vote` that only run the safe-to-notar / safe-to-skip checks. A relation `R`
    between the state before, the state after and the events emitted that holds of one guarded
    `check_safe_to_notar` and of `s2sCheck`, and is reflexive and transitive (events appended), holds of the
    re-check loop, of the two tails, and of `add_vote` as a whole, from the stored-and-counted state. -/
theorem checks_induction {e : Epoch} {R : SlotState → SlotState → List Event → Prop}
    (refl : ∀ a, R a a [])
    (trans : ∀ {a b c e1 e2}, R a b e1 → R b c e2 → R a c (e1 ++ e2))
    (check : ∀ a h, h ∉ a.sent → R a (a.checkS2N e h).1 (s2nOut (a.checkS2N e h).1.slot h (a.checkS2N e h).2))
    (s2s : ∀ a, R a (a.s2sCheck e).1 (a.s2sCheck e).2) :
    (∀ hs a, R a (SlotState.recheckPending e a hs []).1 (SlotState.recheckPending e a hs []).2) ∧
    (∀ a h, R a (notarTail e a h).1 (notarTail e a h).2) ∧ (∀ a, R a (skipTail e a).1 (skipTail e a).2) ∧
    (∀ (st : SlotState) (v : Vote), R (st.stored e v) (st.addVote e v).1 (st.addVote e v).2.2) := by
  -- the loop carries an accumulator: its events are the accumulator followed by the new ones
  have loop : ∀ hs a acc, ∃ new, (SlotState.recheckPending e a hs acc).2 = acc ++ new ∧
      R a (SlotState.recheckPending e a hs acc).1 new := by
    intro hs
    induction hs with
    | nil => exact fun a acc => ⟨[], (List.append_nil acc).symm, refl a⟩
    | cons h hs ih =>
      intro a acc
      unfold SlotState.recheckPending
      split
      · exact ih a acc
      · rename_i hg
        obtain ⟨new, hev, r⟩ := ih (a.checkS2N e h).1 (acc ++ s2nOut (a.checkS2N e h).1.slot h (a.checkS2N e h).2)
        exact ⟨_ ++ new, by rw [hev, List.append_assoc], trans (check a h (by simpa [List.contains_eq_mem] using hg)) r⟩
  have loop0 : ∀ hs a, R a (SlotState.recheckPending e a hs []).1 (SlotState.recheckPending e a hs []).2 := fun hs a => by
    obtain ⟨new, hev, r⟩ := loop hs a []
    rw [hev]; exact r
  have notar : ∀ a h, R a (notarTail e a h).1 (notarTail e a h).2 := fun a h => by
    unfold notarTail
    split
    · rename_i hg; exact trans (check a h (by simpa [List.contains_eq_mem] using hg)) (s2s _)
    · exact trans (refl a) (s2s a)
  have skip : ∀ a, R a (skipTail e a).1 (skipTail e a).2 := fun a => trans (loop0 a.pending a) (s2s _)
  refine ⟨loop0, notar, skip, fun st v => ?_⟩
  have tail : R (st.stored e v) (voteTail e (st.stored e v) v).1 (voteTail e (st.stored e v) v).2 := by
    unfold voteTail
    cases v.kind
    · exact notar _ _
    · exact refl _
    · exact skip _
    · exact skip _
    · exact refl _
  rw [← (countOf_tail e st v).1, ← (countOf_tail e st v).2] at tail
  rw [addVote_eq]
  unfold ownWrap
  split
  · exact trans tail (loop0 _ _)
  · exact tail

theorem checks_core (e : Epoch) :
    (∀ hs a, (SlotState.recheckPending e a hs []).1.core = a.core) ∧ (∀ a h, (notarTail e a h).1.core = a.core) ∧
    (∀ a, (skipTail e a).1.core = a.core) ∧ ∀ (st : SlotState) (v : Vote), (st.addVote e v).1.core = (st.stored e v).core :=
  checks_induction (R := fun a b _ => b.core = a.core) (fun _ => rfl) (fun h1 h2 => h2.trans h1)
    (fun a h _ => checkS2N_core e a h) (s2sCheck_core e)

theorem addVote_core (e : Epoch) (st : SlotState) (v : Vote) :
    CoreEq (st.stored e v) (st.addVote e v).1 :=
  ⟨((checks_core e).2.2.2 st v).symm⟩

theorem InvV.of_coreEq {e : Epoch} {a b : SlotState} (h : CoreEq a b) (i : InvV e a) : InvV e b := by
  have : InvV e a.core := { i with }
  rw [h.eq] at this
  exact { this with }

theorem InvT.of_coreEq {e : Epoch} {a b : SlotState} (h : CoreEq a b) (i : InvT e a) : InvT e b := by
  have : InvT e a.core := { i with }
  rw [h.eq] at this
  exact { this with }

end AgModel.Pool
