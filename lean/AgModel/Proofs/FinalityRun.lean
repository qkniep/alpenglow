import AgModel.Proofs.FinalityStep
/-!
# Whole runs of the tracker: cumulative reports vs. the naive closure of the history
-/
namespace AgModel.Finality

def repF (evs : List Event) : List (Nat × Nat) := evs.flatMap evF
def repS (evs : List Event) : List Nat := evs.flatMap (·.implSkipped)

theorem repF_snoc (evs : List Event) (ev : Event) : repF (evs ++ [ev]) = repF evs ++ evF ev := by
  simp [repF, List.flatMap_append]
theorem repS_snoc (evs : List Event) (ev : Event) : repS (evs ++ [ev]) = repS evs ++ ev.implSkipped := by
  simp [repS, List.flatMap_append]

structure RunInv (H : List Op) (t : Tracker) (evs : List Event) : Prop where
  rel : Rel H t
  inv : Inv t
  hiAtt : t.highest = 0 ∨ ∃ b, Final H b ∧ b.1 = t.highest
  repFin : ∀ s h, t.first ≤ s → ((s, h) ∈ repF evs ↔ finalHash (t.status s) = some h)
  repSkip : ∀ s, t.first ≤ s → (s ∈ repS evs ↔ t.status s = some .implSkipped)
  -- from slot 1 on: `prune()` leaves slot 0 behind without ever looking at its status
  below : ∀ s, 1 ≤ s → s < t.first → (s ∈ repS evs ∨ ∃ h, (s, h) ∈ repF evs)
  soundF : ∀ b, b ∈ repF evs → Final H b
  soundS : ∀ s, s ∈ repS evs → Skip H s
  nodupF : ((repF evs).map (·.1)).Nodup
  nodupS : (repS evs).Nodup
  next : ¬ Dec (t.status (t.first + 1))

theorem runInv_init : RunInv [] init [] :=
  ⟨rel_init, inv_init, Or.inl rfl,
    fun s _ _ => ⟨(fun a => nomatch a), fun a => absurd (dec_of_finalHash a) (init_not_dec s)⟩,
    fun s _ => ⟨(fun a => nomatch a), fun a => absurd (a ▸ dec_skipped) (init_not_dec s)⟩,
    fun s _ h => absurd h (Nat.not_lt_zero s), (fun _ h => nomatch h), (fun _ h => nomatch h),
    List.nodup_nil, List.nodup_nil, init_not_dec _⟩

/-- an operation ends in the state `m` it has built, or in `prune m`: either way the retained part is that of `m`, and
    the watermark has moved over decided slots only -/
theorem same_or_pruned {m t' : Tracker} (h : t' = m ∨ t' = prune m) :
    m.first ≤ t'.first ∧ t'.highest = m.highest ∧ (∀ s, t'.first ≤ s → t'.status s = m.status s) ∧
    (∀ s, m.first < s → s ≤ t'.first → Dec (m.status s)) := by
  rcases h with rfl | rfl
  · exact ⟨Nat.le_refl _, rfl, fun _ _ => rfl, fun s a b => absurd a (Nat.not_lt.mpr b)⟩
  · exact ⟨prune_first_ge m, rfl, fun _ a => prune_status_ge a, prune_only_decided m⟩

theorem runInv_step {H : List Op} {t : Tracker} {evs : List Event} (ri : RunInv H t evs)
    {op : Op} {t' : Tracker} {ev : Event} (h : step t op = .ok t' ev)
    (r' : Rel (H ++ [op]) t') (snd : EvSound (H ++ [op]) ev) : RunInv (H ++ [op]) t' (evs ++ [ev]) := by
  obtain ⟨m, me, hm⟩ := step_mid h
  have sp := me.spec
  have hs : Sub H (H ++ [op]) := sub_append_left H op
  obtain ⟨hA, e1, hB, hC⟩ := same_or_pruned (hm.imp And.left id)
  rw [me.first] at hA hC
  have inv' := (step_spec ri.inv h).inv
  have hhi : t'.highest = 0 ∨ ∃ b, Final (H ++ [op]) b ∧ b.1 = t'.highest := by
    have old : t.highest = 0 ∨ ∃ b, Final (H ++ [op]) b ∧ b.1 = t.highest :=
      ri.hiAtt.elim Or.inl (fun ⟨b, hb, e⟩ => Or.inr ⟨b, hb.mono hs, e⟩)
    rcases me.hi with e2 | ⟨b, hb, e2⟩
    · rw [e1, e2]; exact old
    · by_cases c : b.1 ≤ t.highest
      · rw [e1, e2, Nat.max_eq_right c]; exact old
      · right
        exact ⟨b, snd.1 b hb, by rw [e1, e2, Nat.max_eq_left (Nat.le_of_lt (Nat.not_le.mp c))]⟩
  refine ⟨r', inv', hhi, ?repFin, ?repSkip, ?below, ?soundF, ?soundS, ?nodupF, ?nodupS, ?next⟩
  case next =>
    rcases hm with ⟨e, e2⟩ | e
    · intro d
      rw [e, me.first] at d
      by_cases d0 : Dec (t.status (t.first + 1))
      · exact ri.next d0
      · rw [e2] at sp
        rcases sp.new _ d0 d with x | ⟨_, x⟩ <;> cases x
    · intro d
      have hle : (prune m).first + 1 ≤ m.highest := by
        have := inv'.dec_le _ d
        rwa [e] at this
      rw [e, prune_status_ge (Nat.le_succ _)] at d
      exact prune_stops hle d
  case repFin =>
    intro s hh a
    rw [repF_snoc, List.mem_append, hB s a, ri.repFin s hh (Nat.le_trans hA a)]
    exact sp.fin_iff s hh
  case repSkip =>
    intro s a
    rw [repS_snoc, List.mem_append, hB s a, ri.repSkip s (Nat.le_trans hA a)]
    exact sp.skip_iff s
  case below =>
    intro s a b
    rw [repF_snoc, repS_snoc]
    by_cases c1 : s < t.first
    · exact (ri.below s a c1).imp (List.mem_append_left _) (Exists.imp fun _ => List.mem_append_left _)
    · have c1 : t.first ≤ s := Nat.not_lt.mp c1
      by_cases d : Dec (t.status s)
      · rcases dec_cases d with ⟨hh, e⟩ | e
        · exact Or.inr ⟨hh, List.mem_append_left _ ((ri.repFin s hh c1).mpr e)⟩
        · exact Or.inl (List.mem_append_left _ ((ri.repSkip s c1).mpr e))
      · -- `s` is above the old watermark (which is decided), so `prune` has moved over it
        have c2 : t.first < s := Nat.lt_of_le_of_ne c1 (fun e => d (e ▸ ri.rel.wdec (e ▸ a)))
        exact (sp.new s d (hC s c2 (Nat.le_of_lt b))).imp (List.mem_append_right _) (Exists.imp fun _ => List.mem_append_right _)
  case soundF =>
    rw [repF_snoc]
    exact List.forall_mem_append.mpr ⟨fun b x => (ri.soundF b x).mono hs, snd.1⟩
  case soundS =>
    rw [repS_snoc]
    exact List.forall_mem_append.mpr ⟨fun s x => (ri.soundS s x).mono hs, snd.2⟩
  case nodupF =>
    -- what was reported before is decided in `t` if retained, what is reported now is retained and was not
    rw [repF_snoc, List.map_append]
    exact nodup_append_sep (fun s => t.first ≤ s → Dec (t.status s)) ri.nodupF sp.nodupF
      (List.forall_mem_map.mpr fun b hb hw => dec_of_finalHash ((ri.repFin b.1 b.2 hw).mp hb))
      (List.forall_mem_map.mpr fun b hb p =>
        have ⟨n, e⟩ := sp.fin b hb
        n (p (me.ge (dec_of_finalHash e) n)))
  case nodupS =>
    rw [repS_snoc]
    exact nodup_append_sep (fun s => t.first ≤ s → Dec (t.status s)) ri.nodupS sp.nodupS
      (fun x hx hw => (ri.repSkip x hw).mp hx ▸ dec_skipped)
      (fun x hx p =>
        have ⟨n, e⟩ := sp.skip x hx
        n (p (me.ge (e ▸ dec_skipped) n)))

theorem run_runInv : ∀ (ops H : List Op) (t : Tracker) (evs0 : List Event),
    RunInv H t evs0 → Safe (H ++ ops) →
    ∃ t' evs, run t ops = some (t', evs) ∧ RunInv (H ++ ops) t' (evs0 ++ evs) := by
  intro ops
  induction ops with
  | nil =>
    intro H t evs0 ri _
    exact ⟨t, [], rfl, by rw [List.append_nil, List.append_nil]; exact ri⟩
  | cons op rest ih =>
    intro H t evs0 ri sf
    rw [List.append_cons] at sf
    obtain ⟨t1, ev, h1, rel1, snd⟩ := step_rel (sf.sub (fun _ ho => List.mem_append_left _ ho)) ri.rel
    obtain ⟨t2, evs, h2, ri2⟩ := ih (H ++ [op]) t1 (evs0 ++ [ev]) (runInv_step ri h1 rel1 snd) sf
    refine ⟨t2, ev :: evs, by simp only [run, h1, h2], ?_⟩
    rw [List.append_cons H, List.append_cons evs0]; exact ri2

/-- what a step adds to a list that was exact for `P` and is exact for `Q` afterwards -/
theorem mem_new_iff {α : Type} {old new : List α} {P Q : Prop} {x : α} (h1 : x ∈ old ↔ P) (h2 : x ∈ old ++ new ↔ Q)
    (hd : x ∈ old → ¬ x ∈ new) : x ∈ new ↔ (Q ∧ ¬ P) :=
  ⟨fun hm => ⟨h2.mp (List.mem_append_right _ hm), fun hp => hd (h1.mpr hp) hm⟩,
    fun ⟨hq, hn⟩ => (List.mem_append.mp (h2.mpr hq)).elim (fun x => absurd (h1.mp x) hn) id⟩

theorem run_snoc {t : Tracker} {ops : List Op} {t1 : Tracker} {evs : List Event} {op : Op}
    {t2 : Tracker} {ev : Event} (h1 : run t ops = some (t1, evs)) (h2 : step t1 op = .ok t2 ev) :
    run t (ops ++ [op]) = some (t2, evs ++ [ev]) :=
  run_append.mpr ⟨t1, evs, [ev], h1, run_cons.mpr ⟨t2, ev, [], h2, rfl, rfl⟩, rfl⟩

theorem runInv_of_run {ops : List Op} (sf : Safe ops) {t : Tracker} {evs : List Event}
    (h : run init ops = some (t, evs)) : RunInv ops t evs := by
  obtain ⟨t', evs', h', ri⟩ := run_runInv ops [] init [] runInv_init sf
  rw [h] at h'
  cases h'
  exact ri

section
variable {H : List Op} (sf : Safe H) {t : Tracker} {evs : List Event} (ri : RunInv H t evs)
include sf ri

theorem RunInv.final_iff (b : Nat × Nat) (hb : 1 ≤ b.1 ∨ t.first = 0) : b ∈ repF evs ↔ Final H b := by
  constructor
  · exact ri.soundF b
  · intro hf
    by_cases hw : t.first ≤ b.1
    · exact (ri.repFin b.1 b.2 hw).mpr (ri.rel.final_complete sf hf hw)
    · have hw : b.1 < t.first := Nat.not_le.mp hw
      have h1 : 1 ≤ b.1 := hb.elim id (fun e => absurd (e ▸ hw) (Nat.not_lt_zero _))
      rcases ri.below b.1 h1 hw with x | ⟨h, x⟩
      · exact absurd (ri.soundS _ x) (sf.final_not_skip hf)
      · have := sf.final_fun (b.1, h) b (ri.soundF _ x) hf rfl
        rw [← this]; exact x

theorem RunInv.skip_iff (s : Nat) : s ∈ repS evs ↔ Skip H s := by
  constructor
  · exact ri.soundS s
  · intro hk
    by_cases hw : t.first ≤ s
    · exact (ri.repSkip s hw).mpr (ri.rel.skip_complete sf hk hw)
    · have h1 : 1 ≤ s := by
        obtain ⟨c, p, _, _, a, _⟩ := hk
        exact Nat.lt_of_le_of_lt (Nat.zero_le _) a
      rcases ri.below s h1 (Nat.not_le.mp hw) with x | ⟨h, x⟩
      · exact x
      · exact absurd hk (sf.final_not_skip (b := (s, h)) (ri.soundF _ x))

theorem RunInv.dec_iff (s : Nat) (hw : t.first ≤ s) :
    Dec (t.status s) ↔ (Skip H s ∨ ∃ h, Final H (s, h)) := by
  constructor
  · intro d
    rcases dec_cases d with ⟨h, e⟩ | e
    · exact Or.inr ⟨h, slotOK_final (ri.rel.slot s hw) e⟩
    · exact Or.inl (slotOK_skip (ri.rel.slot s hw) e)
  · rintro (hk | ⟨h, hf⟩)
    · rw [ri.rel.skip_complete sf hk hw]; exact dec_skipped
    · exact dec_of_finalHash (ri.rel.final_complete sf hf hw)

theorem RunInv.final_le_highest {b : Nat × Nat} (hb : Final H b) : b.1 ≤ t.highest := by
  by_cases hw : t.first ≤ b.1
  · exact ri.inv.dec_le _ (dec_of_finalHash (ri.rel.final_complete sf hb hw))
  · exact Nat.le_of_lt (Nat.lt_of_lt_of_le (Nat.lt_of_not_le hw) ri.inv.first_le)

theorem RunInv.watermark :
    (∀ s, 1 ≤ s → s ≤ t.first → (Skip H s ∨ ∃ h, Final H (s, h))) ∧
    ¬ (Skip H (t.first + 1) ∨ ∃ h, Final H (t.first + 1, h)) := by
  constructor
  · intro s a b
    by_cases c : s < t.first
    · exact (ri.below s a c).imp (ri.soundS _) (Exists.imp fun _ => ri.soundF _)
    · have : s = t.first := Nat.le_antisymm b (Nat.not_lt.mp c)
      rw [this] at a ⊢
      exact (ri.dec_iff sf _ (Nat.le_refl _)).mp (ri.rel.wdec a)
  · intro h
    exact ri.next ((ri.dec_iff sf _ (Nat.le_succ _)).mpr h)

/-! ### two trackers that keep the invariant for one history agree on what they retain -/

theorem RunInv.first_le {t2 : Tracker} {evs2 : List Event} (r2 : RunInv H t2 evs2) : t.first ≤ t2.first :=
  Nat.not_lt.mp fun h => (r2.watermark sf).2 ((ri.watermark sf).1 (t2.first + 1) (Nat.succ_pos _) h)

theorem RunInv.highest_le {t2 : Tracker} {evs2 : List Event} (r2 : RunInv H t2 evs2) : t.highest ≤ t2.highest :=
  ri.hiAtt.elim (fun e => e ▸ Nat.zero_le _) fun ⟨_, hb, e⟩ => e ▸ r2.final_le_highest sf hb

end

/-- the answer of a slot, forgetting whether a block was finalized directly or through a descendant -/
def view : Option Status → Option Status
  | some (.implFinalized h) => some (.finalized h)
  | o => o

theorem view_of_finalHash {o : Option Status} {h : Nat} (e : finalHash o = some h) :
    view o = some (.finalized h) := by
  rcases finalHash_eq_some.mp e with rfl | rfl <;> rfl

theorem view_eq {H : List Op} (sf : Safe H) {t1 t2 : Tracker} (r1 : Rel H t1) (r2 : Rel H t2) (s : Nat)
    (h1 : t1.first ≤ s) (h2 : t2.first ≤ s) : view (t1.status s) = view (t2.status s) := by
  -- a decided answer is the one the history demands, so the other tracker holds it too
  have half : ∀ {ta tb : Tracker}, Rel H ta → Rel H tb → ta.first ≤ s → tb.first ≤ s → Dec (ta.status s) →
      view (ta.status s) = view (tb.status s) := by
    intro ta tb ra rb ha hb d
    rcases dec_cases d with ⟨h, e⟩ | e
    · rw [view_of_finalHash e, view_of_finalHash (rb.final_complete sf (slotOK_final (ra.slot s ha) e) hb)]
    · rw [e, rb.skip_complete sf (slotOK_skip (ra.slot s ha) e) hb]
  by_cases d1 : Dec (t1.status s)
  · exact half r1 r2 h1 h2 d1
  by_cases d2 : Dec (t2.status s)
  · exact (half r2 r1 h2 h1 d2).symm
  rw [slotOK_undecided_unique sf.notar_fun (r1.slot s h1) (r2.slot s h2) d1 d2]

/-! ### the invariant reads the history through membership only: runs over the same set of inputs are compared over one history -/

theorem Rel.of_sub {H H' : List Op} (hs : Sub H H') (hs' : Sub H' H) {t : Tracker} (r : Rel H t) : Rel H' t :=
  ⟨fun s h => slotOK_transfer hs (FinH.mono hs') (fun _ => NotarH.mono hs') (fun _ => FastH.mono hs') (r.slot s h),
    fun c p hc => (r.par c p hc).trans ⟨LinkH.mono hs, LinkH.mono hs'⟩, r.closed, r.wdec⟩

theorem RunInv.of_sub {H H' : List Op} (hs : Sub H H') (hs' : Sub H' H) {t : Tracker} {evs : List Event}
    (ri : RunInv H t evs) : RunInv H' t evs :=
  ⟨ri.rel.of_sub hs hs', ri.inv, ri.hiAtt.imp_right fun ⟨b, hb, e⟩ => ⟨b, hb.mono hs, e⟩, ri.repFin, ri.repSkip, ri.below,
    fun b x => (ri.soundF b x).mono hs, fun s x => (ri.soundS s x).mono hs, ri.nodupF, ri.nodupS, ri.next⟩

end AgModel.Finality
