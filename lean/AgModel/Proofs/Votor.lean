import AgModel.Model.Votor
/-!
# Helper lemmas for C05: the invariant linking Votor's per-slot flags to its history

`Inv ex v`: for every slot that is still retained (`firstUnpruned ≤ s`) the flags of `SlotState`
say exactly which votes are in the ghost log; for every slot (retained or pruned) the log-only facts
(`once`, `finalClean`, `Hist Good`) hold. `ex` exempts one slot from the `badWindow` clause: the
`SafeToNotar` / `SafeToSkip` arms broadcast the fallback vote *before* they set `bad_window`.

What needs no invariant goes through `Acts` (the handlers as sequences of guarded effects, below).
-/
namespace AgModel.Votor

/-! ## association list -/

theorem lookup_insertS (m : Slots) (s k : Nat) (v : SlotState) :
    lookup (insertS m s v) k = if s = k then some v else lookup m k := by
  induction m with
  | nil => simp [insertS, lookup]
  | cons p t ih =>
    obtain ⟨k', w⟩ := p
    simp only [insertS]
    by_cases h1 : k' = s
    · simp only [h1, if_true, lookup]
      by_cases h2 : s = k <;> simp [h2]
    · simp only [h1, if_false]
      by_cases h3 : s < k'
      · simp only [h3, if_true, lookup]
      · simp only [h3, if_false, lookup, ih]
        by_cases h2 : s = k
        · have : ¬ k' = k := by omega
          simp [h2, this]
        · simp [h2]

theorem lookup_filter (m : Slots) (b k : Nat) :
    lookup (m.filter (fun p => decide (b ≤ p.1))) k = if b ≤ k then lookup m k else none := by
  induction m with
  | nil => simp [lookup]
  | cons p t ih =>
    obtain ⟨k', w⟩ := p
    simp only [List.filter]
    by_cases h : b ≤ k'
    · simp only [h, decide_true, lookup, ih]
      by_cases hk : k' = k
      · subst hk; simp only [if_true, h]
      · simp only [hk, if_false]
    · simp only [h, decide_false, ih, lookup]
      split
      · rw [if_neg (by omega)]
      · rfl

/-! ## item classifiers -/

def Item.isInit (s : Nat) : Item → Bool
  | .out (.notar s' _ _ _) => s' == s
  | .out (.skip s') => s' == s
  | _ => false

def Item.isNotarOf (s : Nat) : Item → Bool
  | .out (.notar s' _ _ _) => s' == s
  | _ => false

def Item.isBad (s : Nat) : Item → Bool
  | .out (.skip s') => s' == s
  | .out (.skipFallback s') => s' == s
  | .out (.notarFallback s' _) => s' == s
  | _ => false

def Item.isFinal (s : Nat) : Item → Bool
  | .out (.final s') => s' == s
  | _ => false

/-- `x` is no vote for slot `s` -/
def Item.quiet (x : Item) (s : Nat) : Prop :=
  x.isInit s = false ∧ x.isNotarOf s = false ∧ x.isBad s = false ∧ x.isFinal s = false

def Item.voteSlot : Item → Option Nat
  | .out (.notar s _ _ _) | .out (.skip s) | .out (.final s) | .out (.notarFallback s _)
  | .out (.skipFallback s) => some s
  | _ => none

theorem Item.quiet_of_voteSlot (x : Item) (s : Nat) (h : x.voteSlot ≠ some s) : x.quiet s := by
  unfold Item.quiet
  cases x with
  | ev e => simp [Item.isInit, Item.isNotarOf, Item.isBad, Item.isFinal]
  | out o => cases o <;> simp_all [Item.isInit, Item.isNotarOf, Item.isBad, Item.isFinal, Item.voteSlot]

theorem Item.quiet_others {x : Item} {s : Nat} (hx : x.voteSlot = some s) : ∀ k, k ≠ s → ∀ y ∈ [x], y.quiet k := by
  intro k hk y hy
  rw [List.mem_singleton.mp hy]
  exact Item.quiet_of_voteSlot _ _ (hx ▸ fun h => hk (Option.some.inj h).symm)

/-! ## history predicates -/

/-- `P x past` holds for every item `x` of the log with the items `past` logged before it -/
def Hist (P : Item → List Item → Prop) : List Item → Prop
  | [] => True
  | x :: past => P x past ∧ Hist P past

theorem Hist.split {P : Item → List Item → Prop} {log : List Item} (h : Hist P log) (a : List Item) (x : Item)
    (b : List Item) (e : log = a ++ x :: b) : P x b := by
  subst e
  induction a with
  | nil => exact h.1
  | cons _ a ih => exact ih h.2

theorem Hist.split_next {P : Item → List Item → Prop} {log a b : List Item} {x y : Item} (h : Hist P log)
    (e : log = a ++ x :: y :: b) : P y b :=
  h.split (a ++ [x]) y b (by rw [e, List.append_assoc]; rfl)

/-- what must be true of the past whenever a vote is cast -/
def Good : Item → List Item → Prop
  | .out (.notar s h ps ph), past =>
    .ev (.block s ⟨h, ps, ph⟩) ∈ past ∧
    (if s % W = 0 then .ev (.parentReady s ps ph) ∈ past
     else ps + 1 = s ∧ ((ps = 0 ∧ ph = 0) ∨ ∃ a b, .out (.notar ps ph a b) ∈ past))
  | .out (.final s), past =>
    ∃ h, ((s = 0 ∧ h = 0) ∨ ∃ ps ph, .out (.notar s h ps ph) ∈ past) ∧
         ((s = 0 ∧ h = 0) ∨ .ev (.cert .notar s h) ∈ past)
  | .out (.notarFallback s h), past => ∃ rest, past = .ev (.safeToNotar s h) :: rest
  | .out (.skipFallback s), past => ∃ rest, past = .ev (.safeToSkip s) :: rest
  | _, _ => True

/-! ## the invariant -/

/-- `live`: the slot is retained. The clauses from a flag to the log hold of the default state as well; those from the log to
    a flag are guarded by `live`: the votes of a pruned slot stay in the log while its state is gone. -/
structure SlotInv (log : List Item) (live : Prop) (exempt : Prop) (s : Nat) (st : SlotState) : Prop where
  notarVoted : ∀ h, st.votedNotar = some h → st.voted = true
  gen : live → s = 0 → st.voted = true
  unvoted : live → st.voted = false → ∀ x ∈ log, x.isInit s = false
  noNotar : live → st.votedNotar = none → ∀ x ∈ log, x.isNotarOf s = false
  notarWit : ∀ h, st.votedNotar = some h → (s = 0 ∧ h = 0) ∨ ∃ ps ph, .out (.notar s h ps ph) ∈ log
  good : live → ¬ exempt → st.badWindow = false → ∀ x ∈ log, x.isBad s = false
  unretired : live → st.retired = false → ∀ x ∈ log, x.isFinal s = false
  retiredNotar : st.retired = true → st.votedNotar ≠ none
  certWit : ∀ h, st.blockNotarized = some h → (s = 0 ∧ h = 0) ∨ .ev (.cert .notar s h) ∈ log
  parentWit : ∀ p ∈ st.parentsReady, (s = 0 ∧ p = (0, 0)) ∨ .ev (.parentReady s p.1 p.2) ∈ log
  pendingWit : ∀ b, st.pendingBlock = some b → .ev (.block s b) ∈ log

structure Inv (ex : Option Nat) (v : V) : Prop where
  slot : ∀ s, SlotInv v.log (v.firstUnpruned ≤ s) (ex = some s) s (v.getS s)
  keys : ∀ s st, lookup v.slots s = some st → v.firstUnpruned ≤ s
  once : ∀ s, v.log.countP (·.isInit s) ≤ 1
  finalClean : ∀ s, (∃ x ∈ v.log, x.isFinal s = true) → ∀ x ∈ v.log, x.isBad s = false
  hist : Hist Good v.log

theorem SlotInv.default (log : List Item) (ex : Prop) (s : Nat) : SlotInv log False ex s {} := by
  constructor <;> simp

/-- One more item in the log. Its vote classes for `s` must already be accounted for by the flags; the witnesses stay. -/
theorem SlotInv.cons {log : List Item} {live ex ex' : Prop} {s : Nat} {st : SlotState} (x : Item)
    (hi : st.voted = false → x.isInit s = false) (hn : st.votedNotar = none → x.isNotarOf s = false)
    (hb : ¬ ex' → st.badWindow = false → x.isBad s = false) (hf : st.retired = false → x.isFinal s = false)
    (hex : ex → ex') (h : SlotInv log live ex s st) : SlotInv (x :: log) live ex' s st where
  notarVoted := h.notarVoted
  gen := h.gen
  unvoted hl hv := List.forall_mem_cons.mpr ⟨hi hv, h.unvoted hl hv⟩
  noNotar hl hv := List.forall_mem_cons.mpr ⟨hn hv, h.noNotar hl hv⟩
  notarWit hh hv := (h.notarWit hh hv).imp_right fun ⟨ps, ph, m⟩ => ⟨ps, ph, List.mem_cons_of_mem _ m⟩
  good hl he hv := List.forall_mem_cons.mpr ⟨hb he hv, h.good hl (fun e => he (hex e)) hv⟩
  unretired hl hv := List.forall_mem_cons.mpr ⟨hf hv, h.unretired hl hv⟩
  retiredNotar := h.retiredNotar
  certWit hh hv := (h.certWit hh hv).imp_right (List.mem_cons_of_mem _)
  parentWit p hp := (h.parentWit p hp).imp_right (List.mem_cons_of_mem _)
  pendingWit b hb := List.mem_cons_of_mem _ (h.pendingWit b hb)

theorem SlotInv.prepend {log : List Item} {live ex ex' : Prop} {s : Nat} {st : SlotState}
    (h : SlotInv log live ex s st) (xs : List Item) (hq : ∀ x ∈ xs, x.quiet s) (hex : ex → ex') :
    SlotInv (xs ++ log) live ex' s st := by
  induction xs with
  | nil => exact { h with good := fun hl he => h.good hl (fun e => he (hex e)) }
  | cons x xs ih =>
    have q := hq x List.mem_cons_self
    exact (ih fun y hy => hq y (List.mem_cons_of_mem _ hy)).cons x (fun _ => q.1) (fun _ => q.2.1)
      (fun _ _ => q.2.2.1) (fun _ => q.2.2.2) id

/-- the notarization vote: the one step in which `votedNotar` and the log change together -/
theorem SlotInv.castNotar {log : List Item} {ex : Prop} {s : Nat} {st : SlotState} (h : SlotInv log True ex s st)
    (b : BlockInfo) : SlotInv (.out (.notar s b.hash b.pslot b.phash) :: log) True ex s
      { st with voted := true, votedNotar := some b.hash, pendingBlock := none } where
  notarVoted _ _ := rfl
  gen _ _ := rfl
  unvoted _ hv := nomatch hv
  noNotar _ hv := nomatch hv
  notarWit _ hv := Or.inr ⟨_, _, by cases hv; exact List.mem_cons_self⟩
  good hl he hv := List.forall_mem_cons.mpr ⟨rfl, h.good hl he hv⟩
  unretired hl hv := List.forall_mem_cons.mpr ⟨rfl, h.unretired hl hv⟩
  retiredNotar _ h := nomatch h
  certWit hh hv := (h.certWit hh hv).imp_right (List.mem_cons_of_mem _)
  parentWit p hp := (h.parentWit p hp).imp_right (List.mem_cons_of_mem _)
  pendingWit _ hb := nomatch hb

theorem countP_zero_of_all_false {p : Item → Bool} {l : List Item} (h : ∀ x ∈ l, p x = false) :
    l.countP p = 0 := by
  rw [List.countP_eq_zero]; intro x hx; simp [h x hx]

/-- a retained slot that is unvoted has neither an initial nor a finalization vote in the log: either initial vote may be cast -/
theorem SlotInv.initSide {log : List Item} {ex : Prop} {s : Nat} {st : SlotState} (hl : SlotInv log True ex s st)
    (hnv : st.voted = false) (x : Item) (hxf : x.isFinal s = false) :
    (x :: log).countP (·.isInit s) ≤ 1 ∧
    ((∃ y ∈ x :: log, y.isFinal s = true) → ∀ y ∈ x :: log, y.isBad s = false) := by
  -- unvoted, hence without notarization vote, hence not retired
  have hnn : st.votedNotar = none := by
    cases hn : st.votedNotar with
    | none => rfl
    | some b => exact absurd (hl.notarVoted b hn) (by rw [hnv]; exact Bool.false_ne_true)
  have hnr : st.retired = false := by
    cases hr : st.retired with
    | false => rfl
    | true => exact absurd hnn (hl.retiredNotar hr)
  constructor
  · rw [List.countP_cons, countP_zero_of_all_false (hl.unvoted trivial hnv)]; split <;> omega
  · intro ⟨y, hy, hyf⟩
    rcases List.mem_cons.mp hy with rfl | h
    · rw [hxf] at hyf; cases hyf
    · rw [hl.unretired trivial hnr y h] at hyf; cases hyf

theorem once_prepend {xs log : List Item} {k : Nat} (hq : ∀ x ∈ xs, x.quiet k)
    (h : log.countP (·.isInit k) ≤ 1) : (xs ++ log).countP (·.isInit k) ≤ 1 := by
  rw [List.countP_append, countP_zero_of_all_false fun x hx => (hq x hx).1]; simpa using h

theorem clean_prepend {xs log : List Item} {k : Nat} (hq : ∀ x ∈ xs, x.quiet k)
    (h : (∃ x ∈ log, x.isFinal k = true) → ∀ x ∈ log, x.isBad k = false) :
    (∃ x ∈ xs ++ log, x.isFinal k = true) → ∀ x ∈ xs ++ log, x.isBad k = false := by
  intro ⟨x, hx, hxf⟩ y hy
  have hxl : x ∈ log := (List.mem_append.mp hx).resolve_left fun hx => by rw [(hq x hx).2.2.2] at hxf; cases hxf
  exact (List.mem_append.mp hy).elim (fun hy => (hq y hy).2.2.1) (h ⟨x, hxl, hxf⟩ y)

theorem Inv.live {ex : Option Nat} {v : V} (hv : Inv ex v) {s : Nat} (hs : v.firstUnpruned ≤ s) :
    SlotInv v.log True (ex = some s) s (v.getS s) := by
  have := hv.slot s
  rwa [eq_true hs] at this

/-- **Frame lemma.** `v'` differs from `v` only in slot `s` and in a log prefix `xs` whose votes are
    all for slot `s`. -/
theorem Inv.frame {ex ex' : Option Nat} {v v' : V} (hv : Inv ex v) (s : Nat) (xs : List Item)
    (hh : v'.hfcs = v.hfcs) (hlog : v'.log = xs ++ v.log)
    (hget : ∀ k, k ≠ s → lookup v'.slots k = lookup v.slots k)
    (hs : v.firstUnpruned ≤ s)
    (hq : ∀ k, k ≠ s → ∀ x ∈ xs, x.quiet k)
    (hex : ∀ k, k ≠ s → ex = some k → ex' = some k)
    (hslot : SlotInv v'.log True (ex' = some s) s (v'.getS s))
    (honce : v'.log.countP (·.isInit s) ≤ 1)
    (hclean : (∃ x ∈ v'.log, x.isFinal s = true) → ∀ x ∈ v'.log, x.isBad s = false)
    (hhist : Hist Good v'.log) : Inv ex' v' := by
  have hfu : v'.firstUnpruned = v.firstUnpruned := by simp [V.firstUnpruned, hh]
  constructor
  · intro k
    by_cases hk : k = s
    · subst hk
      have : (v'.firstUnpruned ≤ k) = True := by simp [hfu, hs]
      rw [this]; exact hslot
    · have hg : v'.getS k = v.getS k := by simp [V.getS, hget k hk]
      rw [hg, hfu, hlog]
      exact (hv.slot k).prepend xs (hq k hk) (hex k hk)
  · intro k st hk
    rw [hfu]
    by_cases hks : k = s
    · subst hks; exact hs
    · rw [hget k hks] at hk; exact hv.keys k st hk
  · intro k
    by_cases hk : k = s
    · subst hk; exact honce
    · rw [hlog]; exact once_prepend (hq k hk) (hv.once k)
  · intro k
    by_cases hk : k = s
    · subst hk; exact hclean
    · rw [hlog]; exact clean_prepend (hq k hk) (hv.finalClean k)
  · exact hhist

/-! ## state accessors under the primitive updates, and under the skip loop -/

@[simp] theorem upd_log (v : V) (s : Nat) (f) : (v.upd s f).log = v.log := rfl
@[simp] theorem upd_hfcs (v : V) (s : Nat) (f) : (v.upd s f).hfcs = v.hfcs := rfl
@[simp] theorem upd_panicked (v : V) (s : Nat) (f) : (v.upd s f).panicked = v.panicked := rfl
@[simp] theorem upd_fu (v : V) (s : Nat) (f) : (v.upd s f).firstUnpruned = v.firstUnpruned := rfl
@[simp] theorem emit_log (v : V) (o : Out) : (v.emit o).log = .out o :: v.log := rfl
@[simp] theorem emit_hfcs (v : V) (o : Out) : (v.emit o).hfcs = v.hfcs := rfl
@[simp] theorem emit_slots (v : V) (o : Out) : (v.emit o).slots = v.slots := rfl
@[simp] theorem emit_panicked (v : V) (o : Out) : (v.emit o).panicked = v.panicked := rfl
@[simp] theorem emit_fu (v : V) (o : Out) : (v.emit o).firstUnpruned = v.firstUnpruned := rfl
@[simp] theorem emit_getS (v : V) (o : Out) (k : Nat) : (v.emit o).getS k = v.getS k := rfl
theorem upd_emit (v : V) (s : Nat) (f : SlotState → SlotState) (o : Out) :
    (v.upd s f).emit o = ({ v with log := .out o :: v.log } : V).upd s f := rfl
@[simp] theorem panic_log (v : V) : v.panic.log = v.log := rfl
@[simp] theorem panic_hfcs (v : V) : v.panic.hfcs = v.hfcs := rfl
@[simp] theorem panic_slots (v : V) : v.panic.slots = v.slots := rfl
@[simp] theorem panic_fu (v : V) : v.panic.firstUnpruned = v.firstUnpruned := rfl
@[simp] theorem panic_getS (v : V) (k : Nat) : v.panic.getS k = v.getS k := rfl

theorem lookup_upd (v : V) (s k : Nat) (f) :
    lookup (v.upd s f).slots k = if s = k then some (f (v.getS s)) else lookup v.slots k := by
  simp [V.upd, lookup_insertS]

theorem getS_upd (v : V) (s k : Nat) (f) :
    (v.upd s f).getS k = if s = k then f (v.getS s) else v.getS k := by
  show ((lookup (v.upd s f).slots k).getD {}) = _
  rw [lookup_upd]; split <;> rfl

@[simp] theorem getS_upd_self (v : V) (s : Nat) (f) : (v.upd s f).getS s = f (v.getS s) := by
  simp [getS_upd]

theorem getS_upd_ne (v : V) (s k : Nat) (f) (h : s ≠ k) : (v.upd s f).getS k = v.getS k := by
  simp [getS_upd, h]

theorem getS_skipSlots (l : List Nat) (v : V) (t : Nat) :
    (v.skipSlots l).getS t =
      if t ∈ l ∧ (v.getS t).voted = false then { v.getS t with voted := true, badWindow := true } else v.getS t := by
  induction l generalizing v with
  | nil => simp [V.skipSlots]
  | cons s rest ih =>
    unfold V.skipSlots
    split
    · rename_i hv
      rw [ih]
      by_cases hts : t = s
      · subst hts; simp [hv]
      · simp [hts]
    · rename_i hv
      rw [ih, emit_getS, getS_upd]
      by_cases hts : s = t
      · subst hts; simp [hv]
      · simp [hts, Ne.symm hts]

theorem Inv.panic {ex} {v : V} (hv : Inv ex v) : Inv ex v.panic :=
  ⟨hv.slot, hv.keys, hv.once, hv.finalClean, hv.hist⟩

theorem Inv.act {ex : Option Nat} {v : V} (hv : Inv ex v) (s : Nat) (x : Item) (f : SlotState → SlotState)
    (hs : v.firstUnpruned ≤ s) (hx : x.voteSlot = some s)
    (hslot : SlotInv (x :: v.log) True (ex = some s) s (f (v.getS s)))
    (honce : (x :: v.log).countP (·.isInit s) ≤ 1)
    (hclean : (∃ y ∈ x :: v.log, y.isFinal s = true) → ∀ y ∈ x :: v.log, y.isBad s = false)
    (hgood : Good x v.log) :
    Inv ex (({ v with log := x :: v.log } : V).upd s f) := by
  refine Inv.frame hv s [x] rfl rfl ?_ hs (Item.quiet_others hx) (fun _ _ h => h) ?_ honce hclean ⟨hgood, hv.hist⟩
  · intro k hk; rw [lookup_upd]; simp [Ne.symm hk]
  · rw [getS_upd_self]; exact hslot

theorem Inv.updS {ex ex' : Option Nat} {v : V} (hv : Inv ex v) (s : Nat) (f : SlotState → SlotState)
    (hs : v.firstUnpruned ≤ s) (hex : ∀ k, k ≠ s → ex = some k → ex' = some k)
    (hslot : SlotInv v.log True (ex' = some s) s (f (v.getS s))) : Inv ex' (v.upd s f) := by
  refine Inv.frame hv s [] rfl rfl ?_ hs (by simp) hex ?_ (hv.once s) (hv.finalClean s) hv.hist
  · intro k hk; rw [lookup_upd]; simp [Ne.symm hk]
  · rw [getS_upd_self]; exact hslot

theorem Inv.note {ex : Option Nat} {v : V} (hv : Inv ex v) (x : Item) (hx : x.voteSlot = none)
    (hgood : Good x v.log) : Inv ex ({ v with log := x :: v.log } : V) := by
  have hq : ∀ k, ∀ y ∈ [x], y.quiet k := fun k y hy => by
    rw [List.mem_singleton.mp hy]; exact Item.quiet_of_voteSlot _ _ (by simp [hx])
  exact Inv.frame hv v.firstUnpruned [x] rfl rfl (fun _ _ => rfl) (Nat.le_refl _) (fun k _ => hq k) (fun _ _ h => h)
    ((hv.live (Nat.le_refl _)).prepend [x] (hq _) id) (once_prepend (hq _) (hv.once _))
    (clean_prepend (hq _) (hv.finalClean _)) ⟨hgood, hv.hist⟩

/-! ## windows, and the filters at the head of the handlers -/

theorem W_pos : 0 < W := by decide

theorem firstInWindow_le (s : Nat) : firstInWindow s ≤ s := Nat.div_mul_le_self s W

theorem fu_le_hfcs (v : V) : v.firstUnpruned ≤ v.hfcs := firstInWindow_le _

/-- the filters at the head of the handlers (the standstill bundle has none) -/
theorem ignores_eq_false {v : V} {e : Event} : v.ignores e = false ↔
    match e with
    | .standstill _ _ => True
    | .cert _ s _ => v.firstUnpruned ≤ s
    | .parentReady s _ _ | .safeToNotar s _ | .safeToSkip s => v.firstUnpruned ≤ s ∧ (v.getS s).retired = false
    | .firstShred s | .invalidBlock s | .block s _ | .timeout s | .timeoutCrashed s =>
      v.hfcs < s ∧ (v.getS s).retired = false := by
  cases e <;>
    simp only [V.ignores, Bool.or_eq_false_iff, decide_eq_false_iff_not, Nat.not_lt, Nat.not_le, iff_self]

theorem retained {v : V} {e : Event} (h : v.ignores e = false) :
    match e with
    | .standstill _ _ => True
    | e => v.firstUnpruned ≤ e.slot := by
  have := ignores_eq_false.mp h
  cases e with
  | standstill s r => trivial
  | cert k s hh => exact this
  | parentReady s _ _ | safeToNotar s _ | safeToSkip s => exact this.1
  | firstShred s | invalidBlock s | block s _ | timeout s | timeoutCrashed s =>
    exact Nat.le_trans (fu_le_hfcs v) (Nat.le_of_lt this.1)

theorem notRetired {v : V} {e : Event} (h : v.ignores e = false) :
    match e with
    | .standstill _ _ | .cert _ _ _ => True
    | e => (v.getS e.slot).retired = false := by
  have := ignores_eq_false.mp h
  cases e with
  | standstill _ _ | cert _ _ _ => trivial
  | _ => exact this.2

theorem firstInWindow_mono {a b : Nat} (h : a ≤ b) : firstInWindow a ≤ firstInWindow b :=
  Nat.mul_le_mul_right W (Nat.div_le_div_right h)

theorem mem_windowSlots {s k : Nat} : k ∈ windowSlots s ↔ firstInWindow s ≤ k ∧ k < firstInWindow s + W :=
  List.mem_range'_1

/-- `firstUnpruned` is a window start: a window with one retained slot is retained as a whole -/
theorem windowSlots_retained {v : V} {slot : Nat} (h : ¬ slot < v.firstUnpruned) :
    ∀ k ∈ windowSlots slot, v.firstUnpruned ≤ k := by
  intro k hk
  have hw : v.hfcs / W ≤ slot / W := (Nat.le_div_iff_mul_le W_pos).mpr (Nat.le_of_not_lt h)
  exact Nat.le_trans (Nat.mul_le_mul_right W hw) (mem_windowSlots.mp hk).1

theorem getS_raisePrune (v : V) (slot k : Nat) : ({ v with hfcs := max v.hfcs slot } : V).prune.getS k =
    if firstInWindow (max v.hfcs slot) ≤ k then v.getS k else {} := by
  show (lookup (v.slots.filter (fun p => decide (firstInWindow (max v.hfcs slot) ≤ p.1))) k).getD {} = _
  rw [lookup_filter]
  split <;> rfl

/-- the environment assumption under which Votor never panics: the pool announces `ParentReady`
    only for the first slot of a window (`PoolEvent::ParentReady` doc comment; `set_timeouts` asserts it) -/
def Event.wellFormed : Event → Prop
  | .parentReady s _ _ => s % W = 0
  | _ => True

theorem firstInWindow_mod (s : Nat) : firstInWindow s % W = 0 := Nat.mul_mod_left _ _

/-! ## what the handlers do to the state

Every handler of votor.rs is a sequence of effects of four kinds: a field update of one slot, a broadcast or timer request, a failed
assert, and raising `highest_final_cert_slot` followed by pruning. `Acts P A v w`: `w` is reached from `v` by such effects,
each under the guard it occurs at in the code: only retained slots are written, a failed assert needs `A`, raising needs `P`.
What depends on the effects only (`Ext`, `Zero`, `step_log`, the `_hfcs` equations, that no assert fires) is proved by
induction on `Acts`. -/

inductive Acts (P A : Prop) : V → V → Prop
  | refl (v : V) : Acts P A v v
  | trans {a b c : V} : Acts P A a b → Acts P A b c → Acts P A a c
  /-- only retained slots are written; `voted` and `retired` are only ever raised -/
  | upd (v : V) (s : Nat) (f : SlotState → SlotState) (hs : v.firstUnpruned ≤ s)
      (hf : ∀ st, (st.voted = true → (f st).voted = true) ∧ (st.retired = true → (f st).retired = true)) :
      Acts P A v (v.upd s f)
  | panic (v : V) (h : A) : Acts P A v v.panic
  /-- a vote is cast only for a retained slot and, the finalization vote apart, only while the slot is unvoted or
      not retired -/
  | emit (v : V) (o : Out) (h : ∀ s, (Item.out o).voteSlot = some s →
      v.firstUnpruned ≤ s ∧ (o = .final s ∨ (v.getS s).voted = false ∨ (v.getS s).retired = false)) : Acts P A v (v.emit o)
  | raise (v : V) (slot : Nat) (h : P) : Acts P A v ({ v with hfcs := max v.hfcs slot } : V).prune

def Keys (v : V) : Prop := ∀ s st, lookup v.slots s = some st → v.firstUnpruned ≤ s

namespace Acts
variable {P A : Prop}

theorem keys {v w : V} (h : Acts P A v w) (k : Keys v) : Keys w := by
  induction h with
  | refl => exact k
  | trans _ _ h1 h2 => exact h2 (h1 k)
  | upd v s f hs _ =>
    intro t st ht
    rw [lookup_upd] at ht
    split at ht
    · rename_i e; exact e ▸ hs
    · exact k t st ht
  | panic => exact k
  | emit => exact k
  | raise v slot _ =>
    intro t st ht
    have : lookup (v.slots.filter (fun p => decide (firstInWindow (max v.hfcs slot) ≤ p.1))) t = some st := ht
    rw [lookup_filter] at this
    split at this
    · assumption
    · cases this

theorem panicked {v w : V} (h : Acts P False v w) : w.panicked = v.panicked := by
  induction h with
  | trans _ _ h1 h2 => exact h2.trans h1
  | panic _ h => exact h.elim
  | _ => rfl

theorem hfcs {v w : V} (h : Acts False A v w) : w.hfcs = v.hfcs := by
  induction h with
  | trans _ _ h1 h2 => exact h2.trans h1
  | raise _ _ h => exact h.elim
  | _ => rfl

theorem log_sub {v w : V} (h : Acts P A v w) : ∀ x ∈ v.log, x ∈ w.log := by
  induction h with
  | trans _ _ h1 h2 => exact fun x hx => h2 x (h1 x hx)
  | emit v o _ => exact fun x hx => List.mem_cons_of_mem _ hx
  | _ => exact fun _ hx => hx

theorem tryFinal (v : V) (slot hash : Nat) (hs : A ∨ v.firstUnpruned ≤ slot) : Acts P A v (v.tryFinal slot hash) := by
  unfold V.tryFinal
  split
  · rename_i hlt; exact .panic v (hs.resolve_right (Nat.not_le.mpr hlt))
  · rename_i hlt
    simp only []
    split
    · refine (Acts.emit v (.final slot) ?_).trans (.upd _ _ _ (Nat.le_of_not_lt hlt) ?_)
      · intro s hs; cases hs; exact ⟨Nat.le_of_not_lt hlt, .inl rfl⟩
      · exact fun _ => ⟨id, fun _ => rfl⟩
    · exact .refl v

theorem tryNotar (v : V) (slot : Nat) (b : BlockInfo) (hs : A ∨ v.firstUnpruned ≤ slot) :
    Acts P A v (v.tryNotar slot b).1 := by
  unfold V.tryNotar
  split
  · rename_i hlt; exact .panic v (hs.resolve_right (Nat.not_le.mpr hlt))
  · rename_i hlt
    split
    · exact .refl v
    · rename_i hvoted
      split
      · refine ((Acts.emit v (.notar slot b.hash b.pslot b.phash) ?_).trans (.upd _ _ _ (Nat.le_of_not_lt hlt) ?_)).trans
          (tryFinal _ _ _ (.inr (Nat.le_of_not_lt hlt)))
        · intro s hs; cases hs; exact ⟨Nat.le_of_not_lt hlt, .inr (.inl (eq_false_of_ne_true hvoted))⟩
        · exact fun _ => ⟨fun _ => rfl, id⟩
      · exact .refl v

theorem skipSlots (l : List Nat) (v : V) (hb : ∀ s ∈ l, v.firstUnpruned ≤ s) : Acts P A v (v.skipSlots l) := by
  induction l generalizing v with
  | nil => exact .refl v
  | cons s rest ih =>
    unfold V.skipSlots
    split
    · exact ih v (fun k hk => hb k (by simp [hk]))
    · rename_i hvoted
      refine ((Acts.emit v (.skip s) ?_).trans (.upd _ s _ (hb s (by simp)) ?_)).trans
        (ih ((v.upd s _).emit (.skip s)) (fun k hk => hb k (by simp [hk])))
      · intro k hk; cases hk; exact ⟨hb _ (by simp), .inr (.inl (eq_false_of_ne_true hvoted))⟩
      · exact fun _ => ⟨fun _ => rfl, id⟩

theorem trySkipWindow (v : V) (slot : Nat) (hs : A ∨ v.firstUnpruned ≤ slot) : Acts P A v (v.trySkipWindow slot) := by
  unfold V.trySkipWindow
  split
  · rename_i hlt; exact .panic v (hs.resolve_right (Nat.not_le.mpr hlt))
  · rename_i hlt
    exact skipSlots _ v (windowSlots_retained hlt)

theorem pending_live {v : V} (k : Keys v) {s : Nat} {b : BlockInfo}
    (hb : (v.getS s).pendingBlock = some b) : v.firstUnpruned ≤ s := by
  cases hl : lookup v.slots s with
  | none => simp [V.getS, hl] at hb
  | some st => exact k s st hl

/-- the slots with a pending block have a state, so they are retained: `check_pending_blocks` cannot trip the assert -/
theorem checkPendingLoop (l : List Nat) (v : V) (hk : A ∨ Keys v) : Acts P A v (v.checkPendingLoop l) := by
  induction l generalizing v with
  | nil => exact .refl v
  | cons s rest ih =>
    unfold V.checkPendingLoop
    split
    · rename_i b hb
      have h1 : Acts P A v (v.tryNotar s b).1 := tryNotar v s b (hk.imp_right fun k => pending_live k hb)
      exact h1.trans (ih _ (hk.imp_right h1.keys))
    · exact ih v hk

theorem note (v : V) (o : Out) (h : (Item.out o).voteSlot = none) : Acts P A v (v.emit o) :=
  .emit v o fun s hs => by rw [h] at hs; cases hs

theorem setTimeouts (v : V) (s : Nat) (hs : A ∨ s % W = 0) : Acts P A v (v.setTimeouts s) := by
  unfold V.setTimeouts
  split
  · exact note v _ rfl
  · rename_i hw; exact .panic v (hs.resolve_right hw)

theorem emitAll (l : List Nat) (v : V) : Acts P A v (v.emitAll (l.map .relay)) := by
  induction l generalizing v with
  | nil => exact .refl v
  | cons i rest ih => exact (note v (.relay i) rfl).trans (ih _)

end Acts

@[simp] theorem tryFinal_hfcs (v : V) (slot hash : Nat) : (v.tryFinal slot hash).hfcs = v.hfcs :=
  (Acts.tryFinal v slot hash (.inl trivial)).hfcs

@[simp] theorem tryNotar_hfcs (v : V) (slot : Nat) (b : BlockInfo) : (v.tryNotar slot b).1.hfcs = v.hfcs :=
  (Acts.tryNotar v slot b (.inl trivial)).hfcs

@[simp] theorem trySkipWindow_hfcs (v : V) (slot : Nat) : (v.trySkipWindow slot).hfcs = v.hfcs :=
  (Acts.trySkipWindow v slot (.inl trivial)).hfcs

@[simp] theorem checkPendingLoop_hfcs (l : List Nat) (v : V) : (v.checkPendingLoop l).hfcs = v.hfcs :=
  (Acts.checkPendingLoop l v (.inl trivial)).hfcs

@[simp] theorem checkPending_hfcs (v : V) : v.checkPending.hfcs = v.hfcs := checkPendingLoop_hfcs _ v

@[simp] theorem setTimeouts_hfcs (v : V) (s : Nat) : (v.setTimeouts s).hfcs = v.hfcs :=
  (Acts.setTimeouts v s (.inl trivial)).hfcs

/-- the handlers. Without hypothesis (`A := True`) this is all a handler can do; for a Votor whose slots are retained and an
    event that is well formed no assert fires (`A := False`). -/
theorem Acts.handle {A : Prop} (v : V) (e : Event) (hign : v.ignores e = false) (hk : A ∨ (Keys v ∧ e.wellFormed)) :
    Acts True A v (v.handle e) := by
  have fb : ∀ slot (o : Out), (Item.out o).voteSlot = some slot → v.firstUnpruned ≤ slot → (v.getS slot).retired = false →
      Acts True A v (((v.emit o).trySkipWindow slot).upd slot (fun s => { s with badWindow := true })) := by
    intro slot o ho hs hr
    refine ((Acts.emit v o ?_).trans (trySkipWindow _ _ (.inr hs))).trans (.upd _ _ _ ?_ fun _ => ⟨id, id⟩)
    · intro s hs'
      rw [ho] at hs'; cases hs'
      exact ⟨hs, .inr (.inr hr)⟩
    · simp only [V.firstUnpruned, trySkipWindow_hfcs]; exact hs
  cases e with
  | parentReady slot ps ph =>
    have h1 : Acts True A v (v.upd slot (fun s => { s with parentsReady := insertParent s.parentsReady (ps, ph) })) :=
      .upd v _ _ (retained hign) fun _ => ⟨id, id⟩
    exact (h1.trans (checkPendingLoop _ _ (hk.imp_right fun k => h1.keys k.1))).trans
      (setTimeouts _ _ (hk.imp_right And.right))
  | safeToNotar slot _ | safeToSkip slot => exact fb slot _ rfl (retained hign) (notRetired hign)
  | cert kind slot hash =>
    have hs : v.firstUnpruned ≤ slot := retained hign
    cases kind with
    | notar =>
      refine ((Acts.upd v _ _ hs ?_).trans (tryFinal _ _ _ (.inr hs))).trans (note _ _ rfl)
      exact fun _ => ⟨id, id⟩
    | final | fastFinal =>
      exact ((setTimeouts v _ (.inr (firstInWindow_mod slot))).trans (.raise _ slot trivial)).trans (note _ _ rfl)
    | skip | notarFallback => exact note _ _ rfl
  | standstill slot relay => exact emitAll relay v
  | firstShred slot =>
    exact .upd v slot (fun s => { s with receivedShred := true }) (retained hign) fun _ => ⟨id, id⟩
  | invalidBlock slot => exact trySkipWindow v slot (.inr (retained hign))
  | block slot b =>
    have hs : v.firstUnpruned ≤ slot := retained hign
    have h1 : Acts True A v (v.tryNotar slot b).1 := tryNotar v slot b (.inr hs)
    simp only [V.handle]
    split
    · exact .refl v
    · split
      · exact h1.trans (checkPendingLoop _ _ (hk.imp_right fun k => h1.keys k.1))
      · refine h1.trans (.upd _ _ _ ?_ fun _ => ⟨id, id⟩)
        simp only [V.firstUnpruned, tryNotar_hfcs]; exact hs
  | timeout slot | timeoutCrashed slot =>
    simp only [V.handle]
    split
    · exact .refl v
    · exact trySkipWindow v slot (.inr (retained hign))

/-! ## the primitives preserve the invariant -/

variable {ex : Option Nat} {v : V}

theorem mem_cons_of_mem' {x : Item} {l : List Item} {y : Item} (h : y ∈ l) : y ∈ x :: l :=
  List.mem_cons_of_mem _ h

theorem Inv.tryFinal (hv : Inv none v) (slot hash : Nat) : Inv none (v.tryFinal slot hash) := by
  unfold V.tryFinal
  split
  · exact hv.panic
  · rename_i hlt
    have hs : v.firstUnpruned ≤ slot := Nat.le_of_not_lt hlt
    simp only []
    split
    · rename_i hc
      obtain ⟨hbn, hvn, hbad⟩ := hc
      have hl := hv.live hs
      refine hv.act slot (.out (.final slot)) _ hs rfl ?_ ?_ ?_ ?_
      · refine SlotInv.cons _ (fun _ => rfl) (fun _ => rfl) (fun _ _ => rfl) (fun h => nomatch h) id ?_
        exact { hl with unretired := fun _ h => (nomatch h), retiredNotar := fun _ h => nomatch hvn.symm.trans h }
      · rw [List.countP_cons_of_neg Bool.false_ne_true]; exact hv.once slot
      · intro _ y hy
        rcases List.mem_cons.mp hy with rfl | h
        · rfl
        · exact hl.good trivial (fun h => nomatch h) hbad y h
      · exact ⟨hash, hl.notarWit hash hvn, hl.certWit hash hbn⟩
    · exact hv

theorem Inv.tryNotar (hv : Inv none v) (slot : Nat) (b : BlockInfo)
    (hb : .ev (.block slot b) ∈ v.log) : Inv none (v.tryNotar slot b).1 := by
  unfold V.tryNotar
  split
  · exact hv.panic
  · rename_i hlt
    have hs : v.firstUnpruned ≤ slot := Nat.le_of_not_lt hlt
    split
    · exact hv
    · rename_i hvoted
      split
      · rename_i hpar
        simp only []
        apply Inv.tryFinal
        have hl := hv.live hs
        have hnv : (v.getS slot).voted = false := eq_false_of_ne_true hvoted
        obtain ⟨honce, hclean⟩ := hl.initSide hnv (.out (.notar slot b.hash b.pslot b.phash)) rfl
        refine hv.act slot _ _ hs rfl (hl.castNotar b) honce hclean
          ⟨hb, ?_⟩
        unfold V.parentOk at hpar
        split
        · rename_i hw
          simp only [hw, if_true] at hpar
          rcases hl.parentWit _ (by simpa using hpar) with ⟨h0, _⟩ | h
          · exact absurd (hl.gen trivial h0) (by rw [hnv]; exact Bool.false_ne_true)
          · exact h
        · rename_i hw
          simp only [hw, if_false, Bool.and_eq_true, decide_eq_true_eq] at hpar
          exact ⟨hpar.1, (hv.slot b.pslot).notarWit b.phash hpar.2⟩
      · exact hv

theorem Inv.skipSlots (l : List Nat) (hv : Inv ex v)
    (hb : ∀ s ∈ l, v.firstUnpruned ≤ s) : Inv ex (v.skipSlots l) := by
  induction l generalizing v with
  | nil => exact hv
  | cons s rest ih =>
    unfold V.skipSlots
    have hs : v.firstUnpruned ≤ s := hb s (by simp)
    split
    · exact ih hv (fun k hk => hb k (by simp [hk]))
    · rename_i hvoted
      refine ih ?_ (fun k hk => hb k (by simp [hk]))
      have hl := hv.live hs
      have hnv : (v.getS s).voted = false := eq_false_of_ne_true hvoted
      obtain ⟨honce, hclean⟩ := hl.initSide hnv (.out (.skip s)) rfl
      rw [upd_emit]
      refine hv.act s _ _ hs rfl ?_ honce hclean trivial
      refine SlotInv.cons _ (fun h => nomatch h) (fun _ => rfl) (fun _ h => nomatch h) (fun _ => rfl) id ?_
      exact { hl with notarVoted := fun _ _ => rfl, gen := fun _ _ => rfl, unvoted := fun _ h => (nomatch h),
                      good := fun _ _ h => nomatch h }

theorem Inv.trySkipWindow (hv : Inv ex v) (slot : Nat) :
    Inv ex (v.trySkipWindow slot) := by
  unfold V.trySkipWindow
  split
  · exact hv.panic
  · rename_i hlt
    exact hv.skipSlots _ (windowSlots_retained hlt)

theorem Inv.checkPendingLoop (l : List Nat) (hv : Inv none v) : Inv none (v.checkPendingLoop l) := by
  induction l generalizing v with
  | nil => exact hv
  | cons s rest ih =>
    unfold V.checkPendingLoop
    split
    · rename_i b hb
      exact ih (hv.tryNotar s b ((hv.slot s).pendingWit b hb))
    · exact ih hv

theorem Inv.setTimeouts (hv : Inv ex v) (s : Nat) : Inv ex (v.setTimeouts s) := by
  unfold V.setTimeouts
  split
  · exact hv.note (.out (.timer s)) rfl trivial
  · exact hv.panic

@[simp] theorem setTimeouts_slots (v : V) (s : Nat) : (v.setTimeouts s).slots = v.slots := by
  unfold V.setTimeouts; split <;> rfl

theorem Inv.emitAll (l : List Nat) (hv : Inv ex v) : Inv ex (v.emitAll (l.map .relay)) := by
  induction l generalizing v with
  | nil => exact hv
  | cons i rest ih => exact ih (hv.note (.out (.relay i)) rfl trivial)

theorem Inv.raisePrune (hv : Inv none v) (slot : Nat) :
    Inv none ({ v with hfcs := max v.hfcs slot } : V).prune := by
  have hmono : v.firstUnpruned ≤ firstInWindow (max v.hfcs slot) := firstInWindow_mono (Nat.le_max_left _ _)
  constructor
  · intro k
    rw [getS_raisePrune]
    show SlotInv v.log (firstInWindow (max v.hfcs slot) ≤ k) _ _ _
    by_cases hk : firstInWindow (max v.hfcs slot) ≤ k
    · simp only [hk, if_true]
      exact hv.live (Nat.le_trans hmono hk)
    · simp only [hk, if_false]
      exact SlotInv.default _ _ _
  · exact (Acts.raise (P := True) (A := True) v slot trivial).keys hv.keys
  · exact hv.once
  · exact hv.finalClean
  · exact hv.hist

theorem mem_insertParent {l : List (Nat × Nat)} {p q : Nat × Nat} (h : q ∈ insertParent l p) : q = p ∨ q ∈ l := by
  unfold insertParent at h
  split at h
  · exact Or.inr h
  · simpa using h

/-- the fallback arms: vote first, `bad_window` last -/
theorem Inv.fallback {v : V} (hv : Inv none v) (slot : Nat) (x : Item)
    (hx : x = .out (.skipFallback slot) ∨ ∃ h, x = .out (.notarFallback slot h))
    (hgood : Good x v.log) (hs : v.firstUnpruned ≤ slot) (hr : (v.getS slot).retired = false) :
    Inv none ((({ v with log := x :: v.log } : V).trySkipWindow slot).upd slot (fun s => { s with badWindow := true })) := by
  have hvs : x.voteSlot = some slot := by
    rcases hx with rfl | ⟨h, rfl⟩ <;> rfl
  have hni : x.isInit slot = false ∧ x.isNotarOf slot = false ∧ x.isFinal slot = false := by
    rcases hx with rfl | ⟨h, rfl⟩ <;> exact ⟨rfl, rfl, rfl⟩
  have hl := hv.live hs
  have h1 : Inv (some slot) ({ v with log := x :: v.log } : V) := by
    refine Inv.frame hv slot [x] rfl rfl (fun _ _ => rfl) hs (Item.quiet_others hvs) (fun _ _ h => nomatch h) ?_ ?_ ?_
      ⟨hgood, hv.hist⟩
    · exact hl.cons x (fun _ => hni.1) (fun _ => hni.2.1) (fun he => absurd rfl he) (fun _ => hni.2.2) (fun h => nomatch h)
    · rw [List.countP_cons_of_neg (by rw [hni.1]; exact Bool.false_ne_true)]; exact hv.once slot
    · intro ⟨y, hy, hyf⟩
      rcases List.mem_cons.mp hy with rfl | h
      · rw [hni.2.2] at hyf; cases hyf
      · rw [hl.unretired trivial hr y h] at hyf; cases hyf
  have h2 := h1.trySkipWindow slot
  have hs2 : (({ v with log := x :: v.log } : V).trySkipWindow slot).firstUnpruned ≤ slot := by
    simp only [V.firstUnpruned, trySkipWindow_hfcs]; exact hs
  -- the state is named before the field update `{ h2.live hs2 with … }`: elaborating that against the spelt-out term makes
  -- Lean unify whole `SlotInv` records over it, which is slow to check
  generalize ({ v with log := x :: v.log } : V).trySkipWindow slot = w at h2 hs2 ⊢
  refine h2.updS slot _ hs2 (by intro k hk h; cases h; exact absurd rfl hk) ?_
  exact { h2.live hs2 with good := fun _ _ h => nomatch h }

theorem Inv.addParent (hv : Inv none v) (slot ps ph : Nat) (hs : v.firstUnpruned ≤ slot)
    (hmem : .ev (.parentReady slot ps ph) ∈ v.log) :
    Inv none (v.upd slot (fun s => { s with parentsReady := insertParent s.parentsReady (ps, ph) })) := by
  have hl := hv.live hs
  refine hv.updS slot _ hs (fun _ _ h => h) { hl with parentWit := fun p hp => ?_ }
  rcases mem_insertParent hp with rfl | h
  · exact Or.inr hmem
  · exact hl.parentWit p h

theorem Inv.handle (hv : Inv none v) (e : Event) (hhead : ∃ rest, v.log = .ev e :: rest)
    (hign : v.ignores e = false) : Inv none (v.handle e) := by
  obtain ⟨rest, hhead⟩ := hhead
  have hmem : .ev e ∈ v.log := by simp [hhead]
  cases e with
  | parentReady slot ps ph =>
    exact ((hv.addParent slot ps ph (retained hign) hmem).checkPendingLoop _).setTimeouts slot
  | safeToNotar slot hash =>
    exact hv.fallback slot (.out (.notarFallback slot hash)) (Or.inr ⟨hash, rfl⟩) ⟨rest, hhead⟩
      (retained hign) (notRetired hign)
  | safeToSkip slot =>
    exact hv.fallback slot (.out (.skipFallback slot)) (Or.inl rfl) ⟨rest, hhead⟩
      (retained hign) (notRetired hign)
  | cert kind slot hash =>
    have hs : v.firstUnpruned ≤ slot := retained hign
    cases kind with
    | notar =>
      refine Inv.note (Inv.tryFinal ?_ slot hash) _ rfl trivial
      refine hv.updS slot _ hs (fun _ _ h => h) { hv.live hs with certWit := fun h hh => Or.inr ?_ }
      cases hh; exact hmem
    | final | fastFinal => exact Inv.note (Inv.raisePrune (hv.setTimeouts _) slot) _ rfl trivial
    | skip | notarFallback => exact hv.note _ rfl trivial
  | standstill slot relay => exact hv.emitAll relay
  | firstShred slot =>
    have hs : v.firstUnpruned ≤ slot := retained hign
    simp only [V.handle]
    refine hv.updS slot _ hs (fun _ _ h => h) ?_
    exact { hv.live hs with }
  | invalidBlock slot => exact hv.trySkipWindow slot
  | block slot b =>
    have hs : v.firstUnpruned ≤ slot := retained hign
    simp only [V.handle]
    split
    · exact hv
    · have h1 := hv.tryNotar slot b hmem
      split
      · exact h1.checkPendingLoop _
      · have hs1 : (v.tryNotar slot b).1.firstUnpruned ≤ slot := by
          simp only [V.firstUnpruned, tryNotar_hfcs]; exact hs
        have hmem1 := (Acts.tryNotar (P := False) v slot b (.inl trivial)).log_sub _ hmem
        -- named for the same reason as in `Inv.fallback`
        generalize (v.tryNotar slot b).1 = w at h1 hs1 hmem1 ⊢
        refine h1.updS slot _ hs1 (fun _ _ h => h) { h1.live hs1 with pendingWit := fun b' hb' => ?_ }
        cases hb'; exact hmem1
  | timeout slot | timeoutCrashed slot =>
    simp only [V.handle]
    split
    · exact hv
    · exact hv.trySkipWindow slot

theorem step_ind {C : V → Prop} (v : V) (e : Event) (h0 : C v) (h1 : C (v.logEv e))
    (h2 : (v.logEv e).ignores e = false → C ((v.logEv e).handle e)) : C (step v e) := by
  unfold AgModel.Votor.step
  split
  · exact h0
  · simp only []
    split
    · exact h1
    · rename_i hi
      exact h2 (by simpa using hi)

theorem Inv.step (hv : Inv none v) (e : Event) : Inv none (step v e) :=
  have h1 : Inv none (v.logEv e) := hv.note (.ev e) rfl trivial
  step_ind (C := Inv none) v e hv h1 (h1.handle e ⟨v.log, rfl⟩)

/-- `Votor::new`: slot 0 is born voted, notarized and retired, every other slot is untouched; the log holds the
    timer request only -/
theorem Inv.init : Inv none init := by
  have h0 : SlotInv [] True (none = some 0) 0 genesisState :=
    { notarVoted := fun _ _ => rfl, gen := fun _ _ => rfl, unvoted := fun _ h => (nomatch h), noNotar := fun _ h => (nomatch h),
      notarWit := fun _ hv => Or.inl ⟨rfl, by cases hv; rfl⟩, good := fun _ _ _ => List.forall_mem_nil _,
      unretired := fun _ h => (nomatch h), retiredNotar := fun _ h => (nomatch h),
      certWit := fun _ hv => Or.inl ⟨rfl, by cases hv; rfl⟩,
      parentWit := fun p hp => Or.inl ⟨rfl, List.mem_singleton.mp hp⟩, pendingWit := fun _ h => nomatch h }
  have hk : ∀ k, k ≠ 0 → SlotInv [] True (none = some k) k {} := fun k hk =>
    { SlotInv.default [] (none = some k) k with
      gen := fun _ h => absurd h hk, unvoted := fun _ _ => List.forall_mem_nil _,
      noNotar := fun _ _ => List.forall_mem_nil _, good := fun _ _ _ => List.forall_mem_nil _,
      unretired := fun _ _ => List.forall_mem_nil _ }
  have hq : ∀ k, ∀ x ∈ [Item.out (.timer 0)], x.quiet k := fun k x hx => by
    rw [List.mem_singleton.mp hx]; exact ⟨rfl, rfl, rfl, rfl⟩
  constructor
  · intro k
    have hfu : (AgModel.Votor.init.firstUnpruned ≤ k) = True := eq_true (by simp [V.firstUnpruned, firstInWindow, Votor.init])
    rw [hfu]
    by_cases hk0 : k = 0
    · subst hk0; exact h0.prepend _ (hq 0) id
    · have hg : AgModel.Votor.init.getS k = {} := by
        show (if 0 = k then some genesisState else none).getD {} = {}
        rw [if_neg (Ne.symm hk0)]; rfl
      rw [hg]; exact (hk k hk0).prepend _ (hq k) id
  · intro k st _
    show firstInWindow 0 ≤ k
    simp [firstInWindow]
  · intro s; exact Nat.zero_le _
  · intro s ⟨x, hx, hf⟩
    rw [List.mem_singleton.mp hx] at hf; cases hf
  · exact ⟨trivial, trivial⟩

theorem Inv.run (es : List Event) (hv : Inv none v) : Inv none (run v es) := by
  induction es generalizing v with
  | nil => exact hv
  | cons e es ih => exact ih (hv.step e)

theorem inv_reachable (es : List Event) : Inv none (run init es) := Inv.init.run es

end AgModel.Votor
