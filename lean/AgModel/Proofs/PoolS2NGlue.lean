import AgModel.Proofs.PoolS2NGlueSlots
/-! C06 at pool level. The pool applies exactly the slot-level operations to each slot state (`poolRun_closed`: a per-slot
    predicate closed under them holds for every slot state of every reachable pool; instances: the completeness invariants
    `CInv`, `SInv` and "every recorded signal is justified", `SentSound`). **Flag soundness** (`SoundInv`): a parent entry is
    `true` only for a registered block one of whose registered parents the pool has stored (and announced) a notarization,
    notar-fallback or fast-finalization certificate for; its run theorem is `poolRun_sound_good` (`PoolS2NGlueSoundEv`).
    The pool **forwards** every slot-level safe-to-notar event: whatever is recorded in the `sent` set of a slot state of a
    reachable pool was emitted as `Event.s2n` among the events of the run (`EmitInv`). -/
namespace AgModel.Pool

/-! ### predicates closed under all slot-level operations -/

structure SlotClosed (e : Epoch) (Q : SlotState → Prop) : Prop where
  init : ∀ s, Q { slot := s }
  vote : ∀ st v, Adm st v → Q st → Q (st.addVote e v).1
  cert : ∀ st c, Q st → Q (st.addCert c)
  known : ∀ st h, Q st → Q (st.notifyParentKnown h)
  certified : ∀ st h st' evs, st.notifyParentCertified e h = some (st', evs) → Q st → Q st'

theorem SlotClosed.move {e : Epoch} {Q : SlotState → Prop} (hc : SlotClosed e Q) {a b : SlotState} {evs : List Event}
    (m : SlotMove e a b evs) (h : Q a) : Q b := by
  cases m with
  | vote v ha => exact hc.vote _ v ha h
  | cert c => exact hc.cert _ c h
  | known x => exact hc.known _ x h
  | certified x _ _ hn => exact hc.certified _ x _ _ hn h

theorem SlotClosed.prim {e : Epoch} {Q : SlotState → Prop} (hc : SlotClosed e Q) {p q : Pool} {evs : List Event}
    (m : Prim p q evs) (h : p.epoch = e ∧ SlotsSat p Q) : q.epoch = e ∧ SlotsSat q Q :=
  ⟨m.epoch.trans h.1, SlotsSat.prim m hc.init (fun _ _ sm => hc.move (h.1 ▸ sm)) h.2⟩

theorem poolStep_closed {e : Epoch} {Q : SlotState → Prop} (hc : SlotClosed e Q) (p : Pool) (op : PoolOp)
    (h : p.epoch = e ∧ SlotsSat p Q) : (poolStep p op).1.epoch = e ∧ SlotsSat (poolStep p op).1 Q := by
  obtain ⟨B, hm, _⟩ := poolStep_prims p op
  exact hm.keeps (X := fun q _ => q.epoch = e ∧ SlotsSat q Q) (fun _ _ _ _ m => hc.prim m) (A := []) h

/-- **The pool applies exactly slot-level operations to each slot state**: a predicate closed under them stays true of every
    slot state along a run. -/
theorem poolRun_closed {e : Epoch} {Q : SlotState → Prop} (hc : SlotClosed e Q) (ops : List PoolOp) :
    SlotsSat (poolRun { epoch := e } ops).1 Q :=
  (poolRun_ind (fun _ _ q => q.epoch = e ∧ SlotsSat q Q) (fun _ _ p op h => poolStep_closed hc p op h) ops [] [] _
    ⟨rfl, SlotsSat.init e _⟩).2

theorem SlotMoves.closed {e : Epoch} {Q : SlotState → Prop} (m : SlotMoves e Q) (init : ∀ s, Q { slot := s }) : SlotClosed e Q where
  init := init
  vote := m.vote
  cert := m.cert
  known := fun st h => m.move (.known st h)
  certified := fun st h st' evs hn => m.move (.certified st h st' evs hn)

theorem cinv_closed (e : Epoch) : SlotClosed e (CInv e) :=
  (cinv_moves e).closed (CInv.init e)

theorem sentSound_closed (e : Epoch) : SlotClosed e (SentSound e) :=
  (sentSound_moves e).closed (fun s h hh => by cases hh)

theorem sinv_closed (e : Epoch) : SlotClosed e (SInv e) :=
  (sinv_moves e).closed (SInv.init e)

/-- the blocks for which a notarization, notar-fallback or fast-finalization certificate was announced -/
def certId : Event → Option (Nat × Nat)
  | .cert c => if c.kind = .notar ∨ c.kind = .nf ∨ c.kind = .ff then some (c.slot, c.hash) else none
  | _ => none

def certIds (evs : List Event) : List (Nat × Nat) := evs.filterMap certId

theorem mem_certIds {evs : List Event} {c : Cert} (hm : Event.cert c ∈ evs) (hs : c.strong) : (c.slot, c.hash) ∈ certIds evs := by
  unfold certIds
  apply List.mem_filterMap.mpr
  refine ⟨.cert c, hm, ?_⟩
  unfold Cert.strong at hs
  simp only [certId, hs, if_true]

theorem certIds_mem {evs : List Event} {x : Nat × Nat} (h : x ∈ certIds evs) :
    ∃ c, Event.cert c ∈ evs ∧ c.strong ∧ (c.slot, c.hash) = x := by
  obtain ⟨ev, hm, hs⟩ := List.mem_filterMap.mp h
  cases ev with
  | cert c =>
    simp only [certId] at hs
    split at hs
    · rename_i hk
      simp only [Option.some.injEq] at hs
      exact ⟨c, hm, hk, hs⟩
    · cases hs
  | _ => simp [certId] at hs

def Qs (R : List Reg) (C : Nat × Nat → Prop) (st : SlotState) : Prop :=
  ∀ h, st.parents.lookup h = some true → ∃ par, ((st.slot, h), par) ∈ R ∧ C par

def Qh (C : Nat × Nat → Prop) (st : SlotState) : Prop := ∀ h, st.isNfOrStronger h = true → C (st.slot, h)

def SoundInv (e : Epoch) (R : List Reg) (C : Nat × Nat → Prop) (p : Pool) : Prop :=
  p.epoch = e ∧ WaitReg R p ∧ SlotsSat p (Qs R C) ∧ SlotsSat p (Qh C)

theorem SoundInv.mono {e : Epoch} {R R' : List Reg} {C C' : Nat × Nat → Prop} {p : Pool} (h : SoundInv e R C p)
    (hr : ∀ r ∈ R, r ∈ R') (hc : ∀ x, C x → C' x) : SoundInv e R' C' p := by
  refine ⟨h.1, h.2.1.mono hr, h.2.2.1.mono ?_, h.2.2.2.mono ?_⟩
  · intro st hq x hx
    obtain ⟨par, a, b⟩ := hq x hx
    exact ⟨par, hr _ a, hc _ b⟩
  · intro st hq x hx; exact hc _ (hq x hx)

theorem Qs_init (R : List Reg) (C : Nat × Nat → Prop) (s : Nat) : Qs R C { slot := s } := by
  intro h hh; simp at hh

theorem Qh_init (C : Nat × Nat → Prop) (s : Nat) : Qh C { slot := s } := by
  intro h hh; rw [isNfOrStronger_init] at hh; cases hh

theorem Qs.of_eq {R : List Reg} {C : Nat × Nat → Prop} {a b : SlotState} (h : Qs R C a) (hs : b.slot = a.slot)
    (hp : ∀ x, b.parents.lookup x = some true → a.parents.lookup x = some true) : Qs R C b := by
  intro x hx; rw [hs]; exact h x (hp x hx)

theorem Qh.of_eq {C : Nat × Nat → Prop} {a b : SlotState} (h : Qh C a) (hs : b.slot = a.slot)
    (hp : ∀ x, b.isNfOrStronger x = true → a.isNfOrStronger x = true) : Qh C b := by
  intro x hx; rw [hs]; exact h x (hp x hx)

theorem Qs.addCert {R : List Reg} {C : Nat × Nat → Prop} {st : SlotState} (h : Qs R C st) (c : Cert) : Qs R C (st.addCert c) :=
  h.of_eq (addCert_slot st c) (fun x hx => by rw [addCert_parents] at hx; exact hx)

/-- the only block a stored certificate can newly certify is its own, which the caller puts into `C` -/
theorem Qh.addCert {C : Nat × Nat → Prop} {st : SlotState} (h : Qh C st) (c : Cert) (hsl : st.slot = c.slot)
    (hC : c.strong → C (c.slot, c.hash)) : Qh C (st.addCert c) := by
  intro x hx
  rw [addCert_slot]
  rcases addCert_isNfOrStronger st c x hx with a | ⟨a, b⟩
  · exact h x a
  · rw [hsl, b]; exact hC a

theorem Qs_kidSite (e : Epoch) (R : List Reg) (C : Nat × Nat → Prop) (k par : Nat × Nat) (hr : (k, par) ∈ R) (hc : C par) :
    KidSite e (Qs R C) k := by
  intro st st' evs hsl hn hq x hx
  obtain ⟨n1, _, n3, _⟩ := notifyParentCertified_spec hn
  rw [n3] at hx
  by_cases hxk : x = k.2
  · refine ⟨par, ?_, hc⟩
    rw [n1, hsl, hxk]; exact hr
  · simp only [hxk, if_false] at hx
    rw [n1]; exact hq x hx

theorem Qh_kidSite (e : Epoch) (C : Nat × Nat → Prop) (k : Nat × Nat) : KidSite e (Qh C) k := by
  intro st st' evs _ hn hq
  obtain ⟨n1, _, _, n4⟩ := notifyParentCertified_spec hn
  exact hq.of_eq n1 (fun x hx => by rw [← n4]; exact hx)

theorem SoundInv.slotState {e : Epoch} {R : List Reg} {C : Nat × Nat → Prop} {p : Pool} (h : SoundInv e R C p) (s : Nat) :
    SoundInv e R C (p.slotState s).1 :=
  ⟨(slotState_frame p s).epoch.trans h.1, h.2.1.of_waiting (slotState_frame p s).waiting,
    h.2.2.1.slotState s (Qs_init R C s), h.2.2.2.slotState s (Qh_init C s)⟩

theorem SoundInv.mod {e : Epoch} {R : List Reg} {C : Nat × Nat → Prop} {p : Pool} (h : SoundInv e R C p) (s : Nat)
    {st' : SlotState} (hsl : st'.slot = (p.slotState s).2.slot)
    (hp : ∀ x, st'.parents.lookup x = some true → (p.slotState s).2.parents.lookup x = some true)
    (hh : ∀ x, st'.isNfOrStronger x = true → (p.slotState s).2.isNfOrStronger x = true) :
    SoundInv e R C ((p.slotState s).1.putSlot st') :=
  ⟨(mod_frame p s st').epoch.trans h.1, h.2.1.of_waiting (mod_frame p s st').waiting,
    h.2.2.1.mod s _ (Qs_init R C _) ((h.2.2.1.slotState_snd s (Qs_init R C _)).of_eq hsl hp),
    h.2.2.2.mod s _ (Qh_init C _) ((h.2.2.2.slotState_snd s (Qh_init C _)).of_eq hsl hh)⟩

theorem SoundInv.voted {e : Epoch} {R : List Reg} {C : Nat × Nat → Prop} {p : Pool} (h : SoundInv e R C p) (v : Vote) :
    SoundInv e R C (p.voted v) :=
  h.mod v.slot (addVote_slot _ _ v) (fun x hx => by rw [addVote_parents] at hx; exact hx)
    (fun x hx => by rw [addVote_isNfOrStronger] at hx; exact hx)

theorem SoundInv.known {e : Epoch} {R : List Reg} {C : Nat × Nat → Prop} {p : Pool} (h : SoundInv e R C p) (b : Nat × Nat) :
    SoundInv e R C (p.known b) := by
  obtain ⟨k1, _, _, k4, k5⟩ := notifyParentKnown_spec (p.slotState b.1).2 b.2
  exact h.mod b.1 k1 k4 (fun x hx => by rw [← k5]; exact hx)

theorem SoundInv.certifiedB {e : Epoch} {R : List Reg} {C : Nat × Nat → Prop} {p : Pool} (h : SoundInv e R C p) {par : Nat × Nat}
    (hc : p.certifiedB par = true) : C par := by
  obtain ⟨ps, hg, hi⟩ := (certifiedB_iff_held p par).mp hc
  have := h.2.2.2 _ ps hg par.2 hi
  rwa [getSlot_slot hg] at this

theorem SoundInv.init (e : Epoch) : SoundInv e [] (fun _ => False) { epoch := e } :=
  ⟨rfl, fun _ _ hm => by simp at hm, SlotsSat.init e _, SlotsSat.init e _⟩

def QE (E : Event → Prop) (st : SlotState) : Prop := ∀ h ∈ st.sent, E (.s2n st.slot h)

theorem QE_init (E : Event → Prop) (s : Nat) : QE E { slot := s } := by
  intro h hh; simp at hh

/-- a slot-level step: what is newly recorded was announced by one of the step's events, for this slot -/
theorem QE.step {E : Event → Prop} {e : Epoch} {a b : SlotState} {evs : List Event} (ht : Signals a b evs)
    (hs : EvSound e b evs) (hsl : b.slot = a.slot) (hq : QE E a) (hE : ∀ ev ∈ evs, E ev) : QE E b := by
  intro x hx
  rcases (ht.s2n.iff x).mp hx with y | y
  · rw [hsl]; exact hq x y
  · obtain ⟨s, hm⟩ := s2n_of_mem_s2nHash y
    rw [← (hs _ hm).1]; exact hE _ hm

theorem QE.certified {E : Event → Prop} {e : Epoch} {st st' : SlotState} {h : Nat} {evs : List Event}
    (hn : st.notifyParentCertified e h = some (st', evs)) (hq : QE E st) (hE : ∀ ev ∈ evs, E ev) : QE E st' :=
  QE.step (certified_emit hn).2 (certified_emit hn).1 (notifyParentCertified_spec hn).1 hq hE

/-! ### the invariant: what is recorded in a slot state of `p` is among the events `A` emitted so far -/

def EmitInv (p : Pool) (A : List Event) : Prop := SlotsSat p (QE (· ∈ A))

theorem EmitInv.mono {p : Pool} {A B : List Event} (h : EmitInv p A) (hsub : ∀ ev ∈ A, ev ∈ B) : EmitInv p B :=
  SlotsSat.mono h (fun _ hq x hx => hsub _ (hq x hx))

theorem EmitInv.prim {p q : Pool} {A evs : List Event} (m : Prim p q evs) (h : EmitInv p A) : EmitInv q (A ++ evs) :=
  SlotsSat.prim m (QE_init _)
    (fun _ _ sm hq => QE.step sm.signals.2.1 sm.signals.2.2 sm.signals.1 hq (fun _ => List.mem_append_right A))
    (h.mono (fun _ => List.mem_append_left evs))

theorem poolStep_emit (p : Pool) (op : PoolOp) {A : List Event} (h : EmitInv p A) :
    EmitInv (poolStep p op).1 (A ++ (poolStep p op).2) := by
  obtain ⟨B, hm, hp⟩ := poolStep_prims p op
  exact (hm.keeps (fun _ _ _ _ m => EmitInv.prim m) h).mono (hp.append_left A).subset

/-- **The pool forwards every safe-to-notar event**: in every pool reached by a run, each hash recorded in the `sent` set of
    a slot state was emitted as `Event.s2n` (for that slot) among the events of the run. -/
theorem poolRun_emit (ops : List PoolOp) (p : Pool) {A : List Event} (h : EmitInv p A) :
    EmitInv (poolRun p ops).1 (A ++ (poolRun p ops).2) :=
  poolRun_ind (fun _ A q => EmitInv q A) (fun _ _ p op h => poolStep_emit p op h) ops [] A p h

end AgModel.Pool
