import AgModel.Proofs.ProgressNode
import AgModel.Proofs.ClusterPanic
/-!
# C02 progress, cluster part: the timely schedule on the cluster of composed nodes

Every correct node receives the same operations (`allNodes`), so the state of node `i` after a phase is `nodeRun` of its state
before over the phase's operation list (`run_allNodes`), and the other nodes do not move. The timely schedule is `Valid` in
every state, ready or not: its votes are taken from the senders' logs, its blocks name the parent `parentOf` gives, and what
has been signed only grows (`valid_of_start`). What readiness adds is what the nodes do with it (`fast_master`, `slot_master`).
-/
namespace AgModel.Cluster
open AgModel.Node AgModel.NodePanic AgModel.Pool

theorem correctIds_nodup (c : Cfg) : (correctIds c).Nodup := List.Nodup.filter _ List.nodup_range

theorem mem_correctIds {c : Cfg} {i : Nat} : i ∈ correctIds c ↔ i < c.n ∧ c.correct i = true := by
  simp [correctIds]

theorem correctStake_eq (c : Cfg) (i : Nat) : stakeOf (c.epoch i) (correctIds c) = correctStake c := rfl

theorem proj_at_self (i : Nat) (ops : List NodeOp) : proj i (at_ i ops) = ops := by
  simp [proj_eq, at_, List.filterMap_map]

theorem proj_at_other (i k : Nat) (ops : List NodeOp) (h : k ≠ i) : proj i (at_ k ops) = [] := by
  simp [proj_eq, at_, List.filterMap_map, h]

theorem proj_flatMap (i : Nat) (ops : Nat → List NodeOp) : ∀ (L : List Nat), L.Nodup →
    proj i (L.flatMap (fun k => at_ k (ops k))) = if i ∈ L then ops i else [] := by
  intro L
  induction L with
  | nil => intro _; rfl
  | cons k L ih =>
    intro hnd
    rw [List.flatMap_cons, proj_append, ih (List.nodup_cons.mp hnd).2]
    by_cases hk : k = i
    · subst hk
      rw [proj_at_self, if_neg (List.nodup_cons.mp hnd).1]
      simp
    · rw [proj_at_other _ _ _ hk]
      have : (i ∈ k :: L) ↔ i ∈ L := by simp [Ne.symm hk]
      simp only [List.nil_append]
      by_cases hi : i ∈ L <;> simp [hi, this]

theorem run_allNodes (c : Cfg) (ops : Nat → List NodeOp) (st : State) (i : Nat) :
    run st (allNodes c ops) i = if i ∈ correctIds c then nodeRun (st i) (ops i) else st i := by
  rw [run_proj]; unfold allNodes; rw [proj_flatMap i ops _ (correctIds_nodup c)]
  split <;> rfl

/-- the cluster after a phase, as a function of the cluster before: the state-passing form of the schedule, in which the
    kernel evaluates a run phase by phase instead of once per mention of an intermediate state -/
def phaseRun (c : Cfg) (ops : Nat → List NodeOp) (st : State) : State :=
  fun i => if i ∈ correctIds c then nodeRun (st i) (ops i) else st i

theorem run_allNodes_eq (c : Cfg) (ops : Nat → List NodeOp) (st : State) : run st (allNodes c ops) = phaseRun c ops st :=
  funext (run_allNodes c ops st)

def roundRun (c : Cfg) (lo : Nat) (st : State) : State :=
  let s := phaseRun c (fun _ => inbox c lo st) st
  phaseRun c (fun i => List.replicate (s i).queue.length .pump) s

def fastRun (c : Cfg) (b : Nat × Nat) (st : State) : State :=
  let s := phaseRun c (fun _ => blockOps c b) st
  roundRun c b.1 (phaseRun c (fun i => List.replicate (s i).queue.length .pump) s)

def slotRun (c : Cfg) (b : Nat × Nat) (st : State) : State := roundRun c b.1 (fastRun c b st)

def windowRun (c : Cfg) : List (Nat × Nat) → State → State
  | [], st => st
  | b :: bs, st => windowRun c bs (slotRun c b st)

def skipRun (c : Cfg) (lo : Nat) (ts : List Nat) (st : State) : State :=
  roundRun c lo (phaseRun c (fun _ => ts.map .timeout) st)

theorem run_round (c : Cfg) (lo : Nat) (st : State) : run st (round c lo st) = roundRun c lo st := by
  simp only [round, exchange, pumpAll, run_append, run_allNodes_eq, roundRun]

theorem run_fastSched (c : Cfg) (b : Nat × Nat) (st : State) : run st (fastSched c b st) = fastRun c b st := by
  simp only [fastSched, deliverBlock, pumpAll, run_append, run_allNodes_eq, run_round, fastRun]

theorem run_slotSched (c : Cfg) (b : Nat × Nat) (st : State) : run st (slotSched c b st) = slotRun c b st := by
  simp only [slotSched, run_append, run_fastSched, run_round, slotRun]

theorem run_windowSched (c : Cfg) (bs : List (Nat × Nat)) (st : State) : run st (windowSched c bs st) = windowRun c bs st := by
  induction bs generalizing st with
  | nil => rfl
  | cons b bs ih => simp only [windowSched, run_append, run_slotSched, ih, windowRun]

theorem run_skipSched (c : Cfg) (lo : Nat) (ts : List Nat) (st : State) : run st (skipSched c lo ts st) = skipRun c lo ts st := by
  simp only [skipSched, deliverTimeouts, run_append, run_allNodes_eq, run_round, skipRun]

theorem alive_of_correct {c : Cfg} {st st' : State} (h1 : ∀ i ∈ correctIds c, (st' i).dead = false)
    (h2 : ∀ i, i ∉ correctIds c → st' i = st i) (i : Nat) (hd : (st i).dead = false) : (st' i).dead = false := by
  by_cases hi : i ∈ correctIds c
  · exact h1 i hi
  · rw [h2 i hi]; exact hd

theorem valid_of_start (c : Cfg) : ∀ (evs : List Ev) (s0 s : State), (sigOf c s0).le (sigOf c s) →
    (∀ ev ∈ evs, EvOk c s0 ev) → Valid c s evs := by
  intro evs
  induction evs with
  | nil => intro _ _ _ _; trivial
  | cons ev evs ih =>
    intro s0 s hl h
    refine ⟨NodeOk.mono (h ev List.mem_cons_self) hl, ?_⟩
    exact ih s0 (step s ev) (hl.trans (sigOf_le_step c s ev)) (fun x hx => h x (List.mem_cons_of_mem _ hx))

theorem mem_allNodes {c : Cfg} {ops : Nat → List NodeOp} {ev : Ev} (h : ev ∈ allNodes c ops) :
    ev.1 ∈ correctIds c ∧ ev.2 ∈ ops ev.1 := by
  unfold allNodes at h
  obtain ⟨k, hk, hm⟩ := List.mem_flatMap.mp h
  unfold at_ at hm
  obtain ⟨op, hop, rfl⟩ := List.mem_map.mp hm
  exact ⟨hk, hop⟩

theorem valid_allNodes (c : Cfg) (ops : Nat → List NodeOp) (st : State)
    (h : ∀ i ∈ correctIds c, ∀ op ∈ ops i, EvOk c st (i, op)) : Valid c st (allNodes c ops) :=
  valid_of_start c _ st st (SigLog.le.refl _) (fun ev hev => h ev.1 (mem_allNodes hev).1 ev.2 (mem_allNodes hev).2)

theorem valid_deliverBlock (c : Cfg) (b : Nat × Nat) (st : State) : Valid c st (deliverBlock c b) := by
  refine valid_allNodes c _ st (fun i _ op hop => ?_)
  simp only [blockOps, List.mem_cons, List.not_mem_nil, or_false] at hop
  rcases hop with rfl | rfl <;> exact rfl

theorem valid_pumpAll (c : Cfg) (st st' : State) : Valid c st (pumpAll c st') := by
  refine valid_allNodes c _ st (fun i _ op hop => ?_)
  cases List.eq_of_mem_replicate hop
  trivial

theorem valid_deliverTimeouts (c : Cfg) (ts : List Nat) (st : State) : Valid c st (deliverTimeouts c ts) := by
  refine valid_allNodes c _ st (fun i _ op hop => ?_)
  obtain ⟨t, _, rfl⟩ := List.mem_map.mp hop
  trivial

theorem holds_of_votesOf (c : Cfg) (st : State) (lo j : Nat) (v : Pool.Vote) (hv : v ∈ votesOf lo j (st j).votor.log) :
    (sigOf c st).holds v := by
  unfold votesOf at hv
  obtain ⟨hv1, _⟩ := List.mem_filter.mp hv
  obtain ⟨o, ho, hov⟩ := List.mem_filterMap.mp hv1
  have hlog : Votor.Item.out o ∈ (st j).votor.log := mem_outsOf.mp ho
  unfold SigLog.holds
  cases o with
  | notar a b d f => simp only [voteOfOut, Option.some.injEq] at hov; subst hov; intro _; exact ⟨_, _, hlog⟩
  | skip a => simp only [voteOfOut, Option.some.injEq] at hov; subst hov; intro _; exact hlog
  | final a => simp only [voteOfOut, Option.some.injEq] at hov; subst hov; intro _; exact hlog
  | notarFallback a b => simp only [voteOfOut, Option.some.injEq] at hov; subst hov; intro _; exact hlog
  | skipFallback a => simp only [voteOfOut, Option.some.injEq] at hov; subst hov; intro _; exact hlog
  | cert k a b => simp [voteOfOut] at hov
  | relay a => simp [voteOfOut] at hov
  | timer a => simp [voteOfOut] at hov

theorem valid_exchange (c : Cfg) (lo : Nat) (st : State) : Valid c st (exchange c lo st) := by
  refine valid_allNodes c _ st (fun i _ op hop => ?_)
  unfold inbox at hop
  obtain ⟨j, _, hm⟩ := List.mem_flatMap.mp hop
  obtain ⟨v, hv, rfl⟩ := List.mem_map.mp hm
  exact holds_of_votesOf c st lo j v hv

theorem valid_round (c : Cfg) (lo : Nat) (st : State) : Valid c st (round c lo st) :=
  (valid_append c st _ _).mpr ⟨valid_exchange c lo st, valid_pumpAll c _ _⟩

theorem valid_then_round (c : Cfg) (lo : Nat) (st : State) (evs : List Ev) (h : Valid c st evs) :
    Valid c st (evs ++ round c lo (run st evs)) :=
  (valid_append c st _ _).mpr ⟨h, valid_round c lo _⟩

theorem valid_fastSched (c : Cfg) (b : Nat × Nat) (st : State) : Valid c st (fastSched c b st) := by
  simp only [fastSched, valid_append]
  exact ⟨⟨valid_deliverBlock c b st, valid_pumpAll c _ _⟩, valid_round c _ _⟩

theorem valid_slotSched (c : Cfg) (b : Nat × Nat) (st : State) : Valid c st (slotSched c b st) :=
  valid_then_round c b.1 st _ (valid_fastSched c b st)

theorem valid_windowSched (c : Cfg) (bs : List (Nat × Nat)) (st : State) : Valid c st (windowSched c bs st) := by
  induction bs generalizing st with
  | nil => trivial
  | cons b bs ih =>
    simp only [windowSched, valid_append]
    exact ⟨valid_slotSched c b st, ih _⟩

theorem valid_skipSched (c : Cfg) (lo : Nat) (ts : List Nat) (st : State) : Valid c st (skipSched c lo ts st) := by
  simp only [skipSched, valid_append]
  exact ⟨valid_deliverTimeouts c ts st, valid_round c _ _⟩

def CReady (c : Cfg) (hi s : Nat) (p : Nat × Nat) (st : State) : Prop :=
  ∀ i ∈ correctIds c, NReady (c.epoch i) hi s p (st i)

def CMid (c : Cfg) (hi s h : Nat) (p : Nat × Nat) (X F : List Nat) (fv nr hf : Bool) (q : List Votor.Event) (st : State) : Prop :=
  ∀ i ∈ correctIds c, NMid (c.epoch i) hi s h p X F fv nr hf q (st i)

variable {hi s h : Nat} {p : Nat × Nat} {st : State} {X F : List Nat} {fv nr hf : Bool} {q : List Votor.Event}

theorem phase_block (c : Cfg) (hpos : 0 < c.stakes.sum) (hs : s ≤ hi) (r : CReady c hi s p st)
    (hp : c.parentOf (s, h) = p) : CMid c hi s h p [] [] false false false [] (run st (deliverBlock c (s, h))) := by
  intro i hi'
  unfold deliverBlock
  rw [run_allNodes, if_pos hi']
  unfold blockOps
  rw [hp]
  exact node_block hpos hs (r i hi')

theorem phase_pump (c : Cfg) {fv' nr' hf' : Bool}
    (m : CMid c hi s h p X F fv nr hf q st)
    (hv : ∀ i ∈ correctIds c, VAt s h fv' nr' hf' (Votor.run (st i).votor q)) :
    CMid c hi s h p X F fv' nr' hf' [] (run st (pumpAll c st)) ∧
    ∀ i ∈ correctIds c, (run st (pumpAll c st) i).queue = [] := by
  refine forall₂_and.mp fun i hi' => ?_
  unfold pumpAll
  rw [run_allNodes, if_pos hi']
  exact node_pumps (m i hi') (hv i hi') _ (Nat.le_refl _)

/-- `exchange` is the one phase in which the nodes are coupled: what a node receives is read off the logs of all, sender by
    sender. `I i X` is what holds of node `i` when the votes of the senders `X` have arrived. -/
theorem phase_exchange (c : Cfg) (lo : Nat) (V : Nat → List Pool.Vote) {I : Nat → List Nat → Node → Prop}
    (hV : ∀ j ∈ correctIds c, votesOf lo j (st j).votor.log = V j)
    (h0 : ∀ i ∈ correctIds c, I i [] (st i))
    (step : ∀ i ∈ correctIds c, ∀ X N j, I i X N → j ∉ X → j ∈ correctIds c →
      I i (X ++ [j]) (nodeRun N ((V j).map .recvVote))) :
    ∀ i ∈ correctIds c, I i (correctIds c) (run st (exchange c lo st) i) := by
  have hin : inbox c lo st = (correctIds c).flatMap (fun j => (V j).map NodeOp.recvVote) :=
    List.flatMap_congr (fun j hj => by rw [hV j hj])
  intro i hi'
  unfold exchange
  rw [run_allNodes, if_pos hi', hin]
  simpa using nodeRun_senders (P := I i) (G := (· ∈ correctIds c)) _ (step i hi') (correctIds c) [] (st i) (h0 i hi')
    (by simpa using correctIds_nodup c) (fun _ h => h)

theorem phase_exchange1 (c : Cfg) (hpos : 0 < c.stakes.sum) (m : CMid c hi s h p [] [] false nr hf [] st) :
    CMid c hi s h p (correctIds c) [] false nr hf (queue1 (c.epoch 0) s h (correctIds c)) (run st (exchange c s st)) :=
  phase_exchange c s (fun j => [⟨.notar, s, h, j⟩])
    -- `queue1 (c.epoch i)` here and `queue1 (c.epoch 0)` in the statement agree by unfolding: the thresholds read `stakes`, not `own`
    (I := fun i X N => NMid (c.epoch i) hi s h p X [] false nr hf (queue1 (c.epoch i) s h X) N)
    (fun j hj => by rw [(m j hj).votor.votes j]; rfl)
    -- `(c.epoch i).total` unfolds to `c.stakes.sum`, but where `hpos` is an argument the epoch is still a metavariable:
    -- `by exact` elaborates it after unification has found `c.epoch i`
    (fun i hi' => by rw [queue1_nil _ (by exact hpos)]; exact m i hi')
    (fun i _ X N j m hj hjc => node_notar_vote (by exact hpos) m j hj (mem_correctIds.mp hjc).1)

def cQuorum (c : Cfg) : Bool := (c.epoch 0).isQuorum (correctStake c)
def cStrong (c : Cfg) : Bool := (c.epoch 0).isStrong (correctStake c)

theorem cQuorum_iff (c : Cfg) : cQuorum c = true ↔ 3 * c.stakes.sum ≤ 5 * correctStake c := by
  show decide (c.stakes.sum * 3 ≤ correctStake c * 5) = true ↔ _
  rw [decide_eq_true_iff, Nat.mul_comm _ 3, Nat.mul_comm _ 5]

theorem cStrong_iff (c : Cfg) : cStrong c = true ↔ 4 * c.stakes.sum ≤ 5 * correctStake c := by
  show decide (c.stakes.sum * 4 ≤ correctStake c * 5) = true ↔ _
  rw [decide_eq_true_iff, Nat.mul_comm _ 4, Nat.mul_comm _ 5]

theorem phase_exchange2 (c : Cfg) (hpos : 0 < c.stakes.sum) (hq : cQuorum c = true)
    (m : CMid c hi s h p (correctIds c) [] true nr hf [] st) :
    CMid c hi s h p (correctIds c) (correctIds c) true nr hf (queue2 (c.epoch 0) s (correctIds c)) (run st (exchange c s st)) :=
  phase_exchange c s (fun j => [⟨.notar, s, h, j⟩, ⟨.final, s, 0, j⟩])
    (I := fun i F N => NMid (c.epoch i) hi s h p (correctIds c) F true nr hf (queue2 (c.epoch i) s F) N)
    (fun j hj => by rw [(m j hj).votor.votes j]; rfl)
    (fun i hi' => by rw [queue2_nil _ (by exact hpos)]; exact m i hi')
    (fun i _ F N j m hj hjc => node_round2_vote (by exact hq) m j hjc hj (mem_correctIds.mp hjc).1)

theorem fast_master (c : Cfg) (hpos : 0 < c.stakes.sum) (hs : s ≤ hi)
    (r : CReady c hi s p st) (hp : c.parentOf (s, h) = p) :
    CMid c hi s h p (correctIds c) [] (cQuorum c) (cQuorum c && ParentReady.isWindowStart (s + 1)) (cStrong c) []
      (run st (fastSched c (s, h) st)) := by
  have m1 := phase_block c hpos hs r hp
  obtain ⟨m2, _⟩ := phase_pump c m1 (fv' := false) (nr' := false) (hf' := false) (fun i hi' => by
    simpa [Votor.run] using (m1 i hi').votor)
  have m3 := phase_exchange1 c hpos m2
  simp only [fastSched, round, run_append]
  exact (phase_pump c m3 (fun i hi' => votor_round1 (m3 i hi').votor (correctIds c))).1

theorem slot_master (c : Cfg) (hpos : 0 < c.stakes.sum) (hs : s ≤ hi)
    (r : CReady c hi s p st) (hp : c.parentOf (s, h) = p) (hq : cQuorum c = true) :
    CMid c hi s h p (correctIds c) (correctIds c) true (ParentReady.isWindowStart (s + 1)) true []
      (run st (slotSched c (s, h) st)) ∧
    CReady c hi (s + 1) (s, h) (run st (slotSched c (s, h) st)) := by
  have m1 := fast_master c hpos hs r hp
  rw [hq] at m1
  simp only [Bool.true_and] at m1
  have m2 := phase_exchange2 c hpos hq m1
  obtain ⟨m3, q3⟩ := phase_pump c m2 (fv' := true) (nr' := ParentReady.isWindowStart (s + 1)) (hf' := true)
    (fun i hi' => by
      have := votor_round2 (e := c.epoch 0) (m2 i hi').votor (correctIds c)
      have hqq : (c.epoch 0).isQuorum (stakeOf (c.epoch 0) (correctIds c)) = true := hq
      rw [hqq, Bool.or_true] at this
      exact this)
  simp only [slotSched, round, run_append]
  exact ⟨m3, fun i hi' => node_done (m3 i hi') (Or.inr ⟨hq, hq⟩) (q3 i hi')⟩

end AgModel.Cluster
