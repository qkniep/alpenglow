import AgModel.Props.C03
/-! Validity of every certificate a slot state holds (created or received), as a history invariant. -/
namespace AgModel.Pool

/-- validity of a held certificate (signatures symbolic): what `ValidatedCert::try_new` checks — signers are
    validators of the epoch, each at most once per aggregate (a bitmask), and the stake of the signers, not the
    declared `stake`, meets the type's threshold — and `disj`, which it does not check: `check_threshold`
    (`cert.rs`) counts a validator found in both aggregates once and accepts. Created certificates have disjoint
    aggregates (`Justified`); for received ones `disj` is a premise. -/
structure CertOk (e : Epoch) (c : Cert) : Prop where
  r1 : ∀ x ∈ c.sig1, x < e.n
  r2 : ∀ x ∈ c.sig2, x < e.n
  n1 : c.sig1.Nodup
  n2 : c.sig2.Nodup
  disj : ∀ x ∈ c.sig1, x ∉ c.sig2
  thr : threshold e c.kind (stakeOf e c.sig1 + stakeOf e c.sig2) = true

theorem filter_range_ok (n : Nat) (p : Nat → Bool) :
    (∀ x ∈ (List.range n).filter p, x < n) ∧ ((List.range n).filter p).Nodup :=
  ⟨fun x hx => by simpa using (List.mem_filter.mp hx).1, List.Nodup.sublist List.filter_sublist List.nodup_range⟩

theorem CertOk.of_filters {e : Epoch} {c : Cert} {p1 p2 : Nat → Bool} (h1 : c.sig1 = (List.range e.n).filter p1)
    (h2 : c.sig2 = (List.range e.n).filter p2) (disj : ∀ x ∈ c.sig1, x ∉ c.sig2)
    (thr : threshold e c.kind (stakeOf e c.sig1 + stakeOf e c.sig2) = true) : CertOk e c :=
  ⟨by rw [h1]; exact (filter_range_ok e.n p1).1, by rw [h2]; exact (filter_range_ok e.n p2).1,
   by rw [h1]; exact (filter_range_ok e.n p1).2, by rw [h2]; exact (filter_range_ok e.n p2).2, disj, thr⟩

theorem CertOk.of_filter {e : Epoch} {c : Cert} {p1 : Nat → Bool} (h1 : c.sig1 = (List.range e.n).filter p1)
    (h2 : c.sig2 = []) (h3 : c.stake = stakeOf e c.sig1) (thr : threshold e c.kind c.stake = true) : CertOk e c :=
  CertOk.of_filters (p2 := fun _ => false) h1 (h2.trans (List.filter_eq_nil_iff.mpr fun _ _ h => Bool.noConfusion h).symm) (by rw [h2]; exact fun _ _ => List.not_mem_nil)
    (by rw [h2]; exact h3 ▸ thr)

theorem CertOk.of_justified {e : Epoch} {s : SlotState} {c : Cert} (j : Justified e s c) : CertOk e c := by
  obtain ⟨_, j⟩ := j
  cases hk : c.kind <;> simp only [hk] at j
  · exact .of_filter j.1 j.2.1 j.2.2.1 (by rw [hk]; exact j.2.2.2)
  · exact .of_filters j.1 j.2.1 j.2.2.1 (by rw [hk, ← j.2.2.2.1]; exact j.2.2.2.2)
  · exact .of_filters j.1 j.2.1 j.2.2.1 (by rw [hk, ← j.2.2.2.1]; exact j.2.2.2.2)
  · exact .of_filter j.1 j.2.1 j.2.2.1 (by rw [hk]; exact j.2.2.2)
  · exact .of_filter j.1 j.2.1 j.2.2.1 (by rw [hk]; exact j.2.2.2)

def HeldOk (e : Epoch) (st : SlotState) : Prop := ∀ c ∈ st.certs, CertOk e c

theorem mem_certs (st : SlotState) (c : Cert) :
    c ∈ st.certs ↔ st.cFin = some c ∨ st.cFf = some c ∨ st.cNotar = some c ∨ c ∈ st.cNf ∨ st.cSkip = some c := by
  unfold SlotState.certs
  simp only [List.mem_append, Option.mem_toList, or_assoc]

theorem mem_certs_addCert {st : SlotState} {c x : Cert} (h : x ∈ (st.addCert c).certs) : x ∈ st.certs ∨ x = c := by
  obtain ⟨k, hk⟩ := mem_certs_store.mp h
  exact (store_addCert_sub hk).imp (fun h => mem_certs_store.mpr ⟨k, h⟩) And.left

theorem HeldOk_addCert (e : Epoch) (st : SlotState) (c : Cert) (h : HeldOk e st) (hc : CertOk e c) : HeldOk e (st.addCert c) :=
  fun x hx => (mem_certs_addCert hx).elim (h x) (fun hx => hx ▸ hc)

theorem HeldOk_addCerts (e : Epoch) (cs : List Cert) (st : SlotState) (h : HeldOk e st) (hc : ∀ c ∈ cs, CertOk e c) :
    HeldOk e (cs.foldl SlotState.addCert st) := by
  induction cs generalizing st with
  | nil => exact h
  | cons c cs ih =>
    exact ih _ (HeldOk_addCert e st c h (hc c List.mem_cons_self)) (fun x hx => hc x (List.mem_cons_of_mem c hx))

theorem HeldOk.of_coreEq {e : Epoch} {a b : SlotState} (h : CoreEq a b) (i : HeldOk e a) : HeldOk e b :=
  h.congr (HeldOk e) (fun _ => rfl) ▸ i

def SlotOk (e : Epoch) (st : SlotState) : Prop := Inv e st ∧ HeldOk e st

theorem SlotOk.init (e : Epoch) (s : Nat) (hpos : 0 < e.total) : SlotOk e { slot := s } :=
  ⟨Inv.init e s hpos, by intro c hc; simp [SlotState.certs] at hc⟩

theorem slotStep_ok (e : Epoch) (st : SlotState) (op : SlotOp) (i : SlotOk e st)
    (hrecv : ∀ c, op = .cert c → CertOk e c) : SlotOk e (slotStep e st op).1 := by
  refine ⟨slotStep_Inv e st op i.1, ?_⟩
  refine slotStep_core_cases e st op (fun b _ => HeldOk e b) HeldOk.of_coreEq i.2 (fun v ha => ?_)
    (fun c hop => HeldOk_addCert e st c i.2 (hrecv c hop))
  -- the held certificates are those of `st`, the created ones are justified
  exact HeldOk_addCerts e _ _ (fun c hc => i.2 c ((stored_same e st v).certs ▸ hc))
    (fun c hc => CertOk.of_justified (newCerts_justified e _ v (stored_InvV e st v i.1.1 ha) c hc))

end AgModel.Pool
