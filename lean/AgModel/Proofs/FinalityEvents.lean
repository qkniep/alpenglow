import AgModel.Proofs.Finality
/-!
# What the events of the tracker say about its state (no safety premise needed)

`EvSpec st st' F S`: going from status map `st` to `st'`, exactly the slots of `F` (finalized, with their block)
and `S` (implicitly skipped) went from undecided to decided, each listed once; decided slots kept their answer.
-/
namespace AgModel.Finality

def evF (ev : Event) : List (Nat × Nat) := ev.finalized.toList ++ ev.implFinalized

structure EvSpec (st st' : Nat → Option Status) (F : List (Nat × Nat)) (S : List Nat) : Prop where
  stable : Stable st st'
  fin : ∀ b, b ∈ F → ¬ Dec (st b.1) ∧ finalHash (st' b.1) = some b.2
  skip : ∀ s, s ∈ S → ¬ Dec (st s) ∧ st' s = some .implSkipped
  new : ∀ s, ¬ Dec (st s) → Dec (st' s) → s ∈ S ∨ ∃ h, (s, h) ∈ F
  nodupF : (F.map (·.1)).Nodup
  nodupS : S.Nodup

theorem EvSpec.refl (st : Nat → Option Status) : EvSpec st st [] [] :=
  ⟨Stable.refl st, (fun _ h => by cases h), (fun _ h => by cases h), fun _ a b => absurd b a,
   List.nodup_nil, List.nodup_nil⟩

theorem EvSpec.fin_iff {st st' : Nat → Option Status} {F : List (Nat × Nat)} {S : List Nat} (h : EvSpec st st' F S)
    (s x : Nat) : finalHash (st s) = some x ∨ (s, x) ∈ F ↔ finalHash (st' s) = some x := by
  by_cases d : Dec (st s)
  · rw [(h.stable s d).2]
    exact ⟨fun a => a.elim id (fun m => absurd d (h.fin _ m).1), Or.inl⟩
  · refine ⟨fun a => a.elim (fun e => absurd (dec_of_finalHash e) d) (fun m => (h.fin _ m).2), fun e => Or.inr ?_⟩
    rcases h.new s d (dec_of_finalHash e) with hs | ⟨y, hy⟩
    · rw [(h.skip s hs).2] at e; cases e
    · cases Option.some.inj ((h.fin _ hy).2.symm.trans e); exact hy

theorem EvSpec.skip_iff {st st' : Nat → Option Status} {F : List (Nat × Nat)} {S : List Nat} (h : EvSpec st st' F S)
    (s : Nat) : st s = some .implSkipped ∨ s ∈ S ↔ st' s = some .implSkipped := by
  by_cases d : Dec (st s)
  · rw [skipped_iff_of_dec d, skipped_iff_of_dec (h.stable s d).1, (h.stable s d).2]
    exact ⟨fun a => a.elim id (fun m => absurd d (h.skip _ m).1), Or.inl⟩
  · refine ⟨fun a => a.elim (fun e => absurd (e ▸ dec_skipped) d) (fun m => (h.skip _ m).2), fun e => Or.inr ?_⟩
    rcases h.new s d (e ▸ dec_skipped) with hs | ⟨y, hy⟩
    · exact hs
    · have := (h.fin _ hy).2
      rw [show st' (s, y).1 = _ from e] at this; cases this

theorem nodup_append_sep {α : Type} {l1 l2 : List α} (P : α → Prop) (h1 : l1.Nodup) (h2 : l2.Nodup)
    (a : ∀ x ∈ l1, P x) (b : ∀ x ∈ l2, ¬ P x) : (l1 ++ l2).Nodup :=
  List.nodup_append.mpr ⟨h1, h2, fun x hx y hy e => b y hy (e ▸ a x hx)⟩

theorem EvSpec.trans {a b c : Nat → Option Status} {F1 F2 : List (Nat × Nat)} {S1 S2 : List Nat}
    (h1 : EvSpec a b F1 S1) (h2 : EvSpec b c F2 S2) : EvSpec a c (F1 ++ F2) (S1 ++ S2) := by
  refine ⟨h1.stable.trans h2.stable, ?_, ?_, ?_, ?_, ?_⟩
  · intro x hx
    rcases List.mem_append.mp hx with hx | hx
    · have ⟨n, e⟩ := h1.fin x hx
      have := h2.stable x.1 (dec_of_finalHash e)
      exact ⟨n, this.2.trans e⟩
    · have ⟨n, e⟩ := h2.fin x hx
      exact ⟨fun d => n (h1.stable x.1 d).1, e⟩
  · intro s hs
    rcases List.mem_append.mp hs with hs | hs
    · have ⟨n, e⟩ := h1.skip s hs
      have ⟨d, fh⟩ := h2.stable s (e ▸ dec_skipped)
      exact ⟨n, (skipped_iff_of_dec d).mpr (fh.trans (by rw [e]; rfl))⟩
    · have ⟨n, e⟩ := h2.skip s hs
      exact ⟨fun d => n (h1.stable s d).1, e⟩
  · intro s n d
    by_cases db : Dec (b s)
    · exact (h1.new s n db).imp (List.mem_append_left _) (Exists.imp fun _ => List.mem_append_left _)
    · exact (h2.new s db d).imp (List.mem_append_right _) (Exists.imp fun _ => List.mem_append_right _)
  · -- what the first step decides is decided in `b`, what the second decides is not
    rw [List.map_append]
    exact nodup_append_sep (fun s => Dec (b s)) h1.nodupF h2.nodupF
      (List.forall_mem_map.mpr fun x hx => dec_of_finalHash (h1.fin x hx).2)
      (List.forall_mem_map.mpr fun x hx => (h2.fin x hx).1)
  · exact nodup_append_sep (fun s => Dec (b s)) h1.nodupS h2.nodupS
      (fun x hx => (h1.skip x hx).2 ▸ dec_skipped) (fun x hx => (h2.skip x hx).1)

theorem evspec_set_fin {st : Nat → Option Status} {s h : Nat} {v : Status} (hn : ¬ Dec (st s))
    (hv : finalHash (some v) = some h) : EvSpec st (setSt st s v) [(s, h)] [] := by
  refine ⟨stable_set (fun d => absurd d hn), ?_, (fun _ h => nomatch h), ?_,
    List.nodup_cons.mpr ⟨List.not_mem_nil, List.nodup_nil⟩, List.nodup_nil⟩
  · intro x hx
    cases List.mem_singleton.mp hx
    exact ⟨hn, (congrArg finalHash (setSt_self st s v)).trans hv⟩
  · intro x n d
    by_cases hx : x = s
    · subst hx; exact Or.inr ⟨h, List.mem_singleton.mpr rfl⟩
    · rw [setSt_ne _ _ hx] at d; exact absurd d n

theorem Skipped.evSpec {st st' : Nat → Option Status} {lo k : Nat} (h : Skipped st st' lo k) :
    EvSpec st st' [] (List.range' lo k) := by
  have hout : ∀ x, ¬ x ∈ List.range' lo k → st' x = st x := fun x hx =>
    h.outside x (fun a => hx (List.mem_range'_1.mpr a))
  refine ⟨?_, (fun _ h => nomatch h), ?_, ?_, List.nodup_nil, List.nodup_range' ..⟩
  · intro x d
    rw [hout x (fun hx => have a := List.mem_range'_1.mp hx; (h.inside x a.1 a.2).1.not_dec d)]
    exact ⟨d, rfl⟩
  · intro x hx
    have a := List.mem_range'_1.mp hx
    exact ⟨(h.inside x a.1 a.2).1.not_dec, (h.inside x a.1 a.2).2⟩
  · intro x n d
    false_or_by_contra
    rename_i hx
    rw [hout x (fun a => hx (Or.inl a))] at d
    exact n d

theorem walk_evspec {t : Tracker} {src : Nat} {b : Option (Nat × Nat)} {ev : Event}
    {t' : Tracker} {ev' : Event} (h : Walk t src b ev t' ev') :
    ∃ F S, evF ev' = evF ev ++ F ∧ ev'.implSkipped = ev.implSkipped ++ S ∧ EvSpec t.status t'.status F S := by
  induction h with
  | same => exact ⟨[], [], (List.append_nil _).symm, (List.append_nil _).symm, EvSpec.refl _⟩
  | stop _ _ s => exact ⟨[], _, (List.append_nil _).symm, rfl, s.evSpec⟩
  | @mark t _ blk ev _ k _ _ _ _ s hn _ ih =>
    obtain ⟨F, S, e1, e2, sp⟩ := ih
    have sp1 := s.evSpec.trans (evspec_set_fin (v := .implFinalized blk.2) hn rfl)
    rw [List.append_nil, List.nil_append] at sp1
    refine ⟨blk :: F, List.range' (blk.1 + 1) k ++ S, ?_, ?_, sp1.trans sp⟩
    · rw [e1]; simp only [evF, List.append_assoc, List.singleton_append]
    · rw [e2, List.append_assoc]

/-- `m` is the state an operation reaches before its final `prune()`, `ev` its event -/
structure MidEv (t m : Tracker) (ev : Event) : Prop where
  first : m.first = t.first
  hi : m.highest = t.highest ∨ ∃ b, b ∈ evF ev ∧ m.highest = max b.1 t.highest
  low : ∀ s, s < t.first → m.status s = t.status s
  spec : EvSpec t.status m.status (evF ev) ev.implSkipped

theorem MidEv.ge {t m : Tracker} {ev : Event} (me : MidEv t m ev) {x : Nat} (d : Dec (m.status x))
    (n : ¬ Dec (t.status x)) : t.first ≤ x :=
  Nat.le_of_not_lt (fun hx => n (me.low x hx ▸ d))

theorem evspec_set_same {st : Nat → Option Status} {s : Nat} {v : Status}
    (h1 : Dec (st s) → v.decided = true ∧ finalHash (some v) = finalHash (st s))
    (h2 : v.decided = true → Dec (st s)) : EvSpec st (setSt st s v) [] [] := by
  refine ⟨stable_set h1, (fun _ h => nomatch h), (fun _ h => nomatch h), fun x n d => absurd ?_ n,
    List.nodup_nil, List.nodup_nil⟩
  by_cases hx : x = s
  · subst hx
    rw [setSt_self] at d
    exact h2 (dec_some.mp d)
  · rwa [setSt_ne _ _ hx] at d

/-- a walk that starts, with an event that only names a finalized block, in a state `t1` reached from `t` by
    deciding that block's slot (or nothing) -/
theorem walk_midEv {t t1 m : Tracker} {src : Nat} {b : Option (Nat × Nat)} {o : Option (Nat × Nat)} {ev : Event}
    (hw : Walk t1 src b { finalized := o } m ev) (hf : t1.first = t.first)
    (hhi : t1.highest = t.highest ∨ ∃ x, o = some x ∧ t1.highest = max x.1 t.highest)
    (hlow : ∀ x, x < t.first → t1.status x = t.status x) (sp : EvSpec t.status t1.status (evF { finalized := o }) []) :
    MidEv t m ev := by
  have w := walk_spec hw
  obtain ⟨F, S, e1, e2, sp2⟩ := walk_evspec hw
  refine ⟨w.first.trans hf, ?_, ?_, ?_⟩
  · rw [w.highest, e1]
    exact hhi.imp_right fun ⟨x, ho, e⟩ => ⟨x, List.mem_append_left _ (ho ▸ List.mem_singleton.mpr rfl), e⟩
  · intro x hx
    exact (w.evolves.below (hf ▸ hx)).trans (hlow x hx)
  · rw [e1, e2]
    exact sp.trans sp2

theorem step_mid {t : Tracker} {op : Op} {t' : Tracker} {ev : Event}
    (h : step t op = .ok t' ev) : ∃ m, MidEv t m ev ∧ ((t' = m ∧ ev = {}) ∨ t' = prune m) := by
  have c := step_cases t op
  rw [h] at c
  cases c with
  | idle => exact ⟨t, ⟨rfl, Or.inl rfl, fun _ _ => rfl, EvSpec.refl _⟩, Or.inl ⟨rfl, rfl⟩⟩
  | @set s v hf hr =>
    refine ⟨{ t with status := setSt t.status s v },
      ⟨rfl, Or.inl rfl, fun x hx => ?_, evspec_set_same hr.same.1 hr.same.2⟩, Or.inl ⟨rfl, rfl⟩⟩
    exact setSt_ne _ _ (Nat.ne_of_lt (Nat.lt_of_lt_of_le hx hf))
  | @link blk par =>
    exact ⟨{ t with parents := setPar t.parents blk par }, ⟨rfl, Or.inl rfl, fun _ _ => rfl, EvSpec.refl _⟩,
      Or.inl ⟨rfl, rfl⟩⟩
  | @fin s hh _ hf hc hr =>
    obtain ⟨m, hw, rfl⟩ := hfb_walk hr
    exact ⟨m, walk_midEv hw rfl (Or.inr ⟨_, rfl, rfl⟩) (fun x hx => setSt_ne _ _ (Nat.ne_of_lt (Nat.lt_of_lt_of_le hx hf)))
      (evspec_set_fin (v := .finalized hh) hc.not_dec rfl), Or.inr rfl⟩
  | linkWalk _ _ _ _ _ hr =>
    obtain ⟨m, hw, rfl⟩ := walkPrune_walk hr
    exact ⟨m, walk_midEv (o := none) hw rfl (Or.inl rfl) (fun _ _ => rfl) (EvSpec.refl _), Or.inr rfl⟩

end AgModel.Finality
