import AgModel.Model.Pad
namespace AgModel.Pad

theorem DATA_eq : DATA = 32 := by decide
theorem TOTAL_eq : TOTAL = 64 := by decide
theorem MAX_PER_SLICE_eq : MAX_PER_SLICE = 32767 := by decide
theorem MAX_AFTER_PADDING_eq : MAX_AFTER_PADDING = 32768 := by decide
theorem MAX_PER_SHRED_eq : MAX_PER_SHRED = 1024 := by decide

/-! ### sizes

Only the first lemmas of this section look at `len / 64` and `len % 64`; after them the sizes are related to each other
linearly, with `shredBytes len`, `paddingBytes len`, `lastShredsBytes len` and `boundary len` as atoms. -/

theorem paddingBytes_eq (len : Nat) : paddingBytes len = 64 - len % 64 := by
  unfold paddingBytes; rw [DATA_eq]

theorem shredBytes_eq (len : Nat) : shredBytes len = 2 * (len / 64 + 1) := by
  unfold shredBytes; rw [paddingBytes_eq, DATA_eq]; omega

theorem padded_total (len : Nat) : len + paddingBytes len = 32 * shredBytes len := by
  rw [paddingBytes_eq, shredBytes_eq]; omega

theorem paddingBytes_bounds (len : Nat) : 1 ≤ paddingBytes len ∧ paddingBytes len ≤ 64 := by
  rw [paddingBytes_eq]; omega

theorem shredBytes_ge (len : Nat) : 2 ≤ shredBytes len := by
  rw [shredBytes_eq]; omega

/-- what the Reed–Solomon decoder asks of a shard size -/
theorem shredBytes_even (len : Nat) : shredBytes len ≠ 0 ∧ shredBytes len % 2 = 0 := by
  rw [shredBytes_eq]; omega

theorem nextMultipleOf_spec (a b : Nat) (hb : 0 < b) :
    ∃ k, nextMultipleOf a b = k * b ∧ a ≤ k * b ∧ k * b < a + b := by
  unfold nextMultipleOf
  split
  · rename_i h0
    have e : a = a / b * b := (Nat.div_mul_cancel (Nat.dvd_of_mod_eq_zero h0)).symm
    exact ⟨a / b, e, Nat.le_of_eq e, by rw [← e]; exact Nat.lt_add_of_pos_right hb⟩
  · rename_i h0
    have e : a + (b - a % b) = (a / b + 1) * b := by
      have := Nat.div_add_mod a b
      have := Nat.mod_lt a hb
      rw [Nat.add_mul, Nat.one_mul, Nat.mul_comm]; omega
    exact ⟨a / b + 1, e, e ▸ Nat.le_add_right a _,
      e ▸ Nat.add_lt_add_left (Nat.sub_lt hb (Nat.pos_of_ne_zero h0)) a⟩

/-- `last_shreds` is `kl ≤ 32` whole shards: a shard has at least 2 bytes, so 33 shards would exceed the
    least multiple above 64. -/
theorem lastShredsBytes_eq (len : Nat) :
    ∃ kl, kl ≤ 32 ∧ 64 ≤ kl * shredBytes len ∧ lastShredsBytes len = kl * shredBytes len := by
  have h2 := shredBytes_ge len
  obtain ⟨k, hk, hge, hlt⟩ := nextMultipleOf_spec 64 (shredBytes len) (Nat.lt_of_lt_of_le (by decide) h2)
  refine ⟨k, Nat.le_of_not_lt fun h33 => ?_, hge, hk⟩
  have := Nat.mul_le_mul_right (shredBytes len) h33
  omega

theorem lastShredsBytes_le (len : Nat) : 64 ≤ lastShredsBytes len ∧ lastShredsBytes len ≤ 32 * shredBytes len := by
  obtain ⟨kl, hkl, h64, hl⟩ := lastShredsBytes_eq len
  rw [hl]; exact ⟨h64, Nat.mul_le_mul_right _ hkl⟩

/-- neither subtraction in `boundary` underflows, and what is left of the 32 shards is `last_shreds` -/
theorem boundary_add (len : Nat) : boundary len + lastShredsBytes len = 32 * shredBytes len := by
  have := lastShredsBytes_le len
  have := padded_total len
  have := paddingBytes_bounds len
  unfold boundary; omega

theorem boundary_le (len : Nat) : boundary len ≤ len := by
  have := boundary_add len
  have := lastShredsBytes_le len
  have := padded_total len
  have := paddingBytes_bounds len
  omega

theorem boundary_eq_mul (len kl : Nat) (hl : lastShredsBytes len = kl * shredBytes len) :
    boundary len = (32 - kl) * shredBytes len := by
  have := boundary_add len
  rw [Nat.sub_mul]; omega

theorem chunksF_flatten {α : Type} (f n : Nat) (l : List α) (hn : 0 < n) (hf : l.length ≤ f) :
    (chunksF f n l).flatten = l := by
  induction f generalizing l with
  | zero =>
    have : l = [] := List.eq_nil_of_length_eq_zero (Nat.le_zero.mp hf)
    subst this; rfl
  | succ f ih =>
    cases l with
    | nil => rfl
    | cons a l =>
      simp only [chunksF, List.flatten_cons]
      rw [ih _ (by rw [List.length_drop]; exact Nat.sub_le_of_le_add (Nat.le_trans hf (Nat.add_le_add_left hn f)))]
      exact List.take_append_drop n (a :: l)

theorem chunksF_exact {α : Type} (f n k : Nat) (l : List α) (hn : 0 < n) (hl : l.length = k * n) (hf : k ≤ f) :
    (chunksF f n l).length = k ∧ ∀ c ∈ chunksF f n l, c.length = n := by
  induction k generalizing l f with
  | zero =>
    have : l = [] := List.eq_nil_of_length_eq_zero (by rw [hl, Nat.zero_mul])
    subst this
    cases f <;> simp [chunksF]
  | succ k ih =>
    rw [Nat.add_mul, Nat.one_mul] at hl
    match f, l with
    | f + 1, a :: l =>
      have ⟨h1, h2⟩ := ih f ((a :: l).drop n) (by rw [List.length_drop, hl, Nat.add_sub_cancel])
        (Nat.le_of_succ_le_succ hf)
      simp only [chunksF, List.length_cons, h1, List.mem_cons, true_and]
      intro c hc
      rcases hc with rfl | hc
      · rw [List.length_take, hl]; exact Nat.min_eq_left (Nat.le_add_left _ _)
      · exact h2 c hc
    | 0, _ => exact absurd hf (Nat.not_succ_le_zero _)
    | _ + 1, [] => simp at hl; omega

theorem chunks_flatten {α : Type} (n : Nat) (l : List α) (hn : 0 < n) : (chunks n l).flatten = l :=
  chunksF_flatten _ n l hn (Nat.le_refl _)

theorem chunks_exact {α : Type} (n k : Nat) (l : List α) (hn : 0 < n) (hl : l.length = k * n) :
    (chunks n l).length = k ∧ ∀ c ∈ chunks n l, c.length = n := by
  apply chunksF_exact _ n k l hn hl
  rw [hl]; exact Nat.le_mul_of_pos_right k hn

theorem resize_length (l : List Nat) (n : Nat) : (resize l n).length = n := by
  unfold resize
  rw [List.length_take, List.length_append, List.length_replicate]; omega

theorem resize_of_le (l : List Nat) (n : Nat) (h : l.length ≤ n) :
    resize l n = l ++ List.replicate (n - l.length) 0 := by
  unfold resize
  rw [List.take_of_length_le (by rw [List.length_append, List.length_replicate]; omega)]

/-- `resize` never truncates: the tail and the marker fit, and the zero fill is `padding_bytes - 1` long -/
theorem lastShreds_eq (p : List Nat) :
    lastShreds p = p.drop (boundary p.length) ++ marker :: List.replicate (paddingBytes p.length - 1) 0 := by
  have hl : (p.drop (boundary p.length) ++ [marker]).length + (paddingBytes p.length - 1)
      = lastShredsBytes p.length := by
    have := boundary_add p.length
    have := boundary_le p.length
    have := padded_total p.length
    have := paddingBytes_bounds p.length
    rw [List.length_append, List.length_drop, List.length_singleton]; omega
  unfold lastShreds
  rw [resize_of_le _ _ (Nat.le.intro hl), ← hl, Nat.add_sub_cancel_left, List.append_assoc]
  rfl

theorem rsSplit_flatten (p : List Nat) :
    (rsSplit p).flatten = p ++ marker :: List.replicate (paddingBytes p.length - 1) 0 := by
  have hpos : 0 < shredBytes p.length := Nat.lt_of_lt_of_le (by decide) (shredBytes_ge p.length)
  unfold rsSplit
  rw [List.flatten_append, chunks_flatten _ _ hpos, chunks_flatten _ _ hpos, lastShreds_eq p,
    ← List.append_assoc, List.take_append_drop]

/-- `32 - kl` shards come from the payload up to `boundary`, `kl` from `last_shreds` -/
theorem rsSplit_shape (p : List Nat) :
    (rsSplit p).length = 32 ∧ ∀ c ∈ rsSplit p, c.length = shredBytes p.length := by
  have hpos : 0 < shredBytes p.length := Nat.lt_of_lt_of_le (by decide) (shredBytes_ge p.length)
  obtain ⟨kl, hkl, h64, hl⟩ := lastShredsBytes_eq p.length
  have h1len : (p.take (boundary p.length)).length = (32 - kl) * shredBytes p.length := by
    rw [List.length_take, Nat.min_eq_left (boundary_le _), boundary_eq_mul _ kl hl]
  have h2len : (lastShreds p).length = kl * shredBytes p.length := by
    rw [← hl]; exact resize_length _ _
  have ⟨a1, a2⟩ := chunks_exact _ _ _ hpos h1len
  have ⟨b1, b2⟩ := chunks_exact _ _ _ hpos h2len
  unfold rsSplit
  refine ⟨by rw [List.length_append, a1, b1]; exact Nat.sub_add_cancel hkl, fun c hc => ?_⟩
  rcases List.mem_append.mp hc with h | h
  · exact a2 c h
  · exact b2 c h

theorem trailingZeros_pad (p : List Nat) (k : Nat) :
    trailingZeros (p ++ marker :: List.replicate k 0) = k := by
  unfold trailingZeros
  rw [List.reverse_append, List.reverse_cons, List.reverse_replicate, List.append_assoc]
  rw [List.takeWhile_append_of_pos (by intro x hx; rw [List.eq_of_mem_replicate hx]; rfl)]
  simp [marker]

theorem unpad_pad (p : List Nat) (k : Nat) : unpad (p ++ marker :: List.replicate k 0) = some p := by
  unfold unpad
  simp only [trailingZeros_pad]
  have hl : (p ++ marker :: List.replicate k 0).length = p.length + (k + 1) := by
    simp only [List.length_append, List.length_cons, List.length_replicate]
  rw [hl]
  have : p.length + (k + 1) - (k + 1) = p.length := Nat.add_sub_cancel _ _
  simp only [this]
  rw [if_neg (Nat.not_lt.mpr (Nat.le_add_left _ _))]
  have hg : (p ++ marker :: List.replicate k 0).getD p.length 0 = marker := by
    simp [List.getD_eq_getElem?_getD]
  rw [hg]
  simp

theorem unpad_length (l q : List Nat) (h : unpad l = some q) : q.length < l.length := by
  unfold unpad at h
  simp only at h
  split at h
  · cases h
  · rename_i hlt
    split at h
    · cases h
    · cases h
      -- the prefix kept has at most `len - (zeros + 1)` bytes
      exact Nat.lt_of_le_of_lt (List.length_take_le _ _)
        (Nat.sub_lt (Nat.lt_of_lt_of_le (Nat.succ_pos _) (Nat.le_of_not_lt hlt)) (Nat.succ_pos _))

end AgModel.Pad
