import AgModel.Proofs.RepairStore
import AgModel.Proofs.RepairRun
/-!
The repair responder (`RepairRequestHandler::try_build_response`) over a blockstore satisfying the
invariant: what the blockstore queries return for a slice of a block whose tree is built (`slice_queries`), and that a
holder of a correct leader's block answers as `honestResp` says
(helper lemmas for `Props/C14Live.lean`, where the responder's properties are proved).
-/
namespace AgModel.Repair
open AgModel.Blockstore AgModel.Merkle

variable (B : HBlock) (cap : Nat)

theorem blockData_sinv (sd : SlotData) (h : H) (bd : BlockData) (hs : SInv sd) (hb : blockData sd h = some bd) :
    BInv bd ∧ bd.cap = sd.dis.cap ∧ FlagInv bd ∧ TyInv bd := by
  rcases blockData_cases hb with ⟨rfl, _⟩ | hr
  · exact ⟨hs.dis, rfl, hs.flg.1, hs.typ.1⟩
  · exact ⟨(hs.rep h bd hr).1, (hs.rep h bd hr).2.2, hs.flg.2 h bd hr, hs.typ.2 h bd hr⟩

theorem slice_queries (sd : SlotData) (h : H) (bd : BlockData) (roots : List Nat) (l i : Nat)
    (hbi : BInv bd) (hb : blockData sd h = some bd) (ht : bd.tree = some roots) (hl : bd.lastSlice = some l) (hi : i ≤ l) :
    ∃ root, getSliceRoot sd h i = some root ∧ roots[i]? = some root ∧
      createProof sd h i = some (some ((Tree.new roots).createProof i)) ∧
      ∃ arr, bd.shreds i = some arr ∧ ∀ j, j < TOTAL_SHREDS →
        ∃ s, arr j = some s ∧ getShred sd h i j = some s ∧ s.slice = i ∧ s.idx = j ∧ s.root = root := by
  obtain ⟨l', hl', hlen, _, hall⟩ := hbi.tre roots ht
  rw [hl] at hl'; simp at hl'; subst hl'
  obtain ⟨⟨c, hc, hr⟩, arr, harr, hfull⟩ := hall i hi
  have h0 := hfull 0 (by rw [show TOTAL_SHREDS = 64 from rfl]; omega)
  cases hs0 : arr 0 with
  | none => rw [hs0] at h0; simp at h0
  | some s0 =>
    have hc0 := (hbi.shr i arr 0 s0 harr hs0).2.2
    rw [hc] at hc0; simp at hc0; subst hc0
    have hhead : (present arr).head? = some s0 := by
      unfold present
      rw [show TOTAL_SHREDS = 63 + 1 from rfl, List.range_succ_eq_map, List.filterMap_cons, hs0]
      rfl
    refine ⟨s0.root, ?_, hr, ?_, arr, harr, ?_⟩
    · simp only [getSliceRoot, hb, Option.bind_some, harr, hhead, Option.map_some]
    · simp only [createProof, hb, Option.bind_some, ht, Option.map_some]
      rw [if_pos (by omega)]
    · intro j hj
      have hsj := hfull j hj
      cases hs : arr j with
      | none => rw [hs] at hsj; simp at hsj
      | some s =>
        obtain ⟨h1, h2, h3⟩ := hbi.shr i arr j s harr hs
        rw [hc] at h3; simp at h3
        refine ⟨s, rfl, by simp only [getShred, hb, Option.bind_some, harr, hs], h1, h2, ?_⟩
        exact (congrArg Commitment.root h3).symm

/-- `sd` holds the complete block `B` of a correct leader (obtained through dissemination or repair) -/
def Holds (B : HBlock) (cap : Nat) (sd : SlotData) : Prop :=
  SInv sd ∧ ∃ bd, blockData sd B.block.hash = some bd ∧ Good B cap bd ∧ bd.completed.isSome

theorem holder_answers (sd : SlotData) (hh : Holds B cap sd) (r : Req)
    (hb : r.bid.hash = B.block.hash) (hin : InBlock B r) : answer sd r = some (honestResp B r) := by
  obtain ⟨hs, bd, hbd, hg, hc⟩ := hh
  obtain ⟨hbi, _⟩ := blockData_sinv sd _ bd hs hbd
  obtain ⟨blk, hcc⟩ := Option.isSome_iff_exists.mp hc
  obtain ⟨roots, ht, _⟩ := hbi.cmp blk hcc
  obtain ⟨l, hl, hlen, _, hall⟩ := hbi.tre roots ht
  have hln := hg.last l hl
  have hroots : roots = B.roots := by
    apply List.ext_getElem?
    intro i
    by_cases hi : i < B.n
    · obtain ⟨⟨c, hc1, hc2⟩, _⟩ := hall i (by omega)
      rw [hc2, (hg.cache i c hc1).2]
      simp [HBlock.roots, HBlock.commit, hi]
    · rw [List.getElem?_eq_none (by omega), List.getElem?_eq_none (by rw [roots_length]; omega)]
  subst hroots
  have hq : ∀ i, i < B.n → getSliceRoot sd B.block.hash i = some (B.root i) ∧
      createProof sd B.block.hash i = some (some ((Tree.new B.roots).createProof i)) ∧
      ∀ j, j < TOTAL_SHREDS → getShred sd B.block.hash i j = some (B.shred i j) := by
    intro i hi
    obtain ⟨root, h1, h2, h3, arr, harr, h4⟩ := slice_queries sd _ bd B.roots l i hbi hbd ht hl (by omega)
    have hr : root = B.root i := by
      rw [show B.roots[i]? = some (B.root i) by simp [HBlock.roots, hi]] at h2
      exact (Option.some.inj h2).symm
    subst hr
    refine ⟨h1, h3, fun j hj => ?_⟩
    obtain ⟨s, hsj, hs1, _⟩ := h4 j hj
    rw [hs1, ((hg.shreds i arr harr).2 j s hsj).2]
  rcases r with b | ⟨b, i⟩ | ⟨b, i, j⟩ <;> simp only [Req.bid] at hb
  · obtain ⟨h1, h2, _⟩ := hq (B.n - 1) (by omega)
    have hli : getLastSliceIndex sd B.block.hash = some (B.n - 1) := by
      simp only [getLastSliceIndex, hbd, Option.bind_some, hl]
      congr 1; omega
    simp only [answer, hb, hli, h1, h2, honestResp]
  · obtain ⟨h1, h2, _⟩ := hq i hin
    simp only [answer, hb, h1, h2, honestResp]
  · obtain ⟨_, _, h3⟩ := hq i hin.1
    simp only [answer, hb, h3 j hin.2, honestResp]

/-- what a peer with slot data `sd` sends back. The `unwrap_or(Nack)` is inside `answer`; the `getD` here only covers
    `answer = none`, the responder's panic, which `responder_total` excludes under `SInv` -/
def respOf (sd : SlotData) (r : Req) : Resp := (answer sd r).getD (.nack r)

end AgModel.Repair
