import AgModel.Proofs.ParentReadyExact
/-!
Whole runs of the parent-ready tracker from `init`.  The ghost history of a run is a function of the operation list alone
(`hist`), so the premise `SafeRun` is decidable on the list; every run under the premise keeps `Inv` (`reach_inv`).
-/
namespace AgModel.ParentReady

inductive Op where
  | nf (b : Nat × Nat)           -- `mark_notar_fallback`
  | skip (s : Nat)               -- `mark_skipped`
  | fin (ev : Finality.Event)    -- `handle_finalization`
  | prune (r : Nat)              -- `prune`
  | wait (s : Nat)               -- `wait_for_parent_ready`
deriving DecidableEq, Repr

/-- The `assert!`s of `parent_ready_state.rs`.  Its third one, `assert!(!block_ids.is_empty())` in `wait_for_parent_ready`, has
    no counterpart: the model writes `Ready(list)` as a non-empty `ready` list and `NotReady` as the empty one. -/
inductive Panic where
  | readyAssert    -- `add_to_ready`: `assert!(!ready_ids.contains(&id))`
  | waiterAssert   -- `wait_for_parent_ready`: `assert!(maybe_waiter.is_none())`
deriving DecidableEq, Repr

def applyOp (t : Tracker) : Op → Except Panic (Tracker × List (Nat × (Nat × Nat)) × List Wake)
  | .nf b => match markNotarFallback t b with | some r => .ok r | none => .error .readyAssert
  | .skip s => match markSkipped t s with | some r => .ok r | none => .error .readyAssert
  | .fin ev => match handleFinalization t ev with | some r => .ok r | none => .error .readyAssert
  | .prune r => .ok (prune t r, [], [])
  | .wait s =>
    match waitForParentReady t s with
    | .ready t' _ => .ok (t', [], [])
    | .waiting t' => .ok (t', [], [])
    | .panic => .error .waiterAssert

structure RunState where
  t : Tracker
  ann : List (Nat × (Nat × Nat))
  wakes : List Wake

def RunState.step (st : RunState) (op : Op) : Except Panic RunState :=
  match applyOp st.t op with
  | .ok (t', a, w) => .ok ⟨t', st.ann ++ a, st.wakes ++ w⟩
  | .error e => .error e

def runStep (acc : Except Panic RunState) (op : Op) : Except Panic RunState :=
  match acc with
  | .ok st => st.step op
  | .error e => .error e

def run (ops : List Op) : Except Panic RunState := ops.foldl runStep (.ok ⟨init, [], []⟩)

def Hist.step (h : Hist) : Op → Hist
  | .nf b => h.nfMark b
  | .skip s => h.skMark s
  | .fin ev => h.finMark ev
  | .prune r => h.pruneTo r
  | .wait _ => h

def hist (ops : List Op) : Hist := ops.foldl Hist.step {}

/-- The premise on pruning (decidable, on the operation list): prune roots are monotone, and no slot used as a
    prune root is ever (before or after) *accepted* as a skip mark — unless it is the first slot of a window
    (then its ready list is retained and the backward walk of `mark_skipped` ends there anyway).
    The pool only prunes to a finalized slot, and a finalized slot is never skip-certified. -/
def SafeRun (ops : List Op) : Prop :=
  (hist ops).mono = true ∧ ∀ r ∈ (hist ops).roots, isWindowStart r = true ∨ r ∉ (hist ops).sk

instance (ops : List Op) : Decidable (SafeRun ops) := by unfold SafeRun; infer_instance

def waitSlots (ops : List Op) : List Nat := ops.filterMap (fun | .wait s => some s | _ => none)

theorem snoc_induction {α : Type} {P : List α → Prop} (nil : P []) (snoc : ∀ l a, P l → P (l ++ [a])) :
    ∀ l, P l := by
  intro l
  have : ∀ r : List α, P r.reverse := by
    intro r
    induction r with
    | nil => exact nil
    | cons a r ih => rw [List.reverse_cons]; exact snoc _ _ ih
  simpa using this l.reverse

theorem hist_append (tr ops : List Op) : hist (tr ++ ops) = ops.foldl Hist.step (hist tr) := by
  unfold hist; rw [List.foldl_append]

theorem run_append (tr ops : List Op) : run (tr ++ ops) = ops.foldl runStep (run tr) := by
  unfold run; rw [List.foldl_append]

theorem waitSlots_append (a b : List Op) : waitSlots (a ++ b) = waitSlots a ++ waitSlots b := by
  unfold waitSlots; rw [List.filterMap_append]

theorem hist_snoc (ops : List Op) (op : Op) : hist (ops ++ [op]) = (hist ops).step op := hist_append ops [op]

theorem run_snoc (ops : List Op) (op : Op) : run (ops ++ [op]) = runStep (run ops) op := run_append ops [op]

def pruneArgs (ops : List Op) : List Nat := ops.flatMap (fun | .prune r => [r] | _ => [])
def skipArgs (ops : List Op) : List Nat := ops.flatMap (fun | .skip s => [s] | .fin ev => ev.implSkipped | _ => [])

def nfArgs (ops : List Op) : List (Nat × Nat) :=
  ops.flatMap (fun | .nf b => [b] | .fin ev => ev.finalized.toList ++ ev.implFinalized | _ => [])

theorem pruneArgs_append (a b : List Op) : pruneArgs (a ++ b) = pruneArgs a ++ pruneArgs b := by
  unfold pruneArgs; rw [List.flatMap_append]

theorem skipArgs_append (a b : List Op) : skipArgs (a ++ b) = skipArgs a ++ skipArgs b := by
  unfold skipArgs; rw [List.flatMap_append]

theorem nfArgs_append (a b : List Op) : nfArgs (a ++ b) = nfArgs a ++ nfArgs b := by
  unfold nfArgs; rw [List.flatMap_append]

theorem Op.prune_or (op : Op) : (∃ r, op = .prune r) ∨ ∀ r, op ≠ .prune r := by
  cases op <;> first | exact Or.inl ⟨_, rfl⟩ | exact Or.inr (fun _ e => nomatch e)

/-- every operation but `prune` changes the history by the marks it submits at or above the root, and nothing else -/
theorem Hist.step_eq (h : Hist) {op : Op} (hop : ∀ r, op ≠ .prune r) :
    h.step op = { h with
      nf := ((nfArgs [op]).filter fun b => h.root ≤ b.1).reverse ++ h.nf
      sk := ((skipArgs [op]).filter fun s => h.root ≤ s).reverse ++ h.sk } := by
  cases op with
  | nf b => exact foldl_nfMark [b] h
  | skip s => exact foldl_skMark [s] h
  | fin ev => rw [nfArgs, skipArgs, List.flatMap_singleton, List.flatMap_singleton]; exact finMark_eq h ev
  | prune r => exact absurd rfl (hop r)
  | wait s => rfl

theorem step_keeps (h : Hist) {op : Op} (hop : ∀ r, op ≠ .prune r) :
    (h.step op).root = h.root ∧ (h.step op).roots = h.roots ∧ (h.step op).mono = h.mono := by
  rw [h.step_eq hop]; exact ⟨rfl, rfl, rfl⟩

theorem Hist.step_mem (h : Hist) (op : Op) :
    (∀ b, b ∈ (h.step op).nf ↔ b ∈ h.nf ∨ (b ∈ nfArgs [op] ∧ h.root ≤ b.1)) ∧
    (∀ s, s ∈ (h.step op).sk ↔ s ∈ h.sk ∨ (s ∈ skipArgs [op] ∧ h.root ≤ s)) := by
  rcases op.prune_or with ⟨r, rfl⟩ | hop
  · exact ⟨fun _ => (or_iff_left (fun c => nomatch c.1)).symm, fun _ => (or_iff_left (fun c => nomatch c.1)).symm⟩
  · rw [h.step_eq hop]
    exact ⟨fun _ => mem_accepted, fun _ => mem_accepted⟩

theorem hist_sk_sub (ops : List Op) : ∀ x, x ∈ (hist ops).sk → x ∈ skipArgs ops := by
  induction ops using snoc_induction with
  | nil => intro x hx; cases hx
  | snoc ops op ih =>
    intro x hx
    rw [hist_snoc, (Hist.step_mem _ op).2] at hx
    rw [skipArgs_append, List.mem_append]
    exact hx.imp (ih x) And.left

theorem step_mono (h : Hist) (op : Op) :
    (∀ x, x ∈ h.sk → x ∈ (h.step op).sk) ∧ (∀ r, r ∈ h.roots → r ∈ (h.step op).roots) ∧
    ((h.step op).mono = true → h.mono = true) := by
  refine ⟨fun x hx => ((Hist.step_mem h op).2 x).mpr (Or.inl hx), ?_⟩
  rcases op.prune_or with ⟨r, rfl⟩ | hop
  · refine ⟨fun r hr => List.mem_cons_of_mem _ hr, fun hm => ?_⟩
    simp only [Hist.step, Hist.pruneTo, Bool.and_eq_true] at hm
    exact hm.1
  · obtain ⟨_, a3, a4⟩ := step_keeps h hop
    rw [a3, a4]; exact ⟨fun _ hr => hr, id⟩

theorem SafeRun.prefix {ops : List Op} {op : Op} (h : SafeRun (ops ++ [op])) : SafeRun ops := by
  unfold SafeRun at *
  rw [hist_snoc] at h
  obtain ⟨m1, m2, m3⟩ := step_mono (hist ops) op
  refine ⟨m3 h.1, fun r hr => ?_⟩
  rcases h.2 r (m2 r hr) with a | a
  · exact Or.inl a
  · exact Or.inr (fun hm => a (m1 r hm))

theorem hist_prunes (ops : List Op) :
    (∀ r, r ∈ (hist ops).roots ↔ r ∈ pruneArgs ops) ∧ ((hist ops).root = 0 ∨ (hist ops).root ∈ (hist ops).roots) ∧
    ((pruneArgs ops).Pairwise (· ≤ ·) → (hist ops).mono = true) := by
  induction ops using snoc_induction with
  | nil => exact ⟨fun _ => Iff.rfl, Or.inl rfl, fun _ => rfl⟩
  | snoc ops op ih =>
    obtain ⟨i1, i2, i3⟩ := ih
    rw [hist_snoc, pruneArgs_append]
    rcases op.prune_or with ⟨r, rfl⟩ | hop
    · refine ⟨fun x => ?_, Or.inr List.mem_cons_self, fun h => ?_⟩
      · show x ∈ r :: (hist ops).roots ↔ x ∈ pruneArgs ops ++ [r]
        rw [List.mem_cons, List.mem_append, List.mem_singleton, i1, or_comm]
      · rw [List.pairwise_append] at h
        simp only [Hist.step, Hist.pruneTo, Bool.and_eq_true, decide_eq_true_eq]
        exact ⟨i3 h.1, i2.elim (fun e => e ▸ Nat.zero_le r)
          (fun hm => h.2.2 _ ((i1 _).mp hm) r (List.mem_singleton.mpr rfl))⟩
    · obtain ⟨a1, a3, a4⟩ := step_keeps (hist ops) hop
      have e : pruneArgs [op] = [] := by cases op <;> first | rfl | exact absurd rfl (hop _)
      rw [a1, a3, a4, e, List.append_nil]; exact ⟨i1, i2, i3⟩

theorem SafeRun.rootOK {ops : List Op} (h : SafeRun ops) : RootOK (hist ops) := by
  rcases (hist_prunes ops).2.1 with e | hm
  · left; rw [e]; decide
  · exact h.2 _ hm

structure RInv (ops : List Op) (st : RunState) : Prop where
  inv : Inv (hist ops) st.t
  annNodup : st.ann.Nodup
  annReady : ∀ s b, (s, b) ∈ st.ann → (hist ops).root ≤ s → b ∈ (get st.t s).ready
  waited : ∀ s, (get st.t s).waiter = true → s ∈ waitSlots ops

theorem waitSlots_snoc (ops : List Op) (op : Op) :
    waitSlots (ops ++ [op]) = waitSlots ops ++ (match op with | .wait s => [s] | _ => []) := by
  unfold waitSlots
  rw [List.filterMap_append]
  cases op <;> rfl

theorem run_mark {ops : List Op} {op : Op} {st : RunState} (ri : RInv ops st) {t' : Tracker}
    {a : List (Nat × (Nat × Nat))} {w : List Wake} (e : applyOp st.t op = .ok (t', a, w))
    (hinv : Inv ((hist ops).step op) t') (hstep : Step st.t t' a w) :
    ∃ st', runStep (.ok st) op = .ok st' ∧ RInv (ops ++ [op]) st' := by
  refine ⟨⟨t', st.ann ++ a, st.wakes ++ w⟩, by simp only [runStep, RunState.step, e], ?_⟩
  -- a mark keeps the root: both invariants read it off the tracker
  have hroot : ((hist ops).step op).root = (hist ops).root := hinv.root.symm.trans (hstep.root.trans ri.inv.root)
  rw [← hist_snoc] at hinv hroot
  refine ⟨hinv, ?_, ?_, ?_⟩
  · show (st.ann ++ a).Nodup
    rw [List.nodup_append]
    refine ⟨ri.annNodup, hstep.annNodup, ?_⟩
    intro x hx y hy e
    subst e
    obtain ⟨r, _, m⟩ := hstep.annNew x.1 x.2 hy
    rw [ri.inv.root] at r
    exact m (ri.annReady x.1 x.2 hx r)
  · intro s b hm hs
    rw [hroot] at hs
    obtain ⟨l, hl⟩ := hstep.ext s
    rcases List.mem_append.mp hm with hm | hm
    · show b ∈ (get t' s).ready
      rw [hl]; exact List.mem_append_left _ (ri.annReady s b hm hs)
    · exact (hstep.annNew s b hm).2.1
  · intro s hs
    rw [waitSlots_snoc]
    exact List.mem_append_left _ (ri.waited s ((hstep.waiter s).mp hs).1)

theorem rinv_wait {ops : List Op} {s : Nat} {st : RunState} (ri : RInv ops st) {t' : Tracker} (inv' : Inv (hist ops) t')
    (hrd : ∀ x p, p ∈ (get t' x).ready ↔ p ∈ (get st.t x).ready)
    (hwt : ∀ x, (get t' x).waiter = true → x = s ∨ (get st.t x).waiter = true) :
    RInv (ops ++ [.wait s]) ⟨t', st.ann ++ [], st.wakes ++ []⟩ := by
  refine ⟨by rw [hist_snoc]; exact inv', ?_, ?_, ?_⟩
  · show (st.ann ++ []).Nodup
    rw [List.append_nil]; exact ri.annNodup
  · intro x p hm hr
    rw [hist_snoc] at hr
    exact (hrd x p).mpr (ri.annReady x p (by simpa using hm) hr)
  · intro x hx
    rw [waitSlots_snoc]
    rcases hwt x hx with e | hx
    · exact List.mem_append_right _ (List.mem_singleton.mpr e)
    · exact List.mem_append_left _ (ri.waited x hx)

/-- Under the premise the `assert!` of `add_to_ready` is never hit; the only panic left is a second
    `wait_for_parent_ready` for a slot. -/
theorem reach_inv (ops : List Op) (hs : SafeRun ops) :
    (∃ st, run ops = .ok st ∧ RInv ops st) ∨ (run ops = .error .waiterAssert ∧ ¬ (waitSlots ops).Nodup) := by
  induction ops using snoc_induction with
  | nil =>
    left
    refine ⟨⟨init, [], []⟩, rfl, inv_init, List.nodup_nil, fun _ _ h => (by cases h), ?_⟩
    intro s hw
    simp only [get, init] at hw
    split at hw <;> cases hw
  | snoc ops op ih =>
    rcases ih hs.prefix with ⟨st, hrun, ri⟩ | ⟨herr, hnd⟩
    · rw [run_snoc, hrun]
      have hok := hs.rootOK
      rw [hist_snoc] at hok
      cases op with
      | nf b =>
        obtain ⟨t', a, w, e, inv', stp, _⟩ := nf_step ri.inv b
        exact Or.inl (run_mark ri (by simp only [applyOp, e]) inv' stp)
      | skip s =>
        obtain ⟨t', a, w, e, inv', stp, _⟩ := skip_step ri.inv s hok
        exact Or.inl (run_mark ri (by simp only [applyOp, e]) inv' stp)
      | fin ev =>
        obtain ⟨t', a, w, e, inv', stp⟩ := fin_step ri.inv ev hok
        exact Or.inl (run_mark ri (by simp only [applyOp, e]) inv' stp)
      | prune r =>
        left
        have hmono : (hist ops).root ≤ r := by
          have := hs.1
          rw [hist_snoc] at this
          simp only [Hist.step, Hist.pruneTo, Bool.and_eq_true, decide_eq_true_eq] at this
          exact this.2
        refine ⟨⟨prune st.t r, st.ann ++ [], st.wakes ++ []⟩, rfl, ?_, ?_, ?_, ?_⟩
        · rw [hist_snoc]; exact prune_step ri.inv hmono
        · show (st.ann ++ []).Nodup
          rw [List.append_nil]; exact ri.annNodup
        · intro s b hm hr
          rw [hist_snoc] at hr
          have hr' : r ≤ s := hr
          show b ∈ (get (prune st.t r) s).ready
          rw [get_prune_ge _ hr']
          exact ri.annReady s b (by simpa using hm) (Nat.le_trans hmono hr')
        · intro s hw
          rw [waitSlots_snoc]
          exact List.mem_append_left _
            (get_prune_ind (Q := fun s st => st.waiter = true → s ∈ waitSlots ops) (fun _ h => by cases h) ri.waited s hw)
      | wait s =>
        have hw := wait_step ri.inv s
        simp only [runStep, RunState.step, applyOp]
        cases hres : waitForParentReady st.t s with
        | ready t' _ | waiting t' =>
          rw [hres] at hw
          exact Or.inl ⟨_, rfl, rinv_wait ri hw.1 hw.2.1 hw.2.2⟩
        | panic =>
          rw [hres] at hw
          right
          refine ⟨rfl, ?_⟩
          rw [waitSlots_snoc]
          intro hnd
          exact (List.nodup_append.mp hnd).2.2 s (ri.waited s hw) s (List.mem_singleton.mpr rfl) rfl
    · right
      rw [run_snoc, herr]
      refine ⟨rfl, ?_⟩
      rw [waitSlots_snoc]
      intro h
      exact hnd (List.nodup_append.mp h).1

theorem foldl_runStep_error (ops : List Op) (e : Panic) : ops.foldl runStep (.error e) = .error e := by
  induction ops with
  | nil => rfl
  | cons op ops ih => exact ih

theorem foldl_runStep_cons_ok {op : Op} {ops : List Op} {st st' : RunState}
    (h : (op :: ops).foldl runStep (.ok st) = .ok st') :
    ∃ t' a w, applyOp st.t op = .ok (t', a, w) ∧ ops.foldl runStep (.ok ⟨t', st.ann ++ a, st.wakes ++ w⟩) = .ok st' := by
  rw [List.foldl_cons] at h
  simp only [runStep, RunState.step] at h
  cases ha : applyOp st.t op with
  | error e => rw [ha, foldl_runStep_error] at h; cases h
  | ok r => obtain ⟨t', a, w⟩ := r; rw [ha] at h; exact ⟨t', a, w, rfl, h⟩

end AgModel.ParentReady
