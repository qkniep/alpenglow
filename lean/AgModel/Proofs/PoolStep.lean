import AgModel.Proofs.PoolInv
/-! Preservation of the vote/counter invariant `InvV` by an admitted vote. -/
namespace AgModel.Pool

/-- the pool's admission filter lets the vote through -/
def Adm (st : SlotState) (v : Vote) : Prop := st.checkSlashable v = none ∧ st.shouldIgnore v = false

theorem not_contains {l : List Nat} {s : Nat} (h : l.contains s = false) : s ∉ l := by
  simpa [List.contains_eq_mem] using h

theorem stakeOf_store_append (e : Epoch) (l : List Nat) (s : Nat) (hs : s ∉ l) :
    stakeOf e ((List.range e.n).filter (l.contains ·)) + e.stake s =
      stakeOf e ((List.range e.n).filter ((l ++ [s]).contains ·)) :=
  (stakeOf_filter_insert e (l.contains ·) _ s (fun x => contains_append_single l s x) (by simpa using hs)).symm

theorem counter_step (e : Epoch) (s : List (Nat × Nat)) (p q : Nat → Nat → Bool) (k v : Nat)
    (hc : ∀ h, lookupD s h = stakeOf e ((List.range e.n).filter (p h)))
    (hk : ∀ x, q k x = (p k x || x == v)) (hv : p k v = false) (ho : ∀ h, h ≠ k → ∀ x, q h x = p h x) (h : Nat) :
    lookupD (addTo s k (e.stake v)) h = stakeOf e ((List.range e.n).filter (q h)) := by
  rw [lookupD_addTo, hc h]
  by_cases hh : h = k
  · rw [if_pos hh, hh]; exact (stakeOf_filter_insert e (p k) (q k) v hk hv).symm
  · rw [if_neg hh, Nat.add_zero]
    exact congrArg (stakeOf e) (List.filter_congr fun x _ => (ho h hh x).symm)

theorem adm_notar_facts (st : SlotState) (y : Vote) (hk : y.kind = .notar) (h : Adm st y) :
    y.signer ∉ st.vSkip ∧ st.vNotar.lookup y.signer = none ∧ (y.signer, y.hash) ∉ st.vNf := by
  obtain ⟨hs, hi⟩ := h
  simp only [SlotState.checkSlashable, SlotState.shouldIgnore, hk] at hs hi
  have hnot : st.vNotar.lookup y.signer = none := by
    cases h2 : st.vNotar.lookup y.signer with
    | none => rfl
    | some x => simp [h2] at hi
  exact ⟨fun h => by simp [h] at hs, hnot, fun h => by simp [h, hnot] at hi⟩

theorem adm_skip_facts (st : SlotState) (y : Vote) (hk : y.kind = .skip) (h : Adm st y) :
    y.signer ∉ st.vFin ∧ st.vNotar.lookup y.signer = none ∧ y.signer ∉ st.vSkip ∧ y.signer ∉ st.vSf := by
  obtain ⟨hs, hi⟩ := h
  simp only [SlotState.checkSlashable, SlotState.shouldIgnore, hk] at hs hi
  have hfin : y.signer ∉ st.vFin := fun h => by simp [h] at hs
  have hnot : st.vNotar.lookup y.signer = none := by
    cases h2 : st.vNotar.lookup y.signer with
    | none => rfl
    | some x => simp [h2, hfin] at hs
  exact ⟨hfin, hnot, fun h => by simp [h] at hi, fun h => by simp [h] at hi⟩

theorem adm_final_facts (st : SlotState) (y : Vote) (hk : y.kind = .final) (h : Adm st y) :
    y.signer ∉ st.vSkip ∧ y.signer ∉ st.vSf ∧ (∀ b, (y.signer, b) ∉ st.vNf) ∧ y.signer ∉ st.vFin := by
  obtain ⟨hs, hi⟩ := h
  simp only [SlotState.checkSlashable, SlotState.shouldIgnore, hk] at hs hi
  have hskip : y.signer ∉ st.vSkip := fun h => by simp [h] at hs
  have hsf : y.signer ∉ st.vSf := fun h => by simp [h] at hs
  refine ⟨hskip, hsf, ?_, fun h => by simp [h] at hi⟩
  intro b hm
  have : st.vNf.any (·.1 == y.signer) = true := by
    simp only [List.any_eq_true]; exact ⟨_, hm, by simp⟩
  simp [hskip, hsf, this] at hs

theorem InvV.stored_skip (e : Epoch) (st : SlotState) (v : Vote) (hk : v.kind = .skip) (i : InvV e st) (ha : Adm st v) :
    InvV e (st.stored e v) := by
  obtain ⟨hfin, hnot, hskip, hsf⟩ := adm_skip_facts st v hk ha
  unfold SlotState.stored
  simp only [hk]
  exact { i with
    skipNodup := nodup_append_single _ _ i.skipNodup hskip
    cSkip := by
      show st.sSkip + e.stake v.signer = _
      rw [i.cSkip]; exact stakeOf_store_append e st.vSkip v.signer hskip
    cNotarOrSkip := by
      show st.sNotarOrSkip + e.stake v.signer = _ + (st.sSkip + e.stake v.signer)
      rw [i.cNotarOrSkip, Nat.add_assoc]
    noSkipNotar := fun x hx => (mem_append_single.mp hx).elim (i.noSkipNotar x) (fun h => h ▸ hnot)
    noFinSkip := fun x hx => ⟨fun hm => (mem_append_single.mp hm).elim (i.noFinSkip x hx).1 (fun h => hfin (h ▸ hx)),
      (i.noFinSkip x hx).2⟩
    noSkipSf := fun x hx => (mem_append_single.mp hx).elim (i.noSkipSf x) (fun h => h ▸ hsf) }

theorem InvV.stored_sf (e : Epoch) (st : SlotState) (v : Vote) (hk : v.kind = .sf) (i : InvV e st) (ha : Adm st v) :
    InvV e (st.stored e v) := by
  obtain ⟨hs, hi⟩ := ha
  simp only [SlotState.checkSlashable, SlotState.shouldIgnore, hk] at hs hi
  have hfin : v.signer ∉ st.vFin := fun h => by simp [h] at hs
  have hskip : v.signer ∉ st.vSkip := fun h => by simp [h] at hi
  have hsf : v.signer ∉ st.vSf := fun h => by simp [h] at hi
  unfold SlotState.stored
  simp only [hk]
  exact { i with
    sfNodup := nodup_append_single _ _ i.sfNodup hsf
    cSf := by
      show st.sSf + e.stake v.signer = _
      rw [i.cSf]; exact stakeOf_store_append e st.vSf v.signer hsf
    noFinSkip := fun x hx => ⟨(i.noFinSkip x hx).1,
      fun hm => (mem_append_single.mp hm).elim (i.noFinSkip x hx).2.1 (fun h => hfin (h ▸ hx)), (i.noFinSkip x hx).2.2⟩
    noSkipSf := fun x hx hm => (mem_append_single.mp hm).elim (i.noSkipSf x hx) (fun h => hskip (h ▸ hx)) }

theorem InvV.stored_final (e : Epoch) (st : SlotState) (v : Vote) (hk : v.kind = .final) (i : InvV e st) (ha : Adm st v) :
    InvV e (st.stored e v) := by
  obtain ⟨hskip, hsf, hnf, hfin⟩ := adm_final_facts st v hk ha
  unfold SlotState.stored
  simp only [hk]
  exact { i with
    finNodup := nodup_append_single _ _ i.finNodup hfin
    cFin := by
      show st.sFin + e.stake v.signer = _
      rw [i.cFin]; exact stakeOf_store_append e st.vFin v.signer hfin
    noFinSkip := fun x hx => (mem_append_single.mp hx).elim (i.noFinSkip x) (fun h => by subst h; exact ⟨hskip, hsf, hnf⟩) }

theorem InvV.stored_nf (e : Epoch) (st : SlotState) (v : Vote) (hk : v.kind = .nf) (i : InvV e st) (ha : Adm st v) :
    InvV e (st.stored e v) := by
  obtain ⟨hs, hi⟩ := ha
  simp only [SlotState.checkSlashable, SlotState.shouldIgnore, hk] at hs hi
  have hfin : v.signer ∉ st.vFin := fun h => by simp [h] at hs
  have hnfn : (v.signer, v.hash) ∉ st.vNf := fun h => by simp [h] at hi
  have hnot : st.vNotar.lookup v.signer ≠ some v.hash := fun h => by simp [h] at hi
  unfold SlotState.stored
  simp only [hk]
  exact { i with
    nfNodup := nodup_append_single _ _ i.nfNodup hnfn
    cNf := counter_step e st.sNf (fun h x => st.vNf.contains (x, h)) (fun h x => (st.vNf ++ [(v.signer, v.hash)]).contains (x, h))
      v.hash v.signer i.cNf (fun x => by rw [contains_pair_append_single, beq_self_eq_true, Bool.and_true])
      (by simpa [List.contains_eq_mem] using hnfn)
      (fun h hh x => by rw [contains_pair_append_single, beq_eq_false_iff_ne.mpr hh, Bool.and_false, Bool.or_false])
    noFinSkip := fun x hx => ⟨(i.noFinSkip x hx).1, (i.noFinSkip x hx).2.1, fun h' hm =>
      (mem_append_single.mp hm).elim ((i.noFinSkip x hx).2.2 h') (fun h => by cases h; exact hfin hx)⟩
    noNotarNfSame := fun x h' hm => (mem_append_single.mp hm).elim (i.noNotarNfSame x h')
      (fun h => by cases h; exact hnot) }

theorem InvV.stored_notar (e : Epoch) (st : SlotState) (v : Vote) (hk : v.kind = .notar) (i : InvV e st) (ha : Adm st v) :
    InvV e (st.stored e v) := by
  obtain ⟨hskip, hnot, hnfn⟩ := adm_notar_facts st v hk ha
  have hlk := fun x => lookup_after_store st.vNotar v.signer v.hash x hnot
  -- a test of the looked-up vote that fails on `none` and holds of `some v.hash` newly holds of `v.signer` only
  have htest : ∀ f : Option Nat → Bool, f (some v.hash) = true → ∀ x,
      f ((st.vNotar ++ [(v.signer, v.hash)]).lookup x) = (f (st.vNotar.lookup x) || x == v.signer) := fun f h1 x => by
    rw [hlk x]
    by_cases hx : x = v.signer
    · rw [if_pos hx, h1, hx, beq_self_eq_true, Bool.or_true]
    · rw [if_neg hx, beq_eq_false_iff_ne.mpr hx, Bool.or_false]
  unfold SlotState.stored
  simp only [hk]
  exact { i with
    notarNodup := by
      dsimp only
      rw [List.map_append]
      exact nodup_append_single _ _ i.notarNodup ((lookup_eq_none_iff_not_mem_keys _ _).mp hnot)
    cNotar := counter_step e st.sNotar (fun h x => st.vNotar.lookup x == some h)
      (fun h x => (st.vNotar ++ [(v.signer, v.hash)]).lookup x == some h) v.hash v.signer i.cNotar
      (htest (· == some v.hash) (beq_self_eq_true _))
      (by rw [hnot]; rfl)
      (fun h hh x => by
        rw [hlk x]
        split
        · rename_i hx
          rw [hx, hnot]
          exact beq_eq_false_iff_ne.mpr (fun h' => hh (Option.some.inj h').symm)
        · rfl)
    cNotarOrSkip := by
      show st.sNotarOrSkip + e.stake v.signer = _ + st.sSkip
      rw [stakeOf_filter_insert e _ _ v.signer (htest Option.isSome rfl) (by rw [hnot]; rfl), i.cNotarOrSkip]; omega
    topGe := by
      intro h'
      dsimp only
      by_cases hh : h' = v.hash
      · subst hh; exact Nat.le_max_left _ _
      · rw [lookupD_addTo, if_neg hh, Nat.add_zero]
        exact Nat.le_trans (i.topGe h') (Nat.le_max_right _ _)
    topAttained := by
      dsimp only
      by_cases hge : st.sTopNotar ≤ lookupD (addTo st.sNotar v.hash (e.stake v.signer)) v.hash
      · exact Or.inr ⟨v.hash, (Nat.max_eq_left hge).symm⟩
      · -- the old maximum stands, at a block other than `v.hash`
        rw [Nat.max_eq_right (Nat.le_of_not_le hge)]
        rcases i.topAttained with h0 | ⟨h0, hh0⟩
        · exact Or.inl h0
        · refine Or.inr ⟨h0, ?_⟩
          rw [lookupD_addTo] at hge ⊢
          by_cases he : h0 = v.hash
          · subst he; rw [if_pos rfl] at hge; omega
          · rw [if_neg he, Nat.add_zero, hh0]
    noSkipNotar := by
      intro x hx
      dsimp only
      rw [hlk x, if_neg (fun h : x = v.signer => hskip (h ▸ hx))]
      exact i.noSkipNotar x hx
    noNotarNfSame := by
      intro x h' hm
      dsimp only
      rw [hlk x]
      split
      · rename_i hx
        intro h
        rw [hx, ← Option.some.inj h] at hm
        exact hnfn hm
      · exact i.noNotarNfSame x h' hm }

theorem stored_InvV (e : Epoch) (st : SlotState) (v : Vote) (i : InvV e st) (ha : Adm st v) :
    InvV e (st.stored e v) := by
  cases hk : v.kind
  · exact InvV.stored_notar e st v hk i ha
  · exact InvV.stored_nf e st v hk i ha
  · exact InvV.stored_skip e st v hk i ha
  · exact InvV.stored_sf e st v hk i ha
  · exact InvV.stored_final e st v hk i ha

end AgModel.Pool
