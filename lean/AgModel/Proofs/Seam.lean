import AgModel.Model.ShredAbs
import AgModel.Proofs.Blockstore
import AgModel.Props.C12
import AgModel.Props.C13
/-! Refinement between the fine node (`Seam.FNode.handle`: raw shred → `try_new` with the commitment cache → blockstore)
    and the coarse blockstore model, one step (`handle_refines`); the invariant `Inv` ties the fine commitment cache to
    the coarse one. -/
namespace AgModel.Seam
open AgModel.Shred (Env VShred Cached validate CacheSound)
open AgModel.Blockstore (SlotData Content)

structure Inv (rid : RootId) (pk : Nat) (n : FNode) : Prop where
  /-- every entry remembers only the leader's signature over its commitment (D34 `fix:`) -/
  sound : ∀ idx e, n.cachedEntry idx = some e → Cached.Sound pk e
  agree : ∀ idx, n.sd.dis.cache idx = (n.cachedEntry idx).map (fun e => absCommit rid e.commitment)
  /-- `absCommit` forgets the slot: this gives it back where a conflict seen on the coarse side has to be one on the
      fine side (`absCommit_inj` in `handle_refines`) -/
  keyed : ∀ idx e, n.cachedEntry idx = some e → e.commitment.slot = n.slot ∧ e.commitment.sliceIdx = idx

theorem Inv.cacheSound {rid : RootId} {pk : Nat} {n : FNode} (hI : Inv rid pk n) (idx : Nat) :
    CacheSound pk (n.cachedEntry idx) := by
  cases h : n.cachedEntry idx with
  | none => trivial
  | some e => exact hI.sound _ _ h

theorem absShred_commitment (rid : RootId) (v : VShred) :
    (absShred rid v).commitment = absCommit rid v.commitment := rfl

section
variable {rid : RootId} {pk : Nat} {n : FNode} {sd : SlotData} {cs : Blockstore.Shred}

theorem cachedEntry_cons (n : FNode) (k : Nat) (e : Cached) (sd : SlotData) (idx : Nat) :
    ({ n with sd := sd, fc := (k, e) :: n.fc } : FNode).cachedEntry idx =
      if k = idx then some e else n.cachedEntry idx := by
  unfold FNode.cachedEntry
  by_cases h : k = idx <;> simp [h]

theorem absCommit_inj (hinj : ∀ a b, rid a = rid b → a = b) {c d : Shred.Commitment}
    (hslot : c.slot = d.slot) (h : absCommit rid c = absCommit rid d) : c = d := by
  cases c; cases d
  simp only [absCommit, Blockstore.Commitment.mk.injEq] at h
  simp only at hslot
  obtain ⟨h1, h2, h3⟩ := h
  simp [hslot, h1, h2, hinj _ _ h3]

theorem addNode_eq_addDissem (cenv : Nat → Content) (h : typedConflict sd cs = false) :
    addNode cenv sd cs = ((Blockstore.addDissem cenv sd cs).1, (Blockstore.addDissem cenv sd cs).2.2) := by
  unfold addNode; rw [h]; rfl

theorem typedConflict_of_ty (sd : SlotData) (h : cs.ty = true) : typedConflict sd cs = false := by
  unfold typedConflict; rw [h]; rfl

/-- a cached commitment that differs from the shred's: the leader is flagged, whatever the shred's type - by
    `typedConflict` if it does not fit, else by `add_shred` -/
theorem addNode_conflict (cenv : Nat → Content) {c : Blockstore.Commitment}
    (hc : sd.dis.cache cs.slice = some c) (hne : c ≠ cs.commitment) : addNode cenv sd cs = Blockstore.flag sd := by
  cases hty : cs.ty with
  | false =>
    unfold addNode typedConflict
    simp only [hc, hty, hne, Bool.not_false, Bool.true_and, ne_eq, not_false_eq_true, decide_true, if_true]
  | true =>
    rw [addNode_eq_addDissem cenv (typedConflict_of_ty sd hty)]
    cases hm : sd.misbehaved with
    | true => rw [Blockstore.flagged_refuses cenv sd cs hm]; unfold Blockstore.flag; rw [if_pos hm]
    | false =>
      -- `cacheStep` answers `Equivocation` and leaves the block data alone; `flagIfBad` flags on it
      rw [Blockstore.addDissem_of_ty cenv sd cs hm hty,
        Blockstore.addShredCore_of_cache_none (Blockstore.cacheStep_eq_none_iff.mpr ⟨c, hc, hne⟩)]
      rfl

theorem typedConflict_of_agree (hc : ∀ c, sd.dis.cache cs.slice = some c → c = cs.commitment) :
    typedConflict sd cs = false := by
  unfold typedConflict
  cases h : sd.dis.cache cs.slice with
  | none => simp
  | some c => simp [hc c h]

theorem addNode_wrongType (cenv : Nat → Content) (hc : ∀ c, sd.dis.cache cs.slice = some c → c = cs.commitment)
    (hty : cs.ty = false) : addNode cenv sd cs = (sd, []) := by
  rw [addNode_eq_addDissem cenv (typedConflict_of_agree hc)]
  cases hm : sd.misbehaved with
  | true => rw [Blockstore.flagged_refuses cenv sd cs hm]
  | false => rw [Blockstore.wrong_type_ignored cenv sd cs hm hty]

theorem addDissem_cache (cenv : Nat → Content) (hm : sd.misbehaved = false) (hty : cs.ty = true) :
    (Blockstore.addDissem cenv sd cs).1.dis.cache =
      (match sd.dis.cache cs.slice with
        | some _ => sd.dis.cache
        | none => Blockstore.upd sd.dis.cache cs.slice (some cs.commitment)) := by
  rw [Blockstore.addDissem_of_ty cenv sd cs hm hty, Blockstore.flagIfBad_dis]
  exact Blockstore.addShredCore_cache cenv sd.dis cs

theorem inv_of_same_cache (hI : Inv rid pk n) (h : sd.dis.cache = n.sd.dis.cache) : Inv rid pk { n with sd := sd } :=
  ⟨hI.sound, fun idx => (congrFun h idx).trans (hI.agree idx), hI.keyed⟩

theorem inv_insert (hI : Inv rid pk n) {k : Nat} {e : Cached}
    (hs : Cached.Sound pk e) (hk : e.commitment.slot = n.slot ∧ e.commitment.sliceIdx = k)
    (hc : sd.dis.cache = Blockstore.upd n.sd.dis.cache k (some (absCommit rid e.commitment))) :
    Inv rid pk { n with sd := sd, fc := (k, e) :: n.fc } := by
  have hce := cachedEntry_cons n k e sd
  constructor
  · intro idx x hx
    rw [hce] at hx
    split at hx
    · rw [← Option.some.inj hx]; exact hs
    · exact hI.sound idx x hx
  · intro idx
    rw [hce, hc]
    by_cases h : k = idx
    · rw [if_pos h, ← h, Blockstore.upd_same]; rfl
    · rw [if_neg h, Blockstore.upd_other (Ne.symm h)]; exact hI.agree idx
  · intro idx x hx
    rw [hce] at hx
    split at hx
    · rename_i h; rw [← Option.some.inj hx, ← h]; exact hk
    · exact hI.keyed idx x hx

/-- both sides fill the entry of the shred's slice iff the slot is not flagged and the entry is vacant (an occupied
    entry stays as it is, whether or not the shred agrees with it); the `fc` below is the one of `FNode.handle` -/
theorem inv_addDissem (cenv : Nat → Content) (hI : Inv rid pk n) {e : Cached} (hty : cs.ty = true) (hs : Cached.Sound pk e)
    (hk : e.commitment.slot = n.slot ∧ e.commitment.sliceIdx = cs.slice) (hc : cs.commitment = absCommit rid e.commitment) :
    Inv rid pk { n with sd := (Blockstore.addDissem cenv n.sd cs).1,
                        fc := if n.sd.misbehaved then n.fc
                          else match n.cachedEntry cs.slice with
                            | some _ => n.fc
                            | none => (cs.slice, e) :: n.fc } := by
  cases hm : n.sd.misbehaved with
  | true => exact inv_of_same_cache hI (by rw [Blockstore.flagged_refuses cenv n.sd cs hm])
  | false =>
    have hcache := addDissem_cache cenv hm hty
    rw [hI.agree cs.slice] at hcache
    cases he : n.cachedEntry cs.slice with
    | some _ => rw [he] at hcache; exact inv_of_same_cache hI hcache
    | none => rw [he, hc] at hcache; exact inv_insert hI hs hk hcache

end

/-- what the node does with a raw shred: nothing (another slot, no valid signature, wrong type); flag the leader (a
    second validly signed commitment); or hand the validated shred `v` to the blockstore and remember its entry -/
theorem handle_cases (env : Env) (cenv : Nat → Content) (rid : RootId) (pk : Nat) (n : FNode) (s : Shred.Shred) :
    n.handle env cenv rid pk s = (n, []) ∨
    n.handle env cenv rid pk s = ({ n with sd := (Blockstore.flag n.sd).1 }, (Blockstore.flag n.sd).2) ∨
    ∃ v, s.header.slot = n.slot ∧ validate env s (n.cachedEntry s.header.sliceIdx) pk = .ok v ∧ v.shred.typeOk = true ∧
      n.handle env cenv rid pk s =
        ({ n with sd := (Blockstore.addDissem cenv n.sd (absShred rid v)).1,
                  fc := if n.sd.misbehaved then n.fc
                    else match n.cachedEntry s.header.sliceIdx with
                      | some _ => n.fc
                      | none => (s.header.sliceIdx, v.cacheEntry) :: n.fc },
          (Blockstore.addDissem cenv n.sd (absShred rid v)).2.2) := by
  unfold FNode.handle
  by_cases hslot : s.header.slot ≠ n.slot
  · rw [if_pos hslot]; exact .inl rfl
  rw [if_neg hslot]
  cases hv : validate env s (n.cachedEntry s.header.sliceIdx) pk with
  | error e =>
    cases e with
    | invalidSignature => exact .inl rfl
    | equivocation => exact .inr (.inl rfl)
  | ok v =>
    dsimp only
    cases hty : v.shred.typeOk with
    | false => exact .inl rfl
    | true => exact .inr (.inr ⟨v, Decidable.not_not.mp hslot, rfl, hty, rfl⟩)

theorem handle_slot (env : Env) (cenv : Nat → Content) (rid : RootId) (pk : Nat) (n : FNode) (s : Shred.Shred) :
    (n.handle env cenv rid pk s).1.slot = n.slot := by
  rcases handle_cases env cenv rid pk n s with e | e | ⟨v, _, _, _, e⟩ <;> rw [e]

/-- no `hinj`: the invariant speaks of the node's own two caches only -/
theorem handle_inv (env : Env) (cenv : Nat → Content) {rid : RootId} {pk : Nat} {n : FNode} (hI : Inv rid pk n)
    (s : Shred.Shred) : Inv rid pk (n.handle env cenv rid pk s).1 := by
  rcases handle_cases env cenv rid pk n s with e | e | ⟨v, hslot, hv, hty, e⟩ <;> rw [e]
  · exact hI
  · exact inv_of_same_cache hI (by rw [Blockstore.flag_fst])
  · obtain ⟨_, hsig, _, rfl⟩ := (Shred.accept_iff_signed env s pk _ (hI.cacheSound _) v).mp hv
    exact inv_addDissem cenv hI hty (fun σ hσ => by rw [← Option.some.inj hσ]; exact hsig) ⟨hslot, rfl⟩ rfl

theorem handle_refines (env : Env) (cenv : Nat → Content) (rid : RootId) (hinj : ∀ a b, rid a = rid b → a = b)
    (pk : Nat) (n : FNode) (hI : Inv rid pk n) (s : Shred.Shred) :
    Inv rid pk (n.handle env cenv rid pk s).1 ∧ (n.handle env cenv rid pk s).1.slot = n.slot ∧
    ((n.handle env cenv rid pk s).1.abs, (n.handle env cenv rid pk s).2) =
      (match absIn env rid pk n.slot s with
        | none => (n.abs, [])
        | some cs => addNode cenv n.abs cs) := by
  refine ⟨handle_inv env cenv hI s, handle_slot env cenv rid pk n s, ?_⟩
  unfold FNode.handle absIn
  by_cases hslot : s.header.slot ≠ n.slot
  · rw [if_pos hslot, if_pos hslot]
  rw [if_neg hslot, if_neg hslot]
  have hcs := hI.cacheSound s.header.sliceIdx
  by_cases hok : s.indexConsumed = true ∧ s.sig = .signed pk (s.claimed env)
  case neg =>
    -- not the leader's signature over what the shred claims: rejected with any sound cache entry, and without
    have hrej : ∀ cached, CacheSound pk cached → validate env s cached pk = .error .invalidSignature := by
      intro cached hc
      cases hi : s.indexConsumed with
      | false => exact Shred.index_not_consumed_rejected env s cached pk hi
      | true => exact Shred.unsigned_rejected env s pk cached hc fun h => hok ⟨hi, h⟩
    rw [hrej _ hcs, hrej none trivial]
  rw [(Shred.accept_none_iff env s pk _).mpr ⟨hok.1, hok.2, rfl⟩]
  simp only
  have hagree := hI.agree s.header.sliceIdx
  by_cases hcf : ∃ e, n.cachedEntry s.header.sliceIdx = some e ∧ e.commitment ≠ s.claimed env
  · -- a second validly signed commitment: `try_new` answers `Equivocation`, the node flags; so does the coarse side
    obtain ⟨e, he, hne⟩ := hcf
    rw [he] at hagree
    rw [he, Shred.validate_conflict env s e pk hok.1 (Ne.symm hne) hok.2,
      addNode_conflict (sd := n.abs) (cs := absShred rid ⟨s, s.sliceRoot env⟩) cenv hagree fun h =>
        hne (absCommit_inj hinj ((hI.keyed _ _ he).1.trans (Decidable.not_not.mp hslot).symm) h)]
    rfl
  · have hnc : ∀ e, n.cachedEntry s.header.sliceIdx = some e → e.commitment = s.claimed env :=
      fun e he => Decidable.not_not.mp fun h => hcf ⟨e, he, h⟩
    rw [(Shred.accept_iff_signed env s pk _ hcs _).mpr ⟨hok.1, hok.2, hnc, rfl⟩]
    simp only
    cases hty : s.typeOk with
    | false =>
      rw [addNode_wrongType (cs := absShred rid ⟨s, s.sliceRoot env⟩) cenv ?_ hty]
      · rfl
      · intro c hc
        obtain ⟨e, he, rfl⟩ := Option.map_eq_some_iff.mp (hagree.symm.trans hc)
        rw [hnc e he]; rfl
    | true =>
      rw [addNode_eq_addDissem (cs := absShred rid ⟨s, s.sliceRoot env⟩) cenv (typedConflict_of_ty _ hty)]
      rfl

end AgModel.Seam
