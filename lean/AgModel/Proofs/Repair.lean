import AgModel.Model.RepairAbs
import AgModel.Proofs.Blockstore
/-! The repair path of `AgModel.Blockstore` (`completed`, the repair spots) and the requester `AgModel.Repair`:
its association lists, its bookkeeping of requests, `handle_response` arm by arm. -/
namespace AgModel.Blockstore

theorem addShred_completed (env : Nat → Content) (b : BlockData) (s : Shred) :
    (addShredCore env b s).1.completed = b.completed ∨
    ∃ info txs, (addShredCore env b s).2 = .ev (.block info) ∧
      (addShredCore env b s).1.completed = some ⟨info.hash, info.parent, txs⟩ := by
  rcases addShredCore_completed env b s with ⟨h1, _⟩ | ⟨_, b1, info, e, hr⟩
  · exact Or.inl h1
  · obtain ⟨txs, hcomp, _⟩ := tryReconstructBlock_complete e
    exact Or.inr ⟨info, txs, hr, hcomp⟩

/-- get after set in an association list that is updated in place, from the defining equations of `get` and `set`;
    the four stores of the repair path are instances -/
theorem assoc_get_set {κ ν ρ : Type} [DecidableEq κ] {get : List (κ × ν) → κ → ρ}
    {set : List (κ × ν) → κ → ν → List (κ × ν)} {f : ν → ρ} {d : κ → ρ} (g0 : ∀ k, get [] k = d k)
    (g1 : ∀ k' w rest k, get ((k', w) :: rest) k = if k' = k then f w else get rest k)
    (s0 : ∀ k v, set [] k v = [(k, v)])
    (s1 : ∀ k' w rest k v, set ((k', w) :: rest) k v = if k' = k then (k', v) :: rest else (k', w) :: set rest k v)
    (m : List (κ × ν)) (k k' : κ) (v : ν) : get (set m k v) k' = if k' = k then f v else get m k' := by
  induction m with
  | nil => rw [s0, g1, g0]; simp only [eq_comm]
  | cons kv rest ih =>
    obtain ⟨a, w⟩ := kv
    rw [s1, g1]
    by_cases hk : a = k
    · subst hk
      rw [if_pos rfl, g1]
      simp only [eq_comm]
      split <;> rfl
    · rw [if_neg hk, g1, ih]
      split
      · next e => subst e; rw [if_neg hk]
      · rfl

theorem repGet_repSet (rep : List (Merkle.H × BlockData)) (h h' : Merkle.H) (v : BlockData) :
    repGet (repSet rep h v) h' = if h' = h then some v else repGet rep h' :=
  assoc_get_set (fun _ => rfl) (fun _ _ _ _ => rfl) (fun _ _ => rfl) (fun _ _ _ _ _ => rfl) rep h h' v

theorem repGet_repDel (rep : List (Merkle.H × BlockData)) (h h' : Merkle.H) :
    repGet (repDel rep h) h' = if h' = h then none else repGet rep h' := by
  induction rep with
  | nil => simp only [repDel, List.filter_nil, repGet, ite_self]
  | cons kv rest ih =>
    unfold repDel at ih ⊢
    by_cases hk : kv.1 = h
    · subst hk
      rw [List.filter_cons_of_neg (by simp), ih]
      simp only [repGet, eq_comm]
      split <;> rfl
    · rw [List.filter_cons_of_pos (by simpa using hk)]
      simp only [repGet, ih]
      split
      · next e => subst e; rw [if_neg hk]
      · rfl
end AgModel.Blockstore

namespace AgModel.Repair
open AgModel.Blockstore AgModel.Merkle

/-- the repair spot of `h` as `add_shred_from_repair` sees it: created on demand -/
def spot (sd : SlotData) (h : H) : BlockData := (repGet sd.rep h).getD (BlockData.new sd.dis.cap sd.dis.slot)

theorem spot_ind {P : BlockData → Prop} (sd : SlotData) (h : H) (hnew : P (BlockData.new sd.dis.cap sd.dis.slot))
    (hold : ∀ b, repGet sd.rep h = some b → P b) : P (spot sd h) := by
  unfold spot
  cases hg : repGet sd.rep h with
  | none => exact hnew
  | some b => exact hold b hg

section
variable (env : Nat → Content) (sd : SlotData) (h : H) (s : Shred)

theorem addRepair_dis : (addRepair env sd h s).1.dis = sd.dis := by
  unfold addRepair fileRepair
  rw [flagIfBad_dis]
  split
  · split <;> rfl
  · rfl

theorem addRepair_cases :
    (∃ info, (addShred env (spot sd h) s).2 = .ev (.block info) ∧ info.hash ≠ h ∧
        (addRepair env sd h s).1.rep = repDel sd.rep h ∧ (addRepair env sd h s).2.1 = .err .invalidShred) ∨
    ((∀ info, (addShred env (spot sd h) s).2 = .ev (.block info) → info.hash = h) ∧
        (addRepair env sd h s).1.rep = repSet sd.rep h (addShred env (spot sd h) s).1 ∧
        (addRepair env sd h s).2.1 = (addShred env (spot sd h) s).2) := by
  have e : addRepair env sd h s = flagIfBad
      (fileRepair sd h (addShred env (spot sd h) s).1 (addShred env (spot sd h) s).2).1
      (fileRepair sd h (addShred env (spot sd h) s).1 (addShred env (spot sd h) s).2).2 := rfl
  rw [e, flagIfBad_rep, flagIfBad_res]
  generalize addShred env (spot sd h) s = br
  obtain ⟨b, r⟩ := br
  rcases r with _ | (_ | info | _) | _ | _
  case ev.block =>
    by_cases hh : info.hash = h
    · exact Or.inr ⟨fun i e => by cases e; exact hh, by simp [fileRepair, hh]⟩
    · exact Or.inl ⟨info, rfl, hh, by simp [fileRepair, hh]⟩
  all_goals exact Or.inr ⟨fun i e => (nomatch e), rfl, rfl⟩

theorem addRepair_spots {P : H → BlockData → Prop} (hold : ∀ h' b, repGet sd.rep h' = some b → P h' b)
    (hnew : (∀ info, (addShred env (spot sd h) s).2 = .ev (.block info) → info.hash = h) →
      P h (addShred env (spot sd h) s).1) :
    ∀ h' b, repGet (addRepair env sd h s).1.rep h' = some b → P h' b := by
  intro h' b hg
  rcases addRepair_cases env sd h s with ⟨_, _, _, e, _⟩ | ⟨hk, e, _⟩ <;> rw [e] at hg
  · rw [repGet_repDel] at hg
    split at hg
    · cases hg
    · exact hold h' b hg
  · rw [repGet_repSet] at hg
    split at hg
    · next hh => cases hg; exact hh ▸ hnew hk
    · exact hold h' b hg

end

theorem blockData_cases {sd : SlotData} {h : H} {bd : BlockData} (hb : blockData sd h = some bd) :
    (bd = sd.dis ∧ ∃ blk, sd.dis.completed = some blk ∧ blk.hash = h) ∨ repGet sd.rep h = some bd := by
  unfold blockData at hb
  split at hb
  · next blk hd =>
    split at hb
    · next hh => cases hb; exact Or.inl ⟨rfl, blk, hd, hh⟩
    · exact Or.inr hb
  · exact Or.inr hb

theorem getShred_eq {sd : SlotData} {h : H} {i j : Nat} {s : Shred} (hg : getShred sd h i j = some s) :
    ∃ bd arr, blockData sd h = some bd ∧ bd.shreds i = some arr ∧ arr j = some s := by
  unfold getShred at hg
  cases hb : blockData sd h with
  | none => rw [hb] at hg; cases hg
  | some bd =>
    rw [hb, Option.bind_some] at hg
    cases harr : bd.shreds i with
    | none => rw [harr] at hg; cases hg
    | some arr => rw [harr] at hg; exact ⟨bd, arr, rfl, harr, hg⟩

theorem rootGet_rootSet (m : List ((Bid × Nat) × Nat)) (k k' : Bid × Nat) (v : Nat) :
    rootGet (rootSet m k v) k' = if k' = k then some v else rootGet m k' :=
  assoc_get_set (fun _ => rfl) (fun _ _ _ _ => rfl) (fun _ _ => rfl) (fun _ _ _ _ _ => rfl) m k k' v

theorem lastGet_lastSet (m : List (Bid × Nat)) (k k' : Bid) (v : Nat) :
    lastGet (lastSet m k v) k' = if k' = k then some v else lastGet m k' :=
  assoc_get_set (fun _ => rfl) (fun _ _ _ _ => rfl) (fun _ _ => rfl) (fun _ _ _ _ _ => rfl) m k k' v

theorem storeGet_storeSet (cap : Nat) (st : Store) (slot slot' : Nat) (v : SlotData) :
    storeGet cap (storeSet st slot v) slot' = if slot' = slot then v else storeGet cap st slot' :=
  assoc_get_set (get := storeGet cap) (f := id) (fun _ => rfl) (fun _ _ _ _ => rfl) (fun _ _ => rfl) (fun _ _ _ _ _ => rfl)
    st slot slot' v

theorem sendRequest_outstanding (st : RepairSt) (r x : Req) :
    x ∈ (sendRequest st r).outstanding ↔ x ∈ st.outstanding ∨ x = r := by
  unfold sendRequest
  split
  · next hin => exact ⟨Or.inl, fun h => h.elim id (· ▸ hin)⟩
  · exact List.mem_append.trans (or_congr Iff.rfl List.mem_singleton)

theorem sendAll_outstanding (st : RepairSt) (rs : List Req) (x : Req) :
    x ∈ (sendAll st rs).outstanding ↔ x ∈ st.outstanding ∨ x ∈ rs := by
  induction rs generalizing st with
  | nil => simp only [sendAll, List.foldl_nil, List.not_mem_nil, or_false]
  | cons r rest ih =>
    rw [sendAll, List.foldl_cons, ← sendAll, ih, sendRequest_outstanding, List.mem_cons, or_assoc]

theorem sendAll_roots (st : RepairSt) (rs : List Req) : (sendAll st rs).sliceRoots = st.sliceRoots := by
  induction rs generalizing st with
  | nil => rfl
  | cons r rest ih => exact ih (sendRequest st r)

theorem sendAll_lasts (st : RepairSt) (rs : List Req) : (sendAll st rs).lastSlices = st.lastSlices := by
  induction rs generalizing st with
  | nil => rfl
  | cons r rest ih => exact ih (sendRequest st r)

theorem done_outstanding (st : RepairSt) (r x : Req) : x ∈ (done st r).outstanding ↔ x ∈ st.outstanding ∧ x ≠ r := by
  simp only [done, List.mem_filter, decide_eq_true_eq]

/-- what the `LastSliceRoot` and the `SliceRoot` arm of `handle_response` have in common once the proof checked -/
def accept (st : RepairSt) (r : Req) (k : Bid × Nat) (root : Nat) (lasts : List (Bid × Nat)) (rs : List Req) : RepairSt :=
  sendAll { done st r with sliceRoots := rootSet st.sliceRoots k root, lastSlices := lasts } rs

section
variable (st : RepairSt) (r : Req) (k : Bid × Nat) (root : Nat) (lasts : List (Bid × Nat)) (rs : List Req)

theorem accept_outstanding (x : Req) :
    x ∈ (accept st r k root lasts rs).outstanding ↔ (x ∈ st.outstanding ∧ x ≠ r) ∨ x ∈ rs :=
  (sendAll_outstanding _ rs x).trans (or_congr (done_outstanding st r x) Iff.rfl)

theorem accept_roots (k' : Bid × Nat) :
    rootGet (accept st r k root lasts rs).sliceRoots k' = if k' = k then some root else rootGet st.sliceRoots k' := by
  unfold accept; rw [sendAll_roots]; exact rootGet_rootSet _ k k' root

theorem accept_lasts :
    (accept st r k root lasts rs).lastSlices = lasts := sendAll_lasts _ rs

end

theorem fireTimeout_outstanding (st : RepairSt) (x : Req) :
    x ∈ (fireTimeout st).1.outstanding ↔ x ∈ st.outstanding := by
  unfold fireTimeout
  split
  · exact Iff.rfl
  · next r rest _ =>
    dsimp only
    split
    · next hin =>
      simp only [sendRequest_outstanding, List.mem_filter, decide_eq_true_eq]
      by_cases hx : x = r
      · simp only [hx, hin, or_true]
      · simp only [hx, ne_eq, not_false_eq_true, and_true, or_false]
    · exact Iff.rfl

theorem fireTimeout_frame (st : RepairSt) : (fireTimeout st).1.sliceRoots = st.sliceRoots ∧
    (fireTimeout st).1.lastSlices = st.lastSlices ∧ (fireTimeout st).2.panic = false := by
  unfold fireTimeout; split
  · exact ⟨rfl, rfl, rfl⟩
  · dsimp only; split <;> exact ⟨rfl, rfl, rfl⟩

theorem repairBlock_cases (cap : Nat) (st : RepairSt) (store : Store) (b : Bid) :
    repairBlock cap st store b = (st, {}) ∨ repairBlock cap st store b = (sendRequest st (.last b), { sent := [.last b] }) := by
  unfold repairBlock; split
  · exact Or.inl rfl
  · exact Or.inr rfl

/-- what `handle_response` validates before it acts on a (non-NACK) response -/
def Valid (st : RepairSt) : Resp → Prop
  | .nack _ => True
  | .lastRoot (.last b) l root π => checkProofLast root l b.hash π = true
  | .sliceRoot (.root b i) root π => checkProof root i b.hash π = true
  | .shred (.shred b i j) slot s sigOk =>
    slot = b.slot ∧ s.slice = i ∧ s.idx = j ∧ rootGet st.sliceRoots (b, i) = some s.root ∧
      s.isLast = decide (lastGet st.lastSlices b = some i) ∧ s.ty = true ∧ sigOk = true
  | _ => False

/-- the three checks of a valid shred response that are read on their own -/
theorem Valid.last {st : RepairSt} {b : Bid} {i j slot : Nat} {s : Shred} {ok : Bool}
    (hv : Valid st (.shred (.shred b i j) slot s ok)) : s.isLast = decide (lastGet st.lastSlices b = some i) := hv.2.2.2.2.1

theorem Valid.ty {st : RepairSt} {b : Bid} {i j slot : Nat} {s : Shred} {ok : Bool}
    (hv : Valid st (.shred (.shred b i j) slot s ok)) : s.ty = true := hv.2.2.2.2.2.1

theorem Valid.sig {st : RepairSt} {b : Bid} {i j slot : Nat} {s : Shred} {ok : Bool}
    (hv : Valid st (.shred (.shred b i j) slot s ok)) : ok = true := hv.2.2.2.2.2.2

section handle
variable {env : Nat → Content} {cap : Nat} {st : RepairSt} {store : Store}

theorem handle_nack {r : Req} (hout : r ∈ st.outstanding) :
    handleResponse env cap st store (.nack r) = (sendRequest st r, store, { sent := [r] }) := by
  unfold handleResponse; rw [if_neg (show ¬ (Resp.nack r).req ∉ _ from not_not_intro hout)]

theorem handle_last {b : Bid} {l root : Nat} {π : List H} (hout : Req.last b ∈ st.outstanding)
    (hv : checkProofLast root l b.hash π = true) :
    handleResponse env cap st store (.lastRoot (.last b) l root π) =
      (accept st (.last b) (b, l) root (lastSet st.lastSlices b l) ((List.range (l + 1)).map (Req.root b)), store,
        { sent := (List.range (l + 1)).map (Req.root b) }) := by
  unfold handleResponse accept
  simp [Resp.req, hout, hv, done]

theorem handle_root {b : Bid} {i root : Nat} {π : List H} (hout : Req.root b i ∈ st.outstanding)
    (hv : checkProof root i b.hash π = true) :
    handleResponse env cap st store (.sliceRoot (.root b i) root π) =
      (accept st (.root b i) (b, i) root st.lastSlices ((List.range TOTAL_SHREDS).map (Req.shred b i)), store,
        { sent := (List.range TOTAL_SHREDS).map (Req.shred b i) }) := by
  unfold handleResponse accept
  simp [Resp.req, hout, hv, done]

/-- the outputs of the shred arm once the shred was filed: the two asserts, then `pool.add_block` -/
def shredOut (b : Bid) (res : AddRes) (evs : List Event) : Out :=
  match res with
  | .panic => { events := evs, panic := true }
  | .ev (.block info) =>
    if info.hash ≠ b.hash then { events := evs, panic := true }
    else if info.parent.1 ≥ b.slot then { events := evs, panic := true }
    else { events := evs, poolAdd := some (b, info.parent) }
  | _ => { events := evs }

theorem shredOut_events (b : Bid) (res : AddRes) (evs : List Event) : (shredOut b res evs).events = evs := by
  unfold shredOut
  split
  · rfl
  · split
    · rfl
    · split <;> rfl
  · rfl

/-- `ingest` (what both the coarse and the fine handler do once a shred response passed every check) in the terms of
    the proofs -/
theorem ingest_eq (env : Nat → Content) (cap : Nat) (st : RepairSt) (store : Store) (b : Bid) (s : Shred) :
    Seam.Repair.ingest env cap st store b s =
      (st, storeSet store b.slot (addRepair env (storeGet cap store b.slot) b.hash s).1,
        shredOut b (addRepair env (storeGet cap store b.slot) b.hash s).2.1
          (addRepair env (storeGet cap store b.slot) b.hash s).2.2) := by
  unfold Seam.Repair.ingest shredOut
  generalize addRepair env (storeGet cap store b.slot) b.hash s = ar
  obtain ⟨sd, res, evs⟩ := ar
  rcases res with _ | (_ | info | _) | _ | _ <;> try rfl
  dsimp only
  split
  · rfl
  · split <;> rfl

theorem handle_shred_valid {b : Bid} {i j slot : Nat} {s : Shred} {ok : Bool} (hout : Req.shred b i j ∈ st.outstanding)
    (hv : Valid st (.shred (.shred b i j) slot s ok)) :
    handleResponse env cap st store (.shred (.shred b i j) slot s ok) =
      Seam.Repair.ingest env cap (done st (.shred b i j)) store b s := by
  obtain ⟨rfl, hsl, hidx, hroot, hlast, hty, rfl⟩ := hv
  unfold handleResponse
  simp only [Resp.req, hout, not_true_eq_false, if_false, hsl, hidx, ne_eq, or_self, hroot, Bool.not_true,
    Bool.false_eq_true, hlast, hty]
  rfl

theorem handle_shred_invalid {b : Bid} {i j root slot : Nat} {s : Shred} {sigOk : Bool}
    (hroot : rootGet st.sliceRoots (b, i) = some root) (hv : ¬ Valid st (.shred (.shred b i j) slot s sigOk)) :
    handleResponse env cap st store (.shred (.shred b i j) slot s sigOk) = (st, store, {}) := by
  unfold handleResponse
  simp only [hroot]
  -- one `ite_eq_left_iff` per test in code order (a request that is not outstanding gives the same triple, hence no
  -- hypothesis on it); a response past the five tests of the shred arm is `Valid`
  refine ite_eq_left_iff.mpr fun _ => ite_eq_left_iff.mpr fun h1 => ite_eq_left_iff.mpr fun h2 =>
    ite_eq_left_iff.mpr fun h3 => ite_eq_left_iff.mpr fun h4 => ite_eq_left_iff.mpr fun h5 => absurd ?_ hv
  simp only [not_or, Decidable.not_not, ne_eq, Bool.not_eq_true', Bool.not_eq_false] at h1 h2 h3 h4 h5
  exact ⟨h1.1, h1.2.1, h1.2.2, hroot.trans (congrArg some h2.symm), h3, h4, h5⟩

/-- a shred request outstanding without its slice root proven: the `unreachable!("issued repair request (Shred) before
    knowing slice root")`, if the header fits -/
theorem handle_shred_noroot {b : Bid} {i j slot : Nat} {s : Shred} {ok : Bool} (hout : Req.shred b i j ∈ st.outstanding)
    (hroot : rootGet st.sliceRoots (b, i) = none) :
    handleResponse env cap st store (.shred (.shred b i j) slot s ok) =
      (st, store, if slot ≠ b.slot ∨ s.slice ≠ i ∨ s.idx ≠ j then {} else { panic := true }) := by
  unfold handleResponse
  rw [if_neg (show ¬ (Resp.shred (.shred b i j) slot s ok).req ∉ _ from not_not_intro hout)]
  simp only [hroot]
  split <;> rfl

/-- `handle_response` does nothing, hits the `unreachable!`, or acts on a response that answers an outstanding
    request and passed every check; each case comes with the value of `handle_response` (the right-hand sides of
    `handle_nack`, `handle_last`, `handle_root`, `handle_shred_valid`) -/
theorem handleResponse_cases (env : Nat → Content) (cap : Nat) (st : RepairSt) (store : Store) (resp : Resp) :
    handleResponse env cap st store resp = (st, store, {}) ∨
    (handleResponse env cap st store resp = (st, store, { panic := true }) ∧
      ∃ b i j, Req.shred b i j ∈ st.outstanding ∧ rootGet st.sliceRoots (b, i) = none) ∨
    (∃ r, resp = .nack r ∧ r ∈ st.outstanding ∧
      handleResponse env cap st store resp = (sendRequest st r, store, { sent := [r] })) ∨
    (∃ b l root π, resp = .lastRoot (.last b) l root π ∧ Req.last b ∈ st.outstanding ∧
      checkProofLast root l b.hash π = true ∧
      handleResponse env cap st store resp =
        (accept st (.last b) (b, l) root (lastSet st.lastSlices b l) ((List.range (l + 1)).map (Req.root b)), store,
          { sent := (List.range (l + 1)).map (Req.root b) })) ∨
    (∃ b i root π, resp = .sliceRoot (.root b i) root π ∧ Req.root b i ∈ st.outstanding ∧
      checkProof root i b.hash π = true ∧
      handleResponse env cap st store resp =
        (accept st (.root b i) (b, i) root st.lastSlices ((List.range TOTAL_SHREDS).map (Req.shred b i)), store,
          { sent := (List.range TOTAL_SHREDS).map (Req.shred b i) })) ∨
    (∃ b i j slot s ok, resp = .shred (.shred b i j) slot s ok ∧ Req.shred b i j ∈ st.outstanding ∧
      Valid st (.shred (.shred b i j) slot s ok) ∧
      handleResponse env cap st store resp = Seam.Repair.ingest env cap (done st (.shred b i j)) store b s) := by
  by_cases hout : resp.req ∈ st.outstanding
  case neg => left; unfold handleResponse; rw [if_pos hout]
  rcases resp with r | ⟨r, l, root, π⟩ | ⟨r, root, π⟩ | ⟨r, slot, s, ok⟩
  · exact .inr (.inr (.inl ⟨r, rfl, hout, handle_nack hout⟩))
  all_goals rcases r with b | ⟨b, i⟩ | ⟨b, i, j⟩ <;>
    try (left; unfold handleResponse; rw [if_neg (not_not_intro hout)]; done)
  · cases hv : checkProofLast root l b.hash π
    · left; unfold handleResponse; simp [Resp.req, hv]
    · exact .inr (.inr (.inr (.inl ⟨b, l, root, π, rfl, hout, hv, handle_last hout hv⟩)))
  · cases hv : checkProof root i b.hash π
    · left; unfold handleResponse; simp [Resp.req, hv]
    · exact .inr (.inr (.inr (.inr (.inl ⟨b, i, root, π, rfl, hout, hv, handle_root hout hv⟩))))
  · cases hroot : rootGet st.sliceRoots (b, i) with
    | none =>
      rw [handle_shred_noroot hout hroot]
      split
      · exact .inl rfl
      · exact .inr (.inl ⟨rfl, b, i, j, hout, hroot⟩)
    | some root =>
      by_cases hv : Valid st (.shred (.shred b i j) slot s ok)
      · exact .inr (.inr (.inr (.inr (.inr ⟨b, i, j, slot, s, ok, rfl, hout, hv, handle_shred_valid hout hv⟩))))
      · exact .inl (handle_shred_invalid hroot hv)

end handle
end AgModel.Repair
