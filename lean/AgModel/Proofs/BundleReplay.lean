import AgModel.Proofs.PoolWiring
import AgModel.Proofs.PoolRecover
import AgModel.Props.C07
/-!
# Standstill bundle replay (C18, catch-up clause)

Sender and receiver are pools run from the empty pool; what links them is the ghost log (`poolLog`, C07), of which both
trackers are functions (`pool_wired`). In every such pool a certificate is held in a slot state iff it was logged (`HL`;
`LogHeld` for the slots at or above the watermark). Sender: so the bundle carries every logged certificate above the
finalized slot and the certificates proving that slot. Receiver: own votes create no certificate (own stake below the
quorum threshold), so its log is a sub-log of the sender's and inherits `Consistent`; every delivered certificate that
is in bounds is logged. The trackers read no more: the highest finalized slot is finalized directly (`top_direct`), and
`parents_ready` of a window after it reads certificates from that slot on (`ready_above_iff`).
-/
namespace AgModel.Pool

structure CertsEq (a b : SlotState) : Prop where
  slot : a.slot = b.slot
  store : ∀ k, a.store k = b.store k

theorem CertsEq.refl (a : SlotState) : CertsEq a a := ⟨rfl, fun _ => rfl⟩
theorem CertsEq.trans {a b c : SlotState} (h1 : CertsEq a b) (h2 : CertsEq b c) : CertsEq a c :=
  ⟨h1.slot.trans h2.slot, fun k => (h1.store k).trans (h2.store k)⟩

theorem CertsEq.of_coreEq {a b : SlotState} (h : CoreEq a b) : CertsEq a b :=
  ⟨coreEq_slot h, fun k => (congrArg (SlotState.store · k) h.eq : a.core.store k = b.core.store k)⟩

theorem slot_addVote_certsEq (e : Epoch) (st : SlotState) (v : Vote) : CertsEq st (st.addVote e v).1 :=
  (⟨(stored_same e st v).slot.symm, fun k => by unfold SlotState.stored; cases v.kind <;> rfl⟩ :
    CertsEq st (st.stored e v)).trans (CertsEq.of_coreEq (addVote_core e st v))

theorem notifyParentKnown_certsEq (st : SlotState) (h : Nat) : CertsEq st (st.notifyParentKnown h) := by
  unfold SlotState.notifyParentKnown
  split
  · exact CertsEq.refl st
  · exact ⟨rfl, fun _ => rfl⟩

/-- how a pool relates to its successor under every operation other than storing a certificate: the watermark may move
    up (pruning), the slot states still retained keep their certificates. `LogHeld` is carried along it (`LogHeld.ext`). -/
def Ext (p p' : Pool) : Prop :=
  p.fin.first ≤ p'.fin.first ∧
  ∀ x, p'.fin.first ≤ x → ∀ st, p.getSlot x = some st → ∃ st', p'.getSlot x = some st' ∧ CertsEq st st'

theorem Ext.refl (p : Pool) : Ext p p := ⟨Nat.le_refl _, fun _ _ st h => ⟨st, h, CertsEq.refl st⟩⟩

theorem Ext.trans {a b c : Pool} (h1 : Ext a b) (h2 : Ext b c) : Ext a c := by
  refine ⟨Nat.le_trans h1.1 h2.1, fun x hx st hs => ?_⟩
  obtain ⟨st1, g1, e1⟩ := h1.2 x (Nat.le_trans h2.1 hx) st hs
  obtain ⟨st2, g2, e2⟩ := h2.2 x hx st1 g1
  exact ⟨st2, g2, e1.trans e2⟩

theorem Ext.of_same {p p' : Pool} (hf : p'.fin = p.fin) (hg : ∀ x, p'.getSlot x = p.getSlot x) : Ext p p' :=
  ⟨by rw [hf]; exact Nat.le_refl _, fun x _ st hs => ⟨st, by rw [hg]; exact hs, CertsEq.refl st⟩⟩

theorem ext_slotState (p : Pool) (s : Nat) : Ext p (p.slotState s).1 := by
  refine ⟨by rw [(slotState_frame p s).fin]; exact Nat.le_refl _, fun x _ st hs => ⟨st, ?_, CertsEq.refl st⟩⟩
  rw [getSlot_slotState]
  split
  · rename_i hx; subst hx; rw [slotState_snd_of_some hs]
  · exact hs

theorem ext_modify (p : Pool) (s : Nat) {st' : SlotState} (h : CertsEq (p.slotState s).2 st') :
    Ext p ((p.slotState s).1.putSlot st') := by
  refine ⟨by rw [(mod_frame p s st').fin]; exact Nat.le_refl _, fun x _ st hs => ?_⟩
  rw [getSlot_mod p s st' (h.slot.symm.trans (slotState_snd_slot p s))]
  split
  · rename_i hx; subst hx; rw [← slotState_snd_of_some hs]; exact ⟨st', rfl, h⟩
  · exact ⟨st, hs, CertsEq.refl st⟩

theorem ext_advance (p : Pool) (t : Finality.Tracker) (r : ParentReady.Res) (h : p.fin.first ≤ t.first) :
    Ext p (p.advance t r) := by
  refine ⟨by rw [advance_fin]; exact h, fun x hx st hs => ⟨st, ?_, CertsEq.refl st⟩⟩
  rw [advance_fin] at hx
  rw [getSlot_advance, if_pos hx]; exact hs

theorem ext_applyPr (p : Pool) (r : ParentReady.Res) : Ext p (p.applyPr r).1 :=
  Ext.of_same (applyPr_frame p r).2.1 (getSlot_applyPr p r)

theorem ext_notifyWaiting (p : Pool) (b : Nat × Nat) : Ext p (p.notifyWaiting b).1 := by
  unfold Pool.notifyWaiting
  exact notifyChildren_ind (fun _ q _ => Ext p q) (fun _ _ _ _ _ h => h)
    (fun k _ q _ _ _ h => h.trans (ext_slotState q k.1))
    (fun k _ q _ st' evs _ hn h =>
      h.trans (ext_modify q k.1 (CertsEq.of_coreEq (notifyParentCertified_core _ _ k.2 st' evs hn))))
    _ _ [] (Ext.of_same rfl (fun _ => rfl))

theorem ext_addValidCert (p : Pool) (c : Cert) : Ext (p.stored c) (p.addValidCert c).1 :=
  addValidCert_ind c p (Ext (p.stored c)) (Ext (p.stored c)) (Ext.refl _)
    (fun q t r hm h => h.trans (ext_advance q t r hm))
    (fun q r h => h.trans (ext_applyPr q r)) (fun _ q h => h.trans (ext_notifyWaiting q _)) (fun _ _ h => h)

theorem ext_addBlock (p : Pool) (b par : Nat × Nat) : Ext p (p.addBlock b par).1 := by
  refine addBlock_ind (Ext p) p b par (fun _ => Ext.refl p)
    (fun _ t r hm => ⟨fun _ e0 => ?_, fun _ => ext_advance p t r hm⟩)
  have hk := (ext_advance p t r hm).trans (ext_modify _ b.1 (notifyParentKnown_certsEq _ b.2))
  exact addBlockTail_ind (fun q _ => Ext p q) _ b par e0 _
    (fun q h => h.trans (Ext.of_same (addWaiting_frame q par b).2 (getSlot_addWaiting q par b)))
    (fun _ _ => hk.trans (ext_slotState _ b.1))
    (fun _ st' evs hn => hk.trans (ext_modify _ b.1 (CertsEq.of_coreEq (notifyParentCertified_core _ _ b.2 st' evs hn))))
    hk

/-! ### every logged certificate of a retained slot is still held

"Held" is the duplicate test of `add_cert` (`certDup`): a later certificate of the same kind may replace a held one, the
demand stays met. That the held certificate names the logged block (notarization, fast-finalization) is a fact about
logs (`logged_agree`), used where the bundle is read. -/

theorem certDup_certsEq {a b : SlotState} (h : CertsEq a b) (c : Cert) : certDup a c = true ↔ certDup b c = true := by
  rw [certDup_iff_store, certDup_iff_store, h.store]

/-- **logged ⇒ held**, for slots at or above the watermark (`certDup` compares the kind, and the block for notar-fallback) -/
def LogHeld (p : Pool) (L : List LogItem) : Prop :=
  ∀ c, LogItem.cert c ∈ L → p.fin.first ≤ c.slot → ∃ st, p.getSlot c.slot = some st ∧ certDup st c = true

theorem LogHeld.ext {p p' : Pool} {L : List LogItem} (h : LogHeld p L) (he : Ext p p') : LogHeld p' L := by
  intro c hc hf
  obtain ⟨st, hg, hk⟩ := h c hc (Nat.le_trans he.1 hf)
  obtain ⟨st', hg', e⟩ := he.2 c.slot hf st hg
  exact ⟨st', hg', (certDup_certsEq e c).mp hk⟩

/-- two logged certificates of one kind and slot name the same block (where the kind names one): for notar-fallback this
    is asked of the caller, a safe log has one notarized and one directly finalized block per slot -/
theorem logged_agree {L : List LogItem} (sf : Finality.Safe (finOps L)) {c c0 : Cert}
    (hm : LogItem.cert c ∈ L) (hm0 : LogItem.cert c0 ∈ L) (hs : c0.slot = c.slot) (hk : c0.kind = c.kind)
    (hnf : c.kind = .nf → c0.hash = c.hash) : c.kind = .notar ∨ c.kind = .nf ∨ c.kind = .ff → c0.hash = c.hash := by
  rintro (hn | hn | hn)
  · have := sf.notar_fun (c0.slot, c0.hash) (c.slot, c.hash) (Or.inr (mem_finOps_notar.mpr ⟨c0, hm0, hk.trans hn, rfl⟩))
      (Or.inr (mem_finOps_notar.mpr ⟨c, hm, hn, rfl⟩)) hs
    exact congrArg Prod.snd this
  · exact hnf hn
  · have := sf.final_fun (c0.slot, c0.hash) (c.slot, c.hash)
      (.direct (Or.inl (mem_finOps_ff.mpr ⟨c0, hm0, hk.trans hn, rfl⟩))) (.direct (Or.inl (mem_finOps_ff.mpr ⟨c, hm, hn, rfl⟩))) hs
    exact congrArg Prod.snd this

theorem logHeld_store (p : Pool) (c : Cert) (L : List LogItem) (h : LogHeld p L) : LogHeld (p.stored c) (L ++ [.cert c]) := by
  unfold Pool.stored
  intro c0 hc0 hf
  rw [(mod_frame p c.slot _).fin] at hf
  rw [getSlot_mod p c.slot _ ((addCert_slot _ c).trans (slotState_snd_slot p c.slot))]
  split
  · rename_i hs
    refine ⟨_, rfl, (certDup_addCert_iff _ c c0).mpr ?_⟩
    rcases List.mem_append.mp hc0 with hm | hm
    · obtain ⟨st0, hg0, hk0⟩ := h c0 hm hf
      rw [hs] at hg0
      rw [slotState_snd_of_some hg0]
      exact Or.inl hk0
    · cases List.mem_singleton.mp hm
      exact Or.inr rfl
  · rename_i hs
    rcases List.mem_append.mp hc0 with hm | hm
    · exact h c0 hm hf
    · cases List.mem_singleton.mp hm
      exact absurd rfl hs

/-- the certificates created by the vote -/
def addVoteCs (p : Pool) (v : Vote) : List Cert :=
  ((p.slotState v.slot).2.addVote (p.slotState v.slot).1.epoch v).2.1

theorem addVote_shape (p : Pool) (v : Vote) :
    (((p.addVote v).1 = p ∨ (p.addVote v).1 = (p.slotState v.slot).1) ∧ certsOf (p.addVote v).2.2 = []) ∨
    (Adm (p.slotState v.slot).2 v ∧ (p.addVote v).1 = ((p.voted v).addValidCerts (addVoteCs p v) []).1 ∧
      certsOf (p.addVote v).2.2 = (addVoteCs p v).map LogItem.cert) := by
  unfold addVoteCs
  rw [(slotState_frame p v.slot).epoch]
  rcases addVote_outcomes p v with h | ⟨_, h⟩ | ⟨vd, _, _, h⟩ | ⟨_, ha, h⟩ <;> rw [h] <;> dsimp only
  · exact Or.inl ⟨Or.inl rfl, rfl⟩
  · exact Or.inl ⟨Or.inl rfl, rfl⟩
  · exact Or.inl ⟨Or.inr rfl, rfl⟩
  · refine Or.inr ⟨ha, rfl, ?_⟩
    exact certsOf_voted p v _

/-- `Pool::add_cert`, with its duplicate test named -/
theorem addCert_eq (p : Pool) (c : Cert) :
    p.addCert c = if p.outOfBounds c.slot then (p, .oob, []) else
      if certDup (p.slotState c.slot).2 c then ((p.slotState c.slot).1, .dup, [])
      else (((p.slotState c.slot).1.addValidCert c).1, .ok, ((p.slotState c.slot).1.addValidCert c).2) := by
  unfold Pool.addCert certDup
  -- the two `let (_, _) := …` patterns are destructed by hand: a bare `rfl` sends the unifier into `slotState`
  generalize p.slotState c.slot = q
  obtain ⟨q, st⟩ := q
  dsimp only
  generalize q.addValidCert c = r
  obtain ⟨r, evs⟩ := r
  rfl

theorem addCert_shape (p : Pool) (c : Cert) :
    (p.outOfBounds c.slot = true ∧ (p.addCert c).1 = p ∧ certsOf (p.addCert c).2.2 = []) ∨
    (certDup (p.slotState c.slot).2 c = true ∧
      (p.addCert c).1 = (p.slotState c.slot).1 ∧ certsOf (p.addCert c).2.2 = []) ∨
    ((p.addCert c).1 = ((p.slotState c.slot).1.addValidCert c).1 ∧
      certsOf (p.addCert c).2.2 = [.cert c]) := by
  cases hb : p.outOfBounds c.slot
  · cases hd : certDup (p.slotState c.slot).2 c
    · simp only [addCert_eq, hb, hd, Bool.false_eq_true, if_false]
      exact Or.inr (Or.inr ⟨trivial, certsOf_addValidCert _ _⟩)
    · simp only [addCert_eq, hb, hd, Bool.false_eq_true, if_false, if_true]
      exact Or.inr (Or.inl ⟨trivial, trivial, rfl⟩)
  · simp only [addCert_eq, hb, if_true]
    exact Or.inl ⟨trivial, trivial, rfl⟩

theorem logHeld_addValidCerts (cs : List Cert) (p : Pool) (acc : List Event) (L : List LogItem) (h : LogHeld p L) :
    LogHeld (p.addValidCerts cs acc).1 (L ++ cs.map LogItem.cert) := by
  induction cs generalizing p acc L with
  | nil => rw [List.map_nil, List.append_nil]; exact h
  | cons c cs ih =>
    rw [addValidCerts_step, List.map_cons, List.append_cons]
    exact ih _ _ _ ((logHeld_store p c L h).ext (ext_addValidCert p c))

theorem logHeld_poolStep (p : Pool) (op : PoolOp) (L : List LogItem) (h : LogHeld p L) :
    LogHeld (poolStep p op).1 (L ++ stepItems op (poolStep p op).2) := by
  cases op with
  | vote v =>
    rw [stepItems_vote]
    show LogHeld (p.addVote v).1 _
    rcases addVote_shape p v with ⟨h1 | h1, h2⟩ | ⟨_, h2, h3⟩
    · rw [h1, h2, List.append_nil]; exact h
    · rw [h1, h2, List.append_nil]; exact h.ext (ext_slotState _ _)
    · rw [h3, h2]
      exact logHeld_addValidCerts _ _ [] L (h.ext (ext_modify p v.slot (slot_addVote_certsEq _ _ v)))
  | cert c =>
    rw [stepItems_cert]
    show LogHeld (p.addCert c).1 _
    rcases addCert_shape p c with ⟨_, h1, h2⟩ | ⟨_, h1, h2⟩ | ⟨h2, h3⟩
    · rw [h1, h2, List.append_nil]; exact h
    · rw [h1, h2, List.append_nil]; exact h.ext (ext_slotState _ _)
    · rw [h3, h2]
      exact (logHeld_store _ c L (h.ext (ext_slotState _ _))).ext (ext_addValidCert _ c)
  | block b par =>
    rw [stepItems_block]
    intro c hm hf
    rcases List.mem_append.mp hm with hm | hm
    · exact h.ext (ext_addBlock p b par) c hm hf
    · cases List.mem_singleton.mp hm

theorem held_poolRun (e : Epoch) (ops : List PoolOp) :
    LogHeld (poolRun { epoch := e } ops).1 (poolLog { epoch := e } ops) :=
  poolLog_ind LogHeld ops (fun op _ p L => logHeld_poolStep p op L) { epoch := e } [] (fun _ h => nomatch h)

section generic
variable (P : SlotState → Prop) (hnew : ∀ x, P { slot := x })
include hnew

variable (hce : ∀ a b, CoreEq a b → P a → P b)
include hce

theorem allSlots_addValidCert (p : Pool) (c : Cert) (hall : AllSlots p P)
    (hadd : ∀ st, P st → st.slot = c.slot → P (st.addCert c)) : AllSlots (p.addValidCert c).1 P := by
  have h0 := slotState_spec p c.slot P hall (hnew c.slot)
  exact (addValidCert_tail p c P hnew hce (fun x hx _ => h0.1 x hx) (hadd _ h0.2.1 h0.2.2)).1

theorem allSlots_addVote_logged (p : Pool) (v : Vote) (hall : AllSlots p P)
    (hvote : ∀ st, P st → st.slot = v.slot → P (st.addVote p.epoch v).1)
    (hadd : ∀ c ∈ addVoteCs p v, LogItem.cert c ∈ certsOf (p.addVote v).2.2 →
      ∀ st, P st → st.slot = c.slot → P (st.addCert c)) : AllSlots (p.addVote v).1 P :=
  addVote_ind (AllSlots · P) p v (fun s h => (slotState_spec p s P h (hnew s)).1)
    (fun _ _ => allSlots_modify P hnew p v.slot hall (hvote _))
    (fun c hc hev q h => allSlots_addValidCert P hnew hce q c h
      (hadd c (by rw [addVoteCs, (slotState_frame p v.slot).epoch]; exact hc) (mem_certsOf.mpr hev)))
    hall

theorem allSlots_addVote (p : Pool) (v : Vote) (hall : AllSlots p P)
    (hvote : ∀ st, P st → st.slot = v.slot → P (st.addVote p.epoch v).1)
    (hadd : ∀ c ∈ addVoteCs p v, ∀ st, P st → st.slot = c.slot → P (st.addCert c)) : AllSlots (p.addVote v).1 P :=
  allSlots_addVote_logged P hnew hce p v hall hvote (fun c hc _ => hadd c hc)

theorem allSlots_addCert (p : Pool) (c : Cert) (hall : AllSlots p P)
    (hadd : LogItem.cert c ∈ certsOf (p.addCert c).2.2 → ∀ st, P st → st.slot = c.slot → P (st.addCert c)) :
    AllSlots (p.addCert c).1 P :=
  addCert_ind (AllSlots · P) p c (fun s h => (slotState_spec p s P h (hnew s)).1)
    (fun hev q h => allSlots_addValidCert P hnew hce q c h (hadd (mem_certsOf.mpr hev))) hall

end generic

def WF (st : SlotState) : Prop :=
  (∀ c, st.cNotar = some c → c.kind = .notar ∧ c.slot = st.slot) ∧
  (∀ c ∈ st.cNf, c.kind = .nf ∧ c.slot = st.slot) ∧
  (∀ c, st.cSkip = some c → c.kind = .skip ∧ c.slot = st.slot) ∧
  (∀ c, st.cFf = some c → c.kind = .ff ∧ c.slot = st.slot) ∧
  (∀ c, st.cFin = some c → c.kind = .final ∧ c.slot = st.slot)

/-- **held ⇒ logged** (and well-formed) -/
def HL (L : List LogItem) (st : SlotState) : Prop := WF st ∧ ∀ c ∈ st.certs, LogItem.cert c ∈ L

theorem hl_iff {L : List LogItem} {st : SlotState} :
    HL L st ↔ ∀ k, ∀ c ∈ st.store k, (c.kind = k ∧ c.slot = st.slot) ∧ LogItem.cert c ∈ L := by
  constructor
  · rintro ⟨⟨w1, w2, w3, w4, w5⟩, hl⟩ k c hc
    refine ⟨?_, hl c (mem_certs_store.mpr ⟨k, hc⟩)⟩
    cases k
    · exact w1 c (Option.mem_toList.mp hc)
    · exact w2 c hc
    · exact w3 c (Option.mem_toList.mp hc)
    · exact w4 c (Option.mem_toList.mp hc)
    · exact w5 c (Option.mem_toList.mp hc)
  · intro h
    exact ⟨⟨fun c hc => (h .notar c (Option.mem_toList.mpr hc)).1, fun c hc => (h .nf c hc).1,
        fun c hc => (h .skip c (Option.mem_toList.mpr hc)).1, fun c hc => (h .ff c (Option.mem_toList.mpr hc)).1,
        fun c hc => (h .final c (Option.mem_toList.mpr hc)).1⟩,
      fun c hc => by obtain ⟨k, hk⟩ := mem_certs_store.mp hc; exact (h k c hk).2⟩

theorem HL.fresh (L : List LogItem) (x : Nat) : HL L { slot := x } :=
  hl_iff.mpr (fun k c hc => by cases k <;> cases hc)

theorem HL.of_certsEq {L : List LogItem} {a b : SlotState} (h : CertsEq a b) (i : HL L a) : HL L b := by
  rw [hl_iff] at i ⊢
  intro k c hc
  rw [← h.store, ← h.slot] at *
  exact i k c hc

theorem HL.addCert {L : List LogItem} {st : SlotState} {c : Cert} (i : HL L st) (hm : LogItem.cert c ∈ L)
    (hs : st.slot = c.slot) : HL L (st.addCert c) := by
  rw [hl_iff] at i ⊢
  rw [← (SameVotes.addCert st c).slot]
  intro k x hx
  rcases store_addCert_sub hx with h | ⟨rfl, rfl⟩
  · exact i k x h
  · exact ⟨⟨rfl, hs.symm⟩, hm⟩

theorem hl_poolStep (p : Pool) (op : PoolOp) (L : List LogItem) (hall : AllSlots p (HL L)) :
    AllSlots (poolStep p op).1 (HL (L ++ stepItems op (poolStep p op).2)) := by
  have hmono : ∀ L', AllSlots p (HL (L ++ L')) :=
    fun L' st hst => ⟨(hall st hst).1, fun c hc => List.mem_append_left _ ((hall st hst).2 c hc)⟩
  have hce : ∀ L' a b, CoreEq a b → HL L' a → HL L' b := fun _ a b h i => i.of_certsEq (CertsEq.of_coreEq h)
  cases op with
  | vote v =>
    rw [stepItems_vote]
    exact allSlots_addVote_logged _ (HL.fresh _) (hce _) p v (hmono _)
      (fun st i _ => i.of_certsEq (slot_addVote_certsEq _ _ _))
      (fun c _ hc st i hs => i.addCert (List.mem_append_right _ hc) hs)
  | cert c =>
    rw [stepItems_cert]
    exact allSlots_addCert _ (HL.fresh _) (hce _) p c (hmono _)
      (fun hc st i hs => i.addCert (List.mem_append_right _ hc) hs)
  | block b par =>
    exact allSlots_addBlock _ (HL.fresh _) (hce _) p b par (hmono _)
      (fun st i => i.of_certsEq (notifyParentKnown_certsEq _ _))

theorem hl_poolRun (e : Epoch) (ops : List PoolOp) :
    AllSlots (poolRun { epoch := e } ops).1 (HL (poolLog { epoch := e } ops)) :=
  poolLog_ind (fun p L => AllSlots p (HL L)) ops (fun op _ p L => hl_poolStep p op L) { epoch := e } [] (fun _ h => nomatch h)

def OwnVotes (e : Epoch) (st : SlotState) : Prop :=
  (∀ x ∈ st.vNotar, x.1 = e.own) ∧ (∀ x ∈ st.vNf, x.1 = e.own) ∧ (∀ x ∈ st.vSkip, x = e.own) ∧
  (∀ x ∈ st.vSf, x = e.own) ∧ (∀ x ∈ st.vFin, x = e.own)

def RV (e : Epoch) (st : SlotState) : Prop := InvV e st ∧ OwnVotes e st

theorem OwnVotes.of_same {e : Epoch} {a b : SlotState} (h : SameVotes a b) (o : OwnVotes e a) : OwnVotes e b := by
  unfold OwnVotes at *
  rw [← h.notar, ← h.nf, ← h.skip, ← h.sf, ← h.fin]; exact o

theorem RV.fresh (e : Epoch) (s : Nat) : RV e { slot := s } :=
  ⟨InvV.init e s, by unfold OwnVotes; simp⟩

theorem RV.of_coreEq {e : Epoch} {a b : SlotState} (h : CoreEq a b) (i : RV e a) : RV e b :=
  ⟨i.1.of_coreEq h, i.2.of_same (SameVotes.of_coreEq h)⟩

theorem RV.addCert {e : Epoch} {st : SlotState} (i : RV e st) (c : Cert) : RV e (st.addCert c) :=
  ⟨InvV_addCert e st c i.1, i.2.of_same (SameVotes.addCert st c)⟩

theorem OwnVotes.stored {e : Epoch} {st : SlotState} (o : OwnVotes e st) (v : Vote) (hv : v.signer = e.own) :
    OwnVotes e (st.stored e v) := by
  obtain ⟨o1, o2, o3, o4, o5⟩ := o
  have snoc : ∀ {α : Type} {l : List α} {a : α} {Q : α → Prop}, (∀ x ∈ l, Q x) → Q a → ∀ x ∈ l ++ [a], Q x :=
    fun h ha => List.forall_mem_append.mpr ⟨h, List.forall_mem_singleton.mpr ha⟩
  unfold SlotState.stored OwnVotes
  cases v.kind <;> dsimp only
  · exact ⟨snoc o1 hv, o2, o3, o4, o5⟩
  · exact ⟨o1, snoc o2 hv, o3, o4, o5⟩
  · exact ⟨o1, o2, snoc o3 hv, o4, o5⟩
  · exact ⟨o1, o2, o3, snoc o4 hv, o5⟩
  · exact ⟨o1, o2, o3, o4, snoc o5 hv⟩

theorem RV.vote {e : Epoch} {st : SlotState} (i : RV e st) (v : Vote) (hv : v.signer = e.own) (ha : Adm st v) :
    RV e (st.addVote e v).1 :=
  RV.of_coreEq (addVote_core e st v) (⟨stored_InvV e st v i.1 ha, i.2.stored v hv⟩ : RV e (st.stored e v))

theorem stakeOf_own (e : Epoch) (l : List Nat) (h1 : ∀ x ∈ l, x = e.own) (h2 : l.Nodup) :
    stakeOf e l ≤ e.stake e.own ∧ (e.own ∉ l → stakeOf e l = 0) := by
  cases l with
  | nil => exact ⟨Nat.zero_le _, fun _ => rfl⟩
  | cons x xs =>
    have hx : x = e.own := h1 x List.mem_cons_self
    have hxs : xs = [] := by
      cases xs with
      | nil => rfl
      | cons y ys =>
        have hy : y = e.own := h1 y (List.mem_cons_of_mem _ List.mem_cons_self)
        have := (List.nodup_cons.mp h2).1
        rw [hx, hy] at this
        exact absurd List.mem_cons_self this
    subst hxs; subst hx
    exact ⟨by simp [stakeOf], fun h => absurd List.mem_cons_self h⟩

theorem not_quorum_of_le {e : Epoch} {x : Nat} (hown : e.isQuorum (e.stake e.own) = false) (hx : x ≤ e.stake e.own) :
    e.isQuorum x = false ∧ e.isStrong x = false := by
  have h1 : e.isQuorum x = false :=
    Bool.eq_false_iff.mpr (fun h => Bool.false_ne_true (hown.symm.trans (isMet_mono hx h)))
  exact ⟨h1, Bool.eq_false_iff.mpr (fun h => Bool.false_ne_true (h1.symm.trans (isStrong_isQuorum e x h)))⟩

theorem stakeOf_own_pair (e : Epoch) (f g : Nat → Bool) (hf : ∀ x, f x = true → x = e.own)
    (hg : ∀ x, g x = true → x = e.own) (hfg : f e.own = true → g e.own = true → False) :
    stakeOf e ((List.range e.n).filter f) + stakeOf e ((List.range e.n).filter g) ≤ e.stake e.own := by
  obtain ⟨b1, c1⟩ := stakeOf_own e _ (fun x hx => hf x (List.mem_filter.mp hx).2) (filter_range_ok e.n f).2
  obtain ⟨b2, c2⟩ := stakeOf_own e _ (fun x hx => hg x (List.mem_filter.mp hx).2) (filter_range_ok e.n g).2
  by_cases m1 : e.own ∈ (List.range e.n).filter f
  · rw [c2 (fun m2 => hfg (List.mem_filter.mp m1).2 (List.mem_filter.mp m2).2)]
    exact b1
  · rw [c1 m1, Nat.zero_add]
    exact b2

/-- whatever certificate the count is for, it counts the node's own stake at most once: the votes are its own, and it has
    not voted both notarization and notar-fallback for one block, nor skip and skip-fallback -/
theorem own_counted {e : Epoch} {st : SlotState} (i : RV e st) (c : Cert) : st.counted c ≤ e.stake e.own := by
  obtain ⟨iv, o1, o2, o3, o4, o5⟩ := i
  have hnf : ∀ h, lookupD st.sNf h + lookupD st.sNotar h ≤ e.stake e.own := by
    intro h
    rw [iv.cNf, iv.cNotar]
    refine stakeOf_own_pair e _ _ (fun x hx => o2 (x, h) (List.contains_iff_mem.mp hx)) (fun x hx => ?_)
      (fun a b => iv.noNotarNfSame e.own h (List.contains_iff_mem.mp a) (beq_iff_eq.mp b))
    exact o1 _ (mem_of_lookup_some (beq_iff_eq.mp hx))
  unfold SlotState.counted
  cases c.kind <;> dsimp only
  · exact Nat.le_trans (Nat.le_add_left _ _) (hnf _)
  · exact hnf _
  · rw [iv.cSkip, iv.cSf]
    exact stakeOf_own_pair e _ _ (fun x hx => o3 x (List.contains_iff_mem.mp hx))
      (fun x hx => o4 x (List.contains_iff_mem.mp hx))
      (fun a b => iv.noSkipSf e.own (List.contains_iff_mem.mp a) (List.contains_iff_mem.mp b))
  · exact Nat.le_trans (Nat.le_add_left _ _) (hnf _)
  · rw [iv.cFin]
    exact (stakeOf_own e _ (fun x hx => o5 x (List.contains_iff_mem.mp (List.mem_filter.mp hx).2))
      (filter_range_ok e.n _).2).1

/-- **own votes create no certificate** when the own stake is below the quorum threshold: no count becomes due -/
theorem newCerts_own_nil {e : Epoch} {st : SlotState} (i : RV e st) (v : Vote)
    (hown : e.isQuorum (e.stake e.own) = false) : st.newCerts e v = [] := by
  refine List.eq_nil_iff_forall_not_mem.mpr fun c hc => ?_
  obtain ⟨_, _, _, hd, _⟩ := mem_newCerts_iff.mp hc
  obtain ⟨q1, q2⟩ := not_quorum_of_le hown (own_counted i c)
  unfold due threshold at hd
  split at hd
  · exact Bool.false_ne_true (q2.symm.trans hd)
  · exact Bool.false_ne_true (q1.symm.trans hd)

structure RecvInv (e : Epoch) (p : Pool) : Prop where
  ep : p.epoch = e
  rv : AllSlots p (RV e)

theorem recv_vote {e : Epoch} {p : Pool} (ri : RecvInv e p) (v : Vote) (hv : v.signer = e.own)
    (hown : e.isQuorum (e.stake e.own) = false) : RecvInv e (p.addVote v).1 ∧ certsOf (p.addVote v).2.2 = [] := by
  have h0 := slotState_spec p v.slot (RV e) ri.rv (RV.fresh e v.slot)
  have hep : (p.slotState v.slot).1.epoch = e := (slotState_frame p v.slot).epoch.trans ri.ep
  rcases addVote_shape p v with ⟨h1 | h1, h2⟩ | ⟨ha, h2, h3⟩
  · rw [h1]; exact ⟨ri, h2⟩
  · rw [h1]; exact ⟨⟨hep, h0.1⟩, h2⟩
  · have hcs : addVoteCs p v = [] := by
      unfold addVoteCs
      rw [addVote_certs, hep]
      exact newCerts_own_nil ⟨stored_InvV e _ v h0.2.1.1 ha, h0.2.1.2.stored v hv⟩ v hown
    rw [hcs] at h2 h3
    rw [show (p.addVote v).1 = p.voted v from h2]
    unfold Pool.voted
    rw [ri.ep]
    exact ⟨⟨(mod_frame p v.slot _).epoch.trans ri.ep,
      allSlots_modify (RV e) (RV.fresh e) p v.slot ri.rv (fun i _ => i.vote v hv ha)⟩, h3⟩

def FedBy (certs : List Cert) (votes : List Vote) (rops : List PoolOp) : Prop :=
  ∀ op ∈ rops, (∃ c ∈ certs, op = .cert c) ∨ (∃ v ∈ votes, op = .vote v)

theorem recv_log (e : Epoch) (certs : List Cert) (votes : List Vote) (hv : ∀ v ∈ votes, v.signer = e.own)
    (hown : e.isQuorum (e.stake e.own) = false) (rops : List PoolOp) (hf : FedBy certs votes rops)
    (p : Pool) (ri : RecvInv e p) :
    RecvInv e (poolRun p rops).1 ∧ ∀ x ∈ poolLog p rops, ∃ c ∈ certs, x = .cert c := by
  refine poolLog_ind (fun p L => RecvInv e p ∧ ∀ x ∈ L, ∃ c ∈ certs, x = .cert c) rops ?_ p [] ⟨ri, nofun⟩
  intro op hop p L ⟨ri, hl⟩
  suffices h : RecvInv e (poolStep p op).1 ∧ ∀ x ∈ stepItems op (poolStep p op).2, ∃ c ∈ certs, x = .cert c from
    ⟨h.1, fun x hx => (List.mem_append.mp hx).elim (hl x) (h.2 x)⟩
  rcases hf op hop with ⟨c, hc, rfl⟩ | ⟨v, hvm, rfl⟩
  · refine ⟨⟨(poolStep_fst_epoch p (.cert c)).trans ri.ep, allSlots_addCert (RV e) (RV.fresh e) (fun _ _ h i => i.of_coreEq h) p c
      ri.rv (fun _ _ i _ => i.addCert c)⟩, fun x hx => ⟨c, hc, ?_⟩⟩
    rw [stepItems_cert] at hx
    rcases addCert_shape p c with ⟨_, _, h⟩ | ⟨_, _, h⟩ | ⟨_, h⟩ <;> rw [h] at hx
    · cases hx
    · cases hx
    · exact List.mem_singleton.mp hx
  · obtain ⟨r1, r2⟩ := recv_vote ri v (hv v hvm) hown
    refine ⟨r1, fun x hx => ?_⟩
    rw [stepItems_vote, r2] at hx; cases hx

/-- a delivered certificate that was in bounds is in the log — itself, or the held one it duplicates, which was logged -/
theorem delivered_logged (e : Epoch) (pre post : List PoolOp) (c : Cert)
    (hb : (poolRun { epoch := e } pre).1.outOfBounds c.slot = false) :
    ∃ c', LogItem.cert c' ∈ poolLog { epoch := e } (pre ++ .cert c :: post) ∧ c'.kind = c.kind ∧ c'.slot = c.slot ∧
      (c.kind = .nf → c'.hash = c.hash) := by
  rw [poolLog_append]
  have h0 := slotState_spec _ c.slot _ (hl_poolRun e pre) (HL.fresh _ c.slot)
  rcases addCert_shape (poolRun { epoch := e } pre).1 c with ⟨hoob, _⟩ | ⟨hd, _⟩ | ⟨_, h3⟩
  · exact absurd (hoob.symm.trans hb) (by decide)
  · obtain ⟨c', hc', hh⟩ := certDup_iff_store.mp hd
    obtain ⟨⟨hk, hsl⟩, hl⟩ := hl_iff.mp h0.2.1 _ c' hc'
    exact ⟨c', List.mem_append_left _ hl, hk, hsl.trans h0.2.2, hh⟩
  · refine ⟨c, List.mem_append_right _ (List.mem_append_left _ ?_), rfl, rfl, fun _ => rfl⟩
    rw [stepItems_cert, h3]; exact List.mem_singleton.mpr rfl

/-- notar-fallback certificates agree with finality (C01): a notar-fallback certificate for a finalized slot names
    the finalized block; genesis is the block of slot 0 -/
def NfAgree (L : List LogItem) : Prop :=
  ∀ c, LogItem.cert c ∈ L → c.kind = .nf →
    (c.slot = 0 → c.hash = 0) ∧ ∀ h, Finality.Final (finOps L) (c.slot, h) → c.hash = h

section top
variable {L : List LogItem} {t : Finality.Tracker} {evs : List Finality.Event} (hc : Consistent L)
  (ri : Finality.RunInv (finOps L) t evs)
include hc ri

theorem top_direct (hpos : 0 < t.highest) : ∃ h, Finality.Direct (finOps L) (t.highest, h) := by
  rcases ri.hiAtt with h0 | ⟨⟨s, h⟩, hb, rfl⟩
  · exact absurd h0 (Nat.ne_of_gt hpos)
  · -- a finalized block in the highest finalized slot has no finalized descendant
    cases hb with
    | direct d => exact ⟨h, d⟩
    | @step c _ hc' hl =>
      exact absurd (hc.safe.link_lt c _ hl) (Nat.not_lt.mpr (Finality.RunInv.final_le_highest hc.safe ri hc'))

theorem skip_below_top {u : Nat} (h : Finality.Skip (finOps L) u) : u < t.highest := by
  obtain ⟨c, _, hc', _, _, h4⟩ := h
  exact Nat.lt_of_lt_of_le h4 (Finality.RunInv.final_le_highest hc.safe ri hc')

theorem top_cert (hnf : NfAgree L) {c : Cert} (hm : LogItem.cert c ∈ L) (hk : c.kind = .notar ∨ c.kind = .nf)
    (hs : c.slot = t.highest) : (c.slot, c.hash) = (0, 0) ∨ Finality.Final (finOps L) (c.slot, c.hash) := by
  rcases Nat.eq_zero_or_pos t.highest with h0 | hpos
  · left
    rcases hk with hk | hk
    · exact (hc.safe.notar_fun (0, 0) (c.slot, c.hash) (Or.inl rfl) (Or.inr (mem_finOps_notar.mpr ⟨c, hm, hk, rfl⟩))
        (by rw [hs, h0])).symm
    · rw [(hnf c hm hk).1 (hs.trans h0), hs, h0]
  · right
    obtain ⟨h, hd⟩ := top_direct hc ri hpos
    rw [← hs] at hd
    rcases hk with hk | hk
    · rw [hc.safe.notar_direct (c.slot, c.hash) _ (Or.inr (mem_finOps_notar.mpr ⟨c, hm, hk, rfl⟩)) hd rfl]
      exact .direct hd
    · rw [(hnf c hm hk).2 h (.direct hd)]
      exact .direct hd

end top

theorem pool_runInv {e : Epoch} {ops : List PoolOp} (hc : Consistent (poolLog { epoch := e } ops)) :
    ∃ fevs, Finality.RunInv (finOps (poolLog { epoch := e } ops)) (poolRun { epoch := e } ops).1.fin fevs :=
  wired_runInv (pool_wired e ops hc) hc.safe

/-- **what `parents_ready(w)` reads when the window starts after the highest finalized slot `f`**: blocks from slot `f`
    on — genesis, certified in the log, or finalized — with a skip certificate in the log for every slot in between.
    Nothing of this was refused as below the watermark, and implicit skips lie below `f`. -/
theorem ready_above_iff (e : Epoch) (ops : List PoolOp) (hc : Consistent (poolLog { epoch := e } ops)) {w : Nat}
    (hws : ParentReady.isWindowStart w = true) (hfw : (poolRun { epoch := e } ops).1.fin.highest < w) (b : Nat × Nat) :
    b ∈ ParentReady.parentsReady (poolRun { epoch := e } ops).1.pr w ↔
      (poolRun { epoch := e } ops).1.fin.highest ≤ b.1 ∧ b.1 < w ∧
      (b = (0, 0) ∨ (∃ c, LogItem.cert c ∈ poolLog { epoch := e } ops ∧ (c.kind = .notar ∨ c.kind = .nf) ∧ (c.slot, c.hash) = b) ∨
        Finality.Final (finOps (poolLog { epoch := e } ops)) b) ∧
      ∀ u, b.1 < u → u < w → SkipCertIn (poolLog { epoch := e } ops) u := by
  obtain ⟨fevs, ri⟩ := pool_runInv hc
  have hw := Nat.le_trans ri.inv.first_le (Nat.le_of_lt hfw)
  constructor
  · intro hb
    obtain ⟨hbw, hnf, hsk⟩ := (pool_ready_iff e ops hc hw hws b).mp hb
    -- slot `f` is directly finalized, so neither skip-certified nor implicitly skipped: `b` is not older
    have hfb : (poolRun { epoch := e } ops).1.fin.highest ≤ b.1 := by
      refine Nat.le_of_not_lt (fun hlt => ?_)
      obtain ⟨h, hd⟩ := top_direct hc ri (Nat.zero_lt_of_lt hlt)
      rcases hsk _ hlt hfw with a | a
      · obtain ⟨c, hm, hk, hs⟩ := a.mem
        exact hc.skip_not_direct c hm hk h (hs ▸ hd)
      · exact Nat.lt_irrefl _ (skip_below_top hc ri a)
    exact ⟨hfb, hbw, hnf.imp_right (Or.imp_left NfCertAcc.mem), fun u h1 h2 => (hsk u h1 h2).elim SkCertAcc.mem
      (fun a => absurd (skip_below_top hc ri a) (Nat.not_lt.mpr (Nat.le_trans hfb (Nat.le_of_lt h1))))⟩
  · rintro ⟨hfb, hbw, hnf, hsk⟩
    exact (pool_ready_iff_above e ops hc hw hws b (Nat.le_trans ri.inv.first_le hfb)).mpr
      ⟨hbw, hnf, fun u h1 h2 => Or.inl (hsk u h1 h2)⟩

/-- the held certificate names the logged block (where the kind names one): it was logged too (`HL`), and a safe log has
    one notarized and one directly finalized block per slot (`logged_agree`) -/
theorem LogHeld.agrees {p : Pool} {L : List LogItem} (hh : LogHeld p L) (hl : AllSlots p (HL L))
    (sf : Finality.Safe (finOps L)) {c : Cert} (hm : LogItem.cert c ∈ L) (hf : p.fin.first ≤ c.slot) :
    ∃ st, p.getSlot c.slot = some st ∧ ∃ c' ∈ st.store c.kind, c'.kind = c.kind ∧ c'.slot = c.slot ∧
      (c.kind = .notar ∨ c.kind = .nf ∨ c.kind = .ff → c'.hash = c.hash) := by
  obtain ⟨st, hg, hk⟩ := hh c hm hf
  have hmem := getSlot_mem _ _ _ hg
  obtain ⟨c', hc', hh'⟩ := certDup_iff_store.mp hk
  obtain ⟨⟨hkind, hsl⟩, hlog⟩ := hl_iff.mp (hl st hmem.1) _ c' hc'
  exact ⟨st, hg, c', hc', hkind, hsl.trans hmem.2, logged_agree sf hm hlog (hsl.trans hmem.2) hkind hh'⟩

theorem logged_bundled {p : Pool} {L : List LogItem} {certs : List Cert} {votes : List Vote}
    (hb : p.recover = [.standstill (p.fin.highest + 1) certs votes]) (hl : AllSlots p (HL L)) (hh : LogHeld p L)
    (sf : Finality.Safe (finOps L)) (hf : p.fin.first ≤ p.fin.highest) (c : Cert)
    (hm : LogItem.cert c ∈ L) (hs : p.fin.highest < c.slot) :
    ∃ c' ∈ certs, c'.kind = c.kind ∧ c'.slot = c.slot ∧ (c.kind = .notar ∨ c.kind = .nf ∨ c.kind = .ff → c'.hash = c.hash) := by
  obtain ⟨st, hg, c', hc', hrest⟩ := hh.agrees hl sf hm (Nat.le_trans hf (Nat.le_of_lt hs))
  have hmem := getSlot_mem _ _ _ hg
  exact ⟨c', ((recover_contents p certs votes hb).1 c').mpr
    (Or.inr ⟨st, hmem.1, by rw [hmem.2]; exact hs, mem_certs_store.mpr ⟨_, hc'⟩⟩), hrest⟩

theorem held_direct {p : Pool} {L : List LogItem} (hh : LogHeld p L) {s h : Nat} (hs : 0 < s) (hf : p.fin.first ≤ s)
    (hd : Finality.Direct (finOps L) (s, h)) :
    ∃ st, p.getSlot s = some st ∧
      ((∃ c, c ∈ st.store .ff) ∨ ((∃ c, c ∈ st.store .final) ∧ ∃ c, c ∈ st.store .notar)) := by
  have hheld : ∀ c, LogItem.cert c ∈ L → c.slot = s → ∃ st, p.getSlot s = some st ∧ ∃ c', c' ∈ st.store c.kind := by
    intro c hm hcs
    obtain ⟨st, hg, hk⟩ := hh c hm (hcs ▸ hf)
    obtain ⟨c', hc', _⟩ := certDup_iff_store.mp hk
    exact ⟨st, hcs ▸ hg, c', hc'⟩
  rcases hd with hfast | ⟨hfin, hnot⟩
  · obtain ⟨c0, hm0, hk0, he0⟩ := mem_finOps_ff.mp hfast
    obtain ⟨st, hg, hc⟩ := hheld c0 hm0 (congrArg Prod.fst he0)
    exact ⟨st, hg, Or.inl (hk0 ▸ hc)⟩
  · obtain ⟨c1, hm1, hk1, hs1⟩ := mem_finOps_final.mp hfin
    obtain ⟨c2, hm2, hk2, he2⟩ := mem_finOps_notar.mp (hnot.resolve_left (fun h0 =>
      Nat.ne_of_gt hs (congrArg Prod.fst h0)))
    obtain ⟨st, hg, hc1⟩ := hheld c1 hm1 hs1
    obtain ⟨st2, hg2, hc2⟩ := hheld c2 hm2 (congrArg Prod.fst he2)
    rw [hg] at hg2
    cases hg2
    exact ⟨st, hg, Or.inr ⟨hk1 ▸ hc1, hk2 ▸ hc2⟩⟩

/-- In a pool reached with a consistent log and a non-genesis highest finalized slot, `get_final_certs` of that slot returns
    the fast-finalization certificate, or the finalization and the notarization certificate, held by the slot's state: the slot
    is finalized directly (`top_direct`) and what was logged is held. So the assertion `no final cert` of
    `recover_from_standstill` (`pool.rs`), which `Pool.recover` leaves out, cannot fire there. -/
theorem final_certs_held (e : Epoch) (ops : List PoolOp) (hc : Consistent (poolLog { epoch := e } ops))
    (hpos : 0 < (poolRun { epoch := e } ops).1.fin.highest) :
    ∃ st, (poolRun { epoch := e } ops).1.getSlot (poolRun { epoch := e } ops).1.fin.highest = some st ∧
      ((∃ c, (poolRun { epoch := e } ops).1.getFinalCerts (poolRun { epoch := e } ops).1.fin.highest = [c] ∧ c ∈ st.store .ff) ∨
       ∃ cf cn, (poolRun { epoch := e } ops).1.getFinalCerts (poolRun { epoch := e } ops).1.fin.highest = [cf, cn] ∧
         cf ∈ st.store .final ∧ cn ∈ st.store .notar) := by
  obtain ⟨fp, rp⟩ := pool_runInv hc
  obtain ⟨h, hd⟩ := top_direct hc rp hpos
  obtain ⟨st, hg, hcase⟩ :=
    held_direct (held_poolRun e ops) hpos rp.inv.first_le hd
  exact ⟨st, hg, getFinalCerts_of_held hg hcase⟩

theorem pool_first_mono (e : Epoch) (pre post : List PoolOp) (hc : Consistent (poolLog { epoch := e } (pre ++ post))) :
    (poolRun { epoch := e } pre).1.fin.first ≤ (poolRun { epoch := e } (pre ++ post)).1.fin.first := by
  have h2 : finState _ = (poolRun { epoch := e } (pre ++ post)).1.fin := (pool_wired e (pre ++ post) hc).fin
  rw [poolLog_append] at hc h2
  have h1 : finState _ = (poolRun { epoch := e } pre).1.fin := (pool_wired e pre hc.prefix).fin
  rw [← h1, ← h2]
  exact finState_first_mono (List.prefix_append _ _)

/-- the premises of the catch-up clause (`Props/C18.lean`): `ops` is the sender's history, `(certs, votes)` its bundle,
    `rops` what the receiver is fed — the bundle in any order, every certificate at least once -/
structure Replay (e : Epoch) (ops : List PoolOp) (certs : List Cert) (votes : List Vote) (rops : List PoolOp) : Prop where
  cons : Consistent (poolLog { epoch := e } ops)
  far : (poolRun { epoch := e } ops).1.fin.highest < 2 * Gen.SLOTS_PER_EPOCH
  own : e.isQuorum (e.stake e.own) = false
  bundle : (poolRun { epoch := e } ops).1.recover = [.standstill ((poolRun { epoch := e } ops).1.fin.highest + 1) certs votes]
  fed : FedBy certs votes rops
  all : ∀ c ∈ certs, PoolOp.cert c ∈ rops

/-- the first slot of the leader window after slot `f` -/
def nextWindow (f : Nat) : Nat := ParentReady.windowFirst f + ParentReady.W

theorem nextWindow_spec (f : Nat) :
    ParentReady.isWindowStart (nextWindow f) = true ∧ f < nextWindow f ∧ nextWindow f ≤ f + ParentReady.W ∧
    (f < 2 * Gen.SLOTS_PER_EPOCH → nextWindow f ≤ 2 * Gen.SLOTS_PER_EPOCH) := by
  have hW : 0 < ParentReady.W := by decide
  refine ⟨?_, Nat.lt_div_mul_add hW, Nat.add_le_add_right (ParentReady.windowFirst_le f) _, fun hf => ?_⟩
  · unfold ParentReady.isWindowStart nextWindow ParentReady.windowFirst
    rw [Nat.add_mod_right, Nat.mul_mod_left]; rfl
  · -- `2·SLOTS_PER_EPOCH` is a multiple of the window length
    have h : f / 4 < 9000 := (Nat.div_lt_iff_lt_mul (by decide)).mpr hf
    have := Nat.mul_le_mul_right 4 h
    rw [Nat.succ_mul] at this
    exact this

namespace Replay
variable {e : Epoch} {ops : List PoolOp} {certs : List Cert} {votes : List Vote} {rops : List PoolOp}

theorem certs_logged (S : Replay e ops certs votes rops) : ∀ c ∈ certs, LogItem.cert c ∈ poolLog { epoch := e } ops := by
  intro c hc
  obtain ⟨st, hm, hcs⟩ := recover_certs_held _ certs votes S.bundle c hc
  exact (hl_poolRun e ops st hm).2 c hcs

theorem recv_sub (S : Replay e ops certs votes rops) :
    ∀ x ∈ poolLog { epoch := e } rops, x ∈ poolLog { epoch := e } ops := by
  have hv : ∀ v ∈ votes, v.signer = e.own := fun v hv =>
    (recover_votes_own _ certs votes S.bundle v hv).1.trans (congrArg Epoch.own (poolRun_fst_epoch ops { epoch := e }))
  intro x hx
  obtain ⟨c, hc, rfl⟩ :=
    (recv_log e certs votes hv S.own rops S.fed { epoch := e } ⟨rfl, fun st h => by simp at h⟩).2 x hx
  exact S.certs_logged c hc

theorem recv_cons (S : Replay e ops certs votes rops) : Consistent (poolLog { epoch := e } rops) :=
  S.cons.sub S.recv_sub

theorem recv_highest_le (S : Replay e ops certs votes rops) :
    (poolRun { epoch := e } rops).1.fin.highest ≤ (poolRun { epoch := e } ops).1.fin.highest := by
  obtain ⟨fq, rq⟩ := pool_runInv S.recv_cons
  rcases rq.hiAtt with h0 | ⟨b, hb, hbe⟩
  · exact h0 ▸ Nat.zero_le _
  · rw [← hbe]
    obtain ⟨fp, rp⟩ := pool_runInv S.cons
    exact Finality.RunInv.final_le_highest S.cons.safe rp (hb.mono (finOps_sub S.recv_sub))

/-- a slot from the sender's finalized slot on was in bounds at the receiver all along: its watermark only rises, and
    ends at or below its finalized slot, which is not above the sender's -/
theorem recv_inb (S : Replay e ops certs votes rops) (s : Nat) (h1 : (poolRun { epoch := e } ops).1.fin.highest ≤ s)
    (h2 : s < 2 * Gen.SLOTS_PER_EPOCH) {pre : List PoolOp} (hp : pre <+: rops) :
    (poolRun { epoch := e } pre).1.outOfBounds s = false := by
  obtain ⟨post, rfl⟩ := hp
  obtain ⟨fq, rq⟩ := pool_runInv S.recv_cons
  unfold Pool.outOfBounds
  simp only [Bool.or_eq_false_iff, decide_eq_false_iff_not]
  exact ⟨Nat.not_lt.mpr (Nat.le_trans (pool_first_mono e pre post S.recv_cons)
      (Nat.le_trans rq.inv.first_le (Nat.le_trans S.recv_highest_le h1))),
    Nat.not_le.mpr (Nat.lt_of_lt_of_le h2 (Nat.le_add_left _ _))⟩

theorem delivered (S : Replay e ops certs votes rops) (c : Cert) (hc : c ∈ certs)
    (h1 : (poolRun { epoch := e } ops).1.fin.highest ≤ c.slot) (h2 : c.slot < 2 * Gen.SLOTS_PER_EPOCH) :
    ∃ c', LogItem.cert c' ∈ poolLog { epoch := e } rops ∧ c'.kind = c.kind ∧ c'.slot = c.slot ∧
      (c.kind = .notar ∨ c.kind = .nf ∨ c.kind = .ff → c'.hash = c.hash) := by
  obtain ⟨pre, post, hr⟩ := List.append_of_mem (S.all c hc)
  obtain ⟨c', hm, hk, hs, hh⟩ := delivered_logged e pre post c (S.recv_inb c.slot h1 h2 (hr ▸ List.prefix_append pre _))
  rw [← hr] at hm
  -- a duplicate of another kind than notar-fallback is for the same block: both are in the sender's log
  exact ⟨c', hm, hk, hs, logged_agree S.cons.safe (S.certs_logged c hc) (S.recv_sub _ hm) hs hk hh⟩

theorem relayed (S : Replay e ops certs votes rops) (c : Cert) (hm : LogItem.cert c ∈ poolLog { epoch := e } ops)
    (hs : (poolRun { epoch := e } ops).1.fin.highest < c.slot) (h2 : c.slot < 2 * Gen.SLOTS_PER_EPOCH) :
    ∃ c', LogItem.cert c' ∈ poolLog { epoch := e } rops ∧ c'.kind = c.kind ∧ c'.slot = c.slot ∧
      (c.kind = .notar ∨ c.kind = .nf ∨ c.kind = .ff → c'.hash = c.hash) := by
  obtain ⟨fp, rp⟩ := pool_runInv S.cons
  obtain ⟨c1, hc1, k1, s1, h1⟩ := logged_bundled S.bundle (hl_poolRun e ops) (held_poolRun e ops) S.cons.safe rp.inv.first_le c hm hs
  obtain ⟨c2, hm2, k2, s2, hh2⟩ := S.delivered c1 hc1 (s1 ▸ Nat.le_of_lt hs) (s1 ▸ h2)
  exact ⟨c2, hm2, k2.trans k1, s2.trans s1, fun hk => (hh2 (by rw [k1]; exact hk)).trans (h1 hk)⟩

theorem recv_reaches (S : Replay e ops certs votes rops) (hpos : 0 < (poolRun { epoch := e } ops).1.fin.highest) :
    ∃ h, Finality.Final (finOps (poolLog { epoch := e } rops)) ((poolRun { epoch := e } ops).1.fin.highest, h) := by
  -- the certificates behind the direct finalization are held, so `get_final_certs` puts them into the bundle, and they
  -- are delivered
  obtain ⟨st, hg, hfc⟩ := final_certs_held e ops S.cons hpos
  have hdel : ∀ k, ∀ c ∈ st.store k, c ∈ (poolRun { epoch := e } ops).1.getFinalCerts (poolRun { epoch := e } ops).1.fin.highest →
      ∃ c', LogItem.cert c' ∈ poolLog { epoch := e } rops ∧ c'.kind = k ∧
        c'.slot = (poolRun { epoch := e } ops).1.fin.highest := by
    intro k c hc hfc
    obtain ⟨⟨hk, hs⟩, _⟩ := hl_iff.mp (hl_poolRun e ops st (getSlot_mem _ _ _ hg).1) k c hc
    have hs := hs.trans (getSlot_slot hg)
    obtain ⟨c', hm, hk', hs', _⟩ := S.delivered c (((recover_contents _ certs votes S.bundle).1 c).mpr (Or.inl hfc))
      (Nat.le_of_eq hs.symm) (hs ▸ S.far)
    exact ⟨c', hm, hk'.trans hk, hs'.trans hs⟩
  rcases hfc with ⟨c, hl, hc⟩ | ⟨cf, cn, hl, hcf, hcn⟩
  · obtain ⟨c', hm, hk, hs⟩ := hdel _ c hc (hl ▸ List.mem_singleton.mpr rfl)
    exact ⟨c'.hash, .direct (Or.inl (mem_finOps_ff.mpr ⟨c', hm, hk, by rw [hs]⟩))⟩
  · obtain ⟨c1, hm1, hk1, hs1⟩ := hdel _ cf hcf (hl ▸ List.mem_cons_self)
    obtain ⟨c2, hm2, hk2, hs2⟩ := hdel _ cn hcn (hl ▸ List.mem_cons_of_mem _ List.mem_cons_self)
    exact ⟨c2.hash, .direct (Or.inr ⟨mem_finOps_final.mpr ⟨c1, hm1, hk1, hs1⟩,
      Or.inr (mem_finOps_notar.mpr ⟨c2, hm2, hk2, by rw [hs2]⟩)⟩)⟩

/-- `bundle_replay_finalized` of `Props/C18.lean` -/
theorem finalized (S : Replay e ops certs votes rops) :
    (poolRun { epoch := e } rops).1.fin.highest = (poolRun { epoch := e } ops).1.fin.highest := by
  apply Nat.le_antisymm (S.recv_highest_le)
  rcases Nat.eq_zero_or_pos (poolRun { epoch := e } ops).1.fin.highest with h0 | hpos
  · exact h0 ▸ Nat.zero_le _
  · obtain ⟨h, hf⟩ := S.recv_reaches hpos
    obtain ⟨fq, rq⟩ := pool_runInv S.recv_cons
    exact Finality.RunInv.final_le_highest S.recv_cons.safe rq hf

theorem final_relayed (S : Replay e ops certs votes rops) {b : Nat × Nat}
    (hb : Finality.Final (finOps (poolLog { epoch := e } ops)) b)
    (hfb : (poolRun { epoch := e } ops).1.fin.highest ≤ b.1) :
    b = (0, 0) ∨ Finality.Final (finOps (poolLog { epoch := e } rops)) b := by
  obtain ⟨fp, rp⟩ := pool_runInv S.cons
  have hle := Finality.RunInv.final_le_highest S.cons.safe rp hb
  rcases Nat.eq_zero_or_pos (poolRun { epoch := e } ops).1.fin.highest with h0 | hpos
  · obtain ⟨s, h⟩ := b
    have hs : s = 0 := Nat.le_zero.mp (h0 ▸ hle)
    subst hs
    exact Or.inl (by rw [S.cons.genesis h hb])
  · obtain ⟨h', hf'⟩ := S.recv_reaches hpos
    have := S.cons.safe.final_fun _ b (hf'.mono (finOps_sub S.recv_sub)) hb (Nat.le_antisymm hfb hle)
    rw [this] at hf'
    exact Or.inr hf'

theorem parents_at (S : Replay e ops certs votes rops) (hnf : NfAgree (poolLog { epoch := e } ops)) {w : Nat}
    (hws : ParentReady.isWindowStart w = true) (hfw : (poolRun { epoch := e } ops).1.fin.highest < w)
    (hw2 : w ≤ 2 * Gen.SLOTS_PER_EPOCH) (b : Nat × Nat) :
    b ∈ ParentReady.parentsReady (poolRun { epoch := e } rops).1.pr w ↔
    b ∈ ParentReady.parentsReady (poolRun { epoch := e } ops).1.pr w := by
  refine (ready_above_iff e rops S.recv_cons hws (S.finalized.symm ▸ hfw) b).trans
    (Iff.trans ?_ (ready_above_iff e ops S.cons hws hfw b).symm)
  rw [S.finalized]
  refine and_congr_right fun hfb => and_congr_right fun hbw =>
    ⟨fun ⟨hb, hsk⟩ => ⟨?_, fun u h1 h2 => ?_⟩, fun ⟨hb, hsk⟩ => ⟨?_, fun u h1 h2 => ?_⟩⟩
  -- receiver ⇒ sender: the receiver's log is a sub-log of the sender's
  · exact hb.imp_right (Or.imp (fun ⟨c, hm, h⟩ => ⟨c, S.recv_sub _ hm, h⟩) (·.mono (finOps_sub S.recv_sub)))
  · obtain ⟨c, hm, h⟩ := hsk u h1 h2
    exact ⟨c, S.recv_sub _ hm, h⟩
  -- sender ⇒ receiver. The block: genesis, finalized (then in the finalized slot), or certified above the finalized slot
  · rcases hb with a | ⟨c, hm, hk, he⟩ | a
    · exact Or.inl a
    · have hcs : c.slot = b.1 := congrArg Prod.fst he
      rcases Nat.lt_or_ge (poolRun { epoch := e } ops).1.fin.highest b.1 with hlt | hge
      · obtain ⟨c', hm', hk', hs', hh'⟩ := S.relayed c hm (hcs ▸ hlt) (hcs ▸ Nat.lt_of_lt_of_le hbw hw2)
        refine Or.inr (Or.inl ⟨c', hm', by rw [hk']; exact hk, ?_⟩)
        rw [hs', hh' (hk.elim Or.inl (fun k => Or.inr (Or.inl k)))]
        exact he
      · obtain ⟨fp, rp⟩ := pool_runInv S.cons
        rcases top_cert S.cons rp hnf hm hk (hcs.trans (Nat.le_antisymm hge hfb)) with g | g
        · exact Or.inl (he ▸ g)
        · exact (S.final_relayed (he ▸ g) hfb).imp id Or.inr
    · exact (S.final_relayed a hfb).imp id Or.inr
  -- the skip certificates in between lie above the finalized slot
  · obtain ⟨c, hm, hk, hs⟩ := hsk u h1 h2
    obtain ⟨c', hm', hk', hs', _⟩ := S.relayed c hm (hs ▸ Nat.lt_of_le_of_lt hfb h1) (hs ▸ Nat.lt_of_lt_of_le h2 hw2)
    exact ⟨c', hm', hk'.trans hk, hs'.trans hs⟩

/-- `bundle_replay_parents` of `Props/C18.lean` -/
theorem parents (S : Replay e ops certs votes rops) (hnf : NfAgree (poolLog { epoch := e } ops)) (b : Nat × Nat) :
    b ∈ ParentReady.parentsReady (poolRun { epoch := e } rops).1.pr (nextWindow (poolRun { epoch := e } ops).1.fin.highest) ↔
    b ∈ ParentReady.parentsReady (poolRun { epoch := e } ops).1.pr (nextWindow (poolRun { epoch := e } ops).1.fin.highest) :=
  have h := nextWindow_spec (poolRun { epoch := e } ops).1.fin.highest
  S.parents_at hnf h.1 h.2.1 (h.2.2.2 S.far) b

end Replay

/-- `NfAgree` with bounded quantifiers -/
def NfAgreeC (L : List LogItem) : Prop :=
  ∀ it ∈ L, match it with
    | .cert c => c.kind = .nf → (c.slot = 0 → c.hash = 0) ∧ ∀ b ∈ Finality.finals (finOps L), b.1 = c.slot → c.hash = b.2
    | .block _ _ => True

instance (L : List LogItem) : Decidable (NfAgreeC L) := by
  unfold NfAgreeC
  have : ∀ it : LogItem, Decidable (match it with
    | .cert c => c.kind = .nf → (c.slot = 0 → c.hash = 0) ∧ ∀ b ∈ Finality.finals (finOps L), b.1 = c.slot → c.hash = b.2
    | .block _ _ => True) := by
    intro it; cases it <;> infer_instance
  infer_instance

theorem nfAgreeC_iff {L : List LogItem} (sf : Finality.Safe (finOps L)) : NfAgreeC L ↔ NfAgree L := by
  constructor
  · intro h c hm hk
    have := h (.cert c) hm hk
    exact ⟨this.1, fun hh hf => this.2 (c.slot, hh) ((Finality.mem_finals sf.link_lt).mpr hf) rfl⟩
  · intro h it hm
    cases it with
    | block b par => trivial
    | cert c =>
      intro hk
      refine ⟨(h c hm hk).1, fun b hb e => ?_⟩
      exact (h c hm hk).2 b.2 (by rw [← e]; exact (Finality.mem_finals sf.link_lt).mp hb)

end AgModel.Pool
