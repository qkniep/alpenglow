import AgModel.Proofs.PoolS2NGlueViews
import AgModel.Proofs.PoolS2NComplete
/-! Pool-level glue for C06: per-slot predicates through the pool plumbing (`SlotsSat`), the waiting map
    only holds registered children (`WaitReg`), what `notify_parent_certified` / `notify_parent_known` do to a
    slot state, and the induction over a run with the ghost list of its accepted registrations (`regsRun`, `poolRun_ind`). -/
namespace AgModel.Pool

theorem isNfOrStronger_coreEq {a b : SlotState} (h : CoreEq a b) (x : Nat) : a.isNfOrStronger x = b.isNfOrStronger x := by
  have h1 : a.cNotar = b.cNotar := (congrArg SlotState.cNotar h.eq : a.core.cNotar = b.core.cNotar)
  have h2 : a.cNf = b.cNf := (congrArg SlotState.cNf h.eq : a.core.cNf = b.core.cNf)
  have h4 : a.cFf = b.cFf := (congrArg SlotState.cFf h.eq : a.core.cFf = b.core.cFf)
  unfold SlotState.isNfOrStronger SlotState.isNf
  rw [h1, h2, h4]

theorem isNfOrStronger_init (s x : Nat) : ({ slot := s } : SlotState).isNfOrStronger x = false := rfl

/-- a successful `notify_parent_certified` is the slot-level step `.parentCertified` -/
theorem certified_emit {e : Epoch} {st st' : SlotState} {h : Nat} {evs : List Event}
    (hn : st.notifyParentCertified e h = some (st', evs)) : EvSound e st' evs ∧ Signals st st' evs := by
  simpa only [slotStep, hn] using slotStep_emit e st (.parentCertified h)

theorem notifyParentCertified_cases (e : Epoch) (st : SlotState) (h : Nat) :
    (st.parents.lookup h = none ∧ st.notifyParentCertified e h = none) ∨
    ((st.parents.lookup h).isSome = true ∧ ∃ st1 : SlotState,
      st1.parents = st.parents.map (fun p => if p.1 == h then (p.1, true) else p) ∧
      (st.notifyParentCertified e h = some (st1, []) ∨
       st.notifyParentCertified e h =
         some ((st1.checkS2N e h).1, s2nOut (st1.checkS2N e h).1.slot h (st1.checkS2N e h).2))) := by
  unfold SlotState.notifyParentCertified
  split
  · rename_i hn; exact Or.inl ⟨hn, rfl⟩
  · rename_i b hb
    refine Or.inr ⟨by rw [hb]; rfl, { st with parents := st.parents.map (fun p => if p.1 == h then (p.1, true) else p) },
      rfl, ?_⟩
    dsimp only
    split
    · exact Or.inl rfl
    · exact Or.inr rfl

theorem notifyParentCertified_spec {e : Epoch} {st : SlotState} {h : Nat} {st' : SlotState} {evs : List Event}
    (hn : st.notifyParentCertified e h = some (st', evs)) :
    st'.slot = st.slot ∧ (st.parents.lookup h).isSome = true ∧
    (∀ x, st'.parents.lookup x = if x = h then (st.parents.lookup x).map (fun _ => true) else st.parents.lookup x) ∧
    (∀ x, st'.isNfOrStronger x = st.isNfOrStronger x) := by
  have hce := notifyParentCertified_core e st h st' evs hn
  rcases notifyParentCertified_cases e st h with ⟨_, h0⟩ | ⟨hs, st1, hp, h1⟩
  · rw [hn] at h0; cases h0
  · refine ⟨(coreEq_slot hce).symm, hs, fun x => ?_, fun x => (isNfOrStronger_coreEq hce x).symm⟩
    have : st'.parents = st1.parents := by
      rcases h1 with h1 | h1 <;> rw [hn] at h1 <;> cases h1
      · rfl
      · exact (checkS2N_same e st1 h).parents.symm
    rw [this, hp]; exact lookup_map_certified st.parents h x

theorem s2nOut_no_panic (s h : Nat) (r : S2N) : Event.panic ∉ s2nOut s h r := by
  cases r <;> simp [s2nOut]

theorem notifyParentCertified_events {e : Epoch} {st : SlotState} {h : Nat} {st' : SlotState} {evs : List Event}
    (hn : st.notifyParentCertified e h = some (st', evs)) : Event.panic ∉ evs := by
  rcases notifyParentCertified_cases e st h with ⟨_, h0⟩ | ⟨_, st1, _, h1 | h1⟩ <;> rw [hn] at *
  · cases h0
  · cases h1; exact List.not_mem_nil
  · cases h1; exact s2nOut_no_panic _ _ _

theorem notifyParentCertified_known {e : Epoch} {st : SlotState} {h : Nat} (hk : (st.parents.lookup h).isSome = true) :
    st.notifyParentCertified e h ≠ none := by
  rcases notifyParentCertified_cases e st h with ⟨hn, _⟩ | ⟨_, st1, _, h1 | h1⟩
  · rw [hn] at hk; cases hk
  · rw [h1]; exact Option.some_ne_none _
  · rw [h1]; exact Option.some_ne_none _

theorem notifyParentCertified_true {e : Epoch} {st : SlotState} {h : Nat} {st' : SlotState} {evs : List Event}
    (hn : st.notifyParentCertified e h = some (st', evs)) : st'.parents.lookup h = some true := by
  obtain ⟨_, n2, n3, _⟩ := notifyParentCertified_spec hn
  rw [n3, if_pos rfl]
  cases hh : st.parents.lookup h with
  | none => rw [hh] at n2; cases n2
  | some _ => rfl

theorem notifyParentKnown_spec (st : SlotState) (h : Nat) :
    (st.notifyParentKnown h).slot = st.slot ∧ ((st.notifyParentKnown h).parents.lookup h).isSome = true ∧
    (∀ x f, st.parents.lookup x = some f → (st.notifyParentKnown h).parents.lookup x = some f) ∧
    (∀ x, (st.notifyParentKnown h).parents.lookup x = some true → st.parents.lookup x = some true) ∧
    (∀ x, (st.notifyParentKnown h).isNfOrStronger x = st.isNfOrStronger x) := by
  unfold SlotState.notifyParentKnown
  split
  · rename_i hs
    exact ⟨rfl, hs, fun _ _ hx => hx, fun _ hx => hx, fun _ => rfl⟩
  · rename_i hs
    have hn : st.parents.lookup h = none := Option.not_isSome_iff_eq_none.mp hs
    have hl := fun x => lookup_after_store st.parents h false x hn
    refine ⟨rfl, ?_, fun x f hx => ?_, fun x hx => ?_, fun _ => rfl⟩
    · dsimp only; rw [hl, if_pos rfl]; rfl
    · dsimp only; rw [hl]
      split
      · rename_i he; rw [he, hn] at hx; cases hx
      · exact hx
    · dsimp only at hx; rw [hl] at hx
      split at hx
      · cases hx
      · exact hx

theorem notifyParentKnown_records (st : SlotState) (h : Nat) :
    (st.notifyParentKnown h).sent = st.sent ∧ (st.notifyParentKnown h).sentS2S = st.sentS2S := by
  unfold SlotState.notifyParentKnown; split <;> exact ⟨rfl, rfl⟩

theorem addVote_parents (e : Epoch) (st : SlotState) (v : Vote) : (st.addVote e v).1.parents = st.parents :=
  (addVote_same e st v).parents.symm.trans (stored_same e st v).parents

theorem addVote_isNfOrStronger (e : Epoch) (st : SlotState) (v : Vote) (x : Nat) :
    (st.addVote e v).1.isNfOrStronger x = st.isNfOrStronger x := by
  rw [← isNfOrStronger_coreEq (addVote_core e st v) x]
  have f := stored_same e st v
  unfold SlotState.isNfOrStronger SlotState.isNf
  rw [f.cNotar, f.cFf, f.cNf]

theorem addVote_slot (e : Epoch) (st : SlotState) (v : Vote) : (st.addVote e v).1.slot = st.slot := by
  rw [← coreEq_slot (addVote_core e st v), (stored_same e st v).slot]

theorem addCert_parents (st : SlotState) (c : Cert) : (st.addCert c).parents = st.parents :=
  (addCert_same st c).parents.symm

theorem addCert_slot (st : SlotState) (c : Cert) : (st.addCert c).slot = st.slot :=
  (addCert_same st c).slot.symm

theorem addCert_isNfOrStronger (st : SlotState) (c : Cert) (x : Nat) (h : (st.addCert c).isNfOrStronger x = true) :
    st.isNfOrStronger x = true ∨ (c.strong ∧ x = c.hash) := by
  unfold SlotState.addCert at h
  unfold Cert.strong
  cases hk : c.kind <;> simp only [hk] at h
  · unfold SlotState.isNfOrStronger at h ⊢
    simp only [Bool.or_eq_true] at h ⊢
    rcases h with (h | h) | h
    · right; exact ⟨by simp, (by simpa using h : c.hash = x).symm⟩
    · left; exact Or.inl (Or.inr h)
    · left; exact Or.inr h
  · split at h
    · exact Or.inl h
    · unfold SlotState.isNfOrStronger SlotState.isNf at h ⊢
      simp only [Bool.or_eq_true, List.any_append, List.any_cons, List.any_nil, Bool.or_false] at h ⊢
      rcases h with (h | h) | h | h
      · left; exact Or.inl (Or.inl h)
      · left; exact Or.inl (Or.inr h)
      · left; exact Or.inr h
      · right; exact ⟨by simp, (by simpa using h : c.hash = x).symm⟩
  · exact Or.inl h
  · unfold SlotState.isNfOrStronger at h ⊢
    simp only [Bool.or_eq_true] at h ⊢
    rcases h with (h | h) | h
    · left; exact Or.inl (Or.inl h)
    · right; exact ⟨by simp, (by simpa using h : c.hash = x).symm⟩
    · left; exact Or.inr h
  · exact Or.inl h

theorem SlotMove.signals {e : Epoch} {a b : SlotState} {evs : List Event} (m : SlotMove e a b evs) :
    b.slot = a.slot ∧ Signals a b evs ∧ EvSound e b evs := by
  cases m with
  | vote v _ => exact ⟨addVote_slot e a v, (addVote_emit e a v).2, (addVote_emit e a v).1⟩
  | cert c => exact ⟨addCert_slot a c, .quiet rfl rfl (addCert_sent a c) (addCert_sentS2S a c), EvSound.nil e _⟩
  | known h =>
    exact ⟨(notifyParentKnown_spec a h).1, .quiet rfl rfl (notifyParentKnown_records a h).1 (notifyParentKnown_records a h).2,
      EvSound.nil e _⟩
  | certified h st' evs hn => exact ⟨(notifyParentCertified_spec hn).1, (certified_emit hn).2, (certified_emit hn).1⟩

def SlotsSat (p : Pool) (Q : SlotState → Prop) : Prop := ∀ s st, p.getSlot s = some st → Q st

theorem SlotsSat.init (e : Epoch) (Q : SlotState → Prop) : SlotsSat { epoch := e } Q := by
  intro s st hg; simp [Pool.getSlot] at hg

theorem SlotsSat.mono {p : Pool} {Q Q' : SlotState → Prop} (h : SlotsSat p Q) (hq : ∀ st, Q st → Q' st) : SlotsSat p Q' :=
  fun s st hg => hq st (h s st hg)

theorem SlotsSat.slotState_snd {p : Pool} {Q : SlotState → Prop} (h : SlotsSat p Q) (s : Nat) (hinit : Q { slot := s }) :
    Q (p.slotState s).2 := by
  cases hg : p.getSlot s with
  | none => rw [slotState_snd_of_none hg]; exact hinit
  | some st => rw [slotState_snd_of_some hg]; exact h s st hg

theorem SlotsSat.slotState {p : Pool} {Q : SlotState → Prop} (h : SlotsSat p Q) (s : Nat) (hinit : Q { slot := s }) :
    SlotsSat (p.slotState s).1 Q := by
  intro s' st hg
  rw [getSlot_slotState] at hg
  split at hg
  · cases hg; exact h.slotState_snd s hinit
  · exact h s' st hg

theorem SlotsSat.mod {p : Pool} {Q : SlotState → Prop} (h : SlotsSat p Q) (s : Nat) (st' : SlotState) (hinit : Q { slot := s })
    (hst : Q st') : SlotsSat ((p.slotState s).1.putSlot st') Q := by
  intro s' st hg
  rw [getSlot_putSlot] at hg
  split at hg
  · cases hg; exact hst
  · exact h.slotState s hinit s' st hg

theorem SlotsSat.advance {p : Pool} {Q : SlotState → Prop} (h : SlotsSat p Q) (t : Finality.Tracker) (r : ParentReady.Res) :
    SlotsSat (p.advance t r) Q := by
  intro s st hg
  rw [getSlot_advance] at hg
  split at hg
  · exact h s st hg
  · cases hg

theorem SlotsSat.applyPr {p : Pool} {Q : SlotState → Prop} (h : SlotsSat p Q) (r : ParentReady.Res) : SlotsSat (p.applyPr r).1 Q := by
  intro s st hg; rw [getSlot_applyPr] at hg; exact h s st hg

theorem SlotsSat.addWaiting {p : Pool} {Q : SlotState → Prop} (h : SlotsSat p Q) (par b : Nat × Nat) :
    SlotsSat (Pool.addWaiting p par b) Q := by
  intro s st hg; rw [getSlot_addWaiting] at hg; exact h s st hg

/-- a per-slot predicate through a primitive change of the pool: the one obligation is the slot state that is replaced -/
theorem SlotsSat.prim {Q : SlotState → Prop} {p q : Pool} {evs : List Event} (m : Prim p q evs) (hinit : ∀ s, Q { slot := s })
    (hslot : ∀ s st', SlotMove p.epoch (p.slotState s).2 st' evs → Q (p.slotState s).2 → Q st') (h : SlotsSat p Q) :
    SlotsSat q Q := by
  cases m with
  | ctl => exact h
  | create s => exact h.slotState s (hinit s)
  | slot s st' evs m => exact h.mod s st' (hinit s) (hslot s st' m (h.slotState_snd s (hinit s)))
  | advance t r => exact h.advance t r
  | pr r => exact h.applyPr r
  | queue par b => exact h.addWaiting par b
  | unwait b => exact fun s st hg => h s st hg

/-- the obligation at a call of `notify_parent_certified` for child `k` -/
def KidSite (e : Epoch) (Q : SlotState → Prop) (k : Nat × Nat) : Prop :=
  ∀ st st' evs, st.slot = k.1 → st.notifyParentCertified e k.2 = some (st', evs) → Q st → Q st'

/-- a registration `(block, parent)` -/
abbrev Reg := (Nat × Nat) × (Nat × Nat)

def WaitReg (R : List Reg) (p : Pool) : Prop := ∀ par kids, (par, kids) ∈ p.waiting → ∀ k ∈ kids, (k, par) ∈ R

theorem WaitReg.kidsOf {R : List Reg} {p : Pool} (h : WaitReg R p) {par k : Nat × Nat} (hk : k ∈ kidsOf p par) : (k, par) ∈ R := by
  obtain ⟨kids, hm, hk'⟩ := kidsOf_entry hk
  exact h par kids hm k hk'

theorem WaitReg.of_waiting {R : List Reg} {p q : Pool} (h : WaitReg R p) (hw : q.waiting = p.waiting) : WaitReg R q := by
  intro par kids hm; rw [hw] at hm; exact h par kids hm

theorem WaitReg.mono {R R' : List Reg} {p : Pool} (h : WaitReg R p) (hr : ∀ r ∈ R, r ∈ R') : WaitReg R' p :=
  fun par kids hm k hk => hr _ (h par kids hm k hk)

theorem WaitReg.advance {R : List Reg} {p : Pool} (h : WaitReg R p) (t : Finality.Tracker) (r : ParentReady.Res) :
    WaitReg R (p.advance t r) := by
  intro par kids' hm k hk
  rw [advance_waiting] at hm
  obtain ⟨kids, hm', hsub⟩ := pruneW_entry _ _ _ _ hm
  exact h par kids hm' k (hsub k hk)

theorem WaitReg.notifyWaiting {R : List Reg} {p : Pool} (h : WaitReg R p) (b : Nat × Nat) : WaitReg R (p.notifyWaiting b).1 := by
  intro par kids hm
  rw [(notifyWaiting_frame p b).waiting] at hm
  exact h par kids (List.mem_filter.mp hm).1

theorem WaitReg.addWaiting {R : List Reg} {p : Pool} (h : WaitReg R p) (par b : Nat × Nat) (hb : (b, par) ∈ R) :
    WaitReg R (Pool.addWaiting p par b) := by
  intro par' kids' hm k hk
  rw [addWaiting_waiting] at hm
  split at hm
  · obtain ⟨⟨a, v⟩, hx, he⟩ := List.mem_map.mp hm
    by_cases ha : a = par
    · subst ha
      simp only [BEq.rfl, if_true, Prod.mk.injEq] at he
      obtain ⟨rfl, rfl⟩ := he
      rcases List.mem_append.mp hk with hk | hk
      · exact h a v hx k hk
      · rw [List.mem_singleton.mp hk]; exact hb
    · rw [if_neg (by simpa using ha)] at he
      exact h par' kids' (he ▸ hx) k hk
  · rcases List.mem_append.mp hm with hm | hm
    · exact h par' kids' hm k hk
    · simp only [List.mem_singleton, Prod.mk.injEq] at hm
      obtain ⟨rfl, rfl⟩ := hm
      rw [List.mem_singleton.mp hk]; exact hb

/-- the registrations an operation adds to the ghost list -/
def regsOf (p : Pool) : PoolOp → List Reg
  | .block b par => if accepted p b par then [(b, par)] else []
  | _ => []

/-- ghost: the accepted registrations of a run, in order -/
def regsRun (p : Pool) : List PoolOp → List Reg
  | [] => []
  | op :: ops => regsOf p op ++ regsRun (poolStep p op).1 ops

/-- a run, for an invariant `I R A q` of the registrations and events so far and the pool -/
theorem poolRun_ind (I : List Reg → List Event → Pool → Prop)
    (hstep : ∀ R A p op, I R A p → I (R ++ regsOf p op) (A ++ (poolStep p op).2) (poolStep p op).1)
    (ops : List PoolOp) (R : List Reg) (A : List Event) (p : Pool) (h : I R A p) :
    I (R ++ regsRun p ops) (A ++ (poolRun p ops).2) (poolRun p ops).1 := by
  induction ops generalizing R A p with
  | nil => simp only [regsRun, poolRun, List.append_nil]; exact h
  | cons op ops ih => simp only [regsRun, poolRun, ← List.append_assoc]; exact ih _ _ _ (hstep R A p op h)

/-- the pool holds a notarization, notar-fallback or fast-finalization certificate for `par` -/
def Held (p : Pool) (par : Nat × Nat) : Prop := ∃ st, p.getSlot par.1 = some st ∧ st.isNfOrStronger par.2 = true

/-- `add_block`'s test is `Held`, as a `Bool` -/
theorem certifiedB_iff_held (q : Pool) (par : Nat × Nat) : q.certifiedB par = true ↔ Held q par := by
  unfold Pool.certifiedB Held
  cases q.getSlot par.1 with
  | none => exact ⟨(fun h => nomatch h), fun ⟨_, h, _⟩ => nomatch h⟩
  | some st => exact ⟨fun h => ⟨st, rfl, h⟩, fun ⟨_, h, hi⟩ => Option.some.inj h ▸ hi⟩

end AgModel.Pool
