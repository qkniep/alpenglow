import AgModel.Model.Route
/-! For `Props/C16.lean`: the FIFO run over a breadth-first forwarding pattern (`run_bfs`, which gives Turbine's
delivery sequence), soundness of the relay cache, and the inflow of a tree position (core Lean only). -/
namespace AgModel.Route

theorem mem_childPos (n f p q : Nat) :
    q ∈ childPos n f p ↔ (p * f + 1 ≤ q ∧ q < p * f + 1 + f ∧ q < n) := by
  unfold childPos
  simp only [List.mem_filter, List.mem_range'_1, decide_eq_true_eq]
  omega

theorem drop_take_cons {α} (l : List α) {i b : Nat} (hi : i < l.length) (hb : i < b) :
    (l.take b).drop i = l[i] :: (l.take b).drop (i + 1) := by
  have h : i < (l.take b).length := List.length_take ▸ Nat.lt_min.mpr ⟨hb, hi⟩
  rw [List.drop_eq_getElem_cons h, List.getElem_take]

theorem drop_take_append {α} (l : List α) {a b c : Nat} (hab : a ≤ b) (hbc : b ≤ c) :
    (l.take b).drop a ++ (l.take c).drop b = (l.take c).drop a := by
  have h1 : l.take b = (l.take c).take b := by rw [List.take_take, Nat.min_eq_left hbc]
  have h2 : (l.take c).drop b = ((l.take c).drop a).drop (b - a) := by
    rw [List.drop_drop, Nat.add_sub_cancel' hab]
  rw [h1, h2, List.drop_take, List.take_append_drop]

theorem run_leaves (fwd : Nat → Out) (fuel : Nat) (q : List Nat)
    (h : ∀ v ∈ q, fwd v = .to []) (hf : q.length ≤ fuel) : run fwd fuel q = q ∧ runOk fwd fuel q = true := by
  induction q generalizing fuel with
  | nil => cases fuel <;> exact ⟨rfl, rfl⟩
  | cons v q ih =>
    obtain ⟨hv, hq⟩ := List.forall_mem_cons.mp h
    cases fuel with
    | zero => cases hf
    | succ fuel => simp only [run, runOk, hv, List.append_nil, ih fuel hq (Nat.le_of_succ_le_succ hf), and_self]

/-- **Breadth-first delivery.**  The nodes stand in the list `perm`; the node at position `i` forwards to the
    segment `[c i, c (i+1))` of the list, which lies after `i`.  Then the FIFO run that starts when the
    positions before `i` have been served, with the queue holding the segment `[i, c i)`, delivers to the
    rest of the list in order and ends. -/
theorem run_bfs (perm : List Nat) (c : Nat → Nat) (fwd : Nat → Out)
    (hc : ∀ i, i < perm.length → i < c i) (hmono : ∀ i, c i ≤ c (i + 1))
    (hfwd : ∀ i (h : i < perm.length), fwd perm[i] = .to ((perm.take (c (i + 1))).drop (c i))) :
    ∀ fuel i, perm.length - i < fuel →
      run fwd fuel ((perm.take (c i)).drop i) = perm.drop i ∧
      runOk fwd fuel ((perm.take (c i)).drop i) = true := by
  intro fuel
  induction fuel with
  | zero => nofun
  | succ fuel ih =>
    intro i hfu
    by_cases hlt : i < perm.length
    · have := ih (i + 1) (Nat.lt_of_lt_of_le (Nat.sub_succ_lt_self _ _ hlt) (Nat.le_of_lt_succ hfu))
      rw [drop_take_cons perm hlt (hc i hlt)]
      simp only [run, runOk, hfwd i hlt]
      rw [drop_take_append perm (hc i hlt) (hmono i), this.1, this.2, List.drop_eq_getElem_cons hlt]
      exact ⟨rfl, rfl⟩
    · have hi : perm.length ≤ i := Nat.le_of_not_lt hlt
      rw [List.drop_eq_nil_of_le (Nat.le_trans (List.length_take_le' ..) hi), List.drop_eq_nil_of_le hi]
      exact ⟨rfl, rfl⟩

theorem rotorRelay_eq {n : Nat} {committee : List Nat} {s r : Nat} (hc : committee[s]? = some r) (hr : r < n) :
    rotorRelay n committee s = some r := by
  rw [rotorRelay, hc]; exact if_pos hr

theorem broadcastDests_length_le (n r l : Nat) : (broadcastDests n r l).length ≤ n :=
  Nat.le_trans (List.length_filter_le _ _) (Nat.le_of_eq List.length_range)

theorem broadcastDests_nodup (n r l : Nat) : (broadcastDests n r l).Nodup :=
  List.Sublist.nodup List.filter_sublist List.nodup_range

theorem posOf_getElem (perm : List Nat) (hnd : perm.Nodup) (i : Nat) (h : i < perm.length) :
    posOf perm perm[i] = some i := by
  induction perm generalizing i with
  | nil => cases h
  | cons x xs ih =>
    have ⟨hx, hxs⟩ := List.nodup_cons.mp hnd
    cases i with
    | zero => exact if_pos rfl
    | succ j =>
      have hj : j < xs.length := Nat.lt_of_succ_lt_succ h
      have hne : x ≠ xs[j] := fun e => hx (e ▸ List.getElem_mem hj)
      rw [List.getElem_cons_succ, posOf, if_neg hne, ih hxs j hj]
      rfl

def Cache.Sound (sampler : Key → List Nat) (c : Cache) : Prop := ∀ e ∈ c.entries, e.2 = sampler e.1

variable {sampler : Key → List Nat} {c : Cache}

theorem get_sound (inv : c.Sound sampler) {k : Key} {v : List Nat} (h : c.get k = some v) : v = sampler k := by
  obtain ⟨e, hf, rfl⟩ := Option.map_eq_some_iff.mp h
  have hk := List.find?_some hf
  rw [inv e (List.mem_of_find?_eq_some hf), (beq_iff_eq.mp hk : e.1 = k)]

theorem sampleRelays_sound (inv : c.Sound sampler) (k : Key) :
    (sampleRelays sampler c k).1 = sampler k ∧ (sampleRelays sampler c k).2.Sound sampler := by
  unfold sampleRelays
  cases hg : c.get k with
  | some v => exact ⟨get_sound inv hg, inv⟩
  | none => exact ⟨rfl, List.forall_mem_cons.mpr ⟨rfl, inv⟩⟩

theorem runCache_sound (ops : List CacheOp) (inv : c.Sound sampler) :
    ∀ a ∈ runCache sampler c ops, a.2 = sampler a.1 := by
  induction ops generalizing c with
  | nil => nofun
  | cons op ops ih =>
    cases op with
    | query k =>
      have hs := sampleRelays_sound inv k
      exact List.forall_mem_cons.mpr ⟨hs.1, ih hs.2⟩
    | evict k => exact ih fun e he => inv e (List.mem_filter.mp he).1

theorem sum_single (n a : Nat) (g : Nat → Nat) :
    ((List.range n).map (fun p => if p = a then g p else 0)).sum = if a < n then g a else 0 := by
  induction n with
  | zero => rfl
  | succ n ih =>
    rw [List.range_succ, List.map_append, List.sum_append_nat, ih]
    show _ + ((if n = a then g n else 0) + 0) = _
    by_cases h1 : a < n
    · rw [if_pos h1, if_neg (Nat.ne_of_gt h1), if_pos (Nat.lt_succ_of_lt h1)]; rfl
    · by_cases h2 : n = a
      · subst h2; rw [if_neg h1, if_pos rfl, if_pos (Nat.lt_succ_self _), Nat.zero_add]; rfl
      · rw [if_neg h1, if_neg h2, if_neg fun h => h1 (Nat.lt_of_le_of_ne (Nat.le_of_lt_succ h) (Ne.symm h2))]

/-- receipts flowing into position `q` when position `p` has received `r p` copies -/
def inflow (n f : Nat) (r : Nat → Nat) (q : Nat) : Nat :=
  ((List.range n).map (fun p => if q ∈ childPos n f p then r p else 0)).sum

end AgModel.Route
