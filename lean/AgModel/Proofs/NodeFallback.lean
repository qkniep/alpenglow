import AgModel.Proofs.PoolEvGen
import AgModel.Proofs.NodeRun
/-!
C05, composed node: **the pool raises safe-to-notar / safe-to-skip for a slot only after the node's own initial vote for
that slot was broadcast by the node's own voting component** — the ordering assumption `PoolOrdered` of
`fallback_only_after_vote_partial`, discharged in the composition `Model/Node.lean`.

Part 1 (pool): `OwnLog` abstracts "the own initial votes known to be broadcast". If every own initial vote stored in a
slot state is in the log (`QO`) and the operation, if it is an own vote, is in the log too, then the invariant is
kept (`poolStep_own`) and every safe-to event the operation emits is backed by a logged own vote (`poolStep_goodO`:
through `s2n_s2s_sound` = `EvSound`, whose `ownVotedNot` / `S2SCond` clauses read the stored own vote).
Part 2 (votor): a step appends the event and then only broadcasts to the log (`step_log`, from `Acts.outs` of
`Proofs/VotorExt.lean`), with its two readings `Hist.step`, `step_ev_mem`.
Part 3 (node): the invariant `FInv` through `nodeStep` under the unforgeability premise `OwnVotesFromVotor`.
-/
namespace AgModel.Pool

/-! ## Part 1: the pool -/

/-- what is known to have been broadcast by the node itself: skip votes per slot, notar votes per slot and block -/
structure OwnLog where
  skip : Nat → Prop
  notar : Nat → Nat → Prop

def QO (e : Epoch) (O : OwnLog) (st : SlotState) : Prop :=
  (e.own ∈ st.vSkip → O.skip st.slot) ∧ (∀ h, st.vNotar.lookup e.own = some h → O.notar st.slot h)

def GoodO (O : OwnLog) : Event → Prop
  | .s2n s h => O.skip s ∨ ∃ h', h' ≠ h ∧ O.notar s h'
  | .s2s s => ∃ h, O.notar s h
  | _ => True

variable {e : Epoch} {O O' : OwnLog}

theorem GoodO.mono {ev : Event} (h : GoodO O ev) (h1 : ∀ s, O.skip s → O'.skip s)
    (h2 : ∀ s x, O.notar s x → O'.notar s x) : GoodO O' ev := by
  cases ev with
  | s2n s hh =>
    rcases h with a | ⟨h', a, b⟩
    · exact Or.inl (h1 _ a)
    · exact Or.inr ⟨h', a, h2 _ _ b⟩
  | s2s s => obtain ⟨x, a⟩ := h; exact ⟨x, h2 _ _ a⟩
  | _ => trivial

theorem QO.mono {st : SlotState} (h : QO e O st) (h1 : ∀ s, O.skip s → O'.skip s)
    (h2 : ∀ s x, O.notar s x → O'.notar s x) : QO e O' st :=
  ⟨fun a => h1 _ (h.1 a), fun x a => h2 _ _ (h.2 x a)⟩

theorem QO.of_eq {a b : SlotState} (h : QO e O a) (hs : b.slot = a.slot)
    (h1 : b.vSkip = a.vSkip) (h2 : b.vNotar = a.vNotar) : QO e O b := by
  unfold QO; rw [hs, h1, h2]; exact h

theorem QO.of_same {a b : SlotState} (h : QO e O a) (s : SameCond a b) : QO e O b :=
  h.of_eq s.slot.symm s.vSkip.symm s.vNotar.symm

theorem QO.of_coreEq {a b : SlotState} (h : QO e O a) (c : CoreEq a b) : QO e O b :=
  h.of_eq (congrArg SlotState.slot c.eq.symm : b.core.slot = a.core.slot)
    (congrArg SlotState.vSkip c.eq.symm : b.core.vSkip = a.core.vSkip)
    (congrArg SlotState.vNotar c.eq.symm : b.core.vNotar = a.core.vNotar)

theorem goodO_of_witnessed {ev : Event} (hw : Witnessed e (QO e O) ev) : GoodO O ev := by
  cases ev with
  | s2n s h =>
    obtain ⟨st, hsl, hq, _, _, hown⟩ := hw
    unfold ownVotedNot at hown
    simp only [Bool.or_eq_true] at hown
    rcases hown with h1 | h1
    · left; rw [← hsl]; exact hq.1 (by simpa [List.contains_eq_mem] using h1)
    · right
      cases hl : st.vNotar.lookup e.own with
      | none => rw [hl] at h1; cases h1
      | some h' =>
        rw [hl] at h1
        exact ⟨h', by simpa using h1, by rw [← hsl]; exact hq.2 h' hl⟩
  | s2s s =>
    obtain ⟨st, hsl, hq, _, hsome⟩ := hw
    cases hl : st.vNotar.lookup e.own with
    | none => rw [hl] at hsome; cases hsome
    | some h' => exact ⟨h', by rw [← hsl]; exact hq.2 h' hl⟩
  | _ => trivial

def VoteLogged (e : Epoch) (O : OwnLog) (v : Vote) : Prop :=
  v.signer = e.own → (v.kind = .skip → O.skip v.slot) ∧ (v.kind = .notar → O.notar v.slot v.hash)

theorem stored_own (e : Epoch) (O : OwnLog) (st : SlotState) (v : Vote) (hsl : st.slot = v.slot)
    (hv : VoteLogged e O v) (hq : QO e O st) : QO e O (st.stored e v) := by
  unfold QO
  rw [(stored_same e st v).slot]
  unfold SlotState.stored
  cases hk : v.kind <;> dsimp only
  case notar =>
    refine ⟨hq.1, fun h hh => ?_⟩
    rw [List.lookup_append] at hh
    cases hl : st.vNotar.lookup e.own with
    | some x => rw [hl] at hh; cases hh; exact hq.2 _ hl
    | none =>
      rw [hl] at hh
      simp only [Option.none_or, List.lookup_cons, List.lookup_nil] at hh
      split at hh
      · rename_i heq
        cases hh
        rw [hsl]; exact (hv (by simpa using heq : e.own = v.signer).symm).2 hk
      · cases hh
  case skip =>
    refine ⟨fun hm => ?_, hq.2⟩
    rcases List.mem_append.mp hm with hm | hm
    · exact hq.1 hm
    · rw [hsl]; exact (hv (List.mem_singleton.mp hm).symm).1 hk
  all_goals exact hq

def OwnInv (e : Epoch) (O : OwnLog) (p : Pool) : Prop := p.epoch = e ∧ SlotsSat p (QO e O)

theorem OwnInv.init (e : Epoch) (O : OwnLog) : OwnInv e O { epoch := e } := ⟨rfl, SlotsSat.init e _⟩

theorem OwnInv.mono {p : Pool} (h : OwnInv e O p) (h1 : ∀ s, O.skip s → O'.skip s)
    (h2 : ∀ s x, O.notar s x → O'.notar s x) : OwnInv e O' p :=
  ⟨h.1, h.2.mono (fun _ hq => hq.mono h1 h2)⟩

def OpLogged (e : Epoch) (O : OwnLog) : PoolOp → Prop
  | .vote v => VoteLogged e O v
  | _ => True

theorem evGenO (e : Epoch) (O : OwnLog) : EvGen e (QO e O) (Witnessed e (QO e O)) :=
  .of_core (fun _ => ⟨fun h => (nomatch h), fun _ h => nomatch h⟩) fun _ _ c h => h.of_coreEq c

theorem opKeepsO {op : PoolOp} (hv : OpLogged e O op) : OpKeeps e (QO e O) op := by
  cases op with
  | vote v =>
    intro st hs _ hq
    exact ⟨(stored_own e O st v hs hv hq).of_same (addVote_same e st v),
      fun c _ st' _ hq' => hq'.of_same (addCert_same st' c)⟩
  | cert c => intro st _ hq; exact hq.of_same (addCert_same st c)
  | block b par => trivial

theorem OwnInv.advance {e : Epoch} {O : OwnLog} {p : Pool} (h : OwnInv e O p) (t : Finality.Tracker) (r : ParentReady.Res) :
    OwnInv e O (p.advance t r) :=
  PInv.advance h t r

theorem OwnInv.stored {e : Epoch} {O : OwnLog} {p : Pool} (h : OwnInv e O p) (c : Cert) : OwnInv e O (p.stored c) :=
  PInv.stored (evGenO e O) h c fun st _ hq => hq.of_same (addCert_same st c)

theorem poolStep_own (e : Epoch) (O : OwnLog) (p : Pool) (op : PoolOp) (h : OwnInv e O p) (hv : OpLogged e O op) :
    OwnInv e O (poolStep p op).1 :=
  (poolStep_pg (evGenO e O) p op h (opKeepsO hv)).1

theorem poolStep_goodO (e : Epoch) (O : OwnLog) (p : Pool) (op : PoolOp) (h : OwnInv e O p) (hv : OpLogged e O op) :
    ∀ ev ∈ (poolStep p op).2, GoodO O ev :=
  fun ev hev => goodO_of_witnessed ((poolStep_pg (evGenO e O) p op h (opKeepsO hv)).2 ev hev)

end AgModel.Pool

/-! ## Part 2: a Votor step logs the event, then only broadcasts -/
namespace AgModel.Votor

theorem step_log (v : V) (e : Event) :
    step v e = v ∨ ∃ xs, (step v e).log = xs ++ .ev e :: v.log ∧ ∀ x ∈ xs, ∃ o, x = .out o :=
  step_ind (C := fun w => w = v ∨ ∃ xs, w.log = xs ++ .ev e :: v.log ∧ ∀ x ∈ xs, ∃ o, x = .out o) v e
    (.inl rfl) (.inr ⟨[], rfl, fun _ h => nomatch h⟩) fun hi => .inr (Acts.handle (v.logEv e) e hi (.inl trivial)).outs

theorem Hist.step {P : Item → List Item → Prop} (hout : ∀ o past, P (.out o) past) {v : V} (e : Event)
    (he : P (.ev e) v.log) (h : Hist P v.log) : Hist P (step v e).log := by
  rcases step_log v e with hs | ⟨xs, hl, hx⟩
  · rw [hs]; exact h
  · rw [hl]; exact Hist.prepend_outs hout xs hx ⟨he, h⟩

theorem step_ev_mem {v : V} {e x : Event} (hx : Item.ev x ∈ (step v e).log) : x = e ∨ Item.ev x ∈ v.log := by
  rcases step_log v e with hs | ⟨xs, hl, hxs⟩
  · exact Or.inr (hs ▸ hx)
  · rw [hl] at hx
    rcases List.mem_append.mp hx with h | h
    · obtain ⟨o, ho⟩ := hxs _ h; cases ho
    · exact (List.mem_cons.mp h).imp (fun h => by cases h; rfl) id

end AgModel.Votor

/-! ## Part 3: the composed node -/
namespace AgModel.NodePanic
open AgModel AgModel.Node

def logOwn (L : List Votor.Item) : Pool.OwnLog where
  skip := fun s => .out (.skip s) ∈ L
  notar := fun s h => ∃ ps ph, .out (.notar s h ps ph) ∈ L

theorem logOwn_mono {L L' : List Votor.Item} (h : ∀ x ∈ L, x ∈ L') :
    (∀ s, (logOwn L).skip s → (logOwn L').skip s) ∧ (∀ s x, (logOwn L).notar s x → (logOwn L').notar s x) :=
  ⟨fun _ a => h _ a, fun _ _ ⟨ps, ph, a⟩ => ⟨ps, ph, h _ a⟩⟩

/-- every safe-to-notar / safe-to-skip event Votor received was backed, at that moment, by an own initial vote already in
    the log -/
def SafeBacked : Votor.Item → List Votor.Item → Prop
  | .ev (.safeToNotar s h), past => Pool.GoodO (logOwn past) (.s2n s h)
  | .ev (.safeToSkip s), past => Pool.GoodO (logOwn past) (.s2s s)
  | _, _ => True

/-- the broadcast `o` of Votor is the vote `v` (kind, slot and — for notar / notar-fallback — block; the signer is the
    node itself: Votor signs with its own key) -/
def outMatches (o : Votor.Out) (v : Pool.Vote) : Bool :=
  match o, v.kind with
  | .notar s h _ _, .notar => v.slot == s && v.hash == h
  | .skip s, .skip => v.slot == s
  | .final s, .final => v.slot == s
  | .notarFallback s h, .nf => v.slot == s && v.hash == h
  | .skipFallback s, .sf => v.slot == s
  | _, _ => false

/-- what the node broadcasts in one step (`All2All::broadcast` calls of Votor, and timer requests) -/
def nodeOuts (n : Node) : NodeOp → List Votor.Out
  | .recvVote _ | .recvCert _ | .poolBlock _ _ => []
  | .pump => (pump n).2
  | .votorBlock s b => (votorStep n (.block s b)).2
  | .firstShred s => (votorStep n (.firstShred s)).2
  | .invalidBlock s => (votorStep n (.invalidBlock s)).2
  | .timeout s => (votorStep n (.timeout s)).2
  | .timeoutCrashed s => (votorStep n (.timeoutCrashed s)).2

def ownOk (own : Nat) (sent : List Votor.Out) : NodeOp → Bool
  | .recvVote v => v.signer != own || sent.any (fun o => outMatches o v)
  | _ => true

/-- **Unforgeability premise** ("own votes only come from the own Votor"), as a decidable predicate on the operation list
    together with the outputs of the run: every network vote whose signer is the node's own index is a vote that the
    node's Votor broadcast earlier in the same run (`sent` = the broadcasts before the first operation of the list). -/
def OwnVotesFromVotor (own : Nat) : Node → List Votor.Out → List NodeOp → Bool
  | _, _, [] => true
  | n, sent, op :: ops => ownOk own sent op && OwnVotesFromVotor own (nodeStep n op) (sent ++ nodeOuts n op) ops

def nodeRunOuts : Node → List NodeOp → List Votor.Out
  | _, [] => []
  | n, op :: ops => nodeOuts n op ++ nodeRunOuts (nodeStep n op) ops

/-! ### the broadcasts are exactly the `.out` items of Votor's log, in order -/

/-- the broadcasts recorded in a log (newest first), oldest first -/
def outsOf (L : List Votor.Item) : List Votor.Out :=
  L.reverse.filterMap (fun i => match i with
    | .out o => some o
    | .ev _ => none)

theorem outsOf_append (a b : List Votor.Item) : outsOf (a ++ b) = outsOf b ++ outsOf a := by
  unfold outsOf; rw [List.reverse_append, List.filterMap_append]

theorem newOuts_eq {before after : Votor.V} {ys : List Votor.Item} (h : after.log = ys ++ before.log) :
    newOuts before after = outsOf ys := by
  unfold newOuts outsOf
  rw [h]
  simp only [List.length_append, Nat.add_sub_cancel, List.take_left']
  congr 1

theorem mem_outsOf {L : List Votor.Item} {o : Votor.Out} : o ∈ outsOf L ↔ Votor.Item.out o ∈ L := by
  unfold outsOf
  constructor
  · intro h
    obtain ⟨i, hi, hio⟩ := List.mem_filterMap.mp h
    cases i with
    | ev x => cases hio
    | out o' => simp only [Option.some.injEq] at hio; subst hio; exact List.mem_reverse.mp hi
  · intro h
    exact List.mem_filterMap.mpr ⟨.out o, List.mem_reverse.mpr h, rfl⟩

theorem safeBacked_of_good {L : List Votor.Item} {qe : Pool.Event} {ve : Votor.Event} (hg : Pool.GoodO (logOwn L) qe)
    (hv : toVotor qe = some ve) : SafeBacked (.ev ve) L := by
  cases qe with
  | s2n s h => cases hv; exact hg
  | s2s s => cases hv; exact hg
  | _ => cases hv <;> trivial

theorem liftOwn (e : Pool.Epoch) : Lift (fun L => Pool.OwnInv e (logOwn L)) (fun L => Pool.GoodO (logOwn L))
    (fun ve v => SafeBacked (.ev ve) v.log) (fun v => Votor.Hist SafeBacked v.log)
    (fun L _ => Pool.OpLogged e (logOwn L)) where
  mono hsub := let ⟨m1, m2⟩ := logOwn_mono hsub; ⟨fun _ h => h.mono m1 m2, fun _ h => h.mono m1 m2⟩
  pool hop i := ⟨Pool.poolStep_own e _ _ _ i hop, fun ev hev _ => Pool.poolStep_goodO e _ _ _ i hop ev hev⟩
  toV := safeBacked_of_good
  votor he := Votor.Hist.step (fun _ _ => trivial) _ he

/-- the pool has stored an own vote only if Votor has cast it, the queued safe-to events are backed by own votes in Votor's
    log, and so was every safe-to event Votor received, when it received it -/
abbrev FInv (e : Pool.Epoch) : Node → Prop := (liftOwn e).Inv

theorem FInv.init (e : Pool.Epoch) : FInv e ({ pool := { epoch := e } } : Node) :=
  ⟨Pool.OwnInv.init e _, (by intro ev h; cases h), ⟨trivial, trivial⟩⟩

/-- For a skip / notarization vote `outMatches o v` holds of the `.skip` / `.notar` broadcast with the vote's slot (and block)
    only: the case analysis over the broadcasts is left to `simp`. -/
theorem voteLogged_of_ownOk (e : Pool.Epoch) (sent : List Votor.Out) (L : List Votor.Item) (v : Pool.Vote)
    (hs : ∀ o ∈ sent, Votor.Item.out o ∈ L) (hok : ownOk e.own sent (.recvVote v) = true) :
    Pool.VoteLogged e (logOwn L) v := by
  intro hsig
  simp only [ownOk, hsig, bne_self_eq_false, Bool.false_or, List.any_eq_true] at hok
  obtain ⟨o, ho, hm⟩ := hok
  have hoL := hs o ho
  unfold outMatches at hm
  constructor
  · intro hk
    rw [hk] at hm
    cases o <;> simp at hm
    subst hm
    exact hoL
  · intro hk
    rw [hk] at hm
    cases o <;> simp at hm
    obtain ⟨rfl, rfl⟩ := hm
    exact ⟨_, _, hoL⟩

theorem votorStep_outs (n : Node) (ve : Votor.Event) :
    outsOf (votorStep n ve).1.votor.log = outsOf n.votor.log ++ (votorStep n ve).2 := by
  unfold votorStep
  split
  · simp
  · rcases Votor.step_log n.votor ve with hs | ⟨xs, hl, _⟩
    · simp [hs, newOuts]
    · have hl' : (Votor.step n.votor ve).log = (xs ++ [.ev ve]) ++ n.votor.log := by rw [hl]; simp
      show outsOf (Votor.step n.votor ve).log = _ ++ newOuts n.votor (Votor.step n.votor ve)
      rw [newOuts_eq hl', hl', outsOf_append]

theorem nodeStep_outs (n : Node) (op : NodeOp) :
    outsOf (nodeStep n op).votor.log = outsOf n.votor.log ++ nodeOuts n op := by
  cases op with
  | recvVote v => rw [nodeStep_recvVote, nodeOuts, List.append_nil, poolNode_votor]
  | recvCert c => rw [nodeStep_recvCert, nodeOuts, List.append_nil, poolNode_votor]
  | poolBlock b par => rw [nodeStep_poolBlock, nodeOuts, List.append_nil, poolNode_votor]
  | pump =>
    exact pump_ind (C := fun r => outsOf r.1.votor.log = outsOf n.votor.log ++ r.2) n (List.append_nil _).symm
      fun _ _ _ => ⟨(List.append_nil _).symm, fun ve _ => votorStep_outs _ ve⟩
  | _ => exact votorStep_outs n _

theorem nodeRun_outs (ops : List NodeOp) (n : Node) :
    outsOf (nodeRun n ops).votor.log = outsOf n.votor.log ++ nodeRunOuts n ops := by
  induction ops generalizing n with
  | nil => simp [nodeRun, nodeRunOuts]
  | cons op ops ih => simp only [nodeRun, nodeRunOuts]; rw [ih, nodeStep_outs, List.append_assoc]

theorem nodeStep_finv (e : Pool.Epoch) (sent : List Votor.Out) (n : Node) (op : NodeOp) (i : FInv e n)
    (hs : ∀ o ∈ sent, Votor.Item.out o ∈ n.votor.log) (hok : ownOk e.own sent op = true) : FInv e (nodeStep n op) :=
  (liftOwn e).step n op i (by
    cases op with
    | recvVote v => exact voteLogged_of_ownOk e sent _ v hs hok
    | _ => trivial)

/-- that the broadcasts so far are in Votor's log (`hs`) is carried along the run by `nodeStep_outs` -/
theorem nodeRun_finv (e : Pool.Epoch) (ops : List NodeOp) (sent : List Votor.Out) (n : Node) (i : FInv e n)
    (hs : ∀ o ∈ sent, Votor.Item.out o ∈ n.votor.log) (hok : OwnVotesFromVotor e.own n sent ops = true) :
    FInv e (nodeRun n ops) := by
  induction ops generalizing sent n with
  | nil => exact i
  | cons op ops ih =>
    simp only [OwnVotesFromVotor, Bool.and_eq_true] at hok
    refine ih _ _ (nodeStep_finv e sent n op i hs hok.1) (fun o ho => mem_outsOf.mp ?_) hok.2
    rw [nodeStep_outs]
    exact (List.mem_append.mp ho).elim (fun h => List.mem_append_left _ (mem_outsOf.mpr (hs o h))) (List.mem_append_right _)

/-- a position in the broadcast list is a position in the log: `outsOf` is a `filterMap` of the reversed log, so the split of
    its value comes from a split of the reversed log (`List.filterMap_eq_append_iff`, `filterMap_eq_cons_iff`) -/
theorem outsOf_split {L : List Votor.Item} {pre post : List Votor.Out} {x : Votor.Out} (h : outsOf L = pre ++ x :: post) :
    ∃ a b, L = a ++ .out x :: b ∧ outsOf b = pre := by
  unfold outsOf at h
  obtain ⟨l1, l2, hl, h1, h2⟩ := List.filterMap_eq_append_iff.mp h
  obtain ⟨m1, z, m2, hm, hnone, hz, _⟩ := List.filterMap_eq_cons_iff.mp h2
  have hz' : z = .out x := by
    cases z with
    | ev ev => cases hz
    | out o => simp only [Option.some.injEq] at hz; rw [hz]
  subst hz'
  refine ⟨m2.reverse, (l1 ++ m1).reverse, ?_, ?_⟩
  · have := congrArg List.reverse hl
    rw [List.reverse_reverse] at this
    rw [this, hm]; simp
  · unfold outsOf
    rw [List.reverse_reverse, List.filterMap_append, h1]
    have : List.filterMap (fun i => match i with | Votor.Item.out o => some o | Votor.Item.ev _ => none) m1 = [] :=
      List.filterMap_eq_nil_iff.mpr hnone
    rw [this, List.append_nil]

end AgModel.NodePanic
