import AgModel.Model.Blockstore
/-! What each stage of `add_shred` / `add_own_slice` does to a `BlockData`, stated once: one case lemma or equation per
    model function, giving each outcome with its reason and the new state as `{ b with … }`. The invariants in the other
    `Blockstore*` files argue from these statements. Core Lean only. -/
namespace AgModel.Blockstore

def runDissem (env : Nat → Content) : SlotData → List Shred → SlotData × List Event
  | sd, [] => (sd, [])
  | sd, s :: rest =>
    let (sd', _, evs) := addDissem env sd s
    let (sd'', evs') := runDissem env sd' rest
    (sd'', evs ++ evs')

theorem upd_same {α : Type} {f : Nat → Option α} {k : Nat} {v : Option α} : upd f k v k = v := if_pos rfl

theorem upd_other {α : Type} {f : Nat → Option α} {k : Nat} {v : Option α} {i : Nat} (h : i ≠ k) :
    upd f k v i = f i := if_neg h

theorem upd_self {α : Type} (f : Nat → Option α) (k : Nat) : upd f k (f k) = f := by
  funext i
  by_cases h : i = k
  · rw [h, upd_same]
  · rw [upd_other h]

theorem upd_eq_some {α : Type} {f : Nat → Option α} {k : Nat} {v : Option α} {i : Nat} {x : α}
    (h : upd f k v i = some x) : (i = k ∧ v = some x) ∨ (i ≠ k ∧ f i = some x) := by
  by_cases hi : i = k
  · rw [hi, upd_same] at h; exact Or.inl ⟨hi, h⟩
  · rw [upd_other hi] at h; exact Or.inr ⟨hi, h⟩

theorem upd_forall {α : Type} {f : Nat → Option α} {Q : Nat → α → Prop} (h : ∀ i x, f i = some x → Q i x) {k : Nat} {v : α}
    (hv : Q k v) : ∀ i x, upd f k (some v) i = some x → Q i x := by
  intro i x hx
  rcases upd_eq_some hx with ⟨rfl, e⟩ | ⟨_, e⟩
  · cases e; exact hv
  · exact h i x e

theorem retainLe_of_le {α : Type} (f : Nat → Option α) {k i : Nat} (h : i ≤ k) : retainLe f k i = f i := if_pos h

theorem retainLe_of_lt {α : Type} (f : Nat → Option α) {k i : Nat} (h : k < i) : retainLe f k i = none :=
  if_neg (Nat.not_le.mpr h)

theorem retainLe_eq_some {α : Type} {f : Nat → Option α} {k i : Nat} {x : α} (h : retainLe f k i = some x) :
    i ≤ k ∧ f i = some x := by
  by_cases hi : i ≤ k
  · rw [retainLe_of_le f hi] at h; exact ⟨hi, h⟩
  · rw [retainLe_of_lt f (Nat.not_le.mp hi)] at h; cases h

/-- for maps written `fun i => if p i then some (g i) else none` -/
theorem ite_some_eq {α : Type} {p : Prop} [Decidable p] {a x : α} (h : (if p then some a else none) = some x) : p ∧ a = x := by
  split at h
  · exact ⟨‹p›, Option.some.inj h⟩
  · cases h

theorem ite_iff {α : Type} {p q : Prop} [Decidable p] [Decidable q] (h : p ↔ q) (a b : α) :
    (if p then a else b) = (if q then a else b) := by
  by_cases hp : p
  · rw [if_pos hp, if_pos (h.mp hp)]
  · rw [if_neg hp, if_neg (fun hq => hp (h.mpr hq))]

theorem BlockData.ext {a b : BlockData} (h1 : a.cap = b.cap) (h2 : a.slot = b.slot) (h3 : a.completed = b.completed)
    (h4 : a.shreds = b.shreds) (h5 : a.slices = b.slices) (h6 : a.lastSlice = b.lastSlice) (h7 : a.tree = b.tree)
    (h8 : a.cache = b.cache) : a = b := by
  cases a; cases b
  simp only at h1 h2 h3 h4 h5 h6 h7 h8
  subst h1 h2 h3 h4 h5 h6 h7 h8
  rfl

theorem mapLen_le {α : Type} (cap : Nat) (f : Nat → Option α) : mapLen cap f ≤ cap := by
  have := List.countP_le_length (p := fun i => (f i).isSome) (l := List.range cap)
  simpa [mapLen] using this

theorem mapLen_eq_of_all {α : Type} (f : Nat → Option α) (n : Nat) (h : ∀ i, i < n → (f i).isSome) :
    mapLen n f = n := by
  have : (List.range n).countP (fun i => (f i).isSome) = (List.range n).length :=
    List.countP_eq_length.mpr fun i hi => h i (List.mem_range.mp hi)
  simpa [mapLen] using this

theorem mapLen_full {α : Type} (f : Nat → Option α) (n : Nat) (h : mapLen n f = n) :
    ∀ i, i < n → (f i).isSome := by
  have hl : (List.range n).countP (fun i => (f i).isSome) = (List.range n).length := by simpa [mapLen] using h
  exact fun i hi => List.countP_eq_length.mp hl i (List.mem_range.mpr hi)

theorem mapVals_bound {α : Type} (f : Nat → Option α) (n d : Nat) (hf : ∀ i, n ≤ i → f i = none) :
    mapVals (n + d) f = mapVals n f := by
  induction d with
  | zero => rfl
  | succ d ih =>
    unfold mapVals at ih ⊢
    rw [← Nat.add_assoc, List.range_succ, List.filterMap_append, ih]
    simp [hf (n + d) (by omega)]

theorem mapLen_eq_length {α : Type} (cap : Nat) (f : Nat → Option α) : mapLen cap f = (mapVals cap f).length :=
  List.length_filterMap_eq_countP.symm

theorem mapLen_bound {α : Type} (f : Nat → Option α) (n d : Nat) (hf : ∀ i, n ≤ i → f i = none) :
    mapLen (n + d) f = mapLen n f := by
  rw [mapLen_eq_length, mapLen_eq_length, mapVals_bound f n d hf]

theorem mapVals_map {α : Type} (f : Nat → Option α) (g : Nat → α) (n : Nat) (hf : ∀ i, i < n → f i = some (g i)) :
    mapVals n f = (List.range n).map g := by
  unfold mapVals
  induction n with
  | zero => rfl
  | succ n ih =>
    rw [List.range_succ, List.filterMap_append, List.map_append, ih (fun i hi => hf i (by omega))]
    simp [hf n (by omega)]

theorem mapVals_of_keys {α : Type} {cap n : Nat} {f : Nat → Option α} {g : Nat → α} (hn : n ≤ cap)
    (hf : ∀ i, i < n → f i = some (g i)) (hnone : ∀ i, n ≤ i → f i = none) :
    mapLen cap f = n ∧ mapVals cap f = (List.range n).map g := by
  obtain ⟨d, rfl⟩ : ∃ d, cap = n + d := ⟨cap - n, by omega⟩
  rw [mapVals_bound f n d hnone, mapLen_bound f n d hnone]
  exact ⟨mapLen_eq_of_all f n fun i hi => by rw [hf i hi]; rfl, mapVals_map f g n hf⟩

theorem slices_full_of_count {α : Type} (cap : Nat) (f : Nat → Option α) (last : Nat)
    (hkeys : ∀ i, last < i → f i = none) (hlen : mapLen cap f = last + 1) :
    last < cap ∧ ∀ i, i ≤ last → ∃ x, f i = some x := by
  have hcap : last + 1 ≤ cap := by
    have := mapLen_le cap f; omega
  obtain ⟨d, hd⟩ : ∃ d, cap = (last + 1) + d := ⟨cap - (last + 1), by omega⟩
  refine ⟨by omega, fun i hi => Option.isSome_iff_exists.mp (mapLen_full f (last + 1) ?_ i (by omega))⟩
  rw [← mapLen_bound f (last + 1) d (fun i hi => hkeys i hi), ← hd]
  exact hlen

theorem hasKeyAbove_false {α : Type} (cap : Nat) (f : Nat → Option α) (k : Nat) (hf : ∀ i, (f i).isSome → i ≤ k) :
    hasKeyAbove cap f k = false := by
  unfold hasKeyAbove
  rw [List.any_eq_false]
  intro i _
  cases h : (f i).isSome with
  | false => simp
  | true => have := hf i h; simp; omega

theorem mapEmpty_iff {α : Type} (cap : Nat) (f : Nat → Option α) :
    mapEmpty cap f = true ↔ ∀ i, i < cap → f i = none := by
  unfold mapEmpty
  rw [List.all_eq_true]
  constructor
  · intro h i hi
    simpa using h i (List.mem_range.mpr hi)
  · intro h i hi
    rw [h i (List.mem_range.mp hi)]; rfl

theorem present_mem (arr : ShredArr) (f : Shred) (h : f ∈ present arr) : ∃ j, arr j = some f := by
  obtain ⟨j, _, hj⟩ := List.mem_filterMap.mp h
  exact ⟨j, hj⟩

theorem refill_eq_some {f : Shred} {arr : ShredArr} {j : Nat} {s : Shred} (h : refill f arr j = some s) :
    arr j = some s ∨ (arr j = none ∧ j < TOTAL_SHREDS ∧ s = { f with idx := j, ty := true }) := by
  unfold refill at h
  split at h
  · rename_i hj
    cases hold : arr j with
    | some x => rw [hold] at h; exact Or.inl h
    | none => rw [hold] at h; exact Or.inr ⟨rfl, hj, (Option.some.inj h).symm⟩
  · exact Or.inl h

theorem refill_some (f : Shred) (arr : ShredArr) (j : Nat) (h : (arr j).isSome) : (refill f arr j).isSome := by
  unfold refill
  split
  · cases harr : arr j with
    | none => rw [harr] at h; cases h
    | some x => rfl
  · exact h

/-- a successful decoding hands back the header of a stored shred `f` (the first present one), what its root decodes to, and
    the array refilled from `f` -/
theorem deshred_ok {env : Nat → Content} {arr arr' : ShredArr} {r : RSlice} (h : deshred env arr = .ok r arr') :
    ∃ f j0 p t, arr j0 = some f ∧ env f.root = .ok p t ∧ r = ⟨f.slice, f.isLast, f.root, p, t⟩ ∧ arr' = refill f arr := by
  unfold deshred at h
  split at h
  · cases h
  · rename_i f rest hp
    obtain ⟨j0, hj0⟩ := present_mem arr f (hp ▸ List.mem_cons_self)
    split at h
    · cases h
    · split at h
      · cases h
      · split at h
        · cases h
        · rename_i p t henv
          cases h
          exact ⟨f, j0, p, t, hj0, henv, rfl, rfl⟩

theorem cacheStep_some {b b1 : BlockData} {s : Shred} (h : cacheStep b s = some b1) :
    ∃ c, b1 = { b with cache := c } ∧ c s.slice = some s.commitment ∧ (∀ i, i ≠ s.slice → c i = b.cache i) ∧
      ∀ i x, b.cache i = some x → c i = some x := by
  unfold cacheStep at h
  split at h
  · rename_i c hc
    split at h
    · cases h
    · rename_i hne
      cases h
      exact ⟨b.cache, rfl, by rw [hc, Decidable.of_not_not hne], fun _ _ => rfl, fun _ _ hx => hx⟩
  · rename_i hnone
    cases h
    refine ⟨_, rfl, upd_same, fun i hi => upd_other hi, ?_⟩
    intro i x hx
    rw [upd_other (fun hi => by rw [hi, hnone] at hx; cases hx)]
    exact hx

theorem lastStep_some {b b2 : BlockData} {s : Shred} (h : lastStep b s = some b2) :
    (b2 = b ∧ ((b.lastSlice = none ∧ s.isLast = false) ∨
      ∃ l, b.lastSlice = some l ∧ ((s.slice < l ∧ s.isLast = false) ∨ (s.slice = l ∧ s.isLast = true)))) ∨
    (b2 = markLastSlice b s.slice ∧ b.lastSlice = none ∧ s.isLast = true) := by
  unfold lastStep at h
  split at h
  · rename_i hl
    split at h
    · rename_i hil
      split at h
      · cases h
      · cases h
        exact Or.inr ⟨rfl, hl, hil⟩
    · rename_i hil
      cases h
      exact Or.inl ⟨rfl, Or.inl ⟨hl, by simpa using hil⟩⟩
  · rename_i l hl
    split at h
    · rename_i hc
      cases h
      refine Or.inl ⟨rfl, Or.inr ⟨l, hl, ?_⟩⟩
      simpa using hc
    · cases h

theorem cacheStep_eq_none_iff {b : BlockData} {s : Shred} :
    cacheStep b s = none ↔ ∃ c, b.cache s.slice = some c ∧ c ≠ s.commitment := by
  unfold cacheStep
  cases hc : b.cache s.slice with
  | none => simp
  | some c => by_cases hne : c = s.commitment <;> simp [hne]

theorem lastStep_eq_none_iff {b : BlockData} {s : Shred} :
    lastStep b s = none ↔
      (b.lastSlice = none ∧ s.isLast = true ∧ hasKeyAbove b.cap b.cache s.slice = true) ∨
      ∃ l, b.lastSlice = some l ∧ ¬ ((s.slice < l ∧ s.isLast = false) ∨ (s.slice = l ∧ s.isLast = true)) := by
  unfold lastStep
  cases hl : b.lastSlice with
  | none => cases hil : s.isLast <;> cases hk : hasKeyAbove b.cap b.cache s.slice <;> simp
  | some l => cases hil : s.isLast <;> simp

theorem tryReconstructSlice_cases (env : Nat → Content) (b : BlockData) (k : Nat) :
    (tryReconstructSlice env b k = (b, .noAction) ∧
      (b.completed.isSome ∨ (b.slices k).isSome ∨ ∃ arr, b.shreds k = some arr ∧ deshred env arr = .notEnough)) ∨
    (tryReconstructSlice env b k = (b, .panic) ∧ b.shreds k = none) ∨
    (tryReconstructSlice env b k = (b, .error) ∧ ∃ arr, b.shreds k = some arr ∧ deshred env arr = .error) ∨
    ∃ arr r arr', b.shreds k = some arr ∧ deshred env arr = .ok r arr' ∧
      ((r.parent = none ∧ r.slice = 0 ∧
          tryReconstructSlice env b k = ({ b with shreds := upd b.shreds k (some arr') }, .error)) ∨
       ((r.slice = 0 → r.parent.isSome) ∧
          tryReconstructSlice env b k =
            ({ b with shreds := upd b.shreds k (some arr'), slices := upd b.slices k (some r) }, .complete))) := by
  generalize hres : tryReconstructSlice env b k = res
  unfold tryReconstructSlice at hres
  split at hres
  · rename_i hc; exact Or.inl ⟨hres.symm, Or.inl hc⟩
  split at hres
  · rename_i hs; exact Or.inl ⟨hres.symm, Or.inr (Or.inl hs)⟩
  split at hres
  · rename_i harr; exact Or.inr (Or.inl ⟨hres.symm, harr⟩)
  · rename_i arr harr
    split at hres
    · rename_i hd; exact Or.inl ⟨hres.symm, Or.inr (Or.inr ⟨arr, harr, hd⟩)⟩
    · rename_i hd; exact Or.inr (Or.inr (Or.inl ⟨hres.symm, arr, harr, hd⟩))
    · rename_i r arr' hd
      refine Or.inr (Or.inr (Or.inr ⟨arr, r, arr', harr, hd, ?_⟩))
      simp only at hres
      split at hres
      · rename_i hp
        simp only [Bool.and_eq_true, Option.isNone_iff_eq_none, beq_iff_eq] at hp
        exact Or.inl ⟨hp.1, hp.2, hres.symm⟩
      · rename_i hp
        refine Or.inr ⟨fun h0 => ?_, hres.symm⟩
        cases hpar : r.parent with
        | some p => rfl
        | none => exact absurd (by simp [hpar, h0]) hp

theorem tryReconstructSlice_of_done {env : Nat → Content} {b : BlockData} {k : Nat}
    (h : b.completed.isSome ∨ (b.slices k).isSome) : tryReconstructSlice env b k = (b, .noAction) := by
  unfold tryReconstructSlice
  split
  · rfl
  · rw [if_pos (h.resolve_left ‹_›)]

theorem tryReconstructSlice_frame (env : Nat → Content) (b : BlockData) (k : Nat) :
    ∃ sh sl, (tryReconstructSlice env b k).1 = { b with shreds := sh, slices := sl } := by
  rcases tryReconstructSlice_cases env b k with ⟨e, _⟩ | ⟨e, _⟩ | ⟨e, _⟩ | ⟨_, _, _, _, _, ⟨_, _, e⟩ | ⟨_, e⟩⟩ <;>
    rw [e] <;> exact ⟨_, _, rfl⟩

/-- the leaves `try_reconstruct_block` builds the double-Merkle tree from -/
def blockRoots (b : BlockData) : List Nat := (mapVals b.cap b.slices).map (·.root)

theorem tryReconstructBlock_cases (b : BlockData) :
    (tryReconstructBlock b = (b, .noAction) ∧
      (b.completed.isSome ∨ b.lastSlice = none ∨ ∃ last, b.lastSlice = some last ∧ mapLen b.cap b.slices ≠ last + 1)) ∨
    ∃ last, b.completed = none ∧ b.lastSlice = some last ∧ mapLen b.cap b.slices = last + 1 ∧
      ((tryReconstructBlock b = ({ b with tree := some (blockRoots b) }, .panic) ∧
          ∀ first, b.slices 0 = some first → first.parent = none) ∨
       (∃ first p0, b.slices 0 = some first ∧ first.parent = some p0 ∧
          tryReconstructBlock b = ({ b with tree := some (blockRoots b) }, .error) ∧
          ∀ parent txs, foldSlices (mapVals b.cap b.slices) p0 false [] = some (parent, txs) → b.slot ≤ parent.1) ∨
       (∃ first p0 parent txs, b.slices 0 = some first ∧ first.parent = some p0 ∧
          foldSlices (mapVals b.cap b.slices) p0 false [] = some (parent, txs) ∧ parent.1 < b.slot ∧
          tryReconstructBlock b =
            ({ b with tree := some (blockRoots b),
                      completed := some ⟨(Merkle.Tree.new (blockRoots b)).root, parent, txs⟩,
                      slices := fun i => if i ≤ last then none else b.slices i },
             .complete ⟨(Merkle.Tree.new (blockRoots b)).root, parent⟩))) := by
  generalize hres : tryReconstructBlock b = res
  unfold tryReconstructBlock at hres
  split at hres
  · rename_i hc; exact Or.inl ⟨hres.symm, Or.inl hc⟩
  rename_i hc
  split at hres
  · rename_i hl; exact Or.inl ⟨hres.symm, Or.inr (Or.inl hl)⟩
  rename_i last hl
  split at hres
  · rename_i hlen; exact Or.inl ⟨hres.symm, Or.inr (Or.inr ⟨last, hl, hlen⟩)⟩
  rename_i hlen
  refine Or.inr ⟨last, by simpa using hc, hl, Decidable.of_not_not hlen, ?_⟩
  simp only at hres
  split at hres
  · rename_i h0; exact Or.inl ⟨hres.symm, fun first hf => by rw [h0] at hf; cases hf⟩
  rename_i first h0
  split at hres
  · rename_i hp; exact Or.inl ⟨hres.symm, fun f hf => by rw [h0] at hf; cases hf; exact hp⟩
  rename_i p0 hp
  split at hres
  · rename_i hfold
    exact Or.inr (Or.inl ⟨first, p0, h0, hp, hres.symm, fun parent txs h => by rw [hfold] at h; cases h⟩)
  rename_i parent txs hfold
  split at hres
  · rename_i hslot
    exact Or.inr (Or.inl ⟨first, p0, h0, hp, hres.symm, fun parent' txs' h => by rw [hfold] at h; cases h; exact hslot⟩)
  · rename_i hslot
    exact Or.inr (Or.inr ⟨first, p0, parent, txs, h0, hp, hfold, Nat.not_le.mp hslot, hres.symm⟩)

theorem tryReconstructBlock_frame (b : BlockData) :
    ∃ t c sl, (tryReconstructBlock b).1 = { b with tree := t, completed := c, slices := sl } := by
  rcases tryReconstructBlock_cases b with ⟨e, _⟩ | ⟨last, _, _, _, ⟨e, _⟩ | ⟨_, _, _, _, e, _⟩ | ⟨_, _, _, _, _, _, _, _, e⟩⟩ <;>
    rw [e]
  · exact ⟨b.tree, b.completed, b.slices, rfl⟩
  · exact ⟨_, b.completed, b.slices, rfl⟩
  · exact ⟨_, b.completed, b.slices, rfl⟩
  · exact ⟨_, _, _, rfl⟩

theorem tryReconstructBlock_shreds_last (b : BlockData) :
    (tryReconstructBlock b).1.shreds = b.shreds ∧ (tryReconstructBlock b).1.lastSlice = b.lastSlice := by
  obtain ⟨t, c, sl, e⟩ := tryReconstructBlock_frame b
  rw [e]; exact ⟨rfl, rfl⟩

theorem tryReconstructBlock_slot_cap (b : BlockData) :
    (tryReconstructBlock b).1.slot = b.slot ∧ (tryReconstructBlock b).1.cap = b.cap := by
  obtain ⟨t, c, sl, e⟩ := tryReconstructBlock_frame b
  rw [e]; exact ⟨rfl, rfl⟩

theorem tryReconstructBlock_complete {b b' : BlockData} {info : BlockInfo}
    (h : tryReconstructBlock b = (b', .complete info)) :
    ∃ txs, b'.completed = some ⟨info.hash, info.parent, txs⟩ ∧ info.parent.1 < b.slot ∧
      info.hash = (Merkle.Tree.new ((mapVals b.cap b.slices).map (·.root))).root ∧
      ∃ first p0, b.slices 0 = some first ∧ first.parent = some p0 ∧
        foldSlices (mapVals b.cap b.slices) p0 false [] = some (info.parent, txs) := by
  rcases tryReconstructBlock_cases b with ⟨e, _⟩ | ⟨last, _, _, _, ⟨e, _⟩ | ⟨_, _, _, _, e, _⟩ |
      ⟨first, p0, parent, txs, h0, hp, hfold, hslot, e⟩⟩ <;> rw [e] at h <;> cases h
  exact ⟨txs, rfl, hslot, rfl, first, p0, h0, hp, hfold⟩

/-- what `add_shred` answers after `try_reconstruct_slice` alone / after `try_reconstruct_block` -/
def RecSlice.res : RecSlice → AddRes
  | .error => .err .invalidShred
  | .panic => .panic
  | _ => .none

def RecBlock.res : RecBlock → AddRes
  | .noAction => .none
  | .error => .err .invalidShred
  | .panic => .panic
  | .complete info => .ev (.block info)

theorem reconstruct_eq (env : Nat → Content) (b : BlockData) (k : Nat) :
    reconstruct env b k =
      if (tryReconstructSlice env b k).2 = .complete then
        ((tryReconstructBlock (tryReconstructSlice env b k).1).1, (tryReconstructBlock (tryReconstructSlice env b k).1).2.res)
      else ((tryReconstructSlice env b k).1, (tryReconstructSlice env b k).2.res) := by
  unfold reconstruct
  cases tryReconstructSlice env b k with
  | mk b1 r1 =>
    cases r1 with
    | complete =>
      simp only [if_true]
      cases tryReconstructBlock b1 with
      | mk b2 r2 => cases r2 <;> rfl
    | _ => rfl

/-- the state after stage 3 stored the shred -/
def insertShred (b : BlockData) (s : Shred) : BlockData :=
  { b with shreds := upd b.shreds s.slice (some (upd ((b.shreds s.slice).getD arrEmpty) s.idx (some s))) }

theorem insertShred_same (b : BlockData) (s : Shred) :
    (insertShred b s).shreds s.slice = some (upd ((b.shreds s.slice).getD arrEmpty) s.idx (some s)) := upd_same

theorem insertShred_other (b : BlockData) (s : Shred) {i : Nat} (h : i ≠ s.slice) :
    (insertShred b s).shreds i = b.shreds i := upd_other h

theorem storeStep_cases (env : Nat → Content) (b : BlockData) (s : Shred) :
    (storeStep env b s = (b, .err .duplicate) ∧ ∃ arr, b.shreds s.slice = some arr ∧ (arr s.idx).isSome) ∨
    (((b.shreds s.slice).getD arrEmpty s.idx) = none ∧
      ((mapEmpty b.cap b.shreds = true ∧ storeStep env b s = (insertShred b s, .ev .firstShred)) ∨
       (mapEmpty b.cap b.shreds = false ∧ storeStep env b s = reconstruct env (insertShred b s) s.slice))) := by
  unfold storeStep
  simp only
  split
  · rename_i hdup
    cases hsh : b.shreds s.slice with
    | none => rw [hsh] at hdup; cases hdup
    | some arr =>
      rw [hsh] at hdup
      refine Or.inl ⟨?_, arr, rfl, hdup⟩
      rw [Option.getD_some, ← hsh, upd_self]
  · rename_i hnd
    refine Or.inr ⟨by simpa using hnd, ?_⟩
    split
    · rename_i he; exact Or.inl ⟨he, rfl⟩
    · rename_i he; exact Or.inr ⟨by simpa using he, rfl⟩

def ShredsAll (Q : Nat → Shred → Prop) (sh : Nat → Option ShredArr) : Prop :=
  ∀ i arr j s, sh i = some arr → arr j = some s → Q i s

theorem shredsAll_new {Q : Nat → Shred → Prop} (cap slot : Nat) : ShredsAll Q (BlockData.new cap slot).shreds :=
  fun _ _ _ _ h => nomatch h

theorem shredsAll_upd {Q : Nat → Shred → Prop} {sh : Nat → Option ShredArr} (h : ShredsAll Q sh) {k : Nat} {arr : ShredArr}
    (harr : ∀ j s, arr j = some s → Q k s) : ShredsAll Q (upd sh k (some arr)) := by
  intro i a j s ha hs
  rcases upd_eq_some ha with ⟨rfl, e⟩ | ⟨_, e⟩
  · cases e; exact harr j s hs
  · exact h i a j s e hs

theorem shredsAll_retainLe {Q : Nat → Shred → Prop} {sh : Nat → Option ShredArr} (h : ShredsAll Q sh) (k : Nat) :
    ShredsAll Q (retainLe sh k) :=
  fun i a j s ha hs => h i a j s (retainLe_eq_some ha).2 hs

/-- a property of the stored shreds that survives the decoder's refill (which copies, to a position `j`, the header of
    a stored shred of the slice whose root decodes) and holds of the new shred is kept by stage 3 -/
theorem storeStep_shredsAll {Q : Nat → Shred → Prop} (env : Nat → Content)
    (hfill : ∀ i f j p t, j < TOTAL_SHREDS → env f.root = .ok p t → Q i f → Q i { f with idx := j, ty := true })
    (b : BlockData) (s : Shred) (h : ShredsAll Q b.shreds) (hs : Q s.slice s) :
    ShredsAll Q (storeStep env b s).1.shreds := by
  have hslice : ∀ b k, ShredsAll Q b.shreds → ShredsAll Q (tryReconstructSlice env b k).1.shreds := by
    intro b k h
    rcases tryReconstructSlice_cases env b k with ⟨e, _⟩ | ⟨e, _⟩ | ⟨e, _⟩ | ⟨arr, r, arr', harr, hd, hr⟩
    iterate 3 rw [e]; exact h
    obtain ⟨f, j0, p, t, hj0, henv, _, rfl⟩ := deshred_ok hd
    have : ShredsAll Q (upd b.shreds k (some (refill f arr))) := by
      refine shredsAll_upd h fun j x hx => ?_
      rcases refill_eq_some hx with hold | ⟨_, hj, rfl⟩
      · exact h k arr j x harr hold
      · exact hfill k f j p t hj henv (h k arr j0 f harr hj0)
    rcases hr with ⟨_, _, e⟩ | ⟨_, e⟩ <;> rw [e] <;> exact this
  have hins : ShredsAll Q (insertShred b s).shreds := by
    refine shredsAll_upd h fun j x hx => ?_
    rcases upd_eq_some hx with ⟨_, e⟩ | ⟨_, e⟩
    · cases e; exact hs
    · cases hsh : b.shreds s.slice with
      | none => rw [hsh] at e; cases e
      | some arr => rw [hsh] at e; exact h _ arr j x hsh e
  rcases storeStep_cases env b s with ⟨e, _⟩ | ⟨_, ⟨_, e⟩ | ⟨_, e⟩⟩ <;> rw [e]
  · exact h
  · exact hins
  · rw [reconstruct_eq]
    split
    · rw [(tryReconstructBlock_shreds_last _).1]; exact hslice _ _ hins
    · exact hslice _ _ hins

theorem storeStep_frame (env : Nat → Content) (b : BlockData) (s : Shred) :
    ∃ sh sl t c, (storeStep env b s).1 = { b with shreds := sh, slices := sl, tree := t, completed := c } := by
  rcases storeStep_cases env b s with ⟨e, _⟩ | ⟨_, ⟨_, e⟩ | ⟨_, e⟩⟩ <;> rw [e]
  · exact ⟨_, _, _, _, rfl⟩
  · exact ⟨_, _, _, _, rfl⟩
  · obtain ⟨sh, sl, e1⟩ := tryReconstructSlice_frame env (insertShred b s) s.slice
    rw [reconstruct_eq]
    split
    · obtain ⟨t, c, sl', e2⟩ := tryReconstructBlock_frame (tryReconstructSlice env (insertShred b s) s.slice).1
      rw [e2, e1]; exact ⟨_, _, _, _, rfl⟩
    · rw [e1]; exact ⟨_, _, _, _, rfl⟩

theorem storeStep_lastSlice (env : Nat → Content) (b : BlockData) (s : Shred) :
    (storeStep env b s).1.lastSlice = b.lastSlice := by
  obtain ⟨_, _, _, _, e⟩ := storeStep_frame env b s
  rw [e]

theorem addShredCore_of_cache_none {env : Nat → Content} {b : BlockData} {s : Shred} (hc : cacheStep b s = none) :
    addShredCore env b s = (b, .err .equivocation) := by
  unfold addShredCore; rw [hc]

theorem addShredCore_of_cache_some {env : Nat → Content} {b b1 : BlockData} {s : Shred} (hc : cacheStep b s = some b1) :
    addShredCore env b s = match lastStep b1 s with
      | none => (b1, .err .equivocation)
      | some b2 => storeStep env b2 s := by
  unfold addShredCore; rw [hc]; rfl

theorem addShredCore_cases (env : Nat → Content) (b : BlockData) (s : Shred) :
    addShredCore env b s = (b, .err .equivocation) ∨
    ∃ c, c s.slice = some s.commitment ∧ (∀ i x, b.cache i = some x → c i = some x) ∧
      (addShredCore env b s = ({ b with cache := c }, .err .equivocation) ∨
       ∃ b2, lastStep { b with cache := c } s = some b2 ∧ addShredCore env b s = storeStep env b2 s) := by
  cases hc : cacheStep b s with
  | none => exact Or.inl (addShredCore_of_cache_none hc)
  | some b1 =>
    obtain ⟨c, rfl, h1, _, h3⟩ := cacheStep_some hc
    refine Or.inr ⟨c, h1, h3, ?_⟩
    cases hl : lastStep { b with cache := c } s with
    | none => exact Or.inl (by rw [addShredCore_of_cache_some hc, hl])
    | some b2 => exact Or.inr ⟨b2, rfl, by rw [addShredCore_of_cache_some hc, hl]⟩

theorem addShredCore_shredsAll {P : Shred → Prop} (env : Nat → Content)
    (hfill : ∀ f j p t, j < TOTAL_SHREDS → env f.root = .ok p t → P f → P { f with idx := j, ty := true })
    (b : BlockData) (s : Shred) (h : ShredsAll (fun _ => P) b.shreds) (hs : P s) :
    ShredsAll (fun _ => P) (addShredCore env b s).1.shreds := by
  rcases addShredCore_cases env b s with e | ⟨c, _, _, e | ⟨b2, hl, e⟩⟩ <;> rw [e]
  · exact h
  · exact h
  · refine storeStep_shredsAll env (fun _ => hfill) b2 s ?_ hs
    rcases lastStep_some hl with ⟨rfl, _⟩ | ⟨rfl, _⟩
    · exact h
    · exact shredsAll_retainLe h _

theorem addShred_slot_cap (env : Nat → Content) (b : BlockData) (s : Shred) :
    (addShredCore env b s).1.slot = b.slot ∧ (addShredCore env b s).1.cap = b.cap := by
  rcases addShredCore_cases env b s with e | ⟨c, _, _, e | ⟨b2, hl, e⟩⟩ <;> rw [e]
  · exact ⟨rfl, rfl⟩
  · exact ⟨rfl, rfl⟩
  · obtain ⟨_, _, _, _, e'⟩ := storeStep_frame env b2 s
    rw [e']
    rcases lastStep_some hl with ⟨rfl, _⟩ | ⟨rfl, _⟩ <;> exact ⟨rfl, rfl⟩

/-- only `try_reconstruct_block` writes `completed` and answers with a block, and it does both at once -/
theorem addShredCore_completed (env : Nat → Content) (b : BlockData) (s : Shred) :
    ((addShredCore env b s).1.completed = b.completed ∧ ∀ e, (addShredCore env b s).2 = .ev e → e = .firstShred) ∨
    (b.completed = none ∧ ∃ b1 info, tryReconstructBlock b1 = ((addShredCore env b s).1, .complete info) ∧
      (addShredCore env b s).2 = .ev (.block info)) := by
  rcases addShredCore_cases env b s with e | ⟨c, _, _, e | ⟨b2, hl, e⟩⟩ <;> rw [e]
  · exact Or.inl ⟨rfl, nofun⟩
  · exact Or.inl ⟨rfl, nofun⟩
  · have e2 : b2.completed = b.completed := by rcases lastStep_some hl with ⟨rfl, _⟩ | ⟨rfl, _⟩ <;> rfl
    rcases storeStep_cases env b2 s with ⟨e, _⟩ | ⟨_, ⟨_, e⟩ | ⟨_, e⟩⟩ <;> rw [e]
    · exact Or.inl ⟨e2, nofun⟩
    · exact Or.inl ⟨e2, fun _ h => (AddRes.ev.inj h).symm⟩
    · obtain ⟨sh, sl, e1⟩ := tryReconstructSlice_frame env (insertShred b2 s) s.slice
      have e3 : (tryReconstructSlice env (insertShred b2 s) s.slice).1.completed = b.completed := by rw [e1]; exact e2
      rw [reconstruct_eq]
      split
      · rcases tryReconstructBlock_cases (tryReconstructSlice env (insertShred b2 s) s.slice).1 with ⟨e, _⟩ |
          ⟨last, h0, _, _, ⟨e, _⟩ | ⟨_, _, _, _, e, _⟩ | ⟨_, _, parent, txs, _, _, _, _, e⟩⟩
        · rw [e]; exact Or.inl ⟨e3, nofun⟩
        · rw [e]; exact Or.inl ⟨e3, nofun⟩
        · rw [e]; exact Or.inl ⟨e3, nofun⟩
        · rw [e]; exact Or.inr ⟨e3.symm.trans h0, _, _, e, rfl⟩
      · refine Or.inl ⟨e3, fun _ h => ?_⟩
        cases hr : (tryReconstructSlice env (insertShred b2 s) s.slice).2 <;> rw [hr] at h <;> cases h

theorem addShred_block_origin (env : Nat → Content) (b b' : BlockData) (s : Shred) (info : BlockInfo)
    (h : addShredCore env b s = (b', .ev (.block info))) :
    ∃ b1, tryReconstructBlock b1 = (b', .complete info) := by
  rcases addShredCore_completed env b s with ⟨_, h2⟩ | ⟨_, b1, info', e, hr⟩
  · exact nomatch h2 _ (congrArg Prod.snd h)
  · rw [h] at e hr
    cases hr
    exact ⟨b1, e⟩

/-- `InvalidBlock` only comes from `flag_leader_misbehavior` -/
theorem addShredCore_ne_invalidBlock (env : Nat → Content) (b : BlockData) (s : Shred) :
    (addShredCore env b s).2 ≠ .ev .invalidBlock := by
  intro h
  rcases addShredCore_completed env b s with ⟨_, h2⟩ | ⟨_, _, _, _, hr⟩
  · exact nomatch h2 _ h
  · exact nomatch h.symm.trans hr

theorem addShred_of_completed (env : Nat → Content) (b : BlockData) (s : Shred) (h : b.completed.isSome = true) :
    (addShredCore env b s).1.completed = b.completed ∧ ∀ info, (addShredCore env b s).2 ≠ .ev (.block info) := by
  rcases addShredCore_completed env b s with ⟨h1, h2⟩ | ⟨h0, _⟩
  · exact ⟨h1, fun _ hr => nomatch h2 _ hr⟩
  · rw [h0] at h; cases h

theorem addShred_of_ty (env : Nat → Content) (b : BlockData) (s : Shred) (h : s.ty = true) :
    addShred env b s = addShredCore env b s := by
  unfold addShred; simp [h]

theorem addShred_wrongType (env : Nat → Content) (b : BlockData) (s : Shred) (h : s.ty = false) :
    addShred env b s = (b, .err .wrongType) := by
  unfold addShred; simp [h]

/-- `add_shred` is `addShredCore` behind the type check: what holds of the refusal and, for a shred of the fitting type, of the
    core's outcome holds of `add_shred` -/
theorem addShred_ind {env : Nat → Content} {b : BlockData} {s : Shred} {P : BlockData × AddRes → Prop}
    (h0 : P (b, .err .wrongType)) (h1 : s.ty = true → P (addShredCore env b s)) : P (addShred env b s) := by
  cases hty : s.ty with
  | true => rw [addShred_of_ty env b s hty]; exact h1 hty
  | false => rw [addShred_wrongType env b s hty]; exact h0

theorem flag_fst (sd : SlotData) : (flag sd).1 = { sd with misbehaved := true } := by
  cases sd with | mk d r m => cases m <;> rfl

theorem flagIfBad_dis (sd : SlotData) (r : AddRes) : (flagIfBad sd r).1.dis = sd.dis := by
  unfold flagIfBad; split
  · rw [flag_fst]
  · rfl

theorem flagIfBad_rep (sd : SlotData) (r : AddRes) : (flagIfBad sd r).1.rep = sd.rep := by
  unfold flagIfBad; split
  · rw [flag_fst]
  · rfl

theorem flagIfBad_res (sd : SlotData) (r : AddRes) : (flagIfBad sd r).2.1 = r := by
  unfold flagIfBad; split <;> rfl

theorem flagIfBad_events (sd : SlotData) (r : AddRes) :
    (flagIfBad sd r).2.2 = if isBadErr r then (flag sd).2 else evOf r := by
  unfold flagIfBad; split <;> rfl

theorem mem_evOf {e : Event} {r : AddRes} : e ∈ evOf r ↔ r = .ev e := by
  cases r <;> simp [evOf, eq_comm]

theorem addDissem_flagged (env : Nat → Content) (sd : SlotData) (s : Shred) (h : sd.misbehaved = true) :
    addDissem env sd s = (sd, .err .invalidShred, []) := by
  unfold addDissem; simp [h]

theorem addDissem_eq (env : Nat → Content) (sd : SlotData) (s : Shred) (hm : sd.misbehaved = false) :
    addDissem env sd s = flagIfBad { sd with dis := (addShred env sd.dis s).1 } (addShred env sd.dis s).2 := by
  unfold addDissem flagIfBad
  simp only [hm, Bool.false_eq_true, if_false]

theorem addDissem_of_ty (env : Nat → Content) (sd : SlotData) (s : Shred) (hm : sd.misbehaved = false) (h : s.ty = true) :
    addDissem env sd s = flagIfBad { sd with dis := (addShredCore env sd.dis s).1 } (addShredCore env sd.dis s).2 := by
  rw [addDissem_eq env sd s hm, addShred_of_ty env sd.dis s h]

theorem runDissem_flagged (env : Nat → Content) (sd : SlotData) (ss : List Shred) (h : sd.misbehaved = true) :
    runDissem env sd ss = (sd, []) := by
  induction ss with
  | nil => rfl
  | cons s rest ih => simp [runDissem, addDissem_flagged env sd s h, ih]

/-- the slices that switch the parent (optimistic handover) -/
def switches (vals : List RSlice) : List RSlice :=
  vals.filter (fun s => decide (s.slice ≠ 0) && s.parent.isSome)

theorem foldSlices_cons {s : RSlice} {rest : List RSlice} {p : Nat × Nat} {sw : Bool} {acc : List Nat}
    {r : (Nat × Nat) × List Nat} (h : foldSlices (s :: rest) p sw acc = some r) :
    ∃ t, s.txs = some t ∧
      ((switches [s] = [] ∧ foldSlices rest p sw (acc ++ t) = some r) ∨
       (∃ np, switches [s] = [s] ∧ s.parent = some np ∧ np ≠ p ∧ sw = false ∧ foldSlices rest np true (acc ++ t) = some r)) := by
  unfold foldSlices at h
  cases ht : s.txs with
  | none =>
    rw [ht] at h
    generalize (ite (s.slice ≠ 0) _ _ : Option ((Nat × Nat) × Bool)) = ho at h
    cases ho <;> cases h
  | some t =>
    refine ⟨t, rfl, ?_⟩
    rw [ht] at h
    by_cases hs0 : s.slice = 0
    · exact Or.inl ⟨by simp [switches, hs0], by simpa [hs0] using h⟩
    · cases hp : s.parent with
      | none => exact Or.inl ⟨by simp [switches, hp], by simpa [hs0, hp] using h⟩
      | some np =>
        simp only [hs0, hp, ne_eq, not_false_eq_true, if_true] at h
        by_cases hnp : np = p
        · rw [if_pos hnp] at h; cases h
        · cases sw
          · exact Or.inr ⟨np, by simp [switches, hs0, hp], rfl, hnp, rfl, by simpa [hnp] using h⟩
          · simp [hnp] at h

theorem foldSlices_txs {vals : List RSlice} {p : Nat × Nat} {sw : Bool} {acc : List Nat} {p' : Nat × Nat} {txs' : List Nat}
    (h : foldSlices vals p sw acc = some (p', txs')) :
    (∀ s ∈ vals, ∃ t, s.txs = some t) ∧ txs' = acc ++ vals.flatMap (fun s => s.txs.getD []) := by
  induction vals generalizing p sw acc with
  | nil => simp [foldSlices] at h; simp [h.2]
  | cons s rest ih =>
    obtain ⟨t, ht, ⟨_, h'⟩ | ⟨np, _, _, _, _, h'⟩⟩ := foldSlices_cons h <;> obtain ⟨h1, h2⟩ := ih h' <;>
      exact ⟨fun x hx => (List.mem_cons.mp hx).elim (fun e => e ▸ ⟨t, ht⟩) (h1 x), by simp [h2, ht, List.append_assoc]⟩

theorem foldSlices_parent {vals : List RSlice} {p : Nat × Nat} {sw : Bool} {acc : List Nat} {p' : Nat × Nat} {txs' : List Nat}
    (h : foldSlices vals p sw acc = some (p', txs')) :
    (switches vals = [] ∧ p' = p) ∨ (sw = false ∧ ∃ s, switches vals = [s] ∧ s.parent = some p' ∧ p' ≠ p) := by
  induction vals generalizing p sw acc with
  | nil => simp [foldSlices] at h; left; simp [switches, h.1]
  | cons s rest ih =>
    have hsw : switches (s :: rest) = switches [s] ++ switches rest := List.filter_append (l₁ := [s]) ..
    obtain ⟨t, _, ⟨h0, h'⟩ | ⟨np, h1, hp, hnp, hf, h'⟩⟩ := foldSlices_cons h
    · rw [hsw, h0]; exact ih h'
    · -- after a switch no further one is accepted
      rcases ih h' with ⟨hnil, rfl⟩ | ⟨hf', _⟩
      · exact Or.inr ⟨hf, s, by rw [hsw, h1, hnil]; rfl, hp, hnp⟩
      · cases hf'

/-- the shreds `add_own_slice` stores for a slice -/
def ownArr (c : Commitment) (sz : Nat) : ShredArr :=
  fun j => if j < TOTAL_SHREDS then some ⟨c.slice, c.isLast, c.root, j, sz, true⟩ else none

theorem ownArr_eq_some {c : Commitment} {sz j : Nat} {s : Shred} (h : ownArr c sz j = some s) :
    s = ⟨c.slice, c.isLast, c.root, j, sz, true⟩ :=
  (ite_some_eq h).2.symm

/-- the state `add_own_slice` hands to `try_reconstruct_block` -/
def ownInsert (b : BlockData) (c : Commitment) (sz : Nat) (parent : Option (Nat × Nat)) (txs : Option (List Nat)) : BlockData :=
  let b1 := if c.isLast then markLastSlice b c.slice else b
  { b1 with cache := upd b1.cache c.slice (some c), shreds := upd b1.shreds c.slice (some (ownArr c sz)),
            slices := upd b1.slices c.slice (some ⟨c.slice, c.isLast, c.root, parent, txs⟩) }

theorem addOwnSlice_eq (b : BlockData) (c : Commitment) (sz : Nat) (parent : Option (Nat × Nat)) (txs : Option (List Nat)) :
    addOwnSlice b c sz parent txs =
      if b.lastSlice.isSome then ({ b with cache := upd b.cache c.slice (some c) }, none)
      else match tryReconstructBlock (ownInsert b c sz parent txs) with
        | (b', .noAction) => (b', some (mapEmpty b.cap b.shreds, none))
        | (b', .complete info) => (b', some (mapEmpty b.cap b.shreds, some info))
        | (b', _) => (b', none) := by
  unfold addOwnSlice ownInsert ownArr
  cases c with
  | mk sl il rt => cases il <;> rfl

theorem addOwnSlice_fst (b : BlockData) (c : Commitment) (sz : Nat) (parent : Option (Nat × Nat)) (txs : Option (List Nat))
    (hl : b.lastSlice = none) :
    (addOwnSlice b c sz parent txs).1 = (tryReconstructBlock (ownInsert b c sz parent txs)).1 := by
  rw [addOwnSlice_eq, hl]
  simp only [Option.isSome_none, Bool.false_eq_true, if_false]
  split <;> rename_i e <;> rw [e]

/-! ### the commitment cache is touched only in `cacheStep` -/

theorem storeStep_cache (env : Nat → Content) (b : BlockData) (s : Shred) :
    (storeStep env b s).1.cache = b.cache := by
  obtain ⟨_, _, _, _, e⟩ := storeStep_frame env b s
  rw [e]

theorem lastStep_cache (b b' : BlockData) (s : Shred) (h : lastStep b s = some b') : b'.cache = b.cache := by
  rcases lastStep_some h with ⟨rfl, _⟩ | ⟨rfl, _⟩ <;> rfl

theorem addShredCore_cache (env : Nat → Content) (b : BlockData) (s : Shred) :
    (addShredCore env b s).1.cache =
      (match b.cache s.slice with
        | some _ => b.cache
        | none => upd b.cache s.slice (some s.commitment)) := by
  unfold addShredCore
  cases hc : b.cache s.slice with
  | some c =>
    unfold cacheStep
    simp only [hc]
    by_cases hne : c ≠ s.commitment
    · rw [if_pos hne]
    · rw [if_neg hne]
      simp only
      cases hl : lastStep b s with
      | none => rfl
      | some b2 => simp only; rw [storeStep_cache, lastStep_cache b b2 s hl]
  | none =>
    unfold cacheStep
    simp only [hc]
    cases hl : lastStep { b with cache := upd b.cache s.slice (some s.commitment) } s with
    | none => rfl
    | some b2 => rw [storeStep_cache, lastStep_cache _ b2 s hl]

end AgModel.Blockstore
