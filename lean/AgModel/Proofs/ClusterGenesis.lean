import AgModel.Props.C01Cluster
/-!
# C10 cluster composition, part 1: every certified block descends from *the* genesis block

The history `histOf` identifies all ids `(0, h)` with the genesis block (`Blk.mk'`), so the protocol-level theorems say nothing
about a block that names a parent `(0, h)` with `h ≠ 0` — "the hash binds the parent" allows a Byzantine leader to sign such
a block. The trackers inside the pool work on raw ids: a finalized block `(0, h)` with `h ≠ 0` would violate the `genesis`
clause of `Pool.Consistent` (and the parent-ready tracker's genesis mark). This file shows that it cannot happen.

* `RAnc c a b`: `a` is `b` or a raw ancestor of `b` along `parentOf` (only links to strictly earlier slots count);
* `GOK c b`: every raw ancestor of `b` (and `b` itself) in slot 0 is `(0, 0)`;
* `tp0 c`: the abstract tracker predicates of `Proofs/PoolReady.lean` instantiated with `GOK` — every block a pool's trackers
  ever hold (notarized, finalized, ready parent, …) is `GOK`;
* `votes_gok`: in every valid run with less than 20 % Byzantine stake every block a correct validator voted to notarize or
  notar-fallback is `GOK` (`ready_gok`: the `ParentReady` events handled so far name `GOK` parents, by induction along the
  run); `backed_gok`: so is every block with a backed notarization, notar-fallback or fast-finalization certificate.

(No safety hypothesis is needed for this: only that a certificate has a correct signer.)
-/
namespace AgModel.Cluster
open AgModel AgModel.Node AgModel.NodePanic AgModel.Pool AgModel.Spec

inductive RAnc (c : Cfg) (a : ℕ × ℕ) : ℕ × ℕ → Prop
  | refl : RAnc c a a
  | step {x : ℕ × ℕ} : (c.parentOf x).1 < x.1 → RAnc c a (c.parentOf x) → RAnc c a x

def GOK (c : Cfg) (b : ℕ × ℕ) : Prop := ∀ a, RAnc c a b → a.1 = 0 → a.2 = 0

theorem GOK.zero (c : Cfg) : GOK c (0, 0) := by
  intro a h h0
  cases h with
  | refl => rfl
  | step hlt _ => exact absurd hlt (Nat.not_lt_zero _)

theorem GOK.slot0 {c : Cfg} {h : ℕ} (g : GOK c (0, h)) : h = 0 := g (0, h) .refl rfl

theorem GOK.parent {c : Cfg} {x : ℕ × ℕ} (g : GOK c x) (hlt : (c.parentOf x).1 < x.1) : GOK c (c.parentOf x) :=
  fun a ha h0 => g a (.step hlt ha) h0

theorem GOK.child {c : Cfg} {x : ℕ × ℕ} (h0 : x.1 ≠ 0) (hp : (c.parentOf x).1 < x.1 → GOK c (c.parentOf x)) : GOK c x := by
  intro a ha ha0
  cases ha with
  | refl => exact absurd ha0 h0
  | step hlt hanc => exact hp hlt a hanc ha0

/-- the tracker predicates: everything is `GOK`, nothing else is claimed -/
def tp0 (c : Cfg) : TP where
  F := {
    par := c.parentOf
    L := GOK c
    G := fun _ => True
    N := GOK c
    Fc := fun _ => True
    direct := fun _ hn _ => hn
    down := by
      intro x p hl hp hlt
      subst hp
      exact ⟨hl.parent hlt, fun _ _ _ => trivial⟩ }
  CP := GOK c
  SP := fun _ => True
  cpL := fun _ h => h
  spG := fun _ _ => trivial

/-- a backed strong certificate lists a correct validator who has cast a notarization or notar-fallback vote for its block -/
theorem backed_correct_vote (c : Cfg) (s : State) (hbz : 5 * w (stakeFn c) (byz c) < total (stakeFn c))
    (i : ℕ) (x : Cert) (hs : x.strong) (hb : CertBacked (sigOf c s) (c.epoch i) x) :
    ∃ j, c.correct j = true ∧ ((∃ ps ph, Votor.Item.out (.notar x.slot x.hash ps ph) ∈ (s j).votor.log) ∨
      Votor.Item.out (.notarFallback x.slot x.hash) ∈ (s j).votor.log) := by
  -- the listed signers are a quorum, so one of them is correct
  obtain ⟨v, hm, hnb⟩ := exists_correct_of_Q hbz (Q_of_threshold c i x.kind _ _ hb.thr
    (certStake_le_w c i x (fun v => v.val ∈ x.sig1 ∨ v.val ∈ x.sig2) (fun _ => Or.inl) (fun _ => Or.inr)))
  have hc := correct_of_not_byz hnb
  refine ⟨v.val, hc, ?_⟩
  have h1 := hb.s1
  have h2 := hb.s2
  unfold sig1Of at h1
  unfold sig2Of at h2
  rcases hs with hk | hk | hk <;> simp only [hk] at h1 h2
  · exact Or.inl (hm.elim (h1 _ · hc) (h2 _ · hc))
  · exact hm.elim (fun a => Or.inl (h1 _ a hc)) (fun a => Or.inr (h2 _ a hc))
  · exact Or.inl (hm.elim (h1 _ · hc) (h2 _ · hc))

def VotesGOK (c : Cfg) (s : State) : Prop :=
  ∀ j, c.correct j = true → ∀ sl h,
    ((∃ ps ph, Votor.Item.out (.notar sl h ps ph) ∈ (s j).votor.log) ∨ Votor.Item.out (.notarFallback sl h) ∈ (s j).votor.log) →
    GOK c (sl, h)

theorem backed_gok (c : Cfg) (s : State) (hv : VotesGOK c s) (hbz : 5 * w (stakeFn c) (byz c) < total (stakeFn c))
    (i : ℕ) (x : Cert) (hs : x.strong) (hb : CertBacked (sigOf c s) (c.epoch i) x) : GOK c (x.slot, x.hash) :=
  let ⟨j, hc, hvote⟩ := backed_correct_vote c s hbz i x hs hb
  hv j hc _ _ hvote

theorem certT0_of_backed (c : Cfg) (s : State) (hv : VotesGOK c s) (hbz : 5 * w (stakeFn c) (byz c) < total (stakeFn c))
    (i : ℕ) (x : Cert) (hb : CertBacked (sigOf c s) (c.epoch i) x) : CertT (tp0 c) x := by
  have g := fun hs => backed_gok c s hv hbz i x hs hb
  unfold CertT
  cases hk : x.kind <;> simp only
  · exact ⟨g (Or.inl hk), g (Or.inl hk)⟩
  · exact g (Or.inr (Or.inl hk))
  · trivial
  · exact g (Or.inr (Or.inr hk))
  · trivial

/-- By induction on the slot: a voted block is `GOK` if its parent is. The parent of a notarized block is a ready parent
    (first slot of a window) or a block the node notarized itself; the parent of a block with a notar-fallback vote is
    certified, hence voted for by some correct validator. -/
theorem votes_gok (c : Cfg) (evs : List Ev) (hv : Valid c (init c) evs) (hbz : 5 * w (stakeFn c) (byz c) < total (stakeFn c))
    (hpr : ∀ j, ReadyLog (fun _ p => GOK c p) (run (init c) evs j).votor) :
    VotesGOK c (run (init c) evs) := by
  intro j hc sl
  induction sl using Nat.strong_induction_on generalizing j with
  | _ sl ih =>
    intro h hvote
    obtain ⟨F⟩ := nodeFacts c evs hv j hc
    have h0 : sl ≠ 0 := by
      rintro rfl
      rcases hvote with ⟨ps, ph, hm⟩ | hm
      · cases F.zero.2 _ hm rfl
      · cases F.zero.2 _ hm rfl
    apply GOK.child h0
    intro hlt
    rcases hvote with ⟨ps, ph, hm⟩ | hm
    · obtain ⟨hblk, hpar⟩ := F.inv.notar_mem hm
      have hpo : c.parentOf (sl, h) = (ps, ph) := F.ninv.votor (.block sl ⟨h, ps, ph⟩) hblk
      rw [hpo] at hlt ⊢
      split at hpar
      · exact hpr j _ _ _ hpar
      · rcases hpar.2 with ⟨rfl, rfl⟩ | ⟨ps', ph', hm2⟩
        · exact GOK.zero c
        · exact ih ps hlt j hc ph (Or.inl ⟨ps', ph', hm2⟩)
    · obtain ⟨_, y, hst, hid, hback⟩ := F.ninv.votor _ (F.inv.nf_mem hm)
      rw [← hid] at hlt ⊢
      obtain ⟨u, huc, huv⟩ := backed_correct_vote c _ hbz j y hst hback
      exact ih y.slot hlt u huc y.hash huv

/-- every `ParentReady` event a Votor has handled names a `GOK` parent — by induction along the run: the blocks voted for so far
    are `GOK` (`votes_gok`), hence the backed certificates satisfy `tp0` -/
theorem ready_gok (c : Cfg) (hbz : 5 * w (stakeFn c) (byz c) < total (stakeFn c)) :
    ∀ evs, Valid c (Cluster.init c) evs → ∀ j, ReadyLog (fun _ p => GOK c p) (Cluster.run (Cluster.init c) evs j).votor := by
  refine valid_induction c (P := fun evs => ∀ j, ReadyLog (fun _ p => GOK c p) (Cluster.run (Cluster.init c) evs j).votor)
    (fun _ => ReadyLog.init _) fun pre ev hvp hve ihp j => ?_
  · exact ready_step (tp0 c) _ (fun _ _ h => h.2.1) rfl (GOK.zero c) (GOK.zero c) pre ev hvp hve
      (certT0_of_backed c _ (votes_gok c pre hvp hbz ihp) hbz) j (ihp j)

/-- **In every valid run with less than 20 % Byzantine stake every block a correct validator voted to notarize or
    notar-fallback descends from the genesis block `(0, 0)`** (no raw ancestor `(0, h)` with `h ≠ 0`). -/
theorem votes_gok_run (c : Cfg) (evs : List Ev) (hv : Valid c (init c) evs)
    (hbz : 5 * w (stakeFn c) (byz c) < total (stakeFn c)) : VotesGOK c (run (init c) evs) :=
  votes_gok c evs hv hbz (ready_gok c hbz evs hv)

end AgModel.Cluster
