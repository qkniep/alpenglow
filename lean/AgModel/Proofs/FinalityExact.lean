import AgModel.Proofs.Finality
import AgModel.Proofs.FinalitySpec
/-!
# Exactness of the finality tracker w.r.t. the naive closure of the history (helpers for C08)

`Rel H t` ties the retained state of a tracker to the history `H`; under the safety premise what `H` decides is decided
in the state (`final_complete`, `skip_complete`) and the ancestor walk ends, without panic, in a related state (`walk_rel`).
-/
namespace AgModel.Finality

/-- what the status of a retained slot says about the history -/
def SlotOK (H : List Op) (s : Nat) : Option Status → Prop
  | none => ¬ FinH H s ∧ (∀ h, ¬ NotarH H (s, h)) ∧ ∀ h, ¬ FastH H (s, h)
  | some (.notarized h) => NotarH H (s, h) ∧ ¬ FinH H s ∧ ∀ h', ¬ FastH H (s, h')
  | some .finalPending => FinH H s ∧ (∀ h, ¬ NotarH H (s, h)) ∧ ∀ h, ¬ FastH H (s, h)
  | some (.finalized h) => Direct H (s, h)   -- `Finalized` is only ever written for a directly finalized block
  | some (.implFinalized h) => Final H (s, h)
  | some .implSkipped => Skip H s

theorem slotOK_final {H : List Op} {s : Nat} {o : Option Status} {h : Nat}
    (ok : SlotOK H s o) (e : finalHash o = some h) : Final H (s, h) := by
  rcases finalHash_eq_some.mp e with rfl | rfl
  · exact .direct ok
  · exact ok

theorem slotOK_skip {H : List Op} {s : Nat} {o : Option Status}
    (ok : SlotOK H s o) (e : o = some .implSkipped) : Skip H s := by
  subst e; exact ok

theorem slotOK_mono_dec {H H' : List Op} (hs : Sub H H') {s : Nat} {o : Option Status}
    (ok : SlotOK H s o) (d : Dec o) : SlotOK H' s o := by
  obtain ⟨x, rfl, hd⟩ := d
  cases x with
  | notarized h | finalPending => cases hd
  | finalized h => exact Direct.mono hs ok
  | implFinalized h => exact Final.mono hs ok
  | implSkipped => exact Skip.mono hs ok

theorem slotOK_undecided {H : List Op} {s : Nat} {o : Option Status}
    (nf : ∀ b b', NotarH H b → NotarH H b' → b.1 = b'.1 → b = b') (ok : SlotOK H s o) (nd : ¬ Dec o) :
    (∀ h, o = some (.notarized h) ↔ NotarH H (s, h)) ∧ (o = some .finalPending ↔ FinH H s) := by
  rcases undec_cases nd with rfl | ⟨x, rfl⟩ | rfl
  · exact ⟨fun h => ⟨(fun a => nomatch a), fun a => absurd a (ok.2.1 h)⟩, (fun a => nomatch a), fun a => absurd a ok.1⟩
  · refine ⟨fun h => ⟨fun a => by cases a; exact ok.1, fun a => ?_⟩, (fun a => nomatch a), fun a => absurd a ok.2.1⟩
    cases nf (s, x) (s, h) ok.1 a rfl; rfl
  · exact ⟨fun h => ⟨(fun a => nomatch a), fun a => absurd a (ok.2.1 h)⟩, fun _ => ok.1, fun _ => rfl⟩

theorem slotOK_no_fast {H : List Op} {s : Nat} {o : Option Status} (ok : SlotOK H s o) (nd : ¬ Dec o) (h : Nat) :
    ¬ FastH H (s, h) := by
  rcases undec_cases nd with rfl | ⟨x, rfl⟩ | rfl <;> exact ok.2.2 h

theorem slotOK_undecided_unique {H : List Op} {s : Nat} {o1 o2 : Option Status}
    (nf : ∀ b b', NotarH H b → NotarH H b' → b.1 = b'.1 → b = b') (ok1 : SlotOK H s o1) (ok2 : SlotOK H s o2)
    (d1 : ¬ Dec o1) (d2 : ¬ Dec o2) : o1 = o2 := by
  have a1 := slotOK_undecided nf ok1 d1
  have a2 := slotOK_undecided nf ok2 d2
  rcases undec_cases d2 with rfl | ⟨y, rfl⟩ | rfl
  · rcases undec_cases d1 with rfl | ⟨x, rfl⟩ | rfl
    · rfl
    · exact nomatch (a2.1 x).mpr ((a1.1 x).mp rfl)
    · exact nomatch a2.2.mpr (a1.2.mp rfl)
  · exact (a1.1 y).mpr ((a2.1 y).mp rfl)
  · exact a1.2.mpr (a2.2.mp rfl)

theorem slotOK_transfer {H H' : List Op} (hs : Sub H H') {s : Nat} {o : Option Status}
    (hF : FinH H' s → FinH H s) (hN : ∀ h, NotarH H' (s, h) → NotarH H (s, h))
    (hFF : ∀ h, FastH H' (s, h) → FastH H (s, h)) (ok : SlotOK H s o) : SlotOK H' s o := by
  cases o with
  | none => exact ⟨fun a => ok.1 (hF a), fun h a => ok.2.1 h (hN h a), fun h a => ok.2.2 h (hFF h a)⟩
  | some x =>
    cases x with
    | notarized h => exact ⟨ok.1.mono hs, fun a => ok.2.1 (hF a), fun h a => ok.2.2 h (hFF h a)⟩
    | finalPending => exact ⟨ok.1.mono hs, fun h a => ok.2.1 h (hN h a), fun h a => ok.2.2 h (hFF h a)⟩
    | finalized h => exact Direct.mono hs ok
    | implFinalized h => exact Final.mono hs ok
    | implSkipped => exact Skip.mono hs ok

theorem slotOK_snoc_other {H : List Op} {op : Op} {s : Nat} {o : Option Status}
    (ok : SlotOK H s o) (hne : op.certSlot ≠ some s) : SlotOK (H ++ [op]) s o :=
  slotOK_transfer (sub_append_left H op)
    (fun a => (finH_snoc.mp a).elim id (fun e => absurd (e ▸ rfl) hne))
    (fun _ a => (notarH_snoc.mp a).elim id (fun e => absurd (e ▸ rfl) hne))
    (fun _ a => (fastH_snoc.mp a).elim id (fun e => absurd (e ▸ rfl) hne)) ok

/-- what a known link `c → p` from a finalized block `c` obliges: the slots between are implicitly skipped and
    `p` is finalized (as far as retained) -/
def Oblig (t : Tracker) (c p : Nat × Nat) : Prop :=
  (∀ s, p.1 < s → s < c.1 → t.first ≤ s → t.status s = some .implSkipped) ∧
  (t.first ≤ p.1 → finalHash (t.status p.1) = some p.2)

/-- every retained link from a finalized block, except the pending ones, has been followed -/
def Closed (t : Tracker) (pend : Nat × Nat → Prop) : Prop :=
  ∀ c p, t.parents c = some p → t.first ≤ c.1 → finalHash (t.status c.1) = some c.2 → ¬ pend c → Oblig t c p

structure Rel (H : List Op) (t : Tracker) : Prop where
  slot : ∀ s, t.first ≤ s → SlotOK H s (t.status s)
  par : ∀ c p, t.first ≤ c.1 → (t.parents c = some p ↔ LinkH H c p)
  closed : Closed t (fun _ => False)
  -- `prune()` stops on the last decided slot and keeps its entry; not so at the start, where slot 0 holds `Notarized(GENESIS)`
  wdec : 1 ≤ t.first → Dec (t.status t.first)

/-- `Rel` with the links whose obligations are still open (`pend`) as a parameter: what holds between the steps of one
    operation (`after_changes`, `rel_link`), and the first four facts of `WalkHyp`.  `Rel H t` is `RelP H t (fun _ => False)`. -/
structure RelP (H : List Op) (t : Tracker) (pend : Nat × Nat → Prop) : Prop where
  slot : ∀ s, t.first ≤ s → SlotOK H s (t.status s)
  par : ∀ c p, t.first ≤ c.1 → (t.parents c = some p ↔ LinkH H c p)
  closed : Closed t pend
  wdec : 1 ≤ t.first → Dec (t.status t.first)

theorem RelP.rel {H : List Op} {t : Tracker} (r : RelP H t (fun _ => False)) : Rel H t :=
  ⟨r.slot, r.par, r.closed, r.wdec⟩

theorem Rel.final_complete {H : List Op} {t : Tracker} (sf : Safe H) (r : Rel H t)
    {b : Nat × Nat} (hb : Final H b) : t.first ≤ b.1 → finalHash (t.status b.1) = some b.2 := by
  induction hb with
  | @direct b d =>
    intro hw
    have ok := r.slot b.1 hw
    have hF : Final H b := .direct d
    by_cases dd : Dec (t.status b.1)
    · rcases dec_cases dd with ⟨h, e⟩ | e
      · exact e.trans (congrArg (fun x => some x.2) (sf.final_fun (b.1, h) b (slotOK_final ok e) hF rfl))
      · exact absurd (slotOK_skip ok e) (sf.final_not_skip hF)
    · -- an undecided status is an exact record of the certificates held for the slot: no fast-finalization certificate,
      -- and not both the finalization certificate (`FinalPendingNotar`) and a notarization certificate (`Notarized`)
      have ⟨hn, hf⟩ := slotOK_undecided sf.notar_fun ok dd
      rcases d with d | ⟨d1, d2⟩
      · exact absurd d (slotOK_no_fast ok dd b.2)
      · exact nomatch ((hn b.2).mpr d2).symm.trans (hf.mpr d1)
  | @step c p hc hl ih =>
    intro hw
    have hcw : t.first ≤ c.1 := Nat.le_trans hw (Nat.le_of_lt (sf.link_lt c p hl))
    have e := ih hcw
    exact (r.closed c p ((r.par c p hcw).mpr hl) hcw e (fun x => x)).2 hw

theorem Rel.skip_complete {H : List Op} {t : Tracker} (sf : Safe H) (r : Rel H t)
    {s : Nat} (h : Skip H s) (hw : t.first ≤ s) : t.status s = some .implSkipped := by
  obtain ⟨c, p, hc, hl, h1, h2⟩ := h
  have hcw : t.first ≤ c.1 := Nat.le_trans hw (Nat.le_of_lt h2)
  have e := r.final_complete sf hc hcw
  exact (r.closed c p ((r.par c p hcw).mpr hl) hcw e (fun x => x)).1 s h1 h2 hw

/-- `st` differs from the status map of `t` only in slots that keep their answer, if they had one, and whose new status
    is justified by `H'`, if they are retained -/
def Changes (H' : List Op) (t : Tracker) (st : Nat → Option Status) : Prop :=
  ∀ x, st x = t.status x ∨
    ((Dec (t.status x) → Dec (st x) ∧ finalHash (st x) = finalHash (t.status x)) ∧ (t.first ≤ x → SlotOK H' x (st x)))

theorem Changes.set {H' : List Op} {t : Tracker} {st : Nat → Option Status} {s : Nat} {v : Status}
    (h : Changes H' t st) (keep : Dec (t.status s) → Dec (some v) ∧ finalHash (some v) = finalHash (t.status s))
    (ok : t.first ≤ s → SlotOK H' s (some v)) : Changes H' t (setSt st s v) := by
  intro x
  by_cases hx : x = s
  · subst hx; rw [setSt_self]; exact Or.inr ⟨keep, ok⟩
  · rw [setSt_ne _ _ hx]; exact h x

/-- A state `t'` that differs from a justified `t` by `Changes` is justified; it is closed up to `pend'` if the links
    that were open in `t` (`pend`) have been followed and `pend'` holds of every block that is newly finalized. -/
theorem after_changes {H' : List Op} {t t' : Tracker} {pend pend' : Nat × Nat → Prop}
    (hf : t'.first = t.first) (hp : t'.parents = t.parents)
    (slot : ∀ s, t.first ≤ s → t'.status s = t.status s → SlotOK H' s (t.status s))
    (par : ∀ c p, t.first ≤ c.1 → (t.parents c = some p ↔ LinkH H' c p))
    (wdec : 1 ≤ t.first → Dec (t.status t.first)) (cl : Closed t pend)
    (hch : Changes H' t t'.status)
    (hobl : ∀ c p, pend c → t.parents c = some p → Oblig t' c p)
    (hnew : ∀ c q, t.parents c = some q → ¬ Dec (t.status c.1) → finalHash (t'.status c.1) = some c.2 → pend' c) :
    RelP H' t' pend' := by
  have keep : ∀ x, Dec (t.status x) → Dec (t'.status x) ∧ finalHash (t'.status x) = finalHash (t.status x) :=
    fun x d => (hch x).elim (fun e => by rw [e]; exact ⟨d, rfl⟩) (fun h => h.1 d)
  refine ⟨fun s hsw => ?_, by rw [hf, hp]; exact par, ?_, fun h1 => ?_⟩
  · rw [hf] at hsw
    rcases hch s with e | ⟨_, ok⟩
    · rw [e]; exact slot s hsw e
    · exact ok hsw
  · intro c p h1 h2 h3 h4
    rw [hp] at h1
    by_cases hd : Dec (t.status c.1)
    · by_cases hpc : pend c
      · exact hobl c p hpc h1
      · -- an old obligation speaks of decided slots only, and those keep their answers
        rw [(keep _ hd).2] at h3
        rw [hf] at h2
        have o := cl c p h1 h2 h3 hpc
        refine ⟨fun s a b c' => ?_, fun c' => ?_⟩
        · have := o.1 s a b (hf ▸ c')
          have k := keep s (this ▸ dec_skipped)
          exact (skipped_iff_of_dec k.1).mpr (k.2.trans (by rw [this]; rfl))
        · have := o.2 (hf ▸ c')
          exact (keep _ (dec_of_finalHash this)).2.trans this
    · exact absurd (hnew c p h1 hd h3) h4
  · rw [hf] at h1 ⊢
    exact (keep _ (wdec h1)).1

/-! `WalkHyp` is what holds each time the walk is entered for the link `(src, hc) → blk`: the state is justified
by the new history `H'`, closed except for that link, and *below `src`* still exactly as the old history `H`
demands — where the link was not active.  Under the safety premise the walk then neither panics nor takes
its early exits wrongly, and ends in a state related to `H'`. -/

structure WalkHyp (H H' : List Op) (t : Tracker) (src hc : Nat) (blk : Nat × Nat) : Prop where
  slot : ∀ s, t.first ≤ s → SlotOK H' s (t.status s)
  par : ∀ c p, t.first ≤ c.1 → (t.parents c = some p ↔ LinkH H' c p)
  closed : Closed t (fun x => x = (src, hc))
  wdec : 1 ≤ t.first → Dec (t.status t.first)
  src_ge : t.first ≤ src
  src_fin : finalHash (t.status src) = some hc
  link : t.parents (src, hc) = some blk
  old_slot : ∀ s, t.first ≤ s → s < src → SlotOK H s (t.status s)
  old_final : ∀ b, Final H b → t.first ≤ b.1 → b.1 < src → finalHash (t.status b.1) = some b.2
  inactive : ¬ (Final H (src, hc) ∧ LinkH H (src, hc) blk)

/-- entering the walk for the link `(src, hc) → blk`, which is the one left open -/
theorem WalkHyp.ofRelP {H H' : List Op} {t : Tracker} {src hc : Nat} {blk : Nat × Nat}
    (r : RelP H' t (fun x => x = (src, hc))) (src_ge : t.first ≤ src) (src_fin : finalHash (t.status src) = some hc)
    (link : t.parents (src, hc) = some blk) (old_slot : ∀ s, t.first ≤ s → s < src → SlotOK H s (t.status s))
    (old_final : ∀ b, Final H b → t.first ≤ b.1 → b.1 < src → finalHash (t.status b.1) = some b.2)
    (inactive : ¬ (Final H (src, hc) ∧ LinkH H (src, hc) blk)) : WalkHyp H H' t src hc blk :=
  ⟨r.slot, r.par, r.closed, r.wdec, src_ge, src_fin, link, old_slot, old_final, inactive⟩

theorem WalkHyp.linkH {H H' : List Op} {t : Tracker} {src hc : Nat} {blk : Nat × Nat}
    (w : WalkHyp H H' t src hc blk) : LinkH H' (src, hc) blk := (w.par _ _ w.src_ge).mp w.link

theorem WalkHyp.srcFinal {H H' : List Op} {t : Tracker} {src hc : Nat} {blk : Nat × Nat}
    (w : WalkHyp H H' t src hc blk) : Final H' (src, hc) := slotOK_final (w.slot src w.src_ge) w.src_fin

theorem WalkHyp.lt {H H' : List Op} {t : Tracker} {src hc : Nat} {blk : Nat × Nat} (w : WalkHyp H H' t src hc blk)
    (sf : Safe H') : blk.1 < src := sf.link_lt _ _ w.linkH

section
variable {H H' : List Op} (sf : Safe H') (hs : Sub H H')
include sf hs

/-- the slots strictly between `blk` and `src` are undecided: had one been decided, the link would have been
    active before -/
theorem WalkHyp.between_undecided {t : Tracker} {src hc : Nat} {blk : Nat × Nat}
    (w : WalkHyp H H' t src hc blk) (s : Nat) (h1 : blk.1 < s) (h2 : s < src) (h3 : t.first ≤ s) :
    ¬ Dec (t.status s) := by
  intro d
  have hl := w.linkH
  have hcF := w.srcFinal
  have old := w.old_slot s h3 h2
  rcases dec_cases d with ⟨h, e⟩ | e
  · have := slotOK_final old e
    exact sf.no_final_between (src, hc) blk (s, h) hcF hl (this.mono hs) ⟨h1, h2⟩
  · obtain ⟨c', p', hc', hl', a, b⟩ := slotOK_skip old e
    have := sf.span_unique hcF hl (hc'.mono hs) (hl'.mono hs) h1 h2 a b
    obtain ⟨e1, e2⟩ := this
    subst e1; subst e2
    exact w.inactive ⟨hc', hl'⟩

theorem WalkHyp.between_open {t : Tracker} {src hc : Nat} {blk : Nat × Nat}
    (w : WalkHyp H H' t src hc blk) (s : Nat) (h1 : blk.1 < s) (h2 : s < src) (h3 : t.first ≤ s) :
    Open (t.status s) := by
  rcases undec_cases (w.between_undecided sf hs s h1 h2 h3) with e | e | e
  · exact Or.inl e
  · exact Or.inr e
  · -- a finalization certificate for a slot the link skips
    have ok := w.slot s h3
    rw [e] at ok
    exact absurd ⟨(src, hc), blk, w.srcFinal, w.linkH, h1, h2⟩ (sf.fin_not_skip s ok.1)

/-- when the walk reaches a block below the watermark, its child sits exactly on the watermark -/
theorem WalkHyp.early {t : Tracker} {src hc : Nat} {blk : Nat × Nat}
    (w : WalkHyp H H' t src hc blk) (hlow : blk.1 < t.first) : src = t.first := by
  by_cases h : t.first < src
  · exact absurd (w.wdec (Nat.succ_le_of_lt (Nat.lt_of_le_of_lt (Nat.zero_le _) hlow)))
      (w.between_undecided sf hs t.first hlow h (Nat.le_refl _))
  · exact Nat.le_antisymm (Nat.not_lt.mp h) w.src_ge

theorem walk_rel : ∀ (f : Nat) (t : Tracker) (src hc : Nat) (blk : Nat × Nat) (ev : Event),
    WalkHyp H H' t src hc blk → src ≤ f →
    ∃ t' ev', walk f t src blk ev = some (t', ev') ∧ Rel H' t' := by
  intro f
  induction f with
  | zero =>
    intro t src hc blk ev w hf
    exact absurd (Nat.lt_of_lt_of_le (w.lt sf) hf) (Nat.not_lt_zero _)
  | succ f ih =>
    intro t src hc blk ev w hf
    have hlt := w.lt sf
    have hl := w.linkH
    have hcF := w.srcFinal
    have hblkF : Final H' blk := .step hcF hl
    -- Every way the walk goes on leaves a status map `st2` in which the link `(src, hc) → blk`, the one whose obligations
    -- were open, has been followed; what is open afterwards (`pend'`) are the links of blocks that `st2` newly finalizes.
    have after := fun (st2 : Nat → Option Status) (pend' : Nat × Nat → Prop)
        (hch : Changes H' t st2)
        (hobl : Oblig { t with status := st2 } (src, hc) blk)
        (hnew : ∀ c q, t.parents c = some q → ¬ Dec (t.status c.1) → finalHash (st2 c.1) = some c.2 → pend' c) =>
      after_changes (H' := H') (t := t) (t' := { t with status := st2 }) (pend' := pend') rfl rfl
        (fun s h _ => w.slot s h) w.par w.wdec w.closed hch
        (fun c p hc h1 => by subst hc; cases Option.some.inj (h1.symm.trans w.link); exact hobl) hnew
    by_cases hlow : blk.1 < t.first
    · -- the block is below the watermark: nothing to do
      have hsrc := w.early sf hs hlow
      have rp := after t.status (fun _ => False) (fun _ => Or.inl rfl)
        ⟨fun s _ b c' => absurd (Nat.lt_of_lt_of_le b (Nat.le_of_eq hsrc)) (Nat.not_lt.mpr c'),
          fun a => absurd hlow (Nat.not_lt.mpr a)⟩
        (fun c _ _ h5 h3 => h5 (dec_of_finalHash h3))
      exact ⟨t, ev, by unfold walk; rw [if_neg (fun h => h hlt), if_pos hlow], rp.rel⟩
    have hge : t.first ≤ blk.1 := Nat.not_lt.mp hlow
    obtain ⟨st, hloop, hbetween, hother⟩ := skipLoop_between (st := t.status) (acc := ev.implSkipped)
      (lo := blk.1) (hi := src) (fun s a b => w.between_open sf hs s a b (Nat.le_trans hge (Nat.le_of_lt a)))
    have hch : Changes H' t st := by
      intro x
      by_cases hx : blk.1 < x ∧ x < src
      · rw [hbetween x hx.1 hx.2]
        exact Or.inr ⟨fun d => absurd d (w.between_undecided sf hs x hx.1 hx.2 (Nat.le_trans hge (Nat.le_of_lt hx.1))),
          fun _ => ⟨(src, hc), blk, hcF, hl, hx.1, hx.2⟩⟩
      · exact Or.inl (hother x hx)
    -- the loop finalizes nothing
    have hnofin : ∀ {c : Nat × Nat}, ¬ Dec (t.status c.1) → finalHash (st c.1) ≠ some c.2 := by
      intro c nd e
      by_cases hx : blk.1 < c.1 ∧ c.1 < src
      · rw [hbetween _ hx.1 hx.2] at e; cases e
      · exact nd (dec_of_finalHash (hother _ hx ▸ e))
    have hstb : st blk.1 = t.status blk.1 := hother _ (fun h => Nat.lt_irrefl _ h.1)
    by_cases hd : Dec (t.status blk.1)
    · -- the slot is decided already: it holds `blk`, and the walk stops here
      have old := w.old_slot blk.1 hge hlt
      rcases dec_cases hd with ⟨hh, e⟩ | e
      · have heq := sf.final_fun (blk.1, hh) blk ((slotOK_final old e).mono hs) hblkF rfl
        have hfin : finalHash (st blk.1) = some blk.2 := by rw [hstb, e, ← heq]
        have rp := after st (fun _ => False) hch ⟨fun s a b _ => hbetween s a b, fun _ => hfin⟩
          (fun c _ _ h5 h3 => hnofin h5 h3)
        exact ⟨_, _, walk_stop hf hlt hge hloop hfin, rp.rel⟩
      · rw [e] at old
        exact absurd (Skip.mono hs old) (sf.final_not_skip hblkF)
    -- the slot is undecided (D27: possibly `Notarized` with another hash): it becomes `ImplicitlyFinalized(blk.2)`
    rw [walk_mark hlt hge hloop (hstb ▸ hd)]
    -- a newly finalized child can only be `blk`
    have hnewfin : ∀ c : Nat × Nat, ¬ Dec (t.status c.1) →
        finalHash (setSt st blk.1 (.implFinalized blk.2) c.1) = some c.2 → c = blk := by
      intro c nd e
      by_cases hcb : c.1 = blk.1
      · rw [hcb, setSt_self] at e
        exact Prod.ext hcb (Option.some.inj e).symm
      · rw [setSt_ne _ _ hcb] at e
        exact absurd e (hnofin nd)
    have mark := fun pend' => after (setSt st blk.1 (.implFinalized blk.2)) pend' (hch.set (fun d => absurd d hd) (fun _ => hblkF))
      ⟨fun s a b _ => (setSt_ne _ _ (Nat.ne_of_gt a)).trans (hbetween s a b), fun _ => congrArg finalHash (setSt_self ..)⟩
    split
    · -- the parent of `blk` is known: recurse
      rename_i p hp
      refine ih _ blk.1 blk.2 p _ (.ofRelP (mark (fun x => x = (blk.1, blk.2)) (fun c _ _ h5 h3 => hnewfin c h5 h3))
        hge (congrArg finalHash (setSt_self ..)) hp ?_ ?_ ?_)
        (Nat.le_of_lt_succ (Nat.lt_of_lt_of_le hlt hf))
      · intro s a b
        show SlotOK H s (setSt st blk.1 (.implFinalized blk.2) s)
        rw [setSt_ne _ _ (Nat.ne_of_lt b), hother s (fun h => Nat.lt_asymm h.1 b)]
        exact w.old_slot s a (Nat.lt_trans b hlt)
      · intro b hb a c'
        show finalHash (setSt st blk.1 (.implFinalized blk.2) b.1) = _
        rw [setSt_ne _ _ (Nat.ne_of_lt c'), hother _ (fun h => Nat.lt_asymm h.1 c')]
        exact w.old_final b hb a (Nat.lt_trans c' hlt)
      · intro ⟨hfin, _⟩
        exact hd (dec_of_finalHash (w.old_final blk hfin hge hlt))
    · -- no parent known: done
      rename_i hp
      have rp := mark (fun _ => False) (fun c q h1 h5 h3 => by
        cases hnewfin c h5 h3
        rw [hp] at h1; cases h1)
      exact ⟨_, _, rfl, rp.rel⟩

end

end AgModel.Finality
