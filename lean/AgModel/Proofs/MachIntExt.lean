import AgModel.Model.MachIntExt
import AgModel.Proofs.MachInt
/-! `Duration` arithmetic is exact on nanoseconds and fails exactly when the seconds do not fit u64 (`Dur.*_spec`); the
    sleeps of `set_timeouts` add up to the protocol's timeout formula (`windowClock_step`); `Stake::div_ceil` and
    `Slot::windows()`. For `Props/C02Timeouts.lean` and `Props/C10MachInt.lean`. -/
namespace AgModel.MachInt

theorem NPS_eq : NPS = 1000000000 := rfl

/-- Sequencing for the `match o with | none => none | some c => f c` of the models of this layer: like `Panics.bind`,
    the continuation is met with the result in place. Lean shares the matcher among `match`es of one discriminant
    type only, so this rule serves the `match`es on a `u64`; the one on a list (`windowsFrom`) is met with
    `Panics.step` itself. -/
theorem Panics.seq {β : Type} {bad bad' : Prop} {post' : β → Prop} {o : Option UInt64} {post : UInt64 → Prop}
    {f : UInt64 → Option β} (h : Panics o bad post) (hbad : bad → bad')
    (hf : ∀ c, post c → ¬ bad → Panics (f c) bad' post') :
    Panics (match o with | none => none | some c => f c) bad' post' :=
  h.step hbad fun c ho hp hn => by rw [ho]; exact hf c hp hn

/-- a `Duration` is below 2^64 s, so a result that is the exact value shows that this value fits -/
theorem Dur.pure_spec {c : Dur} {x : Nat} (h : c.wf ∧ c.toNanos = x) :
    Panics (some c) (2 ^ 64 * NPS ≤ x) (fun c => c.wf ∧ c.toNanos = x) := by
  refine .pure ?_ h
  have := UInt64.toNat_lt c.secs
  have hw := h.1
  unfold Dur.wf at hw
  rw [← h.2, Dur.toNanos, NPS_eq] at *
  omega

/-- `checked_add` is `None` (`+` panics) exactly when the exact sum needs more than 64 bits of seconds -/
theorem Dur.checkedAdd_spec (a b : Dur) (ha : a.wf) (hb : b.wf) :
    Panics (a.checkedAdd b) (2 ^ 64 * NPS ≤ a.toNanos + b.toNanos)
      (fun c => c.wf ∧ c.toNanos = a.toNanos + b.toNanos) := by
  unfold Dur.wf at ha hb
  unfold Dur.checkedAdd Dur.toNanos Dur.wf
  rw [NPS_eq] at *
  refine (cadd_spec a.secs b.secs).seq (by omega) fun s hs _ => ?_
  simp only
  split
  · refine (cadd_one_spec s).seq (by omega) fun s' hs' _ => ?_
    exact Dur.pure_spec (by simp only [Dur.wf, Dur.toNanos, NPS_eq]; omega)
  · exact Dur.pure_spec (by simp only [Dur.wf, Dur.toNanos, NPS_eq]; omega)

/-- a difference that exists shows the subtrahend was not larger -/
theorem Dur.pure_sub_spec {c : Dur} {x y : Nat} (h : c.wf ∧ c.toNanos + y = x) :
    Panics (some c) (x < y) (fun c => c.wf ∧ c.toNanos + y = x) :=
  .pure (by have := h.2; omega) h

theorem Dur.checkedSub_spec (a b : Dur) (ha : a.wf) (hb : b.wf) :
    Panics (a.checkedSub b) (a.toNanos < b.toNanos) (fun c => c.wf ∧ c.toNanos + b.toNanos = a.toNanos) := by
  unfold Dur.wf at ha hb
  unfold Dur.checkedSub Dur.toNanos Dur.wf
  rw [NPS_eq] at *
  refine (csub_spec a.secs b.secs).seq (by omega) fun s hs _ => ?_
  split
  · exact Dur.pure_sub_spec (by simp only [Dur.wf, Dur.toNanos, NPS_eq]; omega)
  · refine (csub_one_spec s).seq (by omega) fun s' hs' _ => ?_
    exact Dur.pure_sub_spec (by simp only [Dur.wf, Dur.toNanos, NPS_eq]; omega)

theorem Dur.saturatingSub_spec (a b : Dur) (ha : a.wf) (hb : b.wf) :
    (a.saturatingSub b).wf ∧ (a.saturatingSub b).toNanos = a.toNanos - b.toNanos := by
  have hs := Dur.checkedSub_spec a b ha hb
  unfold Dur.saturatingSub
  cases h : a.checkedSub b with
  | none =>
    have := hs.1.mp h
    refine ⟨by show (0 : Nat) < NPS; decide, ?_⟩
    show (0 : UInt64).toNat * NPS + 0 = _
    rw [zero_toNat]; omega
  | some c =>
    have := hs.2 c h
    exact ⟨this.1, by rw [Option.getD_some]; omega⟩

/-- `checked_mul` by a u32 factor is `None` exactly when the exact product needs more than 64 bits of seconds -/
theorem Dur.checkedMul_spec (a : Dur) (k : UInt64) (ha : a.wf) (hk : k.toNat < 2 ^ 32) :
    Panics (a.checkedMul k) (2 ^ 64 * NPS ≤ a.toNanos * k.toNat)
      (fun c => c.wf ∧ c.toNanos = a.toNanos * k.toNat) := by
  unfold Dur.wf at ha
  unfold Dur.checkedMul Dur.toNanos Dur.wf
  have hx : a.nanos * k.toNat / NPS < 2 ^ 64 := by
    have : a.nanos * k.toNat < NPS * 2 ^ 32 := Nat.mul_lt_mul'' ha hk
    rw [NPS_eq] at *; omega
  rw [Nat.add_mul, Nat.mul_right_comm]
  rw [NPS_eq] at *
  refine (cmul_spec a.secs k).seq (by omega) fun s hs _ => ?_
  refine (cadd_spec s (UInt64.ofNat (a.nanos * k.toNat / 1000000000))).seq ?_ fun s' hs' _ => ?_
  · rw [ofNat_toNat_of_lt hx]; omega
  · rw [ofNat_toNat_of_lt hx] at *
    exact Dur.pure_spec ⟨Nat.mod_lt _ (by decide), by simp only [Dur.toNanos, NPS_eq]; omega⟩

theorem DELTA_TIMEOUT_some :
    ∃ dt, DELTA_TIMEOUT = some dt ∧ dt.wf ∧ dt.toNanos = natDeltaTimeoutNs := by
  refine ⟨⟨0, 750000000⟩, by decide, by decide, by decide⟩

theorem DELTA_BLOCK_wf : DELTA_BLOCK.wf ∧ DELTA_BLOCK.toNanos = natDeltaBlockNs := by decide
theorem DELTA_FIRST_SLICE_wf : DELTA_FIRST_SLICE.wf ∧ DELTA_FIRST_SLICE.toNanos = natDeltaFirstSliceNs := by decide
theorem first_le_block : natDeltaFirstSliceNs ≤ natDeltaBlockNs := by decide
theorem block_pos : 0 < natDeltaBlockNs := by decide
theorem consts_fit : natDeltaTimeoutNs + natDeltaFirstSliceNs < 2 ^ 64 * NPS := by decide

theorem slotSleep_toNanos (x : UInt64) :
    (slotSleep x).toNanos = if x.toNat % W = 0 then natDeltaBlockNs - natDeltaFirstSliceNs else natDeltaBlockNs := by
  unfold slotSleep
  by_cases h : x.toNat % W = 0
  · rw [if_pos ((isStart_iff x).mpr h), if_pos h,
      (Dur.saturatingSub_spec _ _ DELTA_BLOCK_wf.1 DELTA_FIRST_SLICE_wf.1).2, DELTA_BLOCK_wf.2, DELTA_FIRST_SLICE_wf.2]
  · rw [if_neg (mt (isStart_iff x).mp h), if_neg h, DELTA_BLOCK_wf.2]

/-- An ideal clock reads `g p` when the sleep of the element at position `p` starts and `g (p + 1)` when it ends: every
    event of a list laid out at consecutive positions fires at the reading after its own sleep. -/
theorem fireTimes_clock {α : Type} (d : α → Dur) (e : Nat → TEv) (pos : α → Nat) (g : Nat → Nat) (l : List α) (a : Nat)
    (hm : l.map pos = List.range' a l.length) (hg : ∀ x ∈ l, g (pos x + 1) = g (pos x) + (d x).toNanos) :
    fireTimes (l.map fun x => (d x, e (pos x))) (g a) = (List.range' a l.length).map fun p => (g (p + 1), e p) := by
  induction l generalizing a with
  | nil => rfl
  | cons x r ih =>
    rw [List.length_cons, List.range'_succ] at hm ⊢
    rw [List.map_cons, List.cons.injEq] at hm
    have hgx := hg x List.mem_cons_self
    rw [hm.1] at hgx
    rw [List.map_cons, List.map_cons, fireTimes, ← hgx, hm.1,
      ih (a + 1) hm.2 fun y hy => hg y (List.mem_cons_of_mem _ hy)]

/-- which `Timeout`s fire, and in which order, is settled by the order of the sleeps alone, whatever their lengths -/
theorem timeoutSlots_fireTimes {α : Type} (d : α → Dur) (p : α → Nat) (l : List α) (acc : Nat) :
    timeoutSlots (fireTimes (l.map fun x => (d x, .timeout (p x))) acc) = l.map p := by
  induction l generalizing acc with
  | nil => rfl
  | cons a r ih => simp only [List.map_cons, fireTimes, timeoutSlots, ih]

theorem natTimeout_succ (i : Nat) : natTimeout (i + 1) = natTimeout i + natDeltaBlockNs := by
  unfold natTimeout
  rw [Nat.succ_mul, Nat.add_assoc]

/-- the clock of the task that `set_timeouts(s)` spawns, by slot: `natCrashed` when the sleep before `Timeout(s)`
    starts, `natTimeout i` when the sleep before `Timeout(s + i)` ends -/
def windowClock (s p : Nat) : Nat := if p = s then natCrashed else natTimeout (p - (s + 1))

theorem windowClock_step {s : Nat} (hs : s % W = 0) (x : UInt64) (hx : s ≤ x.toNat ∧ x.toNat < s + W) :
    windowClock s (x.toNat + 1) = windowClock s x.toNat + (slotSleep x).toNanos := by
  have hfb := first_le_block
  obtain ⟨j, hj⟩ : ∃ j, x.toNat = s + j := ⟨_, (Nat.add_sub_cancel' hx.1).symm⟩
  rw [windowClock, windowClock, if_neg (by omega), slotSleep_toNanos, hj, Nat.add_right_comm, Nat.add_sub_cancel_left]
  cases j with
  | zero =>
    -- the window start sleeps `Δblock - Δfirst_slice` after the crashed-leader timeout
    rw [if_pos (Nat.add_zero _), if_pos (by rw [Nat.add_zero]; exact hs)]
    unfold natCrashed natTimeout
    omega
  | succ j =>
    rw [if_neg (by omega), (by omega : s + (j + 1) - (s + 1) = j), if_neg, natTimeout_succ]
    rw [Nat.add_mod, hs, Nat.zero_add, Nat.mod_mod, Nat.mod_eq_of_lt (by omega)]
    omega

/-- `div_ceil` panics only on a zero divisor: when the remainder is positive the divisor is at least 2, so the
    quotient is below 2^63 and its `+ 1` fits -/
theorem stakeDivCeil_spec (a d : UInt64) :
    Panics (stakeDivCeil a d) (d = 0)
      (fun r => r.toNat = a.toNat / d.toNat + (if a.toNat % d.toNat = 0 then 0 else 1)) := by
  unfold stakeDivCeil cdiv cmod
  by_cases hd : d = 0
  · rw [if_pos hd]
    exact .panic hd
  · rw [if_neg hd, if_neg hd]
    simp only
    rw [UInt64.toNat_mod]
    split
    · next hr =>
      refine (cadd_one_spec (a / d)).imp (iff_of_false ?_ hd)
        (fun r h => by rw [h, UInt64.toNat_div, if_neg (by omega)])
      have hd2 : 2 ≤ d.toNat := by
        rcases Nat.lt_or_ge d.toNat 2 with h | h
        · have : d.toNat = 1 := by have := toNat_pos hd; omega
          rw [this, Nat.mod_one] at hr; omega
        · exact h
      have h1 : a.toNat / d.toNat ≤ a.toNat / 2 := Nat.div_le_div_left hd2 (by decide)
      have := a.toNat_lt
      rw [UInt64.toNat_div]; omega
    · next hr => exact .pure hd (by rw [UInt64.toNat_div, if_pos (by omega)]; rfl)

/-- from a cursor just after the window start `q * W`, the iterator yields the next `k` window starts; it panics
    when the last of them, `(q + k) * W`, does not fit. All comparisons with 2^64 are made on the window numbers
    (`pow64_le_mul_W`, `mul_W_le_pow64`), where they are linear, and the panic condition is stated there. -/
theorem windowsFrom_spec (k : Nat) (start : UInt64) (q : Nat) (hs : start.toNat = q * W + 1) :
    Panics (windowsFrom start k) (2 ^ 64 / W < q + 1 + k ∧ 0 < k)
      (fun l => l.map UInt64.toNat = (List.range' (q + 1) k).map (· * W)) := by
  induction k generalizing start q with
  | zero => exact .pure (by omega) rfl
  | succ k ih =>
    obtain ⟨w1, hw1, hw1n⟩ := W64_sub_one
    have hW := W_ge_two
    have hqW : q * W + 1 + (W - 1) = (q + 1) * W := by rw [Nat.add_mul, Nat.one_mul]; omega
    unfold windowsFrom
    rw [hw1]
    simp only
    refine (cadd_spec start w1).seq ?_ fun p hpn hno => ?_
    · rw [hs, hw1n, hqW, pow64_le_mul_W]; omega
    · rw [hs, hw1n, hqW] at hpn hno
      rw [pow64_le_mul_W] at hno
      refine (cadd_one_spec p).seq ?_ fun n hnn _ => ?_
      · -- `p` is a multiple of `W ≥ 2` below 2^64, so `p + 1` fits
        intro hmax
        have := (mul_W_le_pow64 (q + 1 + 1)).mpr (by omega)
        rw [Nat.add_mul (q + 1) 1 W, Nat.one_mul] at this
        omega
      · refine (ih n (q + 1) (by rw [hnn, hpn])).step (by omega) fun rest ho hrl hno2 => ?_
        rw [ho]
        exact .pure (by omega) (by rw [List.map_cons, hrl, hpn, List.range'_succ, List.map_cons])

end AgModel.MachInt
