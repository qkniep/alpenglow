import AgModel.Proofs.PoolHeld
import AgModel.Proofs.FinalityEvents
/-! The structure of the pool operations, stated once. What every primitive pool transformer (`slotState`, `putSlot`,
    `prune`, `applyPr`, `addWaiting`) does to the views the invariants read (`getSlot`, `epoch`, `fin`, `waiting`;
    `SlotsOnly` for what touches the slot states alone); for
    each composite operation (`notify_waiting_children`, `add_valid_cert`, `add_vote`, `add_cert`, `add_block`) an
    induction principle over its call structure (`…_ind`); and for the three that are called from outside the ways they
    can end (`…_outcomes`: resulting pool, verdict and events). The loop principles and the `…_indE` forms carry an invariant `I q A` of the pool `q` *and* the events `A`
    emitted so far; the plain `…_ind` forms are for an invariant of the pool alone. These principles, with their phase
    predicates, are for invariants that hold only at the boundaries of an operation or look at its whole event list; one
    that holds between any two primitive changes is a single lemma over `Prim` (`Proofs/PoolPrim.lean`). -/
namespace AgModel.Pool

theorem getSlot_mem (p : Pool) (s : Nat) (st : SlotState) (h : p.getSlot s = some st) : st ∈ p.slots ∧ st.slot = s := by
  unfold Pool.getSlot at h
  have := List.find?_some h
  exact ⟨List.mem_of_find?_eq_some h, by simpa using this⟩

theorem getSlot_slot {p : Pool} {s : Nat} {st : SlotState} (h : p.getSlot s = some st) : st.slot = s :=
  (getSlot_mem p s st h).2

theorem find_slot_append_single (l : List SlotState) (st : SlotState) (s' : Nat)
    (hn : l.find? (·.slot == st.slot) = none) :
    (l ++ [st]).find? (·.slot == s') = if s' = st.slot then some st else l.find? (·.slot == s') := by
  rw [List.find?_append]
  by_cases h : s' = st.slot
  · subst h
    simp [hn]
  · have : (st.slot == s') = false := by
      simp only [beq_eq_false_iff_ne, ne_eq]; exact fun e => h e.symm
    simp only [h, if_false, List.find?_cons, this, List.find?_nil, Option.or_none]

theorem getSlot_slotState (p : Pool) (s s' : Nat) :
    (p.slotState s).1.getSlot s' = if s' = s then some (p.slotState s).2 else p.getSlot s' := by
  unfold Pool.slotState
  split
  · rename_i st hg
    by_cases h : s' = s
    · subst h; simp only [if_true]; exact hg
    · simp only [h, if_false]
  · rename_i hg
    unfold Pool.getSlot at hg ⊢
    exact find_slot_append_single p.slots { slot := s } s' hg

theorem slotState_of_some {p : Pool} {s : Nat} {st : SlotState} (h : p.getSlot s = some st) : p.slotState s = (p, st) := by
  unfold Pool.slotState; rw [h]

theorem slotState_snd_of_some {p : Pool} {s : Nat} {st : SlotState} (h : p.getSlot s = some st) :
    (p.slotState s).2 = st := by
  rw [slotState_of_some h]

theorem slotState_snd_of_none {p : Pool} {s : Nat} (h : p.getSlot s = none) :
    (p.slotState s).2 = { slot := s } := by
  unfold Pool.slotState; rw [h]

theorem slotState_snd_slot (p : Pool) (s : Nat) : (p.slotState s).2.slot = s := by
  cases h : p.getSlot s with
  | none => rw [slotState_snd_of_none h]
  | some st => rw [slotState_snd_of_some h]; exact getSlot_slot h

/-- `q` differs from `p` in the slot states at most -/
structure SlotsOnly (p q : Pool) : Prop where
  epoch : q.epoch = p.epoch
  fin : q.fin = p.fin
  waiting : q.waiting = p.waiting
  pr : q.pr = p.pr
  wakes : q.wakes = p.wakes

theorem SlotsOnly.trans {p q r : Pool} (h : SlotsOnly p q) (h' : SlotsOnly q r) : SlotsOnly p r :=
  ⟨h'.epoch.trans h.epoch, h'.fin.trans h.fin, h'.waiting.trans h.waiting, h'.pr.trans h.pr, h'.wakes.trans h.wakes⟩

theorem slotState_frame (p : Pool) (s : Nat) : SlotsOnly p (p.slotState s).1 := by
  unfold Pool.slotState; split <;> exact ⟨rfl, rfl, rfl, rfl, rfl⟩

/-- replacing the state of a slot leaves every state in its slot -/
theorem find_slot_replace (l : List SlotState) (st : SlotState) (s' : Nat) :
    (l.map (fun x => if x.slot == st.slot then st else x)).find? (·.slot == s') =
      (l.find? (·.slot == s')).map (fun x => if x.slot == st.slot then st else x) := by
  rw [List.find?_map]
  congr 2
  funext x
  show ((if x.slot == st.slot then st else x).slot == s') = (x.slot == s')
  split
  · next h => rw [beq_iff_eq.mp h]
  · rfl

theorem getSlot_putSlot (p : Pool) (st : SlotState) (s' : Nat) :
    (p.putSlot st).getSlot s' = if s' = st.slot then some st else p.getSlot s' := by
  unfold Pool.putSlot
  split
  · rename_i hany
    unfold Pool.getSlot
    dsimp only
    rw [find_slot_replace]
    cases hf : p.slots.find? (·.slot == s') with
    | none =>
      split
      · next h =>
        obtain ⟨x, hx, hs⟩ := List.any_eq_true.mp hany
        exact absurd (h ▸ hs) (List.find?_eq_none.mp hf x hx)
      · rfl
    | some x =>
      have hx : x.slot = s' := by simpa using List.find?_some hf
      rw [Option.map_some, ← hx]
      split
      · next h => rw [if_pos (beq_iff_eq.mp h)]
      · next h => rw [if_neg (fun e => h (beq_iff_eq.mpr e))]
  · rename_i hany
    unfold Pool.getSlot
    dsimp only
    apply find_slot_append_single
    rw [List.find?_eq_none]
    intro x hx hc
    apply hany
    simp only [List.any_eq_true]
    exact ⟨x, hx, hc⟩

theorem putSlot_frame (p : Pool) (st : SlotState) : SlotsOnly p (p.putSlot st) := by
  unfold Pool.putSlot; split <;> exact ⟨rfl, rfl, rfl, rfl, rfl⟩

theorem getSlot_prune (p : Pool) (s' : Nat) :
    p.prune.getSlot s' = if p.fin.first ≤ s' then p.getSlot s' else none := by
  unfold Pool.prune Pool.getSlot
  dsimp only
  rw [List.find?_filter]
  split
  · rename_i h
    congr 1; funext a
    by_cases ha : a.slot = s'
    · simp [ha, h]
    · simp [ha]
  · rename_i h
    rw [List.find?_eq_none]
    intro a _ hc
    simp only [ge_iff_le, decide_eq_true_eq, beq_iff_eq] at hc
    exact h (hc.2 ▸ hc.1)

theorem getSlot_applyPr (p : Pool) (r : ParentReady.Res) (s : Nat) : (p.applyPr r).1.getSlot s = p.getSlot s := by
  unfold Pool.applyPr; split <;> rfl

theorem applyPr_frame (p : Pool) (r : ParentReady.Res) :
    (p.applyPr r).1.epoch = p.epoch ∧ (p.applyPr r).1.fin = p.fin ∧ (p.applyPr r).1.waiting = p.waiting := by
  unfold Pool.applyPr; split <;> exact ⟨rfl, rfl, rfl⟩

theorem getSlot_addWaiting (p : Pool) (par b : Nat × Nat) (s : Nat) : (Pool.addWaiting p par b).getSlot s = p.getSlot s := by
  unfold Pool.addWaiting; split <;> rfl

theorem addWaiting_frame (p : Pool) (par b : Nat × Nat) :
    (Pool.addWaiting p par b).epoch = p.epoch ∧ (Pool.addWaiting p par b).fin = p.fin := by
  unfold Pool.addWaiting; split <;> exact ⟨rfl, rfl⟩

/-! `mod`: one slot state is replaced — `slot_state(s)` followed by a write-back -/

theorem getSlot_mod (p : Pool) (s : Nat) (st' : SlotState) (hs : st'.slot = s) (s' : Nat) :
    ((p.slotState s).1.putSlot st').getSlot s' = if s' = s then some st' else p.getSlot s' := by
  rw [getSlot_putSlot, hs]
  by_cases h : s' = s
  · simp only [h, if_true]
  · simp only [h, if_false]; rw [getSlot_slotState]; simp only [h, if_false]

theorem mod_frame (p : Pool) (s : Nat) (st' : SlotState) : SlotsOnly p ((p.slotState s).1.putSlot st') :=
  (slotState_frame p s).trans (putSlot_frame _ st')

theorem fin_first_mono {t : Finality.Tracker} {op : Finality.Op} {t' : Finality.Tracker} {ev : Finality.Event}
    (h : Finality.step t op = .ok t' ev) : t.first ≤ t'.first := by
  obtain ⟨m, me, hm⟩ := Finality.step_mid h
  rcases hm with ⟨rfl, _⟩ | rfl
  · rw [me.first]; exact Nat.le_refl _
  · rw [← me.first]; exact Finality.prune_first_ge m

/-- what `handle_finalization` and the first half of `add_block` have in common: a new finality-tracker state is
    installed, the parent-ready tracker is told, then `prune()` -/
def Pool.advance (p : Pool) (t : Finality.Tracker) (r : ParentReady.Res) : Pool :=
  (({ p with fin := t } : Pool).applyPr r).1.prune

theorem advance_fin (p : Pool) (t : Finality.Tracker) (r : ParentReady.Res) : (p.advance t r).fin = t := by
  unfold Pool.advance Pool.prune
  exact (applyPr_frame _ r).2.1

theorem advance_epoch (p : Pool) (t : Finality.Tracker) (r : ParentReady.Res) : (p.advance t r).epoch = p.epoch := by
  unfold Pool.advance Pool.prune
  exact (applyPr_frame _ r).1

theorem getSlot_advance (p : Pool) (t : Finality.Tracker) (r : ParentReady.Res) (s : Nat) :
    (p.advance t r).getSlot s = if t.first ≤ s then p.getSlot s else none := by
  unfold Pool.advance
  rw [getSlot_prune, getSlot_applyPr, (applyPr_frame _ r).2.1]
  rfl

/-- `handle_finalization` leaves the pool alone (the finality tracker panicked) or advances it -/
theorem handleFin_ind (J : Pool → Prop) {p : Pool} (op : Finality.Op) (hp : J p)
    (hadv : ∀ t r, p.fin.first ≤ t.first → J (p.advance t r)) : J (p.handleFin (Finality.step p.fin op)).1 := by
  unfold Pool.handleFin
  split
  · exact hp
  · rename_i t ev hst; exact hadv t _ (fin_first_mono hst)

/-- what the two trackers report: a failed assertion, or `ParentReady` announcements -/
def Event.tracker : Event → Prop
  | .panic | .parentReady _ _ _ => True
  | _ => False

theorem prEvents_no_panic (anns : List (Nat × (Nat × Nat))) : Event.panic ∉ prEvents anns := by
  unfold prEvents
  intro h
  obtain ⟨a, _, e⟩ := List.mem_map.mp h
  cases e

theorem applyPr_events (p : Pool) (r : ParentReady.Res) : ∀ ev ∈ (p.applyPr r).2, ev.tracker := by
  intro ev hev
  unfold Pool.applyPr at hev
  split at hev
  · rw [List.mem_singleton.mp hev]; trivial
  · obtain ⟨a, _, rfl⟩ := List.mem_map.mp hev
    trivial

theorem handleFin_events (p : Pool) (r : Finality.Res) : ∀ ev ∈ (p.handleFin r).2, ev.tracker := by
  intro ev hev
  unfold Pool.handleFin at hev
  split at hev
  · rw [List.mem_singleton.mp hev]; trivial
  · exact applyPr_events _ _ ev hev

/-- the children waiting for a certificate of `par` (what `notify_waiting_children` iterates over) -/
def kidsOf (p : Pool) (par : Nat × Nat) : List (Nat × Nat) := (p.waiting.lookup par).getD []

/-- the loop of `notify_waiting_children`, for an invariant `I rem q A` of the children still to visit, the pool and the
    events so far; a child without parent entry panics and ends the loop (`hpanic` lands in `I []`) -/
theorem notifyChildren_ind (I : List (Nat × Nat) → Pool → List Event → Prop)
    (hskip : ∀ k ks q A, k.1 < q.fin.first → I (k :: ks) q A → I ks q A)
    (hpanic : ∀ k ks q A, q.fin.first ≤ k.1 → (q.slotState k.1).2.notifyParentCertified q.epoch k.2 = none →
      I (k :: ks) q A → I [] (q.slotState k.1).1 (A ++ [.panic]))
    (hkid : ∀ k ks q A st' evs, q.fin.first ≤ k.1 →
      (q.slotState k.1).2.notifyParentCertified q.epoch k.2 = some (st', evs) →
      I (k :: ks) q A → I ks ((q.slotState k.1).1.putSlot st') (A ++ evs))
    (kids : List (Nat × Nat)) (p : Pool) (acc : List Event) (h : I kids p acc) :
    I [] (p.notifyChildren kids acc).1 (p.notifyChildren kids acc).2 := by
  induction kids generalizing p acc with
  | nil => exact h
  | cons k ks ih =>
    obtain ⟨cs, ch⟩ := k
    rw [Pool.notifyChildren]
    dsimp only
    rw [(slotState_frame p cs).epoch]
    split
    · rename_i hlt; exact ih p acc (hskip _ _ p acc hlt h)
    · rename_i hge
      split
      · rename_i hn; exact hpanic (cs, ch) ks p acc (Nat.le_of_not_lt hge) hn h
      · rename_i st' evs hn; exact ih _ _ (hkid (cs, ch) ks p acc st' evs (Nat.le_of_not_lt hge) hn h)

/-- `notify_waiting_children(b)`: the entry of `b` leaves the waiting map, then the loop over its children -/
theorem notifyWaiting_ind (I : List (Nat × Nat) → Pool → List Event → Prop)
    (hskip : ∀ k ks q A, k.1 < q.fin.first → I (k :: ks) q A → I ks q A)
    (hpanic : ∀ k ks q A, q.fin.first ≤ k.1 → (q.slotState k.1).2.notifyParentCertified q.epoch k.2 = none →
      I (k :: ks) q A → I [] (q.slotState k.1).1 (A ++ [.panic]))
    (hkid : ∀ k ks q A st' evs, q.fin.first ≤ k.1 →
      (q.slotState k.1).2.notifyParentCertified q.epoch k.2 = some (st', evs) →
      I (k :: ks) q A → I ks ((q.slotState k.1).1.putSlot st') (A ++ evs))
    (p : Pool) (b : Nat × Nat) (h : I (kidsOf p b) { p with waiting := p.waiting.filter (·.1 ≠ b) } []) :
    I [] (p.notifyWaiting b).1 (p.notifyWaiting b).2 :=
  notifyChildren_ind I hskip hpanic hkid _ _ [] h

theorem notifyWaiting_frame (p : Pool) (b : Nat × Nat) :
    SlotsOnly { p with waiting := p.waiting.filter (·.1 ≠ b) } (p.notifyWaiting b).1 :=
  notifyWaiting_ind (fun _ q _ => SlotsOnly { p with waiting := p.waiting.filter (·.1 ≠ b) } q) (fun _ _ _ _ _ h => h)
    (fun k _ q _ _ _ h => h.trans (slotState_frame q k.1)) (fun k _ q _ st' _ _ _ h => h.trans (mod_frame q k.1 st')) p b
    ⟨rfl, rfl, rfl, rfl, rfl⟩

def Cert.strong (c : Cert) : Prop := c.kind = .notar ∨ c.kind = .nf ∨ c.kind = .ff

/-- the pool right after `add_valid_cert(c)` stored the certificate in its slot state -/
def Pool.stored (p : Pool) (c : Cert) : Pool := (p.slotState c.slot).1.putSlot ((p.slotState c.slot).2.addCert c)

theorem stored_frame (p : Pool) (c : Cert) : SlotsOnly p (p.stored c) := mod_frame p c.slot _

/-- the call structure of `add_valid_cert`: the certificate is stored (`J` afterwards); `handle_finalization` with the
    finality operation of a notarization, fast-finalization or finalization certificate; the children waiting for the
    certified block are woken (back to `I`); the parent-ready tracker is told (and `Repair` sent) for a notarization or
    notar-fallback certificate, or told of a skip certificate; `CertCreated` is the last event -/
theorem addValidCert_indE (c : Cert) (p : Pool) (I J : Pool → List Event → Prop) (A : List Event)
    (hstore : J (p.stored c) A)
    (hfin : ∀ q E op, (c.kind = .notar ∧ op = .notar (c.slot, c.hash) ∨ c.kind = .ff ∧ op = .fastFinal (c.slot, c.hash) ∨
        c.kind = .final ∧ op = .final c.slot) → J q E →
      J (q.handleFin (Finality.step q.fin op)).1 (E ++ (q.handleFin (Finality.step q.fin op)).2))
    (hwake : c.strong → ∀ q E, J q E → I (q.notifyWaiting (c.slot, c.hash)).1 (E ++ (q.notifyWaiting (c.slot, c.hash)).2))
    (hweak : (c.kind = .skip ∨ c.kind = .final) → ∀ q E, J q E → I q E)
    (hnf : (c.kind = .notar ∨ c.kind = .nf) → ∀ q E, I q E →
      I (q.applyPr (ParentReady.markNotarFallback q.pr (c.slot, c.hash))).1
        (E ++ (q.applyPr (ParentReady.markNotarFallback q.pr (c.slot, c.hash))).2 ++ [.repair c.slot c.hash]))
    (hsk : c.kind = .skip → ∀ q E, I q E →
      I (q.applyPr (ParentReady.markSkipped q.pr c.slot)).1 (E ++ (q.applyPr (ParentReady.markSkipped q.pr c.slot)).2)) :
    ∃ E, I (p.addValidCert c).1 E ∧ A ++ (p.addValidCert c).2 = E ++ [.cert c] := by
  unfold Pool.stored at hstore
  unfold Pool.addValidCert
  dsimp only
  generalize (p.slotState c.slot).1.putSlot ((p.slotState c.slot).2.addCert c) = p1 at hstore
  cases hk : c.kind <;> dsimp only
  · simp only [show (CertKind.notar == CertKind.notar) = true from rfl, if_true, ← List.append_assoc]
    exact ⟨_, hnf (Or.inl hk) _ _ (hwake (Or.inl hk) _ _ (hfin p1 A _ (Or.inl ⟨hk, rfl⟩) hstore)), rfl⟩
  · simp only [show (CertKind.nf == CertKind.notar) = false from rfl, Bool.false_eq_true, if_false, List.nil_append,
      ← List.append_assoc]
    exact ⟨_, hnf (Or.inr hk) _ _ (hwake (Or.inr (Or.inl hk)) _ _ hstore), rfl⟩
  · simp only [← List.append_assoc]
    exact ⟨_, hsk hk _ _ (hweak (Or.inl hk) _ _ hstore), rfl⟩
  · simp only [← List.append_assoc]
    exact ⟨_, hwake (Or.inr (Or.inr hk)) _ _ (hfin p1 A _ (Or.inr (Or.inl ⟨hk, rfl⟩)) hstore), rfl⟩
  · simp only [← List.append_assoc]
    exact ⟨_, hweak (Or.inr hk) _ _ (hfin p1 A _ (Or.inr (Or.inr ⟨hk, rfl⟩)) hstore), rfl⟩

theorem addValidCert_ind (c : Cert) (p : Pool) (I J : Pool → Prop)
    (hstore : J (p.stored c))
    (hadv : ∀ q t r, q.fin.first ≤ t.first → J q → J (q.advance t r))
    (hprI : ∀ q r, I q → I (q.applyPr r).1)
    (hwake : c.strong → ∀ q, J q → I (q.notifyWaiting (c.slot, c.hash)).1)
    (hweak : (c.kind = .skip ∨ c.kind = .final) → ∀ q, J q → I q) :
    I (p.addValidCert c).1 := by
  obtain ⟨_, h, _⟩ := addValidCert_indE c p (fun q _ => I q) (fun q _ => J q) [] hstore
    (fun q _ op _ hq => handleFin_ind J op hq fun t r hm => hadv q t r hm hq)
    (fun hs q _ => hwake hs q) (fun hs q _ => hweak hs q) (fun _ q _ => hprI q _) (fun _ q _ => hprI q _)
  exact h

theorem addValidCert_epoch (q : Pool) (c : Cert) : (q.addValidCert c).1.epoch = q.epoch := by
  apply addValidCert_ind c q (·.epoch = q.epoch) (·.epoch = q.epoch) (mod_frame q c.slot _).epoch
    (fun r t _ _ h => (advance_epoch r t _).trans h) (fun r _ h => (applyPr_frame r _).1.trans h)
    (fun _ r h => (notifyWaiting_frame r _).epoch.trans h) (fun _ _ h => h)

theorem addValidCert_event (p : Pool) (c : Cert) : Event.cert c ∈ (p.addValidCert c).2 := by
  unfold Pool.addValidCert
  dsimp only
  simp

theorem addValidCerts_step (p : Pool) (c : Cert) (cs : List Cert) (acc : List Event) :
    p.addValidCerts (c :: cs) acc = (p.addValidCert c).1.addValidCerts cs (acc ++ (p.addValidCert c).2) := by
  rw [Pool.addValidCerts]

theorem addValidCerts_indE (I : Pool → List Event → Prop) (cs : List Cert) (p : Pool) (acc : List Event)
    (hvc : ∀ c ∈ cs, ∀ q A, I q A → I (q.addValidCert c).1 (A ++ (q.addValidCert c).2)) (hp : I p acc) :
    I (p.addValidCerts cs acc).1 (p.addValidCerts cs acc).2 := by
  induction cs generalizing p acc with
  | nil => exact hp
  | cons c cs ih =>
    rw [addValidCerts_step]
    exact ih _ _ (fun c' hc' => hvc c' (List.mem_cons_of_mem _ hc')) (hvc c List.mem_cons_self p acc hp)

theorem addValidCerts_events (cs : List Cert) (p : Pool) (acc : List Event) :
    (∀ ev ∈ acc, ev ∈ (p.addValidCerts cs acc).2) ∧ ∀ c ∈ cs, Event.cert c ∈ (p.addValidCerts cs acc).2 := by
  induction cs generalizing p acc with
  | nil => exact ⟨fun ev h => h, fun c h => by cases h⟩
  | cons c cs ih =>
    rw [addValidCerts_step]
    obtain ⟨h1, h2⟩ := ih (p.addValidCert c).1 (acc ++ (p.addValidCert c).2)
    refine ⟨fun ev h => h1 ev (List.mem_append_left _ h), fun c' hc' => ?_⟩
    rcases List.mem_cons.mp hc' with rfl | hc'
    · exact h1 _ (List.mem_append_right _ (addValidCert_event p c'))
    · exact h2 c' hc'

/-- the pool right after `add_vote` wrote the slot state with the admitted vote back -/
def Pool.voted (p : Pool) (v : Vote) : Pool :=
  (p.slotState v.slot).1.putSlot ((p.slotState v.slot).2.addVote p.epoch v).1

theorem voted_frame (p : Pool) (v : Vote) : SlotsOnly p (p.voted v) := mod_frame p v.slot _

/-- a slashable or duplicate vote still creates the slot state (third case) -/
theorem addVote_outcomes (p : Pool) (v : Vote) :
    p.addVote v = (p, .oob, []) ∨ (p.epoch.n ≤ v.signer ∧ p.addVote v = (p, .panic, [.panic])) ∨
    (∃ vd, vd ≠ .ok ∧ vd ≠ .panic ∧ p.addVote v = ((p.slotState v.slot).1, vd, [])) ∨
    (p.fin.first ≤ v.slot ∧ Adm (p.slotState v.slot).2 v ∧
      p.addVote v = (((p.voted v).addValidCerts ((p.slotState v.slot).2.addVote p.epoch v).2.1 []).1, .ok,
        ((p.voted v).addValidCerts ((p.slotState v.slot).2.addVote p.epoch v).2.1 []).2 ++
          ((p.slotState v.slot).2.addVote p.epoch v).2.2)) := by
  unfold Pool.addVote Pool.voted
  split
  · exact Or.inl rfl
  rename_i hoob
  split
  · rename_i hs; exact Or.inr (Or.inl ⟨hs, rfl⟩)
  dsimp only
  split
  · exact Or.inr (Or.inr (Or.inl ⟨.slash _, by simp, by simp, rfl⟩))
  · rename_i hsl
    split
    · exact Or.inr (Or.inr (Or.inl ⟨.dup, by simp, by simp, rfl⟩))
    · rename_i hig
      rw [(slotState_frame p v.slot).epoch]
      refine Or.inr (Or.inr (Or.inr ⟨?_, ⟨hsl, by simpa using hig⟩, rfl⟩))
      unfold Pool.outOfBounds at hoob
      simp only [Bool.or_eq_true, decide_eq_true_eq, not_or, Nat.not_lt] at hoob
      exact hoob.1

theorem addVote_ind (I : Pool → Prop) (p : Pool) (v : Vote)
    (hss : ∀ s, I p → I (p.slotState s).1)
    (hput : Adm (p.slotState v.slot).2 v → I (p.slotState v.slot).1 →
      I ((p.slotState v.slot).1.putSlot ((p.slotState v.slot).2.addVote p.epoch v).1))
    (hvc : ∀ c ∈ ((p.slotState v.slot).2.addVote p.epoch v).2.1, Event.cert c ∈ (p.addVote v).2.2 →
      ∀ q, I q → I (q.addValidCert c).1)
    (hp : I p) : I (p.addVote v).1 := by
  rcases addVote_outcomes p v with h | ⟨_, h⟩ | ⟨vd, _, _, h⟩ | ⟨_, ha, h⟩ <;> rw [h] at hvc ⊢ <;> dsimp only at hvc ⊢
  · exact hp
  · exact hp
  · exact hss _ hp
  · exact addValidCerts_indE (fun q _ => I q) _ (p.voted v) _
      (fun c hc q _ => hvc c hc (List.mem_append_left _ ((addValidCerts_events _ _ _).2 c hc)) q) (hput ha (hss _ hp))

theorem addCert_outcomes (p : Pool) (c : Cert) :
    p.addCert c = (p, .oob, []) ∨ p.addCert c = ((p.slotState c.slot).1, .dup, []) ∨
    p.addCert c = (((p.slotState c.slot).1.addValidCert c).1, .ok, ((p.slotState c.slot).1.addValidCert c).2) := by
  unfold Pool.addCert
  split
  · exact Or.inl rfl
  dsimp only
  -- the duplicate test is a `Bool`, whatever the kind of `c`
  exact Or.inr ((Bool.eq_false_or_eq_true _).imp (fun h => if_pos h) (fun h => if_neg (ne_true_of_eq_false h)))

theorem addCert_ind (I : Pool → Prop) (p : Pool) (c : Cert)
    (hss : ∀ s, I p → I (p.slotState s).1)
    (hvc : Event.cert c ∈ (p.addCert c).2.2 → ∀ q, I q → I (q.addValidCert c).1)
    (hp : I p) : I (p.addCert c).1 := by
  rcases addCert_outcomes p c with h | h | h <;> rw [h] at hvc ⊢ <;> dsimp only at hvc ⊢
  · exact hp
  · exact hss _ hp
  · exact hvc (addValidCert_event _ c) _ (hss _ hp)

/-- `add_block(b, par)` gets past its two assertions: `b.1 > par.1` and the finality tracker's `add_parent` -/
def accepted (p : Pool) (b par : Nat × Nat) : Prop :=
  b.1 > par.1 ∧ ∃ t ev, Finality.addParent p.fin b par = .ok t ev

instance (p : Pool) (b par : Nat × Nat) : Decidable (accepted p b par) := by
  unfold accepted
  cases h : Finality.addParent p.fin b par with
  | panic => exact isFalse (fun ⟨_, t, ev, h'⟩ => by cases h')
  | ok t ev => exact decidable_of_iff (b.1 > par.1) ⟨fun a => ⟨a, t, ev, rfl⟩, fun a => a.1⟩

/-- the pool after `add_block` made the block known in its slot -/
def Pool.known (q : Pool) (b : Nat × Nat) : Pool :=
  (q.slotState b.1).1.putSlot ((q.slotState b.1).2.notifyParentKnown b.2)

/-- `add_block`'s test "the pool holds a notar-fallback-or-stronger certificate for the parent" -/
def Pool.certifiedB (q : Pool) (par : Nat × Nat) : Bool :=
  match q.getSlot par.1 with
  | some ps => ps.isNfOrStronger par.2
  | none => false

theorem known_frame (q : Pool) (b : Nat × Nat) : SlotsOnly q (q.known b) := mod_frame q b.1 _

/-- second half of `add_block`; a notification that emits nothing queues the block all the same (`hkid` with
    `evs = []` is followed by `hwait`) -/
theorem addBlockTail_ind (I : Pool → List Event → Prop) (r : Pool) (b par : Nat × Nat) (e0 : List Event) (cert : Bool)
    (hwait : ∀ q, I q e0 → I (Pool.addWaiting q par b) e0)
    (hpanic : cert = true → (r.slotState b.1).2.notifyParentCertified r.epoch b.2 = none →
      I (r.slotState b.1).1 (e0 ++ [.panic]))
    (hkid : cert = true → ∀ st' evs, (r.slotState b.1).2.notifyParentCertified r.epoch b.2 = some (st', evs) →
      I ((r.slotState b.1).1.putSlot st') (e0 ++ evs))
    (h : I r e0) : I (Pool.addBlockTail r b par e0 cert).1 (Pool.addBlockTail r b par e0 cert).2 := by
  unfold Pool.addBlockTail
  rw [(slotState_frame r b.1).epoch]
  split
  · rename_i hc
    split
    · rename_i hn; exact hpanic hc hn
    · rename_i st' evs hn
      have hk := hkid hc st' evs hn
      split
      · rename_i hemp
        rw [List.isEmpty_iff.mp hemp, List.append_nil] at hk
        exact hwait _ hk
      · exact hk
  · exact hwait _ h

theorem addBlock_outcomes (p : Pool) (b par : Nat × Nat) :
    (¬ accepted p b par ∧ p.addBlock b par = (p, [.panic])) ∨
    ∃ t ev, b.1 > par.1 ∧ Finality.addParent p.fin b par = .ok t ev ∧ p.fin.first ≤ t.first ∧
      p.addBlock b par =
        if b.1 < t.first then
          (p.advance t (ParentReady.handleFinalization p.pr ev),
            (({ p with fin := t } : Pool).applyPr (ParentReady.handleFinalization p.pr ev)).2)
        else Pool.addBlockTail ((p.advance t (ParentReady.handleFinalization p.pr ev)).known b) b par
          (({ p with fin := t } : Pool).applyPr (ParentReady.handleFinalization p.pr ev)).2
          (((p.advance t (ParentReady.handleFinalization p.pr ev)).known b).certifiedB par) := by
  unfold Pool.addBlock
  split
  · rename_i hgt
    exact Or.inl ⟨fun a => hgt a.1, rfl⟩
  rename_i hgt
  split
  · rename_i hst
    exact Or.inl ⟨fun ⟨_, t, ev, a⟩ => (by rw [hst] at a; cases a), rfl⟩
  rename_i t ev hst
  have hfin : (p.advance t (ParentReady.handleFinalization p.pr ev)).fin = t := advance_fin _ _ _
  refine Or.inr ⟨t, ev, Nat.lt_of_not_le (fun h => hgt (Nat.not_lt.mpr h)), hst, fin_first_mono (op := .parent b par) hst, ?_⟩
  unfold Pool.advance at hfin ⊢
  dsimp only
  rw [hfin]
  rfl

theorem addBlock_ind (I : Pool → Prop) (p : Pool) (b par : Nat × Nat)
    (hrej : ¬ accepted p b par → I p)
    (hacc : accepted p b par → ∀ t r, p.fin.first ≤ t.first →
      (t.first ≤ b.1 → ∀ e0, I (Pool.addBlockTail ((p.advance t r).known b) b par e0 (((p.advance t r).known b).certifiedB par)).1) ∧
      (b.1 < t.first → I (p.advance t r))) :
    I (p.addBlock b par).1 := by
  rcases addBlock_outcomes p b par with ⟨hn, h⟩ | ⟨t, ev, hgt, hst, hm, h⟩ <;> rw [h]
  · exact hrej hn
  · obtain ⟨h1, h2⟩ := hacc ⟨hgt, t, ev, hst⟩ t _ hm
    split
    · rename_i hlt; exact h2 hlt
    · rename_i hge; exact h1 (Nat.le_of_not_lt hge) _

/-- `addBlock_outcomes` read through `handleFin`: what composes with facts about `handle_finalization` as a whole (the
    tracker projection, the events it emits) -/
theorem addBlock_handleFin (p : Pool) (b par : Nat × Nat) :
    (¬ par.1 < b.1 ∧ p.addBlock b par = (p, [.panic])) ∨
    (p.addBlock b par = p.handleFin (Finality.addParent p.fin b par) ∨
      ∃ cert, p.addBlock b par = Pool.addBlockTail
        (((p.handleFin (Finality.addParent p.fin b par)).1.slotState b.1).1.putSlot
          (((p.handleFin (Finality.addParent p.fin b par)).1.slotState b.1).2.notifyParentKnown b.2))
        b par (p.handleFin (Finality.addParent p.fin b par)).2 cert) := by
  rcases addBlock_outcomes p b par with ⟨hn, h⟩ | ⟨t, ev, _, hst, _, h⟩
  · by_cases hlt : par.1 < b.1
    · refine Or.inr (Or.inl ?_)
      cases hp : Finality.addParent p.fin b par with
      | panic => rw [h]; rfl
      | ok t ev => exact absurd ⟨hlt, t, ev, hp⟩ hn
    · exact Or.inl ⟨hlt, h⟩
  · refine Or.inr ?_
    rw [h, hst]
    split
    · exact Or.inl rfl
    · exact Or.inr ⟨_, rfl⟩

inductive PoolOp where
  | vote (v : Vote)
  | cert (c : Cert)
  | block (b par : Nat × Nat)
deriving Repr

def poolStep (p : Pool) : PoolOp → Pool × List Event
  | .vote v => ((p.addVote v).1, (p.addVote v).2.2)
  | .cert c => ((p.addCert c).1, (p.addCert c).2.2)
  | .block b par => p.addBlock b par

def poolRun (p : Pool) : List PoolOp → Pool × List Event
  | [] => (p, [])
  | op :: ops => ((poolRun (poolStep p op).1 ops).1, (poolStep p op).2 ++ (poolRun (poolStep p op).1 ops).2)

theorem poolRun_append (p : Pool) (a b : List PoolOp) :
    poolRun p (a ++ b) = ((poolRun (poolRun p a).1 b).1, (poolRun p a).2 ++ (poolRun (poolRun p a).1 b).2) := by
  induction a generalizing p with
  | nil => simp [poolRun]
  | cons op a ih => simp only [List.cons_append, poolRun, ih, List.append_assoc]

end AgModel.Pool
