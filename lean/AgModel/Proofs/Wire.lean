import AgModel.Model.Wire
/-! Lawfulness of the codec combinators of `AgModel.Wire` and of the message codecs built from them; the
byte layout of each message and the encoded lengths that follow from it (core Lean only). -/
namespace AgModel.Wire

/-- `rt`: round trip in front of arbitrary trailing bytes; `dv`: what decodes is representable. -/
structure Lawful {α : Type} (c : Codec α) : Prop where
  rt : ∀ a rest, c.valid a → c.dec (c.enc a ++ rest) = some (a, rest)
  dv : ∀ bs a rest, c.dec bs = some (a, rest) → c.valid a

theorem leBytes_length (k n : Nat) : (leBytes k n).length = k := by
  induction k generalizing n with
  | zero => rfl
  | succ k ih => simp [leBytes, ih]

theorem leVal_leBytes (k n : Nat) : leVal (leBytes k n) = n % 256 ^ k := by
  induction k generalizing n with
  | zero => simp [leBytes, leVal, Nat.mod_one]
  | succ k ih =>
    simp only [leBytes, leVal, ih, Nat.mod_mod]
    rw [Nat.pow_succ, Nat.mul_comm (256 ^ k) 256, Nat.mod_mul]

theorem leVal_lt (bs : Bytes) : leVal bs < 256 ^ bs.length := by
  induction bs with
  | nil => simp [leVal]
  | cons b bs ih =>
    simp only [leVal, List.length_cons, Nat.pow_succ]
    have : b % 256 < 256 := Nat.mod_lt _ (by decide)
    omega

/-- `uint` and `blob` are both of this form: the decoder cuts off `n` bytes and applies `f`. -/
theorem fixed_lawful {β : Type} (n : Nat) (f : Bytes → β) (enc : β → Bytes) (valid : β → Prop)
    (henc : ∀ b, valid b → (enc b).length = n ∧ f (enc b) = b) (hf : ∀ bs, bs.length = n → valid (f bs)) :
    Lawful ⟨enc, fun bs => if bs.length < n then none else some (f (bs.take n), bs.drop n), valid⟩ where
  rt b rest h := by
    obtain ⟨hl, hb⟩ := henc b h
    dsimp only
    rw [if_neg (by rw [List.length_append]; omega), List.take_left' hl, List.drop_left' hl, hb]
  dv bs b rest h := by
    obtain ⟨hn, h⟩ := Option.ite_none_left_eq_some.1 h
    cases h
    exact hf _ (List.length_take_of_le (Nat.not_lt.1 hn))

theorem uint_lawful (k : Nat) : Lawful (uint k) :=
  fixed_lawful k leVal (leBytes k) _ (fun a h => ⟨leBytes_length k a, (leVal_leBytes k a).trans (Nat.mod_eq_of_lt h)⟩)
    fun bs hl => hl ▸ leVal_lt bs

theorem uint_dec_enc (k a : Nat) (rest : Bytes) (h : a < 256 ^ k) :
    (uint k).dec (leBytes k a ++ rest) = some (a, rest) := (uint_lawful k).rt a rest h

theorem bool_lawful : Lawful bool where
  rt a rest _ := by cases a <;> rfl
  dv _ _ _ _ := trivial

theorem blob_lawful (n : Nat) : Lawful (blob n) :=
  fixed_lawful n (·.map (· % 256)) (·.map (· % 256)) _
    (fun b h =>
      have e : b.map (· % 256) = b :=
        (List.map_congr_left fun x hx => Nat.mod_eq_of_lt (h.2 x hx)).trans (List.map_id' b)
      ⟨(List.length_map _).trans h.1, by rw [e, e]⟩)
    fun bs hl => ⟨(List.length_map _).trans hl, fun x hx => by
      obtain ⟨y, _, rfl⟩ := List.mem_map.1 hx
      exact Nat.mod_lt _ (by decide)⟩

/-- Every composite decoder runs a sub-decoder and stops if that fails; this opens one such step. -/
theorem dec_match_some {α β : Type} {o : Option (α × Bytes)} {F : α → Bytes → Option β} {y : β}
    (h : (match o with | none => none | some (a, r) => F a r) = some y) : ∃ a r, o = some (a, r) ∧ F a r = some y := by
  cases o with
  | none => cases h
  | some p => exact ⟨p.1, p.2, rfl, h⟩

theorem pair_lawful {α β : Type} {a : Codec α} {b : Codec β} (ha : Lawful a) (hb : Lawful b) : Lawful (pair a b) where
  rt p rest h := by
    simp only [pair, List.append_assoc, ha.rt _ _ h.1, hb.rt _ _ h.2]
  dv bs p rest h := by
    obtain ⟨x, r, hx, h⟩ := dec_match_some h
    obtain ⟨y, r', hy, h⟩ := dec_match_some h
    cases h
    exact ⟨ha.dv _ _ _ hx, hb.dv _ _ _ hy⟩

theorem iso_lawful {α β : Type} {c : Codec α} (hc : Lawful c) (to : α → β) (frm : β → α)
    (hinv : ∀ a, frm (to a) = a) : Lawful (iso c to frm) where
  rt b rest h := by
    simp only [iso, hc.rt _ _ h.1, h.2]
  dv bs b rest h := by
    obtain ⟨a, r, ha, h⟩ := dec_match_some h
    cases h
    show c.valid (frm (to a)) ∧ to (frm (to a)) = to a
    rw [hinv]
    exact ⟨hc.dv _ _ _ ha, rfl⟩

theorem guard_lawful {α : Type} {c : Codec α} (hc : Lawful c) (p : α → Bool) : Lawful (guard c p) where
  rt a rest h := by
    simp only [guard, hc.rt _ _ h.1, h.2, if_true]
  dv bs a rest h := by
    obtain ⟨x, r, hx, h⟩ := dec_match_some h
    obtain ⟨hp, h⟩ := Option.ite_none_right_eq_some.1 h
    cases h
    exact ⟨hc.dv _ _ _ hx, hp⟩

theorem guard_rejects {α : Type} {c : Codec α} (hc : Lawful c) (p : α → Bool) (a : α) (rest : Bytes) (hv : c.valid a)
    (hp : p a = false) : (guard c p).dec (c.enc a ++ rest) = none := by
  simp only [guard, hc.rt _ _ hv, hp]
  rfl

theorem decN_encAll {α : Type} {c : Codec α} (hc : Lawful c) (l : List α) (rest : Bytes) (h : ∀ x ∈ l, c.valid x) :
    decN c l.length (encAll c l ++ rest) = some (l, rest) := by
  induction l with
  | nil => rfl
  | cons x xs ih =>
    simp only [List.length_cons, decN, encAll, List.append_assoc, hc.rt _ _ (h x List.mem_cons_self),
      ih fun y hy => h y (List.mem_cons_of_mem _ hy)]

theorem decN_valid {α : Type} {c : Codec α} (hc : Lawful c) (n : Nat) (bs : Bytes) (l : List α) (rest : Bytes)
    (h : decN c n bs = some (l, rest)) : l.length = n ∧ ∀ x ∈ l, c.valid x := by
  induction n generalizing bs l rest with
  | zero => cases h; exact ⟨rfl, List.forall_mem_nil _⟩
  | succ n ih =>
    obtain ⟨x, r, hx, h⟩ := dec_match_some h
    split at h
    · cases h
    · rename_i xs r' hxs
      cases h
      have := ih r xs _ hxs
      exact ⟨congrArg (· + 1) this.1, List.forall_mem_cons.2 ⟨hc.dv _ _ _ hx, this.2⟩⟩

theorem vec_lawful {α : Type} {c : Codec α} (hc : Lawful c) (elemSize limit : Nat) : Lawful (vec c elemSize limit) where
  rt l rest h := by
    simp only [vec, List.append_assoc, uint_dec_enc 8 _ _ h.2.1, if_neg (Nat.not_lt.2 h.1)]
    exact decN_encAll hc l rest h.2.2
  dv bs l rest h := by
    simp only [vec] at h
    split at h
    · cases h
    · rename_i n r hn
      obtain ⟨hlim, h⟩ := Option.ite_none_left_eq_some.1 h
      obtain ⟨rfl, hall⟩ := decN_valid hc n r l rest h
      exact ⟨Nat.not_lt.1 hlim, (uint_lawful 8).dv _ _ _ hn, hall⟩

theorem opt_lawful {α : Type} {c : Codec α} (hc : Lawful c) : Lawful (opt c) where
  rt a rest h := by
    cases a with
    | none => rfl
    | some a =>
      simp only [opt, List.cons_append, hc.rt _ _ h]
      rfl
  dv bs a rest h := by
    cases bs with
    | nil => cases h
    | cons t r =>
      simp only [opt] at h
      split at h
      · cases h; trivial
      · obtain ⟨_, h⟩ := Option.ite_none_right_eq_some.1 h
        obtain ⟨x, r', hx, h⟩ := dec_match_some h
        cases h
        exact hc.dv _ _ _ hx

/-- what `tagged` needs of the codec it runs after discriminant `t` -/
structure Variant {α : Type} (tagOf : α → Nat) (t : Nat) (c : Codec α) : Prop where
  lawful : Lawful c
  tag : ∀ a, c.valid a → tagOf a = t
  lt : t < 256 ^ 4

/-- Every variant of the message enums has this form: the fields as a tuple, `to` the constructor, `frm`
    the matching destructor; the three side conditions then hold by computation. -/
theorem Variant.iso {α β : Type} {c : Codec α} (hc : Lawful c) {tagOf : β → Nat} {t : Nat} {to : α → β} {frm : β → α}
    (hinv : ∀ a, frm (to a) = a := by exact fun _ => rfl) (htag : ∀ a, tagOf (to a) = t := by exact fun _ => rfl)
    (ht : t < 256 ^ 4 := by decide) : Variant tagOf t (iso c to frm) :=
  ⟨iso_lawful hc to frm hinv, fun _ h => h.2 ▸ htag _, ht⟩

theorem tagged_lawful {α : Type} (tagOf : α → Nat) (variants : Nat → Option (Codec α))
    (hv : ∀ t c, variants t = some c → Variant tagOf t c) : Lawful (tagged tagOf variants) where
  rt a rest h := by
    obtain ⟨c, hc, hval⟩ := h
    simp only [tagged, hc, List.append_assoc, uint_dec_enc 4 _ _ (hv _ _ hc).lt]
    exact (hv _ _ hc).lawful.rt a rest hval
  dv bs a rest h := by
    simp only [tagged] at h
    split at h
    · cases h
    · rename_i t r ht
      split at h
      · cases h
      · rename_i c hc
        have hval := (hv _ _ hc).lawful.dv _ _ _ h
        exact ⟨c, (hv _ _ hc).tag a hval ▸ hc, hval⟩

theorem tagged_valid {α : Type} {tagOf : α → Nat} {variants : Nat → Option (Codec α)} {a : α} {c : Codec α}
    (h : (tagged tagOf variants).valid a) (hc : variants (tagOf a) = some c) : c.valid a := by
  obtain ⟨c', hc', hv⟩ := h
  rw [hc] at hc'
  cases hc'
  exact hv

theorem Lawful.decode_encode {α : Type} {c : Codec α} (hc : Lawful c) (a : α) (h : c.valid a) :
    decodeExact c (c.enc a) = some a := by
  unfold decodeExact
  rw [← List.append_nil (c.enc a), hc.rt a [] h]

theorem Lawful.rejects_trailing {α : Type} {c : Codec α} (hc : Lawful c) (a : α) (h : c.valid a) (t : Bytes) (ht : t ≠ []) :
    decodeExact c (c.enc a ++ t) = none := by
  unfold decodeExact
  rw [hc.rt a t h]
  cases t with
  | nil => exact absurd rfl ht
  | cons x xs => rfl

theorem Lawful.decodeExact_valid {α : Type} {c : Codec α} (hc : Lawful c) {bs : Bytes} {a : α}
    (h : decodeExact c bs = some a) : c.valid a := by
  unfold decodeExact at h
  split at h
  · rename_i a' heq
    cases h
    exact hc.dv _ _ _ heq
  · cases h

/-- whatever decodes, re-encodes to a byte string that decodes to the same message (so the second
    encoding equals the first: the encoding is stable) -/
theorem Lawful.reencode_stable {α : Type} {c : Codec α} (hc : Lawful c) (bs : Bytes) (a : α)
    (h : decodeExact c bs = some a) : decodeExact c (c.enc a) = some a :=
  hc.decode_encode a (hc.decodeExact_valid h)

theorem Lawful.enc_injective {α : Type} {c : Codec α} (hc : Lawful c) (a b : α) (ha : c.valid a) (hb : c.valid b)
    (h : c.enc a = c.enc b) : a = b := by
  have h1 := hc.rt a [] ha
  rw [h, hc.rt b [] hb] at h1
  cases h1
  rfl

theorem u64_lawful : Lawful u64 := uint_lawful 8
theorem hash_lawful : Lawful hash := blob_lawful 32
theorem sliceIndex_lawful : Lawful sliceIndex := guard_lawful u64_lawful _
theorem shredIndex_lawful : Lawful shredIndex := guard_lawful u64_lawful _
theorem indSig_lawful (k : CryptoOk) : Lawful (indSig k) := guard_lawful (blob_lawful 96) _

theorem hashVec_lawful : Lawful hashVec := vec_lawful hash_lawful _ _
theorem byteVec_lawful : Lawful byteVec := vec_lawful (uint_lawful 1) _ _

theorem payload_lawful : Lawful payload :=
  tagged_lawful _ _ fun t c h => by
    rcases t with _ | _ | _ | _ | _ | t <;> cases h
    · exact .iso (pair_lawful u64_lawful hash_lawful)
    · exact .iso (pair_lawful u64_lawful hash_lawful)
    · exact .iso u64_lawful
    · exact .iso u64_lawful
    · exact .iso u64_lawful

theorem vote_lawful (k : CryptoOk) : Lawful (vote k) :=
  have hp : Lawful (plainVote k) := pair_lawful u64_lawful (pair_lawful (indSig_lawful k) u64_lawful)
  have hh : Lawful (hashedVote k) :=
    pair_lawful u64_lawful (pair_lawful hash_lawful (pair_lawful (indSig_lawful k) u64_lawful))
  tagged_lawful _ _ fun t c h => by
    rcases t with _ | _ | _ | _ | _ | t <;> cases h
    · exact .iso hh
    · exact .iso hh
    · exact .iso hp
    · exact .iso hp
    · exact .iso hp

theorem aggRaw_lawful (k : CryptoOk) : Lawful (aggRaw k) :=
  pair_lawful (guard_lawful (blob_lawful 96) _) (pair_lawful u64_lawful (vec_lawful u64_lawful _ _))

theorem wordsFor_le (nb len : Nat) (h : nb ≤ 64 * len) : wordsFor nb ≤ len := by
  unfold wordsFor; omega

theorem le_mul_wordsFor (nb : Nat) : nb ≤ 64 * wordsFor nb := by
  unfold wordsFor; omega

theorem wordsFor_MAX_SIGNERS : wordsFor MAX_SIGNERS = 32 := by decide

theorem agg_lawful (k : CryptoOk) : Lawful (agg k) where
  rt a rest h := by
    obtain ⟨hraw, hw, hmax⟩ := h
    simp only [agg, (aggRaw_lawful k).rt _ _ hraw, if_neg (Nat.not_lt.2 hmax),
      if_neg (Nat.not_lt.2 (hw ▸ le_mul_wordsFor a.numBits))]
    rw [← hw, List.take_length]
  dv bs a rest h := by
    simp only [agg] at h
    split at h
    · cases h
    · rename_i sig nb ws r hraw
      obtain ⟨h1, h⟩ := Option.ite_none_left_eq_some.1 h
      obtain ⟨h2, h⟩ := Option.ite_none_left_eq_some.1 h
      cases h
      -- the words kept are a prefix of the words read, so they stay within the limits of the `Vec`
      obtain ⟨hs, hnb, hws⟩ := (aggRaw_lawful k).dv _ _ _ hraw
      have hk := wordsFor_le nb ws.length (Nat.not_lt.1 h2)
      have hlen : (ws.take (wordsFor nb)).length = wordsFor nb := List.length_take_of_le hk
      have hle : (ws.take (wordsFor nb)).length ≤ ws.length := List.length_take_le' _ _
      exact ⟨⟨hs, hnb, Nat.le_trans (Nat.mul_le_mul_right _ hle) hws.1, Nat.lt_of_le_of_lt hle hws.2.1,
        fun x hx => hws.2.2 x (List.mem_of_mem_take hx)⟩, hlen,
        Nat.le_trans (Nat.le_of_eq hlen) (Nat.le_trans hk (Nat.not_lt.1 h1))⟩

theorem cert_lawful (k : CryptoOk) : Lawful (cert k) :=
  have ha := agg_lawful k
  have ho := opt_lawful ha
  have hslotHashAgg := pair_lawful u64_lawful (pair_lawful hash_lawful (pair_lawful ha u64_lawful))
  tagged_lawful _ _ fun t c h => by
    rcases t with _ | _ | _ | _ | _ | t <;> cases h
    · exact .iso hslotHashAgg
    · exact .iso (pair_lawful u64_lawful (pair_lawful hash_lawful (pair_lawful ho (pair_lawful ho u64_lawful))))
    · exact .iso (pair_lawful u64_lawful (pair_lawful ho (pair_lawful ho u64_lawful)))
    · exact .iso hslotHashAgg
    · exact .iso (pair_lawful u64_lawful (pair_lawful ha u64_lawful))

theorem consensusMsg_lawful (k : CryptoOk) : Lawful (consensusMsg k) :=
  tagged_lawful _ _ fun t c h => by
    rcases t with _ | _ | t <;> cases h
    · exact .iso (vote_lawful k)
    · exact .iso (cert_lawful k)

theorem transaction_lawful : Lawful transaction := byteVec_lawful

theorem shredPayloadType_lawful : Lawful shredPayloadType :=
  have hf : Lawful shredFields := pair_lawful u64_lawful
    (pair_lawful sliceIndex_lawful (pair_lawful bool_lawful (pair_lawful shredIndex_lawful byteVec_lawful)))
  tagged_lawful _ _ fun t c h => by
    rcases t with _ | _ | t <;> cases h
    · exact .iso hf
    · exact .iso hf

theorem shred_lawful : Lawful shred :=
  iso_lawful (pair_lawful shredPayloadType_lawful (pair_lawful (blob_lawful 64) hashVec_lawful)) _ _ (fun _ => rfl)

theorem reqType_lawful : Lawful reqType :=
  tagged_lawful _ _ fun t c h => by
    rcases t with _ | _ | _ | t <;> cases h
    · exact .iso (pair_lawful u64_lawful hash_lawful)
    · exact .iso (pair_lawful u64_lawful (pair_lawful hash_lawful sliceIndex_lawful))
    · exact .iso (pair_lawful u64_lawful (pair_lawful hash_lawful (pair_lawful sliceIndex_lawful shredIndex_lawful)))

theorem repairRequest_lawful : Lawful repairRequest := pair_lawful u64_lawful reqType_lawful

theorem repairResponse_lawful : Lawful repairResponse :=
  tagged_lawful _ _ fun t c h => by
    rcases t with _ | _ | _ | _ | t <;> cases h
    · exact .iso (pair_lawful reqType_lawful (pair_lawful sliceIndex_lawful (pair_lawful hash_lawful hashVec_lawful)))
    · exact .iso (pair_lawful reqType_lawful (pair_lawful hash_lawful hashVec_lawful))
    · exact .iso (pair_lawful reqType_lawful shred_lawful)
    · exact .iso reqType_lawful

/-! Each `*_enc` equation below is the wire layout of one message type, field by field; the encoded lengths of
`Props/C19` are read off them. -/

theorem u64_enc_length (n : Nat) : (u64.enc n).length = 8 := leBytes_length 8 n

theorem blob_enc_length (n : Nat) (b : Bytes) : ((blob n).enc b).length = b.length := List.length_map _

theorem encAll_length {α : Type} (c : Codec α) (k : Nat) (l : List α) (h : ∀ x ∈ l, (c.enc x).length = k) :
    (encAll c l).length = k * l.length := by
  induction l with
  | nil => rfl
  | cons x xs ih =>
    rw [encAll, List.length_append, h x List.mem_cons_self, ih fun y hy => h y (List.mem_cons_of_mem _ hy),
      List.length_cons, Nat.mul_succ, Nat.add_comm]

theorem encAll_uint_length (k : Nat) (l : List Nat) : (encAll (uint k) l).length = k * l.length :=
  encAll_length _ k l fun x _ => leBytes_length k x

theorem encAll_hash_length (l : List Bytes) (h : ∀ x ∈ l, x.length = 32) : (encAll hash l).length = 32 * l.length :=
  encAll_length hash 32 l fun x hx => (blob_enc_length 32 x).trans (h x hx)

theorem byteVec_enc_length (l : List Nat) : (byteVec.enc l).length = 8 + l.length := by
  rw [byteVec, vec, List.length_append, leBytes_length, encAll_uint_length, Nat.one_mul]

theorem hashVec_enc_length (l : List Bytes) (h : ∀ x ∈ l, x.length = 32) : (hashVec.enc l).length = 8 + 32 * l.length := by
  rw [hashVec, vec, List.length_append, leBytes_length, encAll_hash_length l h]

theorem opt_enc_length {α : Type} (c : Codec α) (a : Option α) :
    ((opt c).enc a).length = match a with | none => 1 | some a => 1 + (c.enc a).length := by
  cases a with
  | none => rfl
  | some a => exact Nat.add_comm _ 1

theorem agg_enc_length (k : CryptoOk) (a : AggW) : ((agg k).enc a).length = a.sig.length + 16 + 8 * a.words.length := by
  show ((blob 96).enc a.sig ++ (u64.enc a.numBits ++ (leBytes 8 a.words.length ++ encAll u64 a.words))).length = _
  rw [List.length_append, List.length_append, List.length_append, blob_enc_length, u64_enc_length, leBytes_length,
    u64, encAll_uint_length]
  omega

theorem opt_agg_enc_length (k : CryptoOk) (a : Option AggW) :
    ((opt (agg k)).enc a).length = match a with | none => 1 | some a => 1 + (a.sig.length + 16 + 8 * a.words.length) := by
  rw [opt_enc_length]
  cases a with
  | none => rfl
  | some a => exact congrArg (1 + ·) (agg_enc_length k a)

theorem vote_enc (k : CryptoOk) (v : VoteW) : (vote k).enc v = leBytes 4 v.tag ++
    match v with
    | .notar s h g i | .notarFallback s h g i => u64.enc s ++ ((blob 32).enc h ++ ((blob 96).enc g ++ u64.enc i))
    | .skip s g i | .skipFallback s g i | .final s g i => u64.enc s ++ ((blob 96).enc g ++ u64.enc i) := by
  cases v <;> rfl

theorem cert_enc (k : CryptoOk) (c : CertW) : (cert k).enc c = leBytes 4 c.tag ++
    match c with
    | .notar s h a st | .fastFinal s h a st => u64.enc s ++ ((blob 32).enc h ++ ((agg k).enc a ++ u64.enc st))
    | .notarFallback s h a1 a2 st =>
      u64.enc s ++ ((blob 32).enc h ++ ((opt (agg k)).enc a1 ++ ((opt (agg k)).enc a2 ++ u64.enc st)))
    | .skip s a1 a2 st => u64.enc s ++ ((opt (agg k)).enc a1 ++ ((opt (agg k)).enc a2 ++ u64.enc st))
    | .final s a st => u64.enc s ++ ((agg k).enc a ++ u64.enc st) := by
  cases c <;> rfl

theorem shred_enc (s : ShredW) : shred.enc s =
    leBytes 4 (if s.coding then 1 else 0) ++
      (u64.enc s.slot ++ (u64.enc s.sliceIndex ++ (bool.enc s.isLast ++ (u64.enc s.shredIndex ++ byteVec.enc s.data)))) ++
      ((blob 64).enc s.sliceSig ++ hashVec.enc s.path) := by
  obtain ⟨coding, _, _, _, _, _, _, _⟩ := s
  cases coding <;> rfl

theorem reqType_enc (r : ReqType) : reqType.enc r = leBytes 4 r.tag ++
    match r with
    | .lastSliceRoot s h => u64.enc s ++ (blob 32).enc h
    | .sliceRoot s h i => u64.enc s ++ ((blob 32).enc h ++ u64.enc i)
    | .shred s h i j => u64.enc s ++ ((blob 32).enc h ++ (u64.enc i ++ u64.enc j)) := by
  cases r <;> rfl

theorem repairResponse_enc (r : RepairResponse) : repairResponse.enc r = leBytes 4 r.tag ++
    match r with
    | .lastSliceRoot q i root pr => reqType.enc q ++ (u64.enc i ++ ((blob 32).enc root ++ hashVec.enc pr))
    | .sliceRoot q root pr => reqType.enc q ++ ((blob 32).enc root ++ hashVec.enc pr)
    | .shred q s => reqType.enc q ++ shred.enc s
    | .nack q => reqType.enc q := by
  cases r <;> rfl

end AgModel.Wire
