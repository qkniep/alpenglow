import AgModel.Props.C01
/-!
# Protocol-level lemmas about the finalized log (for the C01 cluster refinement)

The implementation announces `ParentReady(w, p)` not only for parents `p` with a notarization / notar-fallback certificate and
skip-certified slots in between (the protocol's rule, R5), but also for parents that are *implicitly finalized* (ancestors
of a finalized block) and across slots that are *implicitly skipped* (between a block of the finalized log and its parent).
Under the hypotheses of the safety theorems (`Setting`) and with the Byzantine validators counted as having signed every
notarization vote (`ByzAll`: they can), these are no new cases:

* `certified_of_inLog`: every block of the finalized log is certified (genesis, or a notar-fallback certificate exists);
* `skip_of_gap`: every slot strictly between a block of the log and its parent has a skip certificate.

Also: the certificates a parent is justified by stay when the history grows (`HLe`).
-/
namespace AgModel.Spec

open Classical

variable {V Block : Type} [Fintype V] {stake : V → ℕ} {C : Chain Block} {H : History V Block} {byz : V → Prop}

def ByzAll (H : History V Block) (byz : V → Prop) : Prop := ∀ v, byz v → ∀ b, H.notar v b

theorem certified_parent_of_nfcert (S : Setting stake C H byz) (hb : ByzAll H byz) (x : Block) (hx : x ≠ C.genesis)
    (hc : NFCert stake H x) : Certified stake C H (C.parent x) := by
  by_cases hnf : ∃ v, ¬ byz v ∧ H.nf v x
  · obtain ⟨v, hv, hn⟩ := hnf
    exact ((S.rules v hv).nf_rule x hn).2.1
  · by_cases hw : windowStart (C.slot x)
    · obtain ⟨v, hn, hv⟩ := nfcert_has_correct_notar S x hc
      exact (((S.rules v hv).notar_rule x hn hx).1 hw).1
    · -- inside a window every voter behind `x`'s certificate notarized the parent
      refine Or.inr (NotarCert.nfCert (Q_mono hc (w_mono stake fun v hv => ?_)))
      by_cases hbv : byz v
      · exact hb v hbv _
      · exact hv.elim (fun h => (((S.rules v hbv).notar_rule x h hx).2 hw).1) (fun h => absurd ⟨v, hbv, h⟩ hnf)

theorem certified_of_inLog (S : Setting stake C H byz) (hb : ByzAll H byz) (a : Block) (h : InLog stake C H a) :
    Certified stake C H a := by
  obtain ⟨f, hf, hanc⟩ := h
  have key : ∀ x, Anc C a x → Certified stake C H x → Certified stake C H a := by
    intro x hax
    induction hax with
    | refl => exact fun h => h
    | step x hxg _ ih =>
      intro hcx
      rcases hcx with hg | hn
      · exact absurd hg hxg
      · exact ih (certified_parent_of_nfcert S hb x hxg hn)
  exact key f hanc (Or.inr (finalized_nf f hf))

theorem inLog_parent (a : Block) (h : InLog stake C H a) (hg : a ≠ C.genesis) : InLog stake C H (C.parent a) := by
  obtain ⟨f, hf, hanc⟩ := h
  exact ⟨f, hf, anc_trans (C.parent a) a f (Anc.step a hg Anc.refl) hanc⟩

def Gap (stake : V → ℕ) (C : Chain Block) (H : History V Block) (u : ℕ) : Prop :=
  ∃ a, InLog stake C H a ∧ a ≠ C.genesis ∧ C.slot (C.parent a) < u ∧ u < C.slot a

theorem skip_of_gap (S : Setting stake C H byz) (hb : ByzAll H byz) (u : ℕ) (h : Gap stake C H u) : SkipCert stake H u := by
  obtain ⟨a, ha, hg, h1, h2⟩ := h
  rcases certified_of_inLog S hb a ha with hgen | hn
  · exact absurd hgen hg
  · obtain ⟨v, hnv, hv⟩ := nfcert_has_correct_notar S a hn
    obtain ⟨r1, r2⟩ := (S.rules v hv).notar_rule a hnv hg
    by_cases hw : windowStart (C.slot a)
    · exact (r1 hw).2 u h1 h2
    · exact absurd h2 (Nat.not_lt.mpr ((r2 hw).2 ▸ Nat.succ_le_of_lt h1))

/-- a finalization certificate excludes a skip certificate for the slot (some correct validator cast the finalize vote, R2) -/
theorem finalCert_not_skip (S : Setting stake C H byz) (t : ℕ) (hf : FinalCert stake H t) : ¬ SkipCert stake H t := by
  obtain ⟨v, hv, hc⟩ := exists_correct_of_Q S.byz_bound hf
  obtain ⟨⟨b, hs, _, hn⟩, _⟩ := (S.rules v hc).fin_rule t hv
  exact hs ▸ finalized_not_skipped S b (Or.inr ⟨hs.symm ▸ hf, hn⟩)

theorem anc_lt_parent {y x : Block} (h : Anc C y x) (hs : C.slot y < C.slot x) : Anc C y (C.parent x) := by
  cases h with
  | refl => exact absurd hs (Nat.lt_irrefl _)
  | step _ _ hp => exact hp

structure HLe (H H' : History V Block) : Prop where
  notar : ∀ v b, H.notar v b → H'.notar v b
  nf : ∀ v b, H.nf v b → H'.nf v b
  skip : ∀ v s, H.skip v s → H'.skip v s
  sf : ∀ v s, H.sf v s → H'.sf v s
  fin : ∀ v s, H.fin v s → H'.fin v s

variable {H' : History V Block}

theorem NFCert.mono (hl : HLe H H') {b : Block} (h : NFCert stake H b) : NFCert stake H' b :=
  Q_mono h (w_mono stake (fun v hv => hv.elim (fun a => Or.inl (hl.notar v b a)) (fun a => Or.inr (hl.nf v b a))))

theorem SkipCert.mono (hl : HLe H H') {s : ℕ} (h : SkipCert stake H s) : SkipCert stake H' s :=
  Q_mono h (w_mono stake (fun v hv => hv.elim (fun a => Or.inl (hl.skip v s a)) (fun a => Or.inr (hl.sf v s a))))

theorem Certified.mono (hl : HLe H H') {b : Block} (h : Certified stake C H b) : Certified stake C H' b :=
  h.elim Or.inl (fun a => Or.inr (a.mono hl))

end AgModel.Spec
