import AgModel.Proofs.PoolSigned
import AgModel.Proofs.PoolWiring
import AgModel.Proofs.PoolEvGen
import AgModel.Proofs.PoolS2NGlueSoundEv
/-!
C01 cluster refinement, pool side: the signed-pool invariant through every pool operation. `SgInv S e par p` — for a pool
`p` of a node with epoch `e`, relative to the signature log `S` and the global parent function `par` (the hash binds the
parent):

* every slot state satisfies `QS` : counters are recounts (`InvV`, C03), stored votes are signed (`QV`), held
  certificates are well-placed and backed (`QC`);
* `SoundInv` (C06 glue) with "certified" := *a backed notarization / notar-fallback / fast-finalization certificate
  exists*, over a registration list that agrees with `par`.

`poolStep_sginv`: kept by every pool operation whose vote is signed / whose certificate is backed / whose block
registration agrees with `par`, and (second half of the same theorem) every event the operation emits is justified (`GoodP`):
certificates are backed, safe-to-notar comes with a slot state witnessing the stake clause over signed votes and with a
certified registered parent, safe-to-skip with a slot state witnessing its stake clause.
-/
namespace AgModel.Pool

variable {S : SigLog} {e : Epoch} {par : Nat × Nat → Nat × Nat}

def QS (S : SigLog) (e : Epoch) (st : SlotState) : Prop := InvV e st ∧ QV S st ∧ QC S e st

theorem QS.init (S : SigLog) (e : Epoch) (s : Nat) : QS S e { slot := s } :=
  ⟨InvV.init e s, QV.init S s, QC.init S e s⟩

theorem QS.of_coreEq {a b : SlotState} (h : QS S e a) (c : CoreEq a b) : QS S e b :=
  ⟨h.1.of_coreEq c, h.2.1.of_sameVotes (SameVotes.of_coreEq c), h.2.2.of_coreEq c⟩

theorem QV.stored {S : SigLog} {e : Epoch} {st : SlotState} (h : QV S st) (v : Vote) (hs : st.slot = v.slot)
    (hv : S.holds v) : QV S (st.stored e v) := by
  unfold SigLog.holds at hv
  unfold SlotState.stored
  cases hk : v.kind <;> simp only [hk] at hv ⊢
  · refine { h with notar := fun j x hx => ?_ }
    rcases List.mem_append.mp hx with hx | hx
    · exact h.notar j x hx
    · cases List.mem_singleton.mp hx; exact hs ▸ hv
  · refine { h with nf := fun j x hx => ?_ }
    rcases List.mem_append.mp hx with hx | hx
    · exact h.nf j x hx
    · cases List.mem_singleton.mp hx; exact hs ▸ hv
  · exact { h with skip := List.forall_mem_append.mpr ⟨h.skip, List.forall_mem_singleton.mpr (hs ▸ hv)⟩ }
  · exact { h with sf := List.forall_mem_append.mpr ⟨h.sf, List.forall_mem_singleton.mpr (hs ▸ hv)⟩ }
  · exact { h with fin := List.forall_mem_append.mpr ⟨h.fin, List.forall_mem_singleton.mpr (hs ▸ hv)⟩ }

theorem QS.stored {S : SigLog} {e : Epoch} {st : SlotState} (h : QS S e st) (v : Vote) (hs : st.slot = v.slot) (ha : Adm st v)
    (hv : S.holds v) : QS S e (st.stored e v) :=
  have f := stored_same e st v
  ⟨stored_InvV e st v h.1 ha, h.2.1.stored v hs hv, h.2.2.of_eq f.slot f.cNotar f.cNf f.cSkip f.cFf f.cFin⟩

theorem QS.addCert {S : SigLog} {e : Epoch} {st : SlotState} (h : QS S e st) (c : Cert) (hs : c.slot = st.slot)
    (hb : CertBacked S e c) : QS S e (st.addCert c) :=
  ⟨InvV_addCert e st c h.1, h.2.1.of_sameVotes (SameVotes.addCert st c), h.2.2.addCert c hs hb⟩

def OpOk (S : SigLog) (e : Epoch) (par : Nat × Nat → Nat × Nat) : PoolOp → Prop
  | .vote v => S.holds v
  | .cert c => CertBacked S e c
  | .block b p => par b = p

theorem created_backed {st : SlotState} (h : QS S e st) (v : Vote) (hs : st.slot = v.slot)
    (ha : Adm st v) (hv : S.holds v) : ∀ c ∈ (st.addVote e v).2.1, CertBacked S e c := by
  intro c hc
  rw [addVote_certs] at hc
  have hst := h.stored v hs ha hv
  have j := newCerts_justified e (st.stored e v) v hst.1 c hc
  exact CertBacked.of_justified hst.2.1 j

theorem opKeeps {op : PoolOp} (hop : OpOk S e par op) :
    OpKeeps e (QS S e) op := by
  cases op with
  | vote v =>
    intro st hs ha hq
    refine ⟨(hq.stored v hs ha hop).of_coreEq (addVote_core e st v), ?_⟩
    intro c hc st' hs' hq'
    exact hq'.addCert c hs'.symm (created_backed hq v hs ha hop c hc)
  | cert c => intro st hs hq; exact hq.addCert c hs.symm hop
  | block b p => trivial

theorem poolStep_certs (p : Pool) (op : PoolOp)
    (h : PInv e (QS S e) p) (hop : OpOk S e par op) : ∀ c, Event.cert c ∈ (poolStep p op).2 → CertBacked S e c := by
  intro c hc
  rw [← mem_certsOf] at hc
  cases op with
  | vote v =>
    have hc : LogItem.cert c ∈ certsOf (p.addVote v).2.2 := hc
    rcases addVote_outcomes p v with h3 | ⟨_, h3⟩ | ⟨vd, _, _, h3⟩ | ⟨_, ha, h3⟩ <;> rw [h3] at hc
    · cases hc
    · cases hc
    · cases hc
    · dsimp only at hc
      rw [certsOf_voted, h.1] at hc
      obtain ⟨c', hc', he⟩ := List.mem_map.mp hc
      cases he
      exact (created_backed (h.2.slotState_snd v.slot (QS.init S e _)) v (slotState_snd_slot p v.slot) ha hop c hc')
  | cert c' =>
    have hc : LogItem.cert c ∈ certsOf (p.addCert c').2.2 := hc
    rcases addCert_outcomes p c' with h3 | h3 | h3 <;> rw [h3] at hc
    · cases hc
    · cases hc
    · dsimp only at hc
      rw [certsOf_addValidCert] at hc
      cases List.mem_singleton.mp hc
      exact hop
  | block b p' =>
    have hc : LogItem.cert c ∈ certsOf (p.addBlock b p').2 := hc
    rw [certsOf_addBlock] at hc
    cases hc

/-! ### the certified-parent part -/

def CertifiedS (S : SigLog) (e : Epoch) (x : Nat × Nat) : Prop :=
  ∃ c, c.strong ∧ (c.slot, c.hash) = x ∧ CertBacked S e c

structure SgInv (S : SigLog) (e : Epoch) (par : Nat × Nat → Nat × Nat) (p : Pool) : Prop where
  slots : PInv e (QS S e) p
  sound : ∃ R : List Reg, (∀ r ∈ R, par r.1 = r.2) ∧ SoundInv e R (CertifiedS S e) p

theorem SgInv.init (S : SigLog) (e : Epoch) (par : Nat × Nat → Nat × Nat) : SgInv S e par { epoch := e } :=
  ⟨⟨rfl, SlotsSat.init e _⟩, [], (by intro r hr; cases hr), SoundInv.init e |>.mono (fun _ h => h) (fun _ h => h.elim)⟩

def GoodP (S : SigLog) (e : Epoch) (par : Nat × Nat → Nat × Nat) : Event → Prop
  | .cert c => CertBacked S e c
  | .s2n s h => Witnessed e (QS S e) (.s2n s h) ∧ CertifiedS S e (par (s, h))
  | .s2s s => Witnessed e (QS S e) (.s2s s)
  | _ => True

theorem regsOf_par (p : Pool) (op : PoolOp) (hop : OpOk S e par op) :
    ∀ r ∈ regsOf p op, par r.1 = r.2 := by
  intro r hr
  cases op with
  | block b p' =>
    simp only [regsOf] at hr
    split at hr
    · simp only [List.mem_singleton] at hr; subst hr; exact hop
    · cases hr
  | vote v => cases hr
  | cert c => cases hr

theorem poolStep_sginv (p : Pool) (op : PoolOp)
    (h : SgInv S e par p) (hop : OpOk S e par op) :
    SgInv S e par (poolStep p op).1 ∧ ∀ ev ∈ (poolStep p op).2, GoodP S e par ev := by
  obtain ⟨hq, hwit⟩ := poolStep_pg (EvGen.of_core (QS.init S e) fun _ _ c h => h.of_coreEq c) p op h.slots (opKeeps hop)
  have hcert := poolStep_certs p op h.slots hop
  obtain ⟨R, hr, hs⟩ := h.sound
  obtain ⟨hs', hg⟩ := poolStep_sound_good e R _ p op hs
  have hC : ∀ x, (CertifiedS S e x ∨ x ∈ certIds (poolStep p op).2) → CertifiedS S e x := by
    intro x hx
    rcases hx with hx | hx
    · exact hx
    · obtain ⟨c, hm, hst, hid⟩ := certIds_mem hx
      exact ⟨c, hst, hid, hcert c hm⟩
  have hR : ∀ r ∈ R ++ regsOf p op, par r.1 = r.2 := by
    intro r hr'
    rcases List.mem_append.mp hr' with a | a
    · exact hr r a
    · exact regsOf_par p op hop r a
  refine ⟨⟨hq, R ++ regsOf p op, hR, hs'.mono (fun _ x => x) hC⟩, ?_⟩
  intro ev hev
  have hw := hwit ev hev
  cases ev with
  | cert c => exact hcert c hev
  | s2n s hh =>
    refine ⟨hw, ?_⟩
    obtain ⟨pr, hreg, hc⟩ := hg _ hev
    have := hR _ hreg
    simp only at this
    rw [this]
    exact hC _ hc
  | s2s s => exact hw
  | _ => trivial

end AgModel.Pool
