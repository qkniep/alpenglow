import AgModel.Model.LtHash
/-! Lattice-hash commitment: lane-wise wrapping addition commutes and `subL` undoes it, so the commitment is order
independent and incremental maintenance (`observe`) agrees with recomputation. Core Lean only. -/
namespace AgModel.LtHash

theorem numLanes_eq : numLanes = 1024 := by decide

theorem wadd_lt (x y : Nat) : wadd x y < M := Nat.mod_lt _ (by decide)

theorem wsub_lt (x y : Nat) : wsub x y < M := Nat.mod_lt _ (by decide)

theorem wadd_comm (x y : Nat) : wadd x y = wadd y x := by
  unfold wadd; rw [Nat.add_comm]

theorem wadd_right_comm (x y z : Nat) : wadd (wadd x y) z = wadd (wadd x z) y := by
  unfold wadd; rw [Nat.mod_add_mod, Nat.mod_add_mod, Nat.add_right_comm]

theorem wadd_zero_left (x : Nat) (hx : x < M) : wadd 0 x = x := by
  unfold wadd; rw [Nat.zero_add, Nat.mod_eq_of_lt hx]

theorem wsub_wadd_cancel (x y : Nat) (hx : x < M) : wsub (wadd x y) y = x := by
  unfold wsub wadd; unfold M at *; omega

theorem wadd_wsub_cancel (x y : Nat) (hx : x < M) : wadd (wsub x y) y = x := by
  unfold wsub wadd; unfold M at *; omega

theorem zipWith_forall {f : Nat → Nat → Nat} {p : Nat → Prop} (h : ∀ x y, p (f x y)) (a b : Lanes) :
    ∀ z ∈ List.zipWith f a b, p z := by
  induction a generalizing b with
  | nil => intro z hz; cases hz
  | cons x xs ih =>
    cases b with
    | nil => intro z hz; cases hz
    | cons y ys =>
      intro z hz
      rcases List.mem_cons.1 hz with hz | hz
      · rw [hz]; exact h x y
      · exact ih ys z hz

theorem zipWith_cancel {f g : Nat → Nat → Nat} (h : ∀ x y, x < M → g (f x y) y = x) (a b : Lanes)
    (hl : a.length = b.length) (hm : ∀ x ∈ a, x < M) : List.zipWith g (List.zipWith f a b) b = a := by
  induction a generalizing b with
  | nil => rfl
  | cons x xs ih =>
    cases b with
    | nil => cases hl
    | cons y ys =>
      rw [List.zipWith_cons_cons, List.zipWith_cons_cons, h x y (hm x (List.mem_cons_self ..)),
        ih ys (Nat.succ.inj hl) (fun z hz => hm z (List.mem_cons_of_mem _ hz))]

theorem identity_ok : LanesOK identity :=
  ⟨List.length_replicate, fun x hx => by rw [(List.mem_replicate.1 hx).2]; decide⟩

theorem addL_ok (a b : Lanes) (ha : LanesOK a) (hb : LanesOK b) : LanesOK (addL a b) :=
  ⟨by rw [addL, List.length_zipWith, ha.1, hb.1, Nat.min_self], zipWith_forall wadd_lt a b⟩

theorem subL_ok (a b : Lanes) (ha : LanesOK a) (hb : LanesOK b) : LanesOK (subL a b) :=
  ⟨by rw [subL, List.length_zipWith, ha.1, hb.1, Nat.min_self], zipWith_forall wsub_lt a b⟩

theorem addL_comm (a b : Lanes) : addL a b = addL b a := List.zipWith_comm_of_comm wadd_comm

theorem addL_right_comm (a b c : Lanes) : addL (addL a b) c = addL (addL a c) b := by
  unfold addL
  induction a generalizing b c with
  | nil => rfl
  | cons x xs ih =>
    cases b with
    | nil => rw [List.zipWith_nil_right, List.zipWith_nil_left, List.zipWith_nil_right]
    | cons y ys =>
      cases c with
      | nil => rw [List.zipWith_nil_right, List.zipWith_nil_right, List.zipWith_nil_left]
      | cons z zs => simp only [List.zipWith_cons_cons]; rw [wadd_right_comm, ih]

theorem addL_replicate_zero (n : Nat) (a : Lanes) (hl : a.length = n) (hm : ∀ x ∈ a, x < M) :
    addL (List.replicate n 0) a = a := by
  unfold addL
  induction a generalizing n with
  | nil => exact List.zipWith_nil_right
  | cons x xs ih =>
    subst hl
    rw [List.length_cons, List.replicate_succ, List.zipWith_cons_cons, wadd_zero_left x (hm x (List.mem_cons_self ..)),
      ih _ rfl (fun z hz => hm z (List.mem_cons_of_mem _ hz))]

theorem addL_identity (a : Lanes) (ha : LanesOK a) : addL identity a = a :=
  addL_replicate_zero numLanes a ha.1 ha.2

theorem subL_addL_cancel (a b : Lanes) (ha : LanesOK a) (hb : LanesOK b) : subL (addL a b) b = a :=
  zipWith_cancel wsub_wadd_cancel a b (ha.1.trans hb.1.symm) ha.2

theorem addL_subL_cancel (a b : Lanes) (ha : LanesOK a) (hb : LanesOK b) : addL (subL a b) b = a :=
  zipWith_cancel wadd_wsub_cancel a b (ha.1.trans hb.1.symm) ha.2

/-- `commitOf` started from an arbitrary accumulator -/
def foldAcc {κ ν : Type} (h : κ → ν → Lanes) (acc : Lanes) (l : List (κ × ν)) : Lanes :=
  l.foldl (fun acc kv => addL acc (h kv.1 kv.2)) acc

theorem commitOf_eq_foldAcc {κ ν : Type} (h : κ → ν → Lanes) (l : List (κ × ν)) :
    commitOf h l = foldAcc h identity l := rfl

theorem foldAcc_nil {κ ν : Type} (h : κ → ν → Lanes) (acc : Lanes) : foldAcc h acc [] = acc := rfl

theorem foldAcc_cons {κ ν : Type} (h : κ → ν → Lanes) (acc : Lanes) (kv : κ × ν) (l : List (κ × ν)) :
    foldAcc h acc (kv :: l) = foldAcc h (addL acc (h kv.1 kv.2)) l := rfl

theorem foldAcc_addL {κ ν : Type} (h : κ → ν → Lanes) (acc x : Lanes) (l : List (κ × ν)) :
    foldAcc h (addL acc x) l = addL (foldAcc h acc l) x := by
  induction l generalizing acc with
  | nil => rfl
  | cons kv l ih => rw [foldAcc_cons, foldAcc_cons, addL_right_comm, ih]

theorem foldAcc_perm {κ ν : Type} (h : κ → ν → Lanes) (l1 l2 : List (κ × ν)) (hp : l1.Perm l2) :
    ∀ acc, foldAcc h acc l1 = foldAcc h acc l2 := by
  induction hp with
  | nil => intro acc; rfl
  | cons x _ ih => intro acc; rw [foldAcc_cons, foldAcc_cons, ih]
  | swap x y l =>
    intro acc
    rw [foldAcc_cons, foldAcc_cons, foldAcc_cons, foldAcc_cons, addL_right_comm]
  | trans _ _ ih1 ih2 => intro acc; rw [ih1, ih2]

theorem foldAcc_ok {κ ν : Type} (h : κ → ν → Lanes) (hOK : ∀ k v, LanesOK (h k v))
    (acc : Lanes) (hacc : LanesOK acc) (l : List (κ × ν)) : LanesOK (foldAcc h acc l) := by
  induction l generalizing acc with
  | nil => exact hacc
  | cons kv l ih =>
    rw [foldAcc_cons]
    exact ih _ (addL_ok _ _ hacc (hOK kv.1 kv.2))

theorem commitOf_cons {κ ν : Type} (h : κ → ν → Lanes) (k : κ) (v : ν) (l : List (κ × ν)) :
    commitOf h ((k, v) :: l) = addL (commitOf h l) (h k v) := by
  rw [commitOf_eq_foldAcc, commitOf_eq_foldAcc, foldAcc_cons, foldAcc_addL]

/-- order independence: the commitment depends only on the multiset of entries (whatever the entry hashes are) -/
theorem commitOf_perm {κ ν : Type} (h : κ → ν → Lanes) (l1 l2 : List (κ × ν)) (hp : l1.Perm l2) :
    commitOf h l1 = commitOf h l2 :=
  foldAcc_perm h l1 l2 hp identity

section
variable {κ ν : Type} (h : κ → ν → Lanes) (hOK : ∀ k v, LanesOK (h k v))
include hOK

theorem commitOf_ok (l : List (κ × ν)) : LanesOK (commitOf h l) :=
  foldAcc_ok h hOK identity identity_ok l

theorem commitOf_append (l1 l2 : List (κ × ν)) : commitOf h (l1 ++ l2) = commitOf h (l2 ++ l1) := by
  have _ := hOK
  exact commitOf_perm h _ _ List.perm_append_comm

/-- One write. `l` lists the contents before: the entry under `k` (`old`, if any) and the rest `r`; `l'` lists the
    contents after: the new entry (`new`, `none` = deleted) and the same rest. Then `observe` on the maintained
    commitment yields the commitment recomputed from `l'`. -/
theorem commit_update (l l' r : List (κ × ν)) (k : κ) (old new : Option ν)
    (hl : l.Perm (old.toList.map (fun v => (k, v)) ++ r)) (hl' : l'.Perm (new.toList.map (fun v => (k, v)) ++ r)) :
    observe (commitOf h l) (old.map (h k)) (new.map (h k)) = commitOf h l' := by
  -- removing the old entry leaves the commitment of the rest
  have e : observe (commitOf h l) (old.map (h k)) none = commitOf h r := by
    rw [commitOf_perm h l _ hl]
    cases old with
    | none => rfl
    | some o =>
      show subL (commitOf h ((k, o) :: r)) (h k o) = _
      rw [commitOf_cons h, subL_addL_cancel _ _ (commitOf_ok h hOK _) (hOK k o)]
  rw [commitOf_perm h l' _ hl']
  cases new with
  | none => exact e
  | some v => exact (congrArg (addL · (h k v)) e).trans (commitOf_cons h k v _).symm

end

end AgModel.LtHash
