import AgModel.Proofs.ProgressPhase
import AgModel.Model.Node
/-!
# C02 progress, pool part 3: one vote of the timely schedule enters a pool

`PhaseN e hi s h p X F Q`: the trackers of pool `Q` after the validators `X` voted notar for `(s, h)` and `F` voted final: the
slot is finalized (ready for `s + 1`) iff the notar stake is strong or notar and final stakes are quorums; the
notar-fallback and notarization certificates have been added iff the notar stake is a quorum. Slot `s` is within the bound `hi`,
so the pool accepts its votes (`PhaseN.inBounds`).
-/
namespace AgModel.Pool
open AgModel.ParentReady (isWindowStart)
open AgModel.Node (toVotor certKind)

variable {e : Epoch} {hi s h : Nat} {p : Nat × Nat} {X F : List Nat}

def vEvs (evs : List Event) : List Votor.Event := evs.filterMap toVotor

theorem vEvs_append (a b : List Event) : vEvs (a ++ b) = vEvs a ++ vEvs b := by
  unfold vEvs; rw [List.filterMap_append]

theorem vEvs_silent {evs : List Event} (h : Silent evs) : vEvs evs = [] := by
  unfold vEvs
  rw [List.filterMap_eq_nil_iff]
  intro ev hev
  obtain ⟨a, b, rfl⟩ := h ev hev
  rfl

theorem Silent.noPanic {evs : List Event} (h : Silent evs) : Event.panic ∉ evs := by
  intro hp
  obtain ⟨a, b, e⟩ := h _ hp
  cases e

def PhaseN (e : Epoch) (hi s h : Nat) (p : Nat × Nat) (X F : List Nat) (Q : Pool) : Prop :=
  s ≤ hi ∧
  if e.isStrong (stakeOf e X) = true ∨ (e.isQuorum (stakeOf e X) = true ∧ e.isQuorum (stakeOf e F) = true) then
    TReady hi (s + 1) (s, h) Q ∧ Q.fin.status s = some (.finalized h)
  else if e.isQuorum (stakeOf e X) = true then TMid hi s h p true true Q
  else TMid hi s h p false false Q

theorem PhaseN.inBounds {Q : Pool}
    (ph : PhaseN e hi s h p X F Q) : Q.outOfBounds s = false := by
  obtain ⟨hs, ph⟩ := ph
  split at ph
  · exact inBounds_of ph.1.first_le hs ph.1.bound
  · split at ph <;> exact inBounds_of (Nat.le_trans ph.first_le (Nat.le_of_lt ph.plt)) hs ph.bound

theorem PhaseN.of_trk {Q Q' : Pool}
    (ph : PhaseN e hi s h p X F Q) (ht : Q'.trk = Q.trk) : PhaseN e hi s h p X F Q' := by
  obtain ⟨hs, ph⟩ := ph
  refine ⟨hs, ?_⟩
  split
  · rename_i hc; rw [if_pos hc] at ph
    have e1 : Q'.fin = Q.fin := congrArg Trk.fin ht
    exact ⟨ph.1.of_trk ht, by rw [e1]; exact ph.2⟩
  · rename_i hc; rw [if_neg hc] at ph
    split
    · rename_i hq; rw [if_pos hq] at ph; exact ph.of_trk ht
    · rename_i hq; rw [if_neg hq] at ph; exact ph.of_trk ht

theorem addValidCerts_nil (Q : Pool) (acc : List Event) : Q.addValidCerts [] acc = (Q, acc) := rfl

theorem addValidCerts_append (Q : Pool) (cs ds : List Cert) (acc : List Event) :
    Q.addValidCerts (cs ++ ds) acc = (Q.addValidCerts cs acc).1.addValidCerts ds (Q.addValidCerts cs acc).2 := by
  induction cs generalizing Q acc with
  | nil => rfl
  | cons c cs ih => exact ih _ _

/-- what Votor sees when the notarization quorum of `(s, h)` is reached -/
def quorumVEvs (s h : Nat) : List Votor.Event :=
  (if isWindowStart (s + 1) = true then [Votor.Event.parentReady (s + 1) s h] else []) ++
    [.cert .notarFallback s h, .cert .notar s h]

/-- what Votor will see after the notarization votes of `X` entered the pool -/
def queue1 (e : Epoch) (s h : Nat) (X : List Nat) : List Votor.Event :=
  (if e.isQuorum (stakeOf e X) = true then quorumVEvs s h else []) ++
  (if e.isStrong (stakeOf e X) = true then [.cert .fastFinal s h] else [])

theorem queue1_nil (e : Epoch) (hpos : 0 < e.total) (s h : Nat) : queue1 e s h [] = [] := by
  have hq := quorum_nil e hpos
  have hf := strong_nil e hpos
  simp [queue1, hq, hf]

/-- what Votor will see after the finalization votes of `F` entered the pool -/
def queue2 (e : Epoch) (s : Nat) (F : List Nat) : List Votor.Event :=
  if e.isQuorum (stakeOf e F) = true then [.cert .final s 0] else []

theorem queue2_nil (e : Epoch) (hpos : 0 < e.total) (s : Nat) : queue2 e s [] = [] := by
  simp [queue2, quorum_nil e hpos]

theorem vEvs_prEvents_one (w a b : Nat) : vEvs (prEvents [(w, (a, b))]) = [.parentReady w a b] := rfl

theorem vEvs_cert (c : Cert) : vEvs [.cert c] = [.cert (certKind c.kind) c.slot c.hash] := rfl
theorem vEvs_repair_cert (a b : Nat) (c : Cert) : vEvs [.repair a b, .cert c] = [.cert (certKind c.kind) c.slot c.hash] := rfl
theorem vEvs_prEvents_ite (b : Bool) (w x y : Nat) :
    vEvs (prEvents (if b = true then [(w, (x, y))] else [])) = (if b = true then [Votor.Event.parentReady w x y] else []) := by
  cases b <;> rfl

theorem PhaseN.mid_iff {Q : Pool} (hpos : 0 < e.total)
    (hf : e.isStrong (stakeOf e X) = false) :
    PhaseN e hi s h p X [] Q ↔ s ≤ hi ∧ TMid hi s h p (e.isQuorum (stakeOf e X)) (e.isQuorum (stakeOf e X)) Q := by
  unfold PhaseN
  rw [hf, quorum_nil e hpos, if_neg (by simp)]
  cases e.isQuorum (stakeOf e X) <;> simp

/-- the certificates of the notarization quorum enter the pool iff the vote crosses it: notar-fallback, then notarization -/
theorem crossing_quorum {a : SlotState} {Q : Pool} {q0 q1 : Bool}
    (hm : q0 = true → q1 = true) (ps : PSlot e s a Q) (tm : TMid hi s h p q0 q0 Q) {c1 c2 : Cert}
    (k1 : IsCert .nf s h c1) (k2 : IsCert .notar s h c2) :
    ∀ R, R = Q.addValidCerts (if (q1 && !q0) = true then [c1, c2] else []) [] →
    PSlot e s ((if (q1 && !q0) = true then [c1, c2] else []).foldl SlotState.addCert a) R.1 ∧
    TMid hi s h p q1 q1 R.1 ∧ Event.panic ∉ R.2 ∧ vEvs R.2 = (if (q1 && !q0) = true then quorumVEvs s h else []) := by
  rintro R rfl
  cases q0 <;> cases q1
  · exact ⟨ps, tm, List.not_mem_nil, rfl⟩
  · simp only [Bool.not_false, Bool.and_self, if_true, List.foldl_cons, List.foldl_nil, addValidCerts_step, addValidCerts_nil,
      List.nil_append]
    obtain ⟨p1, t1, e1⟩ := cert_nf ps tm k1 _ rfl
    obtain ⟨p2, t2, e2⟩ := cert_notar p1 t1 k2 _ rfl
    rw [e1, e2]
    refine ⟨p2, t2, ?_, ?_⟩
    · have := prEvents_no_panic (if isWindowStart (s + 1) = true then [(s + 1, (s, h))] else [])
      simpa using this
    · simp only [vEvs_append, vEvs_repair_cert, vEvs_prEvents_ite, k1.1, k1.2.1, k1.2.2, k2.1, k2.2.1, k2.2.2, certKind,
        List.append_assoc]
      rfl
  · exact absurd (hm rfl) (by decide)
  · exact ⟨ps, tm, List.not_mem_nil, rfl⟩

theorem crossing_strong {a : SlotState} {Q : Pool} {q : Bool} (b : Bool)
    (hb : b = true → q = true) (ps : PSlot e s a Q) (tm : TMid hi s h p q q Q) {c3 : Cert} (k3 : IsCert .ff s h c3)
    (acc : List Event) :
    ∀ R, R = Q.addValidCerts (if b = true then [c3] else []) acc →
    PSlot e s ((if b = true then [c3] else []).foldl SlotState.addCert a) R.1 ∧
    (if b = true then TReady hi (s + 1) (s, h) R.1 ∧ R.1.fin.status s = some (.finalized h) else TMid hi s h p q q R.1) ∧
    R.2 = acc ++ (if b = true then [.cert c3] else []) := by
  rintro R rfl
  cases b
  · exact ⟨ps, tm, (List.append_nil _).symm⟩
  · cases hb rfl
    obtain ⟨p3, t3, s3, e3⟩ := cert_fin ps tm (Or.inl k3) _ rfl
    exact ⟨p3, ⟨t3, s3⟩, by show acc ++ (Q.addValidCert c3).2 = _; rw [e3]; rfl⟩

/-- one notarization vote of the first round enters a pool: no finalization vote has arrived yet (`F = []`; in the second
    round the notarization votes are duplicates, `addVote_notar_dup`) -/
theorem addVote_notar_step {a : SlotState} {Q : Pool} (hpos : 0 < e.total)
    (ps : PSlot e s a Q) (hst : NotarSt e s h X [] a) (ph : PhaseN e hi s h p X [] Q)
    (j : Nat) (hj : j ∉ X) (hjn : j < e.n) :
    ∀ R, R = Q.addVote ⟨.notar, s, h, j⟩ → ∃ a', PSlot e s a' R.1 ∧
      NotarSt e s h (X ++ [j]) [] a' ∧ PhaseN e hi s h p (X ++ [j]) [] R.1 ∧
      Event.panic ∉ R.2.2 ∧ queue1 e s h X ++ vEvs R.2.2 = queue1 e s h (X ++ [j]) := by
  rintro R rfl
  obtain ⟨hc, hi'⟩ := hst.notar_vote j
  rw [decide_eq_false hj] at hi'
  have hadm := addVote_held (v := ⟨.notar, s, h, j⟩) ps.epoch ps.slot ph.inBounds hjn hc hi'
  obtain ⟨c1, c2, c3, k1, k2, k3, hcs, hsil, hst'⟩ := hst.addNotar hpos j _ rfl
  rw [hadm]
  have hr1s := (addVote_slot e a ⟨.notar, s, h, j⟩).trans (getSlot_slot ps.slot)
  generalize a.addVote e ⟨.notar, s, h, j⟩ = r at *
  have ps1 : PSlot e s r.1 (Q.putSlot r.1) := ps.putSlot hr1s
  have ph1 := ph.of_trk (putSlot_frame Q r.1).trk
  generalize Q.putSlot r.1 = Q1 at *
  rw [hcs] at hst' ⊢
  unfold queue1
  rw [addValidCerts_append]
  dsimp only
  by_cases hf0 : e.isStrong (stakeOf e X) = true
  · -- the slot was finalized before: no threshold is left to cross
    have hf1 := isStrong_snoc e X j hf0
    have hq0 := isStrong_isQuorum e _ hf0
    have hq1 := isStrong_isQuorum e _ hf1
    simp only [hf0, hf1, hq0, hq1, Bool.not_true, Bool.and_false, Bool.false_eq_true, if_false, List.nil_append,
      addValidCerts_nil, List.foldl_nil] at hst' ⊢
    refine ⟨_, ps1, hst', ?_, by simpa using hsil.noPanic, by simpa using vEvs_silent hsil⟩
    unfold PhaseN at ph1 ⊢
    rw [if_pos (Or.inl hf0)] at ph1
    rw [if_pos (Or.inl hf1)]
    exact ph1
  · have hf0' : e.isStrong (stakeOf e X) = false := by simpa using hf0
    rw [hf0', Bool.not_false, Bool.and_true] at hst' ⊢
    obtain ⟨p2, t2, n2, v2⟩ := crossing_quorum (isQuorum_snoc e X j) ps1 ((PhaseN.mid_iff hpos hf0').mp ph1).2 k1 k2 _ rfl
    obtain ⟨p3, t3, e3⟩ := crossing_strong (e.isStrong (stakeOf e (X ++ [j]))) (isStrong_isQuorum e _) p2 t2 k3
      (Q1.addValidCerts (if (e.isQuorum (stakeOf e (X ++ [j])) && !e.isQuorum (stakeOf e X)) = true then [c1, c2] else []) []).2
      _ rfl
    rw [List.foldl_append] at hst'
    refine ⟨_, p3, hst', ?_, ?_, ?_⟩
    · cases hf1 : e.isStrong (stakeOf e (X ++ [j]))
      · rw [hf1, if_neg Bool.false_ne_true] at t3
        exact (PhaseN.mid_iff hpos hf1).mpr ⟨ph1.1, t3⟩
      · rw [hf1, if_pos rfl] at t3
        unfold PhaseN
        rw [if_pos (Or.inl hf1)]
        exact ⟨ph1.1, t3⟩
    · rw [e3]
      simp only [List.mem_append, not_or]
      exact ⟨⟨n2, by split <;> simp⟩, hsil.noPanic⟩
    · rw [e3]
      simp only [vEvs_append, v2, vEvs_silent hsil, List.append_nil, Bool.false_eq_true, if_false]
      rw [ite_crossed (quorumVEvs s h) (isQuorum_snoc e X j), List.append_assoc]
      cases e.isStrong (stakeOf e (X ++ [j]))
      · rfl
      · simp only [if_true, vEvs_cert, k3.1, k3.2.1, k3.2.2, certKind]

theorem addVote_final_step {a : SlotState} {Q : Pool}
    (ps : PSlot e s a Q) (hst : NotarSt e s h X F a) (hqX : e.isQuorum (stakeOf e X) = true)
    (ph : PhaseN e hi s h p X F Q) (j : Nat) (hj : j ∉ F) (hjn : j < e.n) :
    ∀ R, R = Q.addVote ⟨.final, s, 0, j⟩ → ∃ a', PSlot e s a' R.1 ∧
      NotarSt e s h X (F ++ [j]) a' ∧ PhaseN e hi s h p X (F ++ [j]) R.1 ∧
      Event.panic ∉ R.2.2 ∧ queue2 e s F ++ vEvs R.2.2 = queue2 e s (F ++ [j]) := by
  rintro R rfl
  obtain ⟨hc, hi'⟩ := hst.final_vote j
  rw [decide_eq_false hj] at hi'
  have hadm := addVote_held (v := ⟨.final, s, 0, j⟩) ps.epoch ps.slot ph.inBounds hjn hc hi'
  obtain ⟨c3, k3, hcs, hsil, hst'⟩ := hst.addFinal j _ rfl
  rw [hadm]
  have hr1s := (addVote_slot e a ⟨.final, s, 0, j⟩).trans (getSlot_slot ps.slot)
  generalize a.addVote e ⟨.final, s, 0, j⟩ = r at *
  have ps1 : PSlot e s r.1 (Q.putSlot r.1) := ps.putSlot hr1s
  have ph1 := ph.of_trk (putSlot_frame Q r.1).trk
  generalize Q.putSlot r.1 = Q1 at *
  rw [hcs] at hst' ⊢
  unfold PhaseN at ph1 ⊢
  unfold queue2
  simp only [hqX, true_and] at ph1 ⊢
  rcases isQuorum_snoc_cases e F j with ⟨hq0, hq1⟩ | ⟨hq0, hq1⟩ | ⟨hq0, hq1⟩ <;>
    simp only [hq0, hq1, Bool.true_and, Bool.false_and, Bool.not_true, Bool.not_false, Bool.false_eq_true,
      if_false, if_true, or_false, or_true, List.foldl_nil, addValidCerts_nil] at hst' ph1 ⊢
  · exact ⟨_, ps1, hst', ph1, by simpa using hsil.noPanic, by simpa [vEvs_append] using vEvs_silent hsil⟩
  · -- the quorum of finalization votes is crossed
    rw [addValidCerts_step, addValidCerts_nil]
    obtain ⟨p3, t3, s3, e3⟩ : PSlot e s (r.1.addCert c3) (Q1.addValidCert c3).1 ∧ TReady hi (s + 1) (s, h) (Q1.addValidCert c3).1 ∧
        (Q1.addValidCert c3).1.fin.status s = some (.finalized h) ∧ (Q1.addValidCert c3).2 = [.cert c3] := by
      by_cases hf : e.isStrong (stakeOf e X) = true
      · rw [if_pos hf] at ph1
        exact cert_final_done ps1 ph1.2.1 ph1.2.2 k3 _ rfl
      · rw [if_neg hf] at ph1
        exact cert_fin ps1 ph1.2 (Or.inr k3) _ rfl
    refine ⟨_, p3, hst', ⟨ph1.1, t3, s3⟩, ?_, ?_⟩
    · rw [e3]
      simpa using hsil.noPanic
    · rw [e3]
      simp only [vEvs_append, List.nil_append, vEvs_silent hsil, List.append_nil, vEvs_cert, k3.1, k3.2.1, k3.2.2, certKind]
  · exact ⟨_, ps1, hst', ph1, by simpa using hsil.noPanic, by simpa [vEvs_append] using vEvs_silent hsil⟩

theorem addVote_notar_dup {a : SlotState} {Q : Pool}
    (ps : PSlot e s a Q) (hst : NotarSt e s h X F a) (ph : PhaseN e hi s h p X F Q)
    (j : Nat) (hj : j ∈ X) (hjn : j < e.n) : Q.addVote ⟨.notar, s, h, j⟩ = (Q, .dup, []) := by
  obtain ⟨hc, hi'⟩ := hst.notar_vote j
  rw [decide_eq_true hj] at hi'
  exact addVote_dup Q _ a ph.inBounds (by rw [ps.epoch]; exact hjn) ps.slot hc hi'

end AgModel.Pool
