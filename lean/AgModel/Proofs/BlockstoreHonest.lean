import AgModel.Proofs.Blockstore
/-! A correct leader's block (`HBlock`, `WF`) and the invariant `Good` of a store that holds nothing but that block's data:
    on such a store every stage of `add_shred` is computed for a leader's shred, as an equation. Core Lean only. -/
namespace AgModel.Blockstore
open AgModel.Merkle

structure HBlock where
  slot : Nat
  n : Nat
  root : Nat → Nat
  sz : Nat → Nat
  parent : Nat → Option (Nat × Nat)
  txs : Nat → List Nat
  /-- the parent the block ends up with (after an optimistic-handover switch, if any) -/
  fparent : Nat × Nat

namespace HBlock
def isLast (B : HBlock) (i : Nat) : Bool := decide (i + 1 = B.n)
def commit (B : HBlock) (i : Nat) : Commitment := ⟨i, B.isLast i, B.root i⟩
def shred (B : HBlock) (i j : Nat) : Shred := ⟨i, B.isLast i, B.root i, j, B.sz i, true⟩
def rslice (B : HBlock) (i : Nat) : RSlice := ⟨i, B.isLast i, B.root i, B.parent i, some (B.txs i)⟩
def roots (B : HBlock) : List Nat := (List.range B.n).map B.root
def allTxs (B : HBlock) : List Nat := (List.range B.n).flatMap B.txs
/-- the block a correct leader disseminated -/
def block (B : HBlock) : Block := ⟨(Tree.new B.roots).root, B.fparent, B.allTxs⟩

/-- a block a *correct* leader produces, w.r.t. what its slices decode to -/
structure WF (B : HBlock) (env : Nat → Content) (cap : Nat) : Prop where
  npos : 0 < B.n
  ncap : B.n ≤ cap
  szpos : ∀ i, B.sz i ≠ 0
  envok : ∀ i, i < B.n → env (B.root i) = .ok (B.parent i) (some (B.txs i))
  fold : ∃ p, B.parent 0 = some p ∧
    foldSlices ((List.range B.n).map B.rslice) p false [] = some (B.fparent, B.allTxs)
  pslot : B.fparent.1 < B.slot

/-- a block as a correct leader cuts and encodes it, whatever slot its parent is in: what the reconstruction relies on up
    to the last test of `try_reconstruct_block` -/
structure Cut (B : HBlock) (env : Nat → Content) (cap : Nat) : Prop where
  npos : 0 < B.n
  ncap : B.n ≤ cap
  szpos : ∀ i, B.sz i ≠ 0
  envok : ∀ i, i < B.n → env (B.root i) = .ok (B.parent i) (some (B.txs i))
  fold : ∃ p, B.parent 0 = some p ∧
    foldSlices ((List.range B.n).map B.rslice) p false [] = some (B.fparent, B.allTxs)

theorem WF.cut {B : HBlock} {env : Nat → Content} {cap : Nat} (h : B.WF env cap) : B.Cut env cap :=
  ⟨h.npos, h.ncap, h.szpos, h.envok, h.fold⟩

/-- the cut does not mention the slot the block is announced for -/
theorem Cut.reslot {B : HBlock} {env : Nat → Content} {cap : Nat} (h : B.Cut env cap) (k : Nat) :
    ({ B with slot := k } : HBlock).Cut env cap :=
  ⟨h.npos, h.ncap, h.szpos, h.envok, h.fold⟩

def Honest (B : HBlock) (s : Shred) : Prop := s.slice < B.n ∧ s.idx < TOTAL_SHREDS ∧ s = B.shred s.slice s.idx
theorem Honest.ty {B : HBlock} {s : Shred} (hs : B.Honest s) : s.ty = true := by
  rw [hs.2.2]; rfl
theorem shred_honest (B : HBlock) {i j : Nat} (hi : i < B.n) (hj : j < TOTAL_SHREDS) : B.Honest (B.shred i j) :=
  ⟨hi, hj, rfl⟩
theorem honest_run (B : HBlock) {i c m : Nat} (hi : i < B.n) (hc : c + m ≤ TOTAL_SHREDS) :
    ∀ s ∈ (List.range m).map (fun j => B.shred i (j + c)), B.Honest s := fun s hs => by
  obtain ⟨j, hj, rfl⟩ := List.mem_map.mp hs
  exact B.shred_honest hi (by have := List.mem_range.mp hj; omega)

def OwnArr (B : HBlock) (i : Nat) (arr : ShredArr) : Prop := ∀ j s, arr j = some s → j < TOTAL_SHREDS ∧ s = B.shred i j

/-- all `TOTAL_SHREDS` shreds of slice `i`: what the decoder's refill and `add_own_slice` leave behind -/
def fullArr (B : HBlock) (i : Nat) : ShredArr := fun j => if j < TOTAL_SHREDS then some (B.shred i j) else none

/-- the state after `try_reconstruct_slice` decoded slice `i` of the leader's block -/
def decoded (B : HBlock) (b : BlockData) (i : Nat) : BlockData :=
  { b with shreds := upd b.shreds i (some (B.fullArr i)), slices := upd b.slices i (some (B.rslice i)) }

/-- what stages 1 and 2 of `add_shred` make of a store of the leader's data when a leader's shred arrives -/
def staged (B : HBlock) (b : BlockData) (s : Shred) : BlockData :=
  if s.slice + 1 = B.n ∧ b.lastSlice = none then
    markLastSlice { b with cache := upd b.cache s.slice (some (B.commit s.slice)) } s.slice
  else { b with cache := upd b.cache s.slice (some (B.commit s.slice)) }
end HBlock

open HBlock

/-- everything the store holds is the leader's -/
structure Good (B : HBlock) (cap : Nat) (b : BlockData) : Prop where
  hcap : b.cap = cap
  hslot : b.slot = B.slot
  cache : ∀ i c, b.cache i = some c → i < B.n ∧ c = B.commit i
  last : ∀ l, b.lastSlice = some l → l + 1 = B.n
  shreds : ∀ i arr, b.shreds i = some arr → i < B.n ∧ ∀ j s, arr j = some s → j < TOTAL_SHREDS ∧ s = B.shred i j
  slices : ∀ i r, b.slices i = some r → i < B.n ∧ r = B.rslice i
  completed : ∀ blk, b.completed = some blk → blk = B.block

theorem data_shreds_pos : 0 < DATA_SHREDS := by decide

theorem ownArr_fullArr (B : HBlock) (i : Nat) : B.OwnArr i (B.fullArr i) := by
  intro j s h
  obtain ⟨hj, rfl⟩ := ite_some_eq h
  exact ⟨hj, rfl⟩

/-- `Cut.envok` is the Reed–Solomon law here: any `DATA_SHREDS` of the leader's shreds of a slice decode to it -/
theorem deshred_own {B : HBlock} {env : Nat → Content} {cap : Nat} (hwf : B.Cut env cap) {i : Nat} (hi : i < B.n)
    {arr : ShredArr} (harr : B.OwnArr i arr) :
    deshred env arr =
      if (present arr).length < DATA_SHREDS then .notEnough else .ok (B.rslice i) (B.fullArr i) := by
  have hall : ∀ s ∈ present arr, ∃ j, s = B.shred i j := fun s hs =>
    (present_mem arr s hs).elim fun j hj => ⟨j, (harr j s hj).2⟩
  unfold deshred
  cases hp : present arr with
  | nil => exact (if_pos data_shreds_pos).symm
  | cons f rest =>
    rw [hp] at hall
    obtain ⟨j0, hf⟩ := hall f List.mem_cons_self
    have hlay : layoutOk (f :: rest) = true := by
      unfold layoutOk
      simp only [Bool.and_eq_true, decide_eq_true_eq, List.all_eq_true]
      refine ⟨⟨hf ▸ hwf.szpos i, fun s hs => ?_⟩, fun s hs => ?_⟩
      · obtain ⟨j, rfl⟩ := hall s hs; rw [hf]; rfl
      · obtain ⟨j, rfl⟩ := hall s hs; rfl
    have hfill : refill f arr = B.fullArr i := by
      funext j
      unfold refill fullArr
      split
      · cases hold : arr j with
        | some s' => simp only; rw [(harr j s' hold).2]
        | none => simp only; rw [hf]; rfl
      · rename_i hj
        cases hold : arr j with
        | some s' => exact absurd (harr j s' hold).1 hj
        | none => rfl
    simp only [hlay, Bool.not_true, Bool.false_eq_true, if_false]
    split
    · rfl
    · rw [show env f.root = .ok (B.parent i) (some (B.txs i)) from hf ▸ hwf.envok i hi, hfill, hf]; rfl

theorem tryReconstructBlock_own {B : HBlock} {env : Nat → Content} {cap : Nat} (hwf : B.Cut env cap) {b : BlockData}
    (hcap : B.n ≤ b.cap) (hslot : b.slot = B.slot) (hc : b.completed = none) (hl : b.lastSlice = some (B.n - 1))
    (hfull : ∀ i, i < B.n → b.slices i = some (B.rslice i)) (hnone : ∀ i, B.n ≤ i → b.slices i = none) :
    tryReconstructBlock b =
      if B.fparent.1 < B.slot then
        ({ b with tree := some B.roots, completed := some B.block,
                  slices := fun i => if i ≤ B.n - 1 then none else b.slices i }, .complete B.block.info)
      else ({ b with tree := some B.roots }, .error) := by
  have hnpos := hwf.npos
  obtain ⟨hlen, hvals⟩ := mapVals_of_keys hcap hfull hnone
  have hroots : blockRoots b = B.roots := by
    unfold blockRoots
    rw [hvals, List.map_map]; rfl
  obtain ⟨p, hp0, hfold⟩ := hwf.fold
  rcases tryReconstructBlock_cases b with ⟨_, h | h | ⟨last, h1, h2⟩⟩ | ⟨last, _, hl', _, h⟩
  · rw [hc] at h; cases h
  · rw [hl] at h; cases h
  · rw [hl] at h1; cases h1; exact absurd (hlen.trans (by omega)) h2
  · rw [hl] at hl'; cases hl'
    rcases h with ⟨_, h⟩ | ⟨first, p0, h0, hp, e, h⟩ | ⟨first, p0, parent, txs, h0, hp, hf, hlt, e⟩
    · exact nomatch hp0.symm.trans (h _ (hfull 0 hnpos))
    · rw [hfull 0 hnpos] at h0; cases h0
      cases hp0.symm.trans hp
      rw [if_neg (Nat.not_lt.mpr (hslot ▸ h _ _ (hvals ▸ hfold))), e, hroots]
    · rw [hfull 0 hnpos] at h0; cases h0
      cases hp0.symm.trans hp
      rw [hvals, hfold] at hf
      cases hf
      rw [if_pos (hslot ▸ hlt), e, hroots]; rfl

theorem tryReconstructSlice_own {B : HBlock} {env : Nat → Content} {cap : Nat} (hwf : B.Cut env cap) {b : BlockData}
    {i : Nat} (hi : i < B.n) {arr : ShredArr} (harr : b.shreds i = some arr) (hown : B.OwnArr i arr)
    (hc : b.completed = none) (hs : b.slices i = none) :
    tryReconstructSlice env b i =
      if (present arr).length < DATA_SHREDS then (b, .noAction)
      else (B.decoded b i, .complete) := by
  have hd := deshred_own hwf hi hown
  rcases tryReconstructSlice_cases env b i with ⟨e, h | h | ⟨a, h1, h2⟩⟩ | ⟨_, h⟩ | ⟨_, a, h1, h2⟩ | ⟨a, r, arr', h1, h2, h⟩
  · rw [hc] at h; cases h
  · rw [hs] at h; cases h
  · cases harr.symm.trans h1
    split at hd
    · rename_i hlt; rw [if_pos hlt]; exact e
    · cases hd.symm.trans h2
  · cases harr.symm.trans h
  · cases harr.symm.trans h1
    split at hd <;> cases hd.symm.trans h2
  · cases harr.symm.trans h1
    split at hd
    · cases hd.symm.trans h2
    · rename_i hlt
      cases hd.symm.trans h2
      rcases h with ⟨hp, h0, _⟩ | ⟨_, e⟩
      · -- the leader's first slice carries a parent
        obtain ⟨p, hp0, _⟩ := hwf.fold
        cases (show i = 0 from h0)
        exact nomatch hp0.symm.trans hp
      · rw [if_neg hlt]; exact e

theorem good_new (B : HBlock) (cap : Nat) : Good B cap (BlockData.new cap B.slot) := by
  constructor <;> simp [BlockData.new]

theorem markLastSlice_good {B : HBlock} {cap : Nat} {b : BlockData} {k : Nat} (hg : Good B cap b) (hk : k + 1 = B.n) :
    Good B cap (markLastSlice b k) :=
  ⟨hg.hcap, hg.hslot, hg.cache, fun _ hl => Option.some.inj hl ▸ hk,
    fun i arr hi => hg.shreds i arr (retainLe_eq_some hi).2, fun i r hi => hg.slices i r (retainLe_eq_some hi).2,
    hg.completed⟩

/-- stages 1 and 2 never refuse a leader's shred -/
theorem addShredCore_own {B : HBlock} {env : Nat → Content} {cap : Nat} {b : BlockData} {s : Shred} (hg : Good B cap b)
    (hs : B.Honest s) : addShredCore env b s = storeStep env (B.staged b s) s := by
  have hil : s.isLast = decide (s.slice + 1 = B.n) := congrArg Shred.isLast hs.2.2
  have h1 : cacheStep b s = some { b with cache := upd b.cache s.slice (some (B.commit s.slice)) } := by
    unfold cacheStep
    rw [show s.commitment = B.commit s.slice from congrArg Shred.commitment hs.2.2]
    cases hc : b.cache s.slice with
    | none => rfl
    | some c =>
      cases (hg.cache _ _ hc).2
      dsimp only
      rw [if_neg (not_not_intro rfl), ← hc, upd_self]
  have h2 : lastStep { b with cache := upd b.cache s.slice (some (B.commit s.slice)) } s = some (B.staged b s) := by
    unfold lastStep HBlock.staged
    dsimp only
    rw [hil]
    by_cases hn : s.slice + 1 = B.n
    · cases hl : b.lastSlice with
      | none =>
        -- every cached slice is below `B.n = s.slice + 1`
        have hk : hasKeyAbove b.cap (upd b.cache s.slice (some (B.commit s.slice))) s.slice = false := by
          refine hasKeyAbove_false _ _ _ fun i hi => ?_
          obtain ⟨c, hci⟩ := Option.isSome_iff_exists.mp hi
          rcases upd_eq_some hci with ⟨e, _⟩ | ⟨_, e⟩
          · exact Nat.le_of_eq e
          · have := (hg.cache i c e).1; omega
        simp [hn, hk]
      | some l =>
        have : l = s.slice := by have := hg.last l hl; omega
        subst this
        simp [hn]
    · cases hl : b.lastSlice with
      | none => simp [hn]
      | some l =>
        have : s.slice < l := by have := hg.last l hl; have := hs.1; omega
        simp [hn, this]
  unfold addShredCore
  rw [h1]
  dsimp only
  rw [h2]

theorem good_staged {B : HBlock} {cap : Nat} {b : BlockData} {s : Shred} (hg : Good B cap b) (hs : B.Honest s) :
    Good B cap (B.staged b s) := by
  have h1 : Good B cap { b with cache := upd b.cache s.slice (some (B.commit s.slice)) } :=
    ⟨hg.hcap, hg.hslot, upd_forall hg.cache ⟨hs.1, rfl⟩, hg.last, hg.shreds, hg.slices, hg.completed⟩
  unfold HBlock.staged
  split
  · exact markLastSlice_good h1 (by rename_i h; exact h.1)
  · exact h1

theorem good_setShreds {B : HBlock} {cap : Nat} {b : BlockData} (hg : Good B cap b) {i : Nat} (hi : i < B.n)
    {arr : ShredArr} (harr : B.OwnArr i arr) : Good B cap { b with shreds := upd b.shreds i (some arr) } :=
  ⟨hg.hcap, hg.hslot, hg.cache, hg.last, upd_forall hg.shreds ⟨hi, harr⟩, hg.slices, hg.completed⟩

theorem good_decoded {B : HBlock} {cap : Nat} {b : BlockData} (hg : Good B cap b) {i : Nat} (hi : i < B.n) :
    Good B cap (B.decoded b i) := by
  have h := good_setShreds hg hi (ownArr_fullArr B i)
  exact ⟨h.hcap, h.hslot, h.cache, h.last, h.shreds, upd_forall hg.slices ⟨hi, rfl⟩, h.completed⟩

theorem Good.slices_none {B : HBlock} {cap : Nat} {b : BlockData} (hg : Good B cap b) {i : Nat} (hi : B.n ≤ i) :
    b.slices i = none := by
  cases h : b.slices i with
  | none => rfl
  | some r => exact absurd (hg.slices i r h).1 (Nat.not_lt.mpr hi)

theorem good_completed {B : HBlock} {cap : Nat} {b : BlockData} (hg : Good B cap b) :
    Good B cap { b with tree := some B.roots, completed := some B.block,
                        slices := fun i => if i ≤ B.n - 1 then none else b.slices i } := by
  refine ⟨hg.hcap, hg.hslot, hg.cache, hg.last, hg.shreds, fun i r hi => ?_, fun blk hb => (Option.some.inj hb).symm⟩
  simp only at hi
  split at hi
  · cases hi
  · exact hg.slices i r hi

theorem tryReconstructBlock_good {B : HBlock} {env : Nat → Content} {cap : Nat} (hwf : B.Cut env cap)
    {b : BlockData} (hg : Good B cap b) :
    (tryReconstructBlock b = (b, .noAction) ∧
      (b.completed.isSome ∨ b.lastSlice = none ∨ ∃ i, i < B.n ∧ b.slices i = none)) ∨
    (b.lastSlice = some (B.n - 1) ∧ (∀ i, i < B.n → b.slices i = some (B.rslice i)) ∧ tryReconstructBlock b =
      if B.fparent.1 < B.slot then
        ({ b with tree := some B.roots, completed := some B.block,
                  slices := fun i => if i ≤ B.n - 1 then none else b.slices i }, .complete B.block.info)
      else ({ b with tree := some B.roots }, .error)) := by
  rcases tryReconstructBlock_cases b with ⟨e, h⟩ | ⟨last, hc, hl, hlen, _⟩
  · refine Or.inl ⟨e, h.imp_right fun h => h.imp_right fun ⟨last, hl, hne⟩ => ?_⟩
    -- with every slice reconstructed there would be `last + 1 = B.n` of them
    refine Decidable.byContradiction fun hno => hne ?_
    have hfull : ∀ i, i < B.n → b.slices i = some (B.rslice i) := fun i hi => by
      cases hsi : b.slices i with
      | none => exact absurd ⟨i, hi, hsi⟩ hno
      | some r => rw [(hg.slices i r hsi).2]
    rw [(mapVals_of_keys (hg.hcap ▸ hwf.ncap) hfull fun i hi => hg.slices_none hi).1]
    exact (hg.last last hl).symm
  · have hln := hg.last last hl
    obtain ⟨_, hfull⟩ := slices_full_of_count b.cap b.slices last (fun i hi => hg.slices_none (by omega)) hlen
    have hfull' : ∀ i, i < B.n → b.slices i = some (B.rslice i) := by
      intro i hi
      obtain ⟨r, hr⟩ := hfull i (by omega)
      rw [hr, (hg.slices i r hr).2]
    have hl' : b.lastSlice = some (B.n - 1) := by rw [hl]; congr 1; omega
    exact Or.inr ⟨hl', hfull',
      tryReconstructBlock_own hwf (hg.hcap ▸ hwf.ncap) hg.hslot hc hl' hfull' fun i hi => hg.slices_none hi⟩

def HonestRes (B : HBlock) (r : AddRes) : Prop :=
  r = .none ∨ r = .ev .firstShred ∨ r = .err .duplicate ∨ r = .ev (.block B.block.info)

theorem HonestRes.ok {B : HBlock} {r : AddRes} (h : HonestRes B r) : isBadErr r = false := by
  rcases h with h | h | h | h <;> rw [h] <;> rfl

theorem insertShred_good {B : HBlock} {cap : Nat} {b : BlockData} {s : Shred} (hg : Good B cap b) (hs : B.Honest s) :
    Good B cap (insertShred b s) := by
  refine good_setShreds hg hs.1 fun j x hx => ?_
  rcases upd_eq_some hx with ⟨rfl, e⟩ | ⟨_, e⟩
  · cases e; exact ⟨hs.2.1, hs.2.2⟩
  · cases hsh : b.shreds s.slice with
    | none => rw [hsh] at e; cases e
    | some arr => rw [hsh] at e; exact (hg.shreds _ arr hsh).2 j x e

theorem reconstruct_own {B : HBlock} {env : Nat → Content} {cap : Nat} (hwf : B.Cut env cap) {b : BlockData} {s : Shred}
    (hg : Good B cap b) (hs : B.Honest s) :
    reconstruct env (insertShred b s) s.slice =
      if b.completed.isSome ∨ (b.slices s.slice).isSome ∨
          (present (upd ((b.shreds s.slice).getD arrEmpty) s.idx (some s))).length < DATA_SHREDS then
        (insertShred b s, .none)
      else ((tryReconstructBlock (B.decoded (insertShred b s) s.slice)).1,
        (tryReconstructBlock (B.decoded (insertShred b s) s.slice)).2.res) := by
  rw [reconstruct_eq]
  by_cases hdone : b.completed.isSome ∨ (b.slices s.slice).isSome
  · rw [tryReconstructSlice_of_done (b := insertShred b s) hdone, if_neg nofun,
      if_pos (hdone.elim Or.inl fun h => Or.inr (Or.inl h))]
    rfl
  · rw [tryReconstructSlice_own hwf hs.1 (insertShred_same b s)
      ((insertShred_good hg hs).shreds _ _ (insertShred_same b s)).2
      (show b.completed = none by simpa using fun h => hdone (Or.inl h))
      (show b.slices s.slice = none by simpa using fun h => hdone (Or.inr h))]
    by_cases hlt : (present (upd ((b.shreds s.slice).getD arrEmpty) s.idx (some s))).length < DATA_SHREDS
    · rw [if_pos hlt, if_neg nofun, if_pos (Or.inr (Or.inr hlt))]
      rfl
    · rw [if_neg hlt, if_pos rfl, if_neg fun h => h.elim (fun h => hdone (Or.inl h)) fun h =>
        h.elim (fun h => hdone (Or.inr h)) hlt]

theorem storeStep_good {B : HBlock} {env : Nat → Content} {cap : Nat} (hwf : B.WF env cap)
    {b : BlockData} {s : Shred} (hg : Good B cap b) (hs : B.Honest s) :
    Good B cap (storeStep env b s).1 ∧ HonestRes B (storeStep env b s).2 := by
  rcases storeStep_cases env b s with ⟨e, _⟩ | ⟨_, ⟨_, e⟩ | ⟨_, e⟩⟩ <;> rw [e]
  · exact ⟨hg, Or.inr (Or.inr (Or.inl rfl))⟩
  · exact ⟨insertShred_good hg hs, Or.inr (Or.inl rfl)⟩
  · rw [reconstruct_own hwf.cut hg hs]
    split
    · exact ⟨insertShred_good hg hs, Or.inl rfl⟩
    · have hg2 := good_decoded (insertShred_good hg hs) hs.1
      rcases tryReconstructBlock_good hwf.cut hg2 with ⟨e, _⟩ | ⟨_, _, e⟩ <;> rw [e]
      · exact ⟨hg2, Or.inl rfl⟩
      · rw [if_pos hwf.pslot]
        exact ⟨good_completed hg2, Or.inr (Or.inr (Or.inr rfl))⟩

theorem addShred_good (B : HBlock) (env : Nat → Content) (cap : Nat) (hwf : B.WF env cap)
    (b : BlockData) (s : Shred) (hg : Good B cap b) (hs : B.Honest s) :
    Good B cap (addShredCore env b s).1 ∧ HonestRes B (addShredCore env b s).2 := by
  rw [addShredCore_own hg hs]
  exact storeStep_good hwf (good_staged hg hs) hs

end AgModel.Blockstore
