import AgModel.Proofs.PoolS2NGlue
import AgModel.Proofs.PoolS2NGlueFlag
/-! C06 at pool level: **soundness per emitted event**, proved in one induction with the soundness invariant `SoundInv`
    (`poolRun_sound_good`). Every `SafeToNotar(s, h)` event in the output of a run is for a block `(s, h)` that was registered
    (accepted) with some parent for which the pool stored and announced a notarization, notar-fallback or
    fast-finalization certificate during the run — whatever happens to the slot state afterwards (it may be pruned within
    the same operation). -/
namespace AgModel.Pool

def GoodEv (R : List Reg) (C : Nat × Nat → Prop) : Event → Prop
  | .s2n s h => ∃ par, ((s, h), par) ∈ R ∧ C par
  | _ => True

theorem GoodEv.mono {R R' : List Reg} {C C' : Nat × Nat → Prop} {ev : Event} (h : GoodEv R C ev)
    (hr : ∀ r ∈ R, r ∈ R') (hc : ∀ x, C x → C' x) : GoodEv R' C' ev := by
  cases ev with
  | s2n s hh => obtain ⟨par, a, b⟩ := h; exact ⟨par, hr _ a, hc _ b⟩
  | _ => trivial

theorem goodEv_of_evSound {e : Epoch} {R : List Reg} {C : Nat × Nat → Prop} {st : SlotState} {evs : List Event}
    (hq : Qs R C st) (hs : EvSound e st evs) : ∀ ev ∈ evs, GoodEv R C ev := by
  intro ev hev
  have := hs ev hev
  cases ev with
  | s2n s h =>
    obtain ⟨par, a, b⟩ := hq h this.2.2.1
    exact ⟨par, by rw [this.1]; exact a, b⟩
  | _ => trivial

theorem GoodEv.of_tracker (R : List Reg) (C : Nat × Nat → Prop) {ev : Event} (h : ev.tracker) : GoodEv R C ev := by
  cases ev <;> first | trivial | cases h

theorem SoundInv.stored {e : Epoch} {R : List Reg} {C : Nat × Nat → Prop} {p : Pool} (h : SoundInv e R C p) (c : Cert)
    (hC : c.strong → C (c.slot, c.hash)) : SoundInv e R C (p.stored c) := by
  obtain ⟨he, hw, h1, h2⟩ := h
  unfold Pool.stored
  have hfr := mod_frame p c.slot ((p.slotState c.slot).2.addCert c)
  exact ⟨hfr.epoch.trans he, hw.of_waiting hfr.waiting,
    h1.mod c.slot _ (Qs_init R C _) ((h1.slotState_snd c.slot (Qs_init R C _)).addCert c),
    h2.mod c.slot _ (Qh_init C _) ((h2.slotState_snd c.slot (Qh_init C _)).addCert c (slotState_snd_slot p c.slot) hC)⟩

theorem SoundInv.advance {e : Epoch} {R : List Reg} {C : Nat × Nat → Prop} {p : Pool} (h : SoundInv e R C p)
    (t : Finality.Tracker) (r : ParentReady.Res) : SoundInv e R C (p.advance t r) :=
  ⟨(advance_epoch p t r).trans h.1, h.2.1.advance t r, h.2.2.1.advance t r, h.2.2.2.advance t r⟩

/-! ### the invariant and "every event so far is good", carried together through the composites -/

def SoundGood (e : Epoch) (R : List Reg) (C : Nat × Nat → Prop) (q : Pool) (A : List Event) : Prop :=
  SoundInv e R C q ∧ ∀ ev ∈ A, GoodEv R C ev

theorem SoundGood.emit {e : Epoch} {R : List Reg} {C : Nat × Nat → Prop} {q q' : Pool} {A B : List Event}
    (h : SoundGood e R C q A) (hq : SoundInv e R C q') (hB : ∀ ev ∈ B, GoodEv R C ev) : SoundGood e R C q' (A ++ B) :=
  ⟨hq, List.forall_mem_append.mpr ⟨h.2, hB⟩⟩

/-- `notify_parent_certified` for a registered child of a certified parent -/
theorem SoundInv.certified {e : Epoch} {R : List Reg} {C : Nat × Nat → Prop} {p : Pool} (h : SoundInv e R C p)
    {k par : Nat × Nat} {st' : SlotState} {evs : List Event} (hr : (k, par) ∈ R) (hc : C par)
    (hn : (p.slotState k.1).2.notifyParentCertified p.epoch k.2 = some (st', evs)) :
    SoundInv e R C ((p.slotState k.1).1.putSlot st') ∧ ∀ ev ∈ evs, GoodEv R C ev := by
  obtain ⟨he, hw, h1, h2⟩ := h
  rw [he] at hn
  have hq := Qs_kidSite e R C k par hr hc _ st' evs (slotState_snd_slot p k.1) hn (h1.slotState_snd k.1 (Qs_init R C _))
  exact ⟨⟨(mod_frame p k.1 st').epoch.trans he, hw.of_waiting (mod_frame p k.1 st').waiting, h1.mod k.1 st' (Qs_init R C _) hq,
    h2.mod k.1 st' (Qh_init C _)
      (Qh_kidSite e C k _ st' evs (slotState_snd_slot p k.1) hn (h2.slotState_snd k.1 (Qh_init C _)))⟩,
    goodEv_of_evSound hq (certified_emit hn).1⟩

theorem notifyWaiting_soundGood {e : Epoch} {R : List Reg} {C : Nat × Nat → Prop} {p : Pool} {A : List Event}
    {par0 : Nat × Nat} (hc : C par0) (h : SoundGood e R C p A) :
    SoundGood e R C (p.notifyWaiting par0).1 (A ++ (p.notifyWaiting par0).2) :=
  (notifyWaiting_ind (fun ks q B => (∀ k ∈ ks, (k, par0) ∈ R) ∧ SoundGood e R C q (A ++ B))
    (fun k ks q B _ hq => ⟨fun k' hk' => hq.1 k' (List.mem_cons_of_mem _ hk'), hq.2⟩)
    (fun k ks q B _ _ hq => ⟨(fun _ hk' => nomatch hk'),
      List.append_assoc A B [.panic] ▸ hq.2.emit (B := [.panic]) (hq.2.1.slotState k.1) (List.forall_mem_singleton.mpr trivial)⟩)
    (fun k ks q B st' evs _ hn hq =>
      have hs := hq.2.1.certified (hq.1 k List.mem_cons_self) hc hn
      ⟨fun k' hk' => hq.1 k' (List.mem_cons_of_mem _ hk'), List.append_assoc A B evs ▸ hq.2.emit hs.1 hs.2⟩)
    p par0
    ⟨fun k hk => h.1.2.1.kidsOf hk, (List.append_nil A).symm ▸
      ⟨⟨h.1.1, fun par kids hm => h.1.2.1 par kids (List.mem_filter.mp hm).1, fun s st hg => h.1.2.2.1 s st hg,
        fun s st hg => h.1.2.2.2 s st hg⟩, h.2⟩⟩).2

theorem addValidCert_soundGood {e : Epoch} {R : List Reg} {C : Nat × Nat → Prop} {p : Pool} {A : List Event} (c : Cert)
    (hC : c.strong → C (c.slot, c.hash)) (h : SoundGood e R C p A) :
    SoundGood e R C (p.addValidCert c).1 (A ++ (p.addValidCert c).2) := by
  have hpr : ∀ (q : Pool) (E : List Event) r, SoundGood e R C q E → SoundGood e R C (q.applyPr r).1 (E ++ (q.applyPr r).2) :=
    fun q E r hq => hq.emit ⟨(applyPr_frame q r).1.trans hq.1.1, hq.1.2.1.of_waiting (applyPr_frame q r).2.2,
      hq.1.2.2.1.applyPr r, hq.1.2.2.2.applyPr r⟩ (fun ev hev => .of_tracker R C (applyPr_events q r ev hev))
  obtain ⟨E, hI, he⟩ := addValidCert_indE c p (SoundGood e R C) (SoundGood e R C) A ⟨h.1.stored c hC, h.2⟩
    (fun q E op _ hq => hq.emit (handleFin_ind _ op hq.1 fun t r _ => hq.1.advance t r)
      (fun ev hev => .of_tracker R C (handleFin_events q _ ev hev)))
    (fun hs q E hq => notifyWaiting_soundGood (hC hs) hq) (fun _ q E hq => hq)
    (fun _ q E hq => (hpr q E _ hq).emit (hpr q E _ hq).1 (List.forall_mem_singleton.mpr trivial))
    (fun _ q E hq => hpr q E _ hq)
  rw [he]
  exact hI.emit hI.1 (List.forall_mem_singleton.mpr trivial)

theorem addBlockTail_soundGood {e : Epoch} {R : List Reg} {C : Nat × Nat → Prop} (r : Pool) (b par : Nat × Nat)
    (e0 : List Event) (cert : Bool) (hbR : (b, par) ∈ R) (hk : cert = true → C par) (h : SoundGood e R C r e0) :
    SoundGood e R C (Pool.addBlockTail r b par e0 cert).1 (Pool.addBlockTail r b par e0 cert).2 :=
  addBlockTail_ind (SoundGood e R C) r b par e0 cert
    (fun q hq => ⟨⟨(addWaiting_frame q par b).1.trans hq.1.1, hq.1.2.1.addWaiting par b hbR, hq.1.2.2.1.addWaiting par b,
      hq.1.2.2.2.addWaiting par b⟩, hq.2⟩)
    (fun _ _ => h.emit (h.1.slotState b.1) (List.forall_mem_singleton.mpr trivial))
    (fun hc _ evs hn => have hs := h.1.certified hbR (hk hc) hn; h.emit hs.1 hs.2) h

theorem poolStep_sound_good (e : Epoch) (R : List Reg) (C : Nat × Nat → Prop) (p : Pool) (op : PoolOp) (h : SoundInv e R C p) :
    SoundInv e (R ++ regsOf p op) (fun x => C x ∨ x ∈ certIds (poolStep p op).2) (poolStep p op).1 ∧
    ∀ ev ∈ (poolStep p op).2, GoodEv (R ++ regsOf p op) (fun x => C x ∨ x ∈ certIds (poolStep p op).2) ev := by
  -- `C'` contains from the start the block of every certificate the operation is going to announce (`hcert`):
  -- `add_valid_cert(c)` stores `c` and wakes the children before it emits `CertCreated(c)`
  generalize hC' : (fun x => C x ∨ x ∈ certIds (poolStep p op).2) = C'
  have h' : SoundInv e R C' p := hC' ▸ h.mono (fun _ hr => hr) (fun _ hx => Or.inl hx)
  have hcert : ∀ c, Event.cert c ∈ (poolStep p op).2 → c.strong → C' (c.slot, c.hash) :=
    fun c hm hs => hC' ▸ Or.inr (mem_certIds hm hs)
  clear hC' h
  cases op with
  | vote v =>
    simp only [regsOf, List.append_nil, poolStep] at hcert ⊢
    rcases addVote_outcomes p v with h3 | ⟨_, h3⟩ | ⟨vd, _, _, h3⟩ | ⟨_, _, h3⟩ <;> rw [h3] at hcert ⊢ <;> dsimp only at hcert ⊢
    · exact ⟨h', fun _ hev => by cases hev⟩
    · exact ⟨h', List.forall_mem_singleton.mpr trivial⟩
    · exact ⟨h'.slotState _, fun _ hev => by cases hev⟩
    · have hmod := h'.voted v
      have hcs := addValidCerts_indE (SoundGood e R C') ((p.slotState v.slot).2.addVote p.epoch v).2.1 (p.voted v) []
        (fun c hc q A hq =>
          addValidCert_soundGood c (hcert c (List.mem_append_left _ ((addValidCerts_events _ _ _).2 c hc))) hq)
        ⟨hmod, fun _ hx => by cases hx⟩
      refine ⟨hcs.1, List.forall_mem_append.mpr
        ⟨hcs.2, goodEv_of_evSound (hmod.2.2.1 v.slot _ ?_) (addVote_emit p.epoch _ v).1⟩⟩
      unfold Pool.voted
      rw [getSlot_mod p v.slot _ ((addVote_slot _ _ v).trans (slotState_snd_slot p v.slot)), if_pos rfl]
  | cert c =>
    simp only [regsOf, List.append_nil, poolStep] at hcert ⊢
    rcases addCert_outcomes p c with h3 | h3 | h3 <;> rw [h3] at hcert ⊢ <;> dsimp only at hcert ⊢
    · exact ⟨h', fun _ hev => by cases hev⟩
    · exact ⟨h'.slotState _, fun _ hev => by cases hev⟩
    · exact addValidCert_soundGood (A := []) c (hcert c (addValidCert_event _ c)) ⟨h'.slotState _, fun _ hx => nomatch hx⟩
  | block b par =>
    have h'' : SoundInv e (R ++ regsOf p (.block b par)) C' p := h'.mono (fun r hr => by simp [hr]) (fun _ hx => hx)
    simp only [poolStep]
    rcases addBlock_outcomes p b par with ⟨_, h1⟩ | ⟨t, ev', hgt, hst, _, h1⟩ <;> rw [h1]
    · exact ⟨h'', List.forall_mem_singleton.mpr trivial⟩
    · have hbR : (b, par) ∈ R ++ regsOf p (.block b par) := by simp [regsOf, accepted, hgt, hst]
      generalize R ++ regsOf p (.block b par) = R' at h'' hbR ⊢
      have hq := h''.advance t (ParentReady.handleFinalization p.pr ev')
      have ht : ∀ ev ∈ (({ p with fin := t } : Pool).applyPr (ParentReady.handleFinalization p.pr ev')).2, GoodEv R' C' ev :=
        fun ev hev => .of_tracker R' C' (applyPr_events _ _ ev hev)
      split
      · exact ⟨hq, ht⟩
      · have hk := hq.known b
        exact addBlockTail_soundGood _ b par _ _ hbR (fun hc => hk.certifiedB hc) ⟨hk, ht⟩

/-- **Flag soundness and soundness per emitted event**, every run -/
theorem poolRun_sound_good (e : Epoch) (ops : List PoolOp) :
    SoundInv e (regsRun { epoch := e } ops) (· ∈ certIds (poolRun { epoch := e } ops).2) (poolRun { epoch := e } ops).1 ∧
    ∀ ev ∈ (poolRun { epoch := e } ops).2,
      GoodEv (regsRun { epoch := e } ops) (· ∈ certIds (poolRun { epoch := e } ops).2) ev := by
  refine poolRun_ind (fun R A q => SoundInv e R (· ∈ certIds A) q ∧ ∀ ev ∈ A, GoodEv R (· ∈ certIds A) ev) ?_ ops [] []
    { epoch := e } ⟨(SoundInv.init e).mono (fun _ hr => hr) (fun _ hx => hx.elim), fun _ hev => nomatch hev⟩
  intro R A p op ⟨s, g⟩
  obtain ⟨s1, g1⟩ := poolStep_sound_good e R _ p op s
  have hcm : ∀ x, (x ∈ certIds A ∨ x ∈ certIds (poolStep p op).2) → x ∈ certIds (A ++ (poolStep p op).2) := by
    intro x hx
    unfold certIds at *
    rw [List.filterMap_append, List.mem_append]
    exact hx
  exact ⟨s1.mono (fun _ hr => hr) hcm, List.forall_mem_append.mpr
    ⟨fun ev hev => (g ev hev).mono (fun _ => List.mem_append_left _) (fun x hx => hcm x (Or.inl hx)),
      fun ev hev => (g1 ev hev).mono (fun _ hr => hr) hcm⟩⟩

end AgModel.Pool
