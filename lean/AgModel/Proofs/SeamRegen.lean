import AgModel.Props.C12Seam
/-! The link between the coarse decoding environment (`Blockstore.Content`, an environment lookup by interned slice
    root) and the fine reconstruction (`Shred.deshred`: Reed-Solomon, Merkle tree rebuild, `fill_missing_shreds`
    re-signing by reuse of the verified leader signature): `Codeword`, `Faithful`, and `RegenBacked` as a theorem. -/
namespace AgModel.Seam
open AgModel.Shred (Env VShred Bytes)
open AgModel.Blockstore (Content)
open AgModel.Merkle AgModel.Pad

/-- `R` is the slice root of a code word: the root of the Merkle tree `build_merkle_tree` makes over 64 shards of one
    length (what `RawShreds` of `ReedSolomonCoder::{shred, deshred}` are) -/
def Codeword (env : Env) (R : H) : Prop :=
  ∃ shards : List Bytes, shards.length = 64 ∧ (Tree.new (shards.map env.leafId)).root = R ∧
    ∃ n, ∀ d ∈ shards, d.length = n

/-- **the abstraction relation between the coarse decoding environment and the fine reconstruction**: the coarse
    `deshred` (lookup `cenv (rid R)`) answers "decodes" only for roots the fine `Shredder::deshred` can accept at all -
    its final `check_merkle_tree` compares the tree rebuilt over the 64 re-encoded shards with the root the stored
    shreds were validated against. Holds for the environments the harness supplies (what a leader encoded:
    `faithful_of_leader`) and for every environment that re-checks its answer (`checkedCenv_faithful`). -/
def Faithful (env : Env) (rid : RootId) (cenv : Nat → Content) : Prop :=
  ∀ R p t, cenv (rid R) = .ok p t → Codeword env R

/-- the shred `fill_missing_shreds` creates at index `j` from the code word `shards` and a stored shred `x` (its
    header and its verified signature are reused; the Merkle path comes from the rebuilt tree) -/
def regenShred (env : Env) (shards : List Bytes) (x : VShred) (j : Nat) : VShred :=
  Shred.mkShred x.shred.header DATA (Tree.new (shards.map env.leafId)) x.shred.sig j (shards.getD j [])

/-- the regenerated shred passes `try_new(_, None, leader)` when the reused signature is the leader's over the root of
    the rebuilt tree -/
theorem regenShred_valid (env : Env) (shards : List Bytes) (j : Nat) (hj : j < shards.length) (x : VShred) (pk : Nat)
    (hsig : x.shred.sig = .signed pk (Shred.commit x.shred.header (Tree.new (shards.map env.leafId)).root)) :
    (regenShred env shards x j).Valid env pk :=
  Shred.mkShred_valid env shards _ rfl _ _ pk _ j _
    (by rw [List.getD_eq_getElem?_getD, List.getElem?_eq_getElem hj]; rfl) hsig

/-- **`RegenBacked` is a theorem for faithful environments.** If the coarse environment says the root of a backed
    shred `f` decodes, the shred the coarse `refill` puts at index `j` is the abstraction of the fine shred
    `fill_missing_shreds` builds there (`regenShred`), which passes `try_new(_, None, leader)`: the signature is over
    (slot, slice, last flag, root) and the rebuilt tree has that root; the size class agrees because the stored
    shred's payload *is* a shard of the code word (Merkle binding, C15 / C12 `root_binds_position`). -/
theorem regenBacked_of_faithful (env : Env) (L : env.Laws) (cenv : Nat → Content) (rid : RootId) (pk slot : Nat)
    (hF : Faithful env rid cenv) : RegenBacked env cenv rid pk slot := by
  intro f j p t hj he ⟨x, ⟨hx, hfx⟩, hs⟩
  rw [hfx] at he
  obtain ⟨shards, hlen, hroot, n, hn⟩ := hF _ _ _ he
  obtain ⟨hcons, hsig, hxeq⟩ := (Shred.accept_none_iff env x.shred pk x).mp hx
  have hxr : x.shred.sliceRoot env = x.root := (congrArg VShred.root hxeq).symm
  obtain ⟨hidx, hdata, _⟩ := Shred.root_binds_codeword env L shards hlen x.shred hcons (by rw [hxr, hroot])
  have hjl : j < shards.length := hlen ▸ hj
  refine ⟨regenShred env shards x j, ⟨regenShred_valid env shards j hjl x pk ?_, ?_⟩, hs⟩
  · rw [hsig, hroot, ← hxr]; rfl
  · have hsz : szClass (shards.getD j []) = szClass x.shred.data := by
      unfold szClass
      rw [hdata, List.getD_eq_getElem?_getD, List.getElem?_eq_getElem hjl, Option.getD_some,
        hn _ (List.getElem_mem hjl), hn _ (List.getElem_mem hidx)]
    rw [hfx]
    simp only [absShred, regenShred, Shred.mkShred, hsz, hroot, Shred.Shred.typeOk, Blockstore.Shred.mk.injEq, true_and]
    -- left: the type of the regenerated shred fits its index, `mkShred _ DATA` having tagged it `decide (j < DATA)`
    exact (beq_self_eq_true _).symm

theorem leader_root_codeword (env : Env) (L : env.Laws) (v : Shred.Variant) (sl : Shred.Slice) (key : Bytes) :
    Codeword env (Shred.leaderTree env v sl key).root :=
  ⟨_, Shred.rawsOf_length env _ v.nData L (Shred.nData_le v), rfl, _,
    fun d hd => Shred.rawsOf_size env _ v.nData L d hd⟩

/-- **the harness's kind of environment is faithful**: an environment that says "decodes" only for (interned) roots
    of slices some leader shredded with one of the four shredders -/
theorem faithful_of_leader (env : Env) (L : env.Laws) (rid : RootId) (hinj : ∀ a b, rid a = rid b → a = b)
    (cenv : Nat → Content)
    (h : ∀ r p t, cenv r = .ok p t → ∃ v sl key, r = rid (Shred.leaderTree env v sl key).root) :
    Faithful env rid cenv := by
  intro R p t he
  obtain ⟨v, sl, key, hr⟩ := h _ p t he
  rw [hinj _ _ hr]
  exact leader_root_codeword env L v sl key

/-- an environment that re-checks what an arbitrary decoding oracle `dec` claims: it answers `ok` for `r` only if the
    oracle exhibits 64 shards of one length whose Merkle tree has a root interned as `r` (computable) -/
def checkedCenv (env : Env) (rid : RootId) (dec : Nat → Option (List Bytes × Content)) : Nat → Content := fun r =>
  match dec r with
  | none => .bad
  | some (shards, c) =>
    if shards.length = 64 ∧ rid (Tree.new (shards.map env.leafId)).root = r ∧
        shards.all (fun d => decide (d.length = (shards.headD []).length)) then c else .bad

theorem checkedCenv_faithful (env : Env) (rid : RootId) (hinj : ∀ a b, rid a = rid b → a = b)
    (dec : Nat → Option (List Bytes × Content)) : Faithful env rid (checkedCenv env rid dec) := by
  intro R p t he
  unfold checkedCenv at he
  split at he
  · cases he
  · rename_i shards c _
    split at he
    · rename_i hc
      obtain ⟨h1, h2, h3⟩ := hc
      refine ⟨shards, h1, hinj _ _ h2, (shards.headD []).length, ?_⟩
      intro d hd
      simpa using (List.all_eq_true.mp h3) d hd
    · cases he

end AgModel.Seam
