import AgModel.Model.ParentReady
/-! The tracker is only ever observed through `get` (and `root`, `top`), so that default entries created by `slot_state` do not
show.  Both marks are either "nothing observable happens" (`…_same`) or "the forward loop runs" (`…_fresh`), and the forward
loop, whenever it returns, has `Appended` its ids to the window starts it reached (`fwd_some`). -/
namespace AgModel.ParentReady

theorem get_put (t : Tracker) (s : Nat) (v : PState) (x : Nat) : get (put t s v) x = if x = s then v else get t x := by
  unfold get put
  by_cases h : x = s <;> simp [h]

theorem get_put_same (t : Tracker) (s : Nat) (v : PState) : get (put t s v) s = v := by
  rw [get_put, if_pos rfl]

theorem get_put_other (t : Tracker) {s x : Nat} (v : PState) (h : x ≠ s) : get (put t s v) x = get t x := by
  rw [get_put, if_neg h]

theorem get_put_ind {Q : Nat → PState → Prop} {t : Tracker} {s : Nat} {v : PState} (hv : Q s v)
    (hQ : ∀ x, Q x (get t x)) (x : Nat) : Q x (get (put t s v) x) := by
  rw [get_put]
  split
  · rename_i e; exact e ▸ hv
  · exact hQ x

theorem get_put_field {α : Type} (f : PState → α) {t : Tracker} {s : Nat} {v : PState} (x : Nat)
    (hv : f v = f (get t s) := by rfl) : f (get (put t s v) x) = f (get t x) := by
  rw [get_put]
  split
  · rename_i h; rw [h, hv]
  · rfl

theorem get_touch (t : Tracker) (s x : Nat) : get (touch t s) x = get t x :=
  get_put_field id x

theorem get_prune (t : Tracker) (r x : Nat) : get (prune t r) x = if x < r then {} else get t x := by
  unfold get prune
  dsimp only
  split <;> rfl

theorem get_prune_ge (t : Tracker) {r x : Nat} (h : r ≤ x) : get (prune t r) x = get t x := by
  rw [get_prune, if_neg (Nat.not_lt.mpr h)]

theorem get_prune_ind {Q : Nat → PState → Prop} {t : Tracker} {r : Nat} (h0 : ∀ x, Q x {})
    (hQ : ∀ x, Q x (get t x)) (x : Nat) : Q x (get (prune t r) x) := by
  rw [get_prune]
  split
  · exact h0 x
  · exact hQ x

theorem get_init (u : Nat) : get init u = if u = 0 then { nfs := [0] } else {} := by
  unfold get init; simp only; split <;> rfl

theorem get_init_ind {Q : Nat → PState → Prop} (h0 : Q 0 { nfs := [0] }) (hQ : ∀ x, x ≠ 0 → Q x {}) (x : Nat) :
    Q x (get init x) := by
  rw [get_init]
  split
  · rename_i e; exact e ▸ h0
  · rename_i e; exact hQ x e

theorem windowFirst_le (s : Nat) : windowFirst s ≤ s := Nat.div_mul_le_self s W

theorem parentsReady_eq_get (t : Tracker) (s : Nat) : parentsReady t s = (get t s).ready := by
  unfold parentsReady get
  cases t.states s <;> rfl

theorem insertSorted_perm (x : Nat × Nat) (l : List (Nat × Nat)) : (insertSorted x l).Perm (x :: l) := by
  induction l with
  | nil => exact .refl _
  | cons y ys ih =>
    rw [insertSorted]
    split
    · exact .refl _
    · exact (ih.cons y).trans (.swap x y ys)

theorem sortBlocks_perm (l : List (Nat × Nat)) : (sortBlocks l).Perm l := by
  induction l with
  | nil => exact .refl _
  | cons y ys ih => exact (insertSorted_perm y _).trans (ih.cons y)

theorem waitForParentReady_cases (t : Tracker) (s : Nat) :
    (∃ b rest, sortBlocks (get t s).ready = b :: rest ∧
      waitForParentReady t s = .ready (put t s { get t s with ready := b :: rest }) b) ∨
    ((get t s).waiter = true ∧ waitForParentReady t s = .panic) ∨
    ((get t s).ready = [] ∧ waitForParentReady t s = .waiting (put t s { get t s with waiter := true })) := by
  unfold waitForParentReady
  simp only
  cases hs : sortBlocks (get t s).ready with
  | cons b rest => exact Or.inl ⟨b, rest, rfl, rfl⟩
  | nil =>
    by_cases hw : (get t s).waiter = true
    · exact Or.inr (Or.inl ⟨hw, if_pos hw⟩)
    · refine Or.inr (Or.inr ⟨List.eq_nil_iff_forall_not_mem.mpr (fun p hp => ?_), if_neg hw⟩)
      have := (sortBlocks_perm _).mem_iff.mpr hp
      rw [hs] at this; cases this

/-- the effect of adding the (new, distinct) `ids` to a slot's ready list: they are appended; a registered waiter is
    deregistered by the first of them -/
def addSt (st : PState) (ids : List (Nat × Nat)) : PState :=
  { st with ready := st.ready ++ ids, waiter := st.waiter && (ids.isEmpty || !st.ready.isEmpty) }

theorem addSt_nil (st : PState) : addSt st [] = st := by
  cases st; simp [addSt]

theorem addSt_cons (st : PState) (id : Nat × Nat) (rest : List (Nat × Nat)) :
    addSt (addSt st [id]) rest = addSt st (id :: rest) := by
  cases st; simp [addSt]

@[simp] theorem addSt_skip (st : PState) (ids : List (Nat × Nat)) : (addSt st ids).skip = st.skip := rfl
@[simp] theorem addSt_nfs (st : PState) (ids : List (Nat × Nat)) : (addSt st ids).nfs = st.nfs := rfl
@[simp] theorem addSt_ready (st : PState) (ids : List (Nat × Nat)) : (addSt st ids).ready = st.ready ++ ids := rfl

theorem addSt_wait {st : PState} (hwi : st.waiter = true → st.ready = []) (ids : List (Nat × Nat)) :
    ((addSt st ids).waiter = true ↔ st.waiter = true ∧ (addSt st ids).ready = []) ∧
    ∀ b, st.waiter = true ∧ st.ready = [] ∧ ids.head? = some b ↔
      st.waiter = true ∧ (addSt st ids).ready.head? = some b := by
  cases hw : st.waiter
  · simp [addSt, hw]
  · have hr := hwi hw
    cases ids <;> simp [addSt, hw, hr]

def wakesOf (st : PState) (s : Nat) (ids : List (Nat × Nat)) : List Wake :=
  if st.ready.isEmpty && st.waiter then (ids.head?.map (fun b => (s, b))).toList else []

theorem mem_wakesOf {st : PState} {s : Nat} {ids : List (Nat × Nat)} {x : Nat} {b : Nat × Nat} :
    (x, b) ∈ wakesOf st s ids ↔ x = s ∧ st.waiter = true ∧ st.ready = [] ∧ ids.head? = some b := by
  unfold wakesOf
  cases ids <;> cases h : st.ready <;> cases hw : st.waiter <;> simp [eq_comm]

theorem addToReady_eq {t : Tracker} {s : Nat} {id : Nat × Nat} (h : id ∉ (get t s).ready) :
    addToReady t s id = some (put t s (addSt (get t s) [id]), wakesOf (get t s) s [id]) := by
  unfold addToReady
  simp only
  -- the two branches of `add_to_ready` against the two formulas: on an empty list the waiter (if any) is woken with
  -- `id` and deregistered, which is `addSt`'s `waiter && (… || !ready.isEmpty)` and `wakesOf`'s guard; on a non-empty
  -- list nothing but the append happens
  cases hr : (get t s).ready with
  | nil =>
    simp only [List.isEmpty_nil, if_true, addSt, wakesOf, hr, List.nil_append, Bool.true_and]
    cases hw : (get t s).waiter <;> simp
  | cons a l =>
    have hm : id ∉ a :: l := hr ▸ h
    simp only [List.mem_cons, not_or] at hm
    simp [addSt, wakesOf, hr, hm]

theorem addToReady_none {t : Tracker} {s : Nat} {id : Nat × Nat} (h : id ∈ (get t s).ready) : addToReady t s id = none := by
  unfold addToReady
  have hne : (get t s).ready.isEmpty = false := by
    cases hr : (get t s).ready
    · rw [hr] at h; cases h
    · rfl
  simp only [hne, Bool.false_eq_true, if_false, List.contains_iff_mem.mpr h, if_true]

theorem addToReady_some {t : Tracker} {s : Nat} {id : Nat × Nat} {r : Tracker × List Wake}
    (h : addToReady t s id = some r) : id ∉ (get t s).ready :=
  fun hm => by rw [addToReady_none hm] at h; cases h

theorem addAllToReady_eq {t : Tracker} {s : Nat} {ids : List (Nat × Nat)}
    (hnd : ids.Nodup) (hdis : ∀ id ∈ ids, id ∉ (get t s).ready) :
    ∃ t', addAllToReady t s ids = some (t', wakesOf (get t s) s ids) ∧
      t'.root = t.root ∧ t'.top = t.top ∧ get t' s = addSt (get t s) ids ∧ ∀ x, x ≠ s → get t' x = get t x := by
  induction ids generalizing t with
  | nil =>
    refine ⟨t, ?_, rfl, rfl, (addSt_nil _).symm, fun _ _ => rfl⟩
    simp [addAllToReady, wakesOf]
  | cons id rest ih =>
    have h1 := addToReady_eq (hdis id (List.mem_cons_self))
    have hnd' := List.nodup_cons.mp hnd
    have hdis' : ∀ id' ∈ rest, id' ∉ (get (put t s (addSt (get t s) [id])) s).ready := by
      intro id' hm
      rw [get_put_same, addSt_ready]
      intro hc
      rcases List.mem_append.mp hc with hc | hc
      · exact hdis id' (List.mem_cons_of_mem _ hm) hc
      · simp only [List.mem_singleton] at hc; subst hc; exact hnd'.1 hm
    obtain ⟨t2, e2, r2, tp2, g2, o2⟩ := ih hnd'.2 hdis'
    refine ⟨t2, ?_, r2, tp2, ?_, ?_⟩
    · simp only [addAllToReady, h1, e2]
      congr 2
      rw [get_put_same]
      cases hr : (get t s).ready <;> cases hw : (get t s).waiter <;> simp [wakesOf, addSt, hr, hw]
    · rw [g2, get_put_same, addSt_cons]
    · intro x hx; rw [o2 x hx, get_put_other _ _ hx]

theorem addAllToReady_some {t : Tracker} {s : Nat} {ids : List (Nat × Nat)} {r : Tracker × List Wake}
    (h : addAllToReady t s ids = some r) : ids.Nodup ∧ ∀ id ∈ ids, id ∉ (get t s).ready := by
  induction ids generalizing t r with
  | nil => exact ⟨List.nodup_nil, fun _ h => by cases h⟩
  | cons id rest ih =>
    simp only [addAllToReady] at h
    split at h
    · cases h
    · rename_i t1 w1 h1
      have hn := addToReady_some h1
      rw [addToReady_eq hn] at h1
      cases h1
      split at h
      · cases h
      · rename_i t2 w2 h2
        obtain ⟨nd, new⟩ := ih h2
        have new' : ∀ id' ∈ rest, id' ∉ (get t s).ready ++ [id] := fun id' hm => by
          have := new id' hm; rwa [get_put_same] at this
        refine ⟨List.nodup_cons.mpr ⟨fun hm => new' id hm (List.mem_append_right _ (List.mem_singleton.mpr rfl)), nd⟩, ?_⟩
        intro id' hm
        rcases List.mem_cons.mp hm with e | hm
        · rw [e]; exact hn
        · exact fun hc => new' id' hm (List.mem_append_left _ hc)

/-- `t'`, the announcements `new` and the wake-ups `w` are the result of appending the (new, distinct) `ids` to the
    ready lists of the slots in `P` of `t`: what one iteration of the forward loop (`fwd_head`) and the whole loop
    (`fwd_some`) do, each for its own `P`; `fresh` is what makes `add_to_ready` return (no `assert!` fires). -/
structure Appended (P : Nat → Prop) (ids : List (Nat × Nat)) (t t' : Tracker) (new : List (Nat × (Nat × Nat)))
    (w : List Wake) : Prop where
  root : t'.root = t.root
  top : t'.top = t.top
  hit : ∀ x, P x → get t' x = addSt (get t x) ids
  miss : ∀ x, ¬ P x → get t' x = get t x
  ann : ∀ x b, (x, b) ∈ new ↔ P x ∧ b ∈ ids
  annNodup : new.Nodup
  wake : ∀ x b, (x, b) ∈ w ↔ P x ∧ (get t x).waiter = true ∧ (get t x).ready = [] ∧ ids.head? = some b
  fresh : ∀ x, P x → ids.Nodup ∧ ∀ id ∈ ids, id ∉ (get t x).ready

theorem Appended.congr {P Q : Nat → Prop} {ids : List (Nat × Nat)} {t t' : Tracker} {new : List (Nat × (Nat × Nat))}
    {w : List Wake} (a : Appended P ids t t' new w) (h : ∀ x, P x ↔ Q x) : Appended Q ids t t' new w :=
  (funext fun x => propext (h x) : P = Q) ▸ a

theorem Appended.none {P : Nat → Prop} {ids : List (Nat × Nat)} {t t' : Tracker} (hP : ∀ x, ¬ P x)
    (hr : t'.root = t.root) (htop : t'.top = t.top) (hg : ∀ x, get t' x = get t x) : Appended P ids t t' [] [] :=
  ⟨hr, htop, fun x hp => absurd hp (hP x), fun x _ => hg x, fun x _ => ⟨fun h => (by cases h), fun h => absurd h.1 (hP x)⟩,
    List.nodup_nil, fun x _ => ⟨fun h => (by cases h), fun h => absurd h.1 (hP x)⟩, fun x hp => absurd hp (hP x)⟩

theorem Appended.trans {P Q : Nat → Prop} {ids : List (Nat × Nat)} {a b c : Tracker}
    {n1 n2 : List (Nat × (Nat × Nat))} {w1 w2 : List Wake}
    (h1 : Appended P ids a b n1 w1) (h2 : Appended Q ids b c n2 w2) (hdj : ∀ x, P x → ¬ Q x) :
    Appended (fun x => P x ∨ Q x) ids a c (n1 ++ n2) (w1 ++ w2) := by
  have hb : ∀ x, Q x → get b x = get a x := fun x hq => h1.miss x (fun hp => hdj x hp hq)
  refine ⟨h2.root.trans h1.root, h2.top.trans h1.top, ?_, ?_, ?_, ?_, ?_, ?_⟩
  · rintro x (hp | hq)
    · rw [h2.miss x (hdj x hp), h1.hit x hp]
    · rw [h2.hit x hq, hb x hq]
  · intro x hx
    rw [h2.miss x (fun hq => hx (Or.inr hq)), h1.miss x (fun hp => hx (Or.inl hp))]
  · intro x p
    rw [List.mem_append, h1.ann, h2.ann, or_and_right]
  · rw [List.nodup_append]
    refine ⟨h1.annNodup, h2.annNodup, ?_⟩
    rintro ⟨x, p⟩ m1 y m2 rfl
    exact hdj x ((h1.ann x p).mp m1).1 ((h2.ann x p).mp m2).1
  · intro x p
    rw [List.mem_append, h1.wake, h2.wake, or_and_right]
    exact or_congr Iff.rfl (and_congr_right (fun hq => by rw [hb x hq]))
  · rintro x (hp | hq)
    · exact h1.fresh x hp
    · rw [← hb x hq]; exact h2.fresh x hq

theorem Appended.skip {P : Nat → Prop} {ids : List (Nat × Nat)} {t t' : Tracker} {new : List (Nat × (Nat × Nat))}
    {w : List Wake} (a : Appended P ids t t' new w) (u : Nat) : (get t' u).skip = (get t u).skip := by
  by_cases hp : P u
  · rw [a.hit u hp, addSt_skip]
  · rw [a.miss u hp]

theorem Appended.nfs {P : Nat → Prop} {ids : List (Nat × Nat)} {t t' : Tracker} {new : List (Nat × (Nat × Nat))}
    {w : List Wake} (a : Appended P ids t t' new w) (u : Nat) : (get t' u).nfs = (get t u).nfs := by
  by_cases hp : P u
  · rw [a.hit u hp, addSt_nfs]
  · rw [a.miss u hp]

theorem Appended.mem_ready {P : Nat → Prop} {ids : List (Nat × Nat)} {t t' : Tracker} {new : List (Nat × (Nat × Nat))}
    {w : List Wake} (a : Appended P ids t t' new w) (x : Nat) (p : Nat × Nat) :
    p ∈ (get t' x).ready ↔ p ∈ (get t x).ready ∨ (P x ∧ p ∈ ids) := by
  by_cases hP : P x
  · rw [a.hit x hP, addSt_ready, List.mem_append]
    exact or_congr Iff.rfl ⟨fun h => ⟨hP, h⟩, fun h => h.2⟩
  · rw [a.miss x hP]
    exact ⟨Or.inl, fun h => h.resolve_right (fun hh => hP hh.1)⟩

/-- the `if` is the body of one iteration of `fwd` up to the `break` test -/
theorem fwd_head {t : Tracker} {slot : Nat} {ids : List (Nat × Nat)}
    (h : isWindowStart slot = true → ids.Nodup ∧ ∀ id ∈ ids, id ∉ (get t slot).ready) :
    ∃ t1 w1, (if isWindowStart slot then addAllToReady (touch t slot) slot ids else some (touch t slot, [])) = some (t1, w1) ∧
      Appended (fun x => x = slot ∧ isWindowStart slot = true) ids t t1
        (if isWindowStart slot then ids.map (fun p => (slot, p)) else []) w1 := by
  by_cases hs : isWindowStart slot = true
  · obtain ⟨hnd, hdis⟩ := h hs
    obtain ⟨t1, e1, r1, tp1, g1, o1⟩ := addAllToReady_eq (t := touch t slot) hnd (fun id hm => by rw [get_touch]; exact hdis id hm)
    rw [get_touch] at e1 g1
    refine ⟨t1, _, by rw [if_pos hs]; exact e1, r1, tp1, ?_, ?_, ?_, ?_, ?_, by rintro x ⟨rfl, _⟩; exact h hs⟩
    · rintro x ⟨rfl, _⟩; exact g1
    · intro x hx; rw [o1 x (fun e => hx ⟨e, hs⟩), get_touch]
    · intro x b
      rw [if_pos hs, List.mem_map]
      constructor
      · rintro ⟨p, hp, e⟩; cases e; exact ⟨⟨rfl, hs⟩, hp⟩
      · rintro ⟨⟨rfl, _⟩, hb⟩; exact ⟨b, hb, rfl⟩
    · rw [if_pos hs]; exact hnd.map _ fun _ _ n e => n (by cases e; rfl)
    · intro x b
      rw [mem_wakesOf]
      constructor
      · rintro ⟨rfl, hw⟩; exact ⟨⟨rfl, hs⟩, hw⟩
      · rintro ⟨⟨rfl, _⟩, hw⟩; exact ⟨rfl, hw⟩
  · have hs' : isWindowStart slot = false := by simpa using hs
    rw [hs']
    exact ⟨touch t slot, [], rfl, Appended.none (fun x h => Bool.false_ne_true h.2) rfl rfl (get_touch t slot)⟩

/-- `x` is reached by the forward loop started at `a`: every slot in `[a, x)` is skip-certified -/
def Vis (t : Tracker) (a x : Nat) : Prop := a ≤ x ∧ ∀ u, a ≤ u → u < x → (get t u).skip = true

theorem vis_step {t : Tracker} {a x : Nat} : Vis t a x ↔ x = a ∨ ((get t a).skip = true ∧ Vis t (a + 1) x) := by
  constructor
  · rintro ⟨h1, h2⟩
    rcases Nat.eq_or_lt_of_le h1 with e | hlt
    · exact Or.inl e.symm
    · exact Or.inr ⟨h2 a (Nat.le_refl _) hlt, hlt, fun u hu hx => h2 u (Nat.le_of_succ_le hu) hx⟩
  · rintro (e | ⟨h, h1, h2⟩)
    · subst e; exact ⟨Nat.le_refl _, fun u h1 h2 => absurd h2 (Nat.not_lt.mpr h1)⟩
    · refine ⟨Nat.le_of_succ_le h1, fun u hu hx => ?_⟩
      rcases Nat.eq_or_lt_of_le hu with e | hlt
      · exact e ▸ h
      · exact h2 u hlt hx

theorem vis_congr {t t1 : Tracker} {a x : Nat} (h : ∀ u, a ≤ u → (get t1 u).skip = (get t u).skip) :
    Vis t1 a x ↔ Vis t a x := by
  unfold Vis
  exact and_congr_right' (forall_congr' fun u => imp_congr_right fun hu => by rw [h u hu])

/-- The forward loop, whenever it returns; that it returned is what shows `Appended.fresh` (no `assert!` fired). -/
theorem fwd_some {f : Nat} {t : Tracker} {slot : Nat} {ids : List (Nat × Nat)} {t' : Tracker}
    {new : List (Nat × (Nat × Nat))} {w : List Wake} (h : fwd f t slot ids = some (t', new, w)) :
    Appended (fun x => isWindowStart x = true ∧ Vis t slot x ∧ x < slot + f) ids t t' new w := by
  induction f generalizing t slot new w with
  | zero =>
    simp only [fwd, Option.some.injEq, Prod.mk.injEq] at h
    obtain ⟨rfl, rfl, rfl⟩ := h
    exact Appended.none (fun x hp => Nat.lt_irrefl _ (Nat.lt_of_lt_of_le hp.2.2 hp.2.1.1)) rfl rfl (fun _ => rfl)
  | succ f ih =>
    simp only [fwd] at h
    split at h
    · cases h
    · rename_i t1 w1 e1
      -- this iteration returned, so its ids were new
      obtain ⟨_, _, e, hd⟩ := fwd_head (t := t) (slot := slot) (ids := ids) (fun hs => by
        have := addAllToReady_some (if_pos hs ▸ e1)
        rwa [get_touch] at this)
      rw [e1] at e; cases e
      rw [hd.skip] at h
      by_cases hsk : (get t slot).skip = true
      · rw [if_pos hsk] at h
        split at h
        · cases h
        · rename_i t2 new2 w2 e2
          cases h
          -- this slot and the slots reached from the next one are the slots reached from this one
          refine (hd.trans (ih e2) (fun x hp hq => Nat.not_succ_le_self slot (hp.1 ▸ hq.2.1.1))).congr (fun x => ?_)
          rw [vis_step (a := slot), and_iff_right hsk, vis_congr (fun u _ => hd.skip u), Nat.add_right_comm slot 1 f]
          constructor
          · rintro (⟨rfl, hs⟩ | ⟨hs, hv, hlt⟩)
            · exact ⟨hs, Or.inl rfl, Nat.lt_add_of_pos_right (Nat.succ_pos f)⟩
            · exact ⟨hs, Or.inr hv, hlt⟩
          · rintro ⟨hs, (rfl | hv), hlt⟩
            · exact Or.inl ⟨rfl, hs⟩
            · exact Or.inr ⟨hs, hv, hlt⟩
      · rw [if_neg hsk] at h
        cases h
        refine hd.congr (fun x => ?_)
        rw [vis_step, or_iff_left (fun h => hsk h.1)]
        constructor
        · rintro ⟨rfl, hs⟩; exact ⟨hs, rfl, Nat.lt_add_of_pos_right (Nat.succ_pos f)⟩
        · rintro ⟨hs, rfl, _⟩; exact ⟨rfl, hs⟩

def accNfs (g : Nat → PState) (marked s : Nat) (acc : List (Nat × Nat)) : List (Nat × Nat) :=
  if s ≠ marked then acc ++ (g s).nfs.map (fun h => (s, h)) else acc

/-- the list computed by `collect`, as a function of the per-slot states only -/
def collectL (g : Nat → PState) (marked : Nat) : Nat → Nat → List (Nat × Nat) → List (Nat × Nat)
  | 0, _, acc => acc
  | n + 1, s1, acc =>
    if ¬ (g (s1 - 1)).skip then accNfs g marked (s1 - 1) acc
    else collectL g marked n (s1 - 1) (accNfs g marked (s1 - 1) acc ++ (g (s1 - 1)).ready)

theorem collectL_succ (g : Nat → PState) (m n s1 : Nat) (acc : List (Nat × Nat)) :
    collectL g m (n + 1) s1 acc =
      if ¬ (g (s1 - 1)).skip = true then accNfs g m (s1 - 1) acc
      else collectL g m n (s1 - 1) (accNfs g m (s1 - 1) acc ++ (g (s1 - 1)).ready) := rfl

theorem collect_succ (m n : Nat) (t : Tracker) (s1 : Nat) (acc : List (Nat × Nat)) :
    collect m (n + 1) t s1 acc =
      if ¬ (get t (s1 - 1)).skip = true then (touch t (s1 - 1), accNfs (get t) m (s1 - 1) acc)
      else collect m n (touch t (s1 - 1)) (s1 - 1) (accNfs (get t) m (s1 - 1) acc ++ (get t (s1 - 1)).ready) := by
  rw [collect]; simp only [get_touch]; rfl

theorem collect_eq (marked n : Nat) (t : Tracker) (s1 : Nat) (acc : List (Nat × Nat)) :
    (collect marked n t s1 acc).1.root = t.root ∧ (collect marked n t s1 acc).1.top = t.top ∧
    (∀ x, get (collect marked n t s1 acc).1 x = get t x) ∧
    (collect marked n t s1 acc).2 = collectL (get t) marked n s1 acc := by
  induction n generalizing t s1 acc with
  | zero => exact ⟨rfl, rfl, fun _ => rfl, rfl⟩
  | succ n ih =>
    obtain ⟨h1, h2, h3, h4⟩ := ih (touch t (s1 - 1)) (s1 - 1)
      (accNfs (get t) marked (s1 - 1) acc ++ (get t (s1 - 1)).ready)
    rw [collect_succ, collectL_succ]
    by_cases hsk : (get t (s1 - 1)).skip = true
    · rw [if_neg (not_not_intro hsk), if_neg (not_not_intro hsk)]
      refine ⟨h1, h2, fun x => by rw [h3, get_touch], ?_⟩
      rw [h4, show get (touch t (s1 - 1)) = get t from funext (get_touch t (s1 - 1))]
    · rw [if_pos hsk, if_pos hsk]
      exact ⟨rfl, rfl, fun x => get_touch _ _ _, rfl⟩

/-- the tracker after `mark_skip()` on slot `ms` (ghost `top` raised) -/
def skipT1 (t : Tracker) (ms : Nat) : Tracker := { put t ms { get t ms with skip := true } with top := max t.top ms }

theorem get_skipT1_same (t : Tracker) (ms : Nat) : get (skipT1 t ms) ms = { get t ms with skip := true } :=
  get_put_same _ _ _

theorem get_skipT1_other (t : Tracker) {ms x : Nat} (h : x ≠ ms) : get (skipT1 t ms) x = get t x :=
  get_put_other _ _ h

theorem skipT1_nfs (t : Tracker) (ms x : Nat) : (get (skipT1 t ms) x).nfs = (get t x).nfs :=
  get_put_field PState.nfs x

theorem skipT1_ready (t : Tracker) (ms x : Nat) : (get (skipT1 t ms) x).ready = (get t x).ready :=
  get_put_field PState.ready x

theorem skipT1_waiter (t : Tracker) (ms x : Nat) : (get (skipT1 t ms) x).waiter = (get t x).waiter :=
  get_put_field PState.waiter x

theorem markNotarFallback_same {t : Tracker} {b : Nat × Nat} (h : b.1 < t.root ∨ (get t b.1).nfs.contains b.2 = true) :
    ∃ t', markNotarFallback t b = some (t', [], []) ∧ t'.root = t.root ∧ t'.top = t.top ∧ ∀ x, get t' x = get t x := by
  unfold markNotarFallback
  by_cases hr : b.1 < t.root
  · rw [if_pos hr]; exact ⟨t, rfl, rfl, rfl, fun _ => rfl⟩
  · rw [if_neg hr]
    simp only [h.resolve_left hr, if_true]
    exact ⟨_, rfl, rfl, rfl, get_touch _ _⟩

theorem markNotarFallback_fresh {t : Tracker} {b : Nat × Nat}
    (h : ¬ (b.1 < t.root ∨ (get t b.1).nfs.contains b.2 = true)) :
    markNotarFallback t b =
      fwd (t.top + 1 - b.1 + 1) (put t b.1 { get t b.1 with nfs := (get t b.1).nfs ++ [b.2] }) (b.1 + 1) [b] := by
  have hc : ¬ (get t b.1).nfs.contains b.2 = true := fun hc => h (Or.inr hc)
  unfold markNotarFallback
  rw [if_neg (fun hr => h (Or.inl hr))]
  simp only [hc]
  rfl

theorem markSkipped_same {t : Tracker} {s : Nat} (h : s < t.root ∨ (get t s).skip = true) :
    ∃ t', markSkipped t s = some (t', [], []) ∧ t'.root = t.root ∧ t'.top = t.top ∧ ∀ x, get t' x = get t x := by
  unfold markSkipped
  by_cases hr : s < t.root
  · rw [if_pos hr]; exact ⟨t, rfl, rfl, rfl, fun _ => rfl⟩
  · rw [if_neg hr]
    simp only [h.resolve_left hr, if_true]
    exact ⟨_, rfl, rfl, rfl, get_touch _ _⟩

/-- a new skip mark: the forward loop runs with the collected parents, from a tracker that is `skipT1 t ms` as far
    as it can be observed (the backward walk only touches slots) -/
theorem markSkipped_fresh {t : Tracker} {ms : Nat} (h : ¬ (ms < t.root ∨ (get t ms).skip = true)) :
    ∃ c, markSkipped t ms = fwd (c.top + 1 - ms + 1) c (ms + 1)
        (collectL (get c) ms (ms + 1 - max (windowFirst ms) t.root) (ms + 1) []) ∧
      c.root = t.root ∧ c.top = max t.top ms ∧ ∀ x, get c x = get (skipT1 t ms) x := by
  obtain ⟨cr, ctp, cg, cl⟩ := collect_eq ms (ms + 1 - max (windowFirst ms) t.root) (skipT1 t ms) (ms + 1) []
  refine ⟨_, ?_, cr, ctp, cg⟩
  have hc : ¬ (get t ms).skip = true := fun hc => h (Or.inr hc)
  rw [funext cg, ← cl]
  unfold markSkipped
  rw [if_neg (fun hr => h (Or.inl hr))]
  simp only [hc]
  rfl

structure Grow (t t' : Tracker) : Prop where
  root : t'.root = t.root
  top : t.top ≤ t'.top
  skip : ∀ x, (get t x).skip = true → (get t' x).skip = true
  nfs : ∀ x h, h ∈ (get t x).nfs → h ∈ (get t' x).nfs
  ready : ∀ x p, p ∈ (get t x).ready → p ∈ (get t' x).ready
  nonstart : ∀ x, isWindowStart x = false → (get t' x).ready = (get t x).ready
  nodup : ∀ x, (get t x).ready.Nodup → (get t' x).ready.Nodup

theorem Grow.of_get {t t' : Tracker} (hr : t'.root = t.root) (htop : t.top ≤ t'.top) (hg : ∀ x, get t' x = get t x) :
    Grow t t' :=
  ⟨hr, htop, fun x h => by rw [hg]; exact h, fun x _ h => by rw [hg]; exact h, fun x _ h => by rw [hg]; exact h,
    fun x _ => by rw [hg], fun x h => by rw [hg]; exact h⟩

theorem Grow.trans {a b c : Tracker} (h1 : Grow a b) (h2 : Grow b c) : Grow a c :=
  ⟨h2.root.trans h1.root, Nat.le_trans h1.top h2.top, fun x h => h2.skip x (h1.skip x h),
   fun x h hh => h2.nfs x h (h1.nfs x h hh), fun x p hp => h2.ready x p (h1.ready x p hp),
   fun x hx => (h2.nonstart x hx).trans (h1.nonstart x hx), fun x h => h2.nodup x (h1.nodup x h)⟩

theorem grow_put {t : Tracker} {s : Nat} {v : PState}
    (hskip : (get t s).skip = true → v.skip = true) (hnfs : ∀ h, h ∈ (get t s).nfs → h ∈ v.nfs)
    (hready : ∀ p, p ∈ (get t s).ready → p ∈ v.ready)
    (hstart : isWindowStart s = false → v.ready = (get t s).ready)
    (hnd : (get t s).ready.Nodup → v.ready.Nodup) : Grow t (put t s v) :=
  ⟨rfl, Nat.le_refl _, get_put_ind (Q := fun x st => (get t x).skip = true → st.skip = true) hskip (fun _ h => h),
    get_put_ind (Q := fun x st => ∀ h, h ∈ (get t x).nfs → h ∈ st.nfs) hnfs (fun _ _ h => h),
    get_put_ind (Q := fun x st => ∀ p, p ∈ (get t x).ready → p ∈ st.ready) hready (fun _ _ h => h),
    get_put_ind (Q := fun x st => isWindowStart x = false → st.ready = (get t x).ready) hstart (fun _ _ => rfl),
    get_put_ind (Q := fun x st => (get t x).ready.Nodup → st.ready.Nodup) hnd (fun _ h => h)⟩

theorem Appended.grow {P : Nat → Prop} {ids : List (Nat × Nat)} {t t' : Tracker} {new : List (Nat × (Nat × Nat))}
    {w : List Wake} (a : Appended P ids t t' new w) (hws : ∀ x, P x → isWindowStart x = true) : Grow t t' := by
  refine ⟨a.root, Nat.le_of_eq a.top.symm, fun x hx => by rw [a.skip]; exact hx,
    fun x h hx => by rw [a.nfs]; exact hx, ?_, ?_, ?_⟩
  · exact fun x p hp => (a.mem_ready x p).mpr (Or.inl hp)
  · intro x hx
    rw [a.miss x (fun hP => by rw [hws x hP] at hx; cases hx)]
  · intro x hnd
    by_cases hP : P x
    · rw [a.hit x hP, addSt_ready, List.nodup_append]
      exact ⟨hnd, (a.fresh x hP).1, fun p hp q hq e => (a.fresh x hP).2 q hq (e ▸ hp)⟩
    · rw [a.miss x hP]; exact hnd

def MarkOk (t t' : Tracker) (ann : List (Nat × (Nat × Nat))) : Prop :=
  Grow t t' ∧ ∀ a ∈ ann, isWindowStart a.1 = true ∧ a.2 ∈ parentsReady t' a.1

theorem MarkOk.of_get {t t' : Tracker} (hr : t'.root = t.root) (htop : t'.top = t.top) (hg : ∀ x, get t' x = get t x) :
    MarkOk t t' [] :=
  ⟨Grow.of_get hr (Nat.le_of_eq htop.symm) hg, fun _ h => by cases h⟩

/-- both marks end in the forward loop, after steps that lose nothing -/
theorem fwd_ok {f : Nat} {t t0 : Tracker} {slot : Nat} {ids : List (Nat × Nat)} {t' : Tracker}
    {new : List (Nat × (Nat × Nat))} {w : List Wake} (h : fwd f t0 slot ids = some (t', new, w)) (g : Grow t t0) :
    MarkOk t t' new := by
  have app := fwd_some h
  refine ⟨g.trans (app.grow (fun x hp => hp.1)), fun a ha => ?_⟩
  obtain ⟨hp, hb⟩ := (app.ann a.1 a.2).mp ha
  rw [parentsReady_eq_get]
  exact ⟨hp.1, (app.mem_ready a.1 a.2).mpr (Or.inr ⟨hp, hb⟩)⟩

theorem markNotarFallback_ok {t : Tracker} {id : Nat × Nat} {t' : Tracker}
    {ann : List (Nat × (Nat × Nat))} {w : List Wake}
    (h : markNotarFallback t id = some (t', ann, w)) : MarkOk t t' ann := by
  by_cases hk : id.1 < t.root ∨ (get t id.1).nfs.contains id.2 = true
  · obtain ⟨t1, e, r, tp, g⟩ := markNotarFallback_same hk
    rw [e] at h; cases h
    exact MarkOk.of_get r tp g
  · rw [markNotarFallback_fresh hk] at h
    exact fwd_ok h (grow_put (fun hh => hh) (fun _ hh => List.mem_append_left _ hh) (fun _ hh => hh) (fun _ => rfl)
      (fun hh => hh))

theorem markSkipped_ok {t : Tracker} {ms : Nat} {t' : Tracker}
    {ann : List (Nat × (Nat × Nat))} {w : List Wake}
    (h : markSkipped t ms = some (t', ann, w)) : MarkOk t t' ann := by
  by_cases hk : ms < t.root ∨ (get t ms).skip = true
  · obtain ⟨t1, e, r, tp, g⟩ := markSkipped_same hk
    rw [e] at h; cases h
    exact MarkOk.of_get r tp g
  · obtain ⟨c, e, cr, ctp, cg⟩ := markSkipped_fresh hk
    rw [e] at h
    have g1 : Grow t (skipT1 t ms) :=
      (grow_put (v := { get t ms with skip := true }) (fun _ => rfl) (fun _ hh => hh) (fun _ hh => hh) (fun _ => rfl)
        (fun hh => hh)).trans (Grow.of_get rfl (Nat.le_max_left _ _) (fun _ => rfl))
    exact fwd_ok h (g1.trans (Grow.of_get cr (Nat.le_of_eq ctp.symm) cg))

theorem MarkOk.append {a b c : Tracker} {l1 l2 : List (Nat × (Nat × Nat))}
    (h1 : MarkOk a b l1) (h2 : MarkOk b c l2) : MarkOk a c (l1 ++ l2) := by
  refine ⟨h1.1.trans h2.1, ?_⟩
  intro x hx
  rcases List.mem_append.mp hx with h | h
  · have ⟨s, m⟩ := h1.2 x h
    rw [parentsReady_eq_get] at m ⊢
    exact ⟨s, h2.1.ready _ _ m⟩
  · exact h2.2 x h

theorem lastMax_none {l : List (Nat × (Nat × Nat))} (h : lastMax l = none) : l = [] := by
  cases l with
  | nil => rfl
  | cons y ys =>
    simp only [lastMax] at h
    split at h <;> (try split at h) <;> cases h

theorem lastMax_spec {l : List (Nat × (Nat × Nat))} {x : Nat × (Nat × Nat)} (h : lastMax l = some x) :
    x ∈ l ∧ ∀ y ∈ l, y.1 ≤ x.1 := by
  induction l generalizing x with
  | nil => cases h
  | cons z zs ih =>
    cases hm : lastMax zs with
    | none =>
      simp only [lastMax, hm] at h
      cases h
      rw [lastMax_none hm]
      exact ⟨List.mem_cons_self, fun y hy => by rw [List.mem_singleton.mp hy]; exact Nat.le_refl _⟩
    | some m =>
      simp only [lastMax, hm] at h
      obtain ⟨im, ix⟩ := ih hm
      by_cases hge : m.1 ≥ z.1
      · rw [if_pos hge] at h; cases h
        exact ⟨List.mem_cons_of_mem _ im, fun y hy => (List.mem_cons.mp hy).elim (fun e => e ▸ hge) (ix y)⟩
      · rw [if_neg hge] at h; cases h
        exact ⟨List.mem_cons_self, fun y hy => (List.mem_cons.mp hy).elim (fun e => e ▸ Nat.le_refl _)
          (fun hr => Nat.le_trans (ix y hr) (Nat.le_of_lt (Nat.not_le.mp hge)))⟩

theorem mem_of_mem_lastMax {l : List (Nat × (Nat × Nat))} {a : Nat × (Nat × Nat)} (h : a ∈ (lastMax l).toList) : a ∈ l := by
  cases hl : lastMax l with
  | none => rw [hl] at h; cases h
  | some x =>
    rw [hl] at h
    simp only [Option.toList_some, List.mem_singleton] at h
    exact h ▸ (lastMax_spec hl).1

theorem handleFinalization_some {t : Tracker} {ev : Finality.Event} {t' : Tracker}
    {ann : List (Nat × (Nat × Nat))} {w : List Wake} (h : handleFinalization t ev = some (t', ann, w)) :
    ∃ t1 n1 w1 n2 w2, markAllNf t (ev.finalized.toList ++ ev.implFinalized) = some (t1, n1, w1) ∧
      markAllSkipped t1 ev.implSkipped = some (t', n2, w2) ∧ ∀ a ∈ ann, a ∈ n1 ++ n2 := by
  unfold handleFinalization at h
  split at h
  · cases h
  · rename_i t1 n1 w1 h1
    split at h
    · cases h
    · rename_i t2 n2 w2 h2
      cases h
      exact ⟨t1, n1, w1, n2, w2, h1, h2, fun a ha => mem_of_mem_lastMax ha⟩

/-- `handle_finalization` is a sequence of single marks of which fewer announcements are kept: it satisfies every
    relation between trackers and announcement lists that the single marks satisfy and that is reflexive, transitive
    along `++` and closed under announcing less. -/
theorem handleFinalization_rel {R : Tracker → Tracker → List (Nat × (Nat × Nat)) → Prop} {ev : Finality.Event}
    (refl : ∀ t, R t t []) (trans : ∀ {a b c l1 l2}, R a b l1 → R b c l2 → R a c (l1 ++ l2))
    (sub : ∀ {a b l l'}, R a b l → (∀ x ∈ l', x ∈ l) → R a b l')
    (nf : ∀ {t t' n w}, ∀ b ∈ ev.finalized.toList ++ ev.implFinalized, markNotarFallback t b = some (t', n, w) → R t t' n)
    (sk : ∀ {t t' n w}, ∀ s ∈ ev.implSkipped, markSkipped t s = some (t', n, w) → R t t' n)
    {t t' : Tracker} {ann : List (Nat × (Nat × Nat))} {w : List Wake} (h : handleFinalization t ev = some (t', ann, w)) :
    R t t' ann := by
  have hnf : ∀ bs, (∀ b ∈ bs, b ∈ ev.finalized.toList ++ ev.implFinalized) → ∀ {t t' n w},
      markAllNf t bs = some (t', n, w) → R t t' n := by
    intro bs
    induction bs with
    | nil => intro _ t t' n w h; simp only [markAllNf] at h; cases h; exact refl t
    | cons b rest ih =>
      intro hb t t' n w h
      simp only [markAllNf] at h
      split at h
      · cases h
      · rename_i t1 n1 w1 h1
        split at h
        · cases h
        · rename_i t2 n2 w2 h2
          cases h
          exact trans (nf b (hb b List.mem_cons_self) h1) (ih (fun x hx => hb x (List.mem_cons_of_mem _ hx)) h2)
  have hsk : ∀ ss, (∀ s ∈ ss, s ∈ ev.implSkipped) → ∀ {t t' n w},
      markAllSkipped t ss = some (t', n, w) → R t t' n := by
    intro ss
    induction ss with
    | nil => intro _ t t' n w h; simp only [markAllSkipped] at h; cases h; exact refl t
    | cons s rest ih =>
      intro hs t t' n w h
      simp only [markAllSkipped] at h
      split at h
      · cases h
      · rename_i t1 n1 w1 h1
        split at h
        · cases h
        · rename_i t2 n2 w2 h2
          cases h
          exact trans (sk s (hs s List.mem_cons_self) h1) (ih (fun x hx => hs x (List.mem_cons_of_mem _ hx)) h2)
  obtain ⟨t1, n1, w1, n2, w2, h1, h2, hsub⟩ := handleFinalization_some h
  exact sub (trans (hnf _ (fun _ hb => hb) h1) (hsk _ (fun _ hs => hs) h2)) hsub

theorem handleFinalization_ok {t : Tracker} {ev : Finality.Event} {t' : Tracker}
    {ann : List (Nat × (Nat × Nat))} {w : List Wake}
    (h : handleFinalization t ev = some (t', ann, w)) : MarkOk t t' ann :=
  handleFinalization_rel (R := MarkOk) (fun _ => MarkOk.of_get rfl rfl (fun _ => rfl)) MarkOk.append
    (fun r hs => ⟨r.1, fun a ha => r.2 a (hs a ha)⟩) (fun _ _ h => markNotarFallback_ok h) (fun _ _ h => markSkipped_ok h) h

end AgModel.ParentReady
