import AgModel.Proofs.PoolS2N
/-! Completeness of safe-to-notar / safe-to-skip: whenever the condition holds in a reachable slot state, the signal has
been raised (`CInv`, `SInv`). Conversely, the safe-to-notar condition is monotone along a history, so every block recorded in
`sent` satisfies it in the current state, not only when it was announced (`SentSound`). -/
namespace AgModel.Pool

/-- block `h` is *settled*: already signalled, or its condition is false and it is queued in `pending` whenever a
    later skip vote / own vote alone could make the condition true -/
def HInv (e : Epoch) (st : SlotState) (h : Nat) : Prop :=
  h ∈ st.sent ∨
  (¬ S2NCond e st h ∧
   (e.isWeakest (lookupD st.sNotar h) = true → stakeClause e st h = false → h ∈ st.pending) ∧
   (stakeClause e st h = true → st.parents.lookup h = some true → ownNone e st = true → h ∈ st.pending))

def CInv (e : Epoch) (st : SlotState) : Prop := ∀ h, HInv e st h

theorem hinv_iff {e : Epoch} {st : SlotState} {h : Nat} :
    HInv e st h ↔ h ∈ st.sent ∨ (¬ S2NCond e st h ∧ (queued e st h → h ∈ st.pending)) := by
  refine or_congr_right (and_congr_right fun _ => ⟨fun ⟨c1, c2⟩ ⟨w, q⟩ => ?_, fun H => ?_⟩)
  · by_cases cl : stakeClause e st h = true
    · exact q.elim (fun c => absurd cl (by rw [c]; decide)) (fun ⟨pc, on⟩ => c2 cl pc on)
    · exact c1 w (Bool.eq_false_iff.mpr cl)
  · exact ⟨fun w cl => H ⟨w, Or.inl cl⟩, fun cl pc on => H ⟨weakest_of_clause cl, Or.inr ⟨pc, on⟩⟩⟩

/-- everything `HInv e · x` reads, except `pending` / `sent` -/
structure SameAt (e : Epoch) (a b : SlotState) (x : Nat) : Prop where
  notar : lookupD a.sNotar x = lookupD b.sNotar x
  skip : a.sSkip = b.sSkip
  par : a.parents.lookup x = b.parents.lookup x
  ownSkip : a.vSkip.contains e.own = b.vSkip.contains e.own
  ownNotar : a.vNotar.lookup e.own = b.vNotar.lookup e.own

theorem HInv.of_sameAt {e : Epoch} {a b : SlotState} {x : Nat} (s : SameAt e a b x)
    (hs : ∀ y ∈ a.sent, y ∈ b.sent) (hp : x ∈ a.pending → x ∈ b.pending) (i : HInv e a x) : HInv e b x := by
  rcases i with i | ⟨n, c1, c2⟩
  · exact Or.inl (hs x i)
  · right
    unfold S2NCond stakeClause ownVotedNot ownNone at *
    rw [← s.notar, ← s.skip, ← s.par, ← s.ownSkip, ← s.ownNotar]
    exact ⟨n, fun w cl => hp (c1 w cl), fun cl pc on => hp (c2 cl pc on)⟩

theorem HInv.of_same {e : Epoch} {a b : SlotState} {h : Nat} (s : SameCond a b)
    (hs : ∀ x ∈ a.sent, x ∈ b.sent) (hp : h ∈ a.pending → h ∈ b.pending) (i : HInv e a h) : HInv e b h :=
  i.of_sameAt ⟨by rw [s.sNotar], s.sSkip, by rw [s.parents], by rw [s.vSkip], by rw [s.vNotar]⟩ hs hp

theorem checkS2N_sets (e : Epoch) (st : SlotState) (h : Nat) :
    (∀ x ∈ st.sent, x ∈ (st.checkS2N e h).1.sent) ∧
    (∀ x, x ≠ h → x ∈ st.pending → x ∈ (st.checkS2N e h).1.pending) := by
  rw [(checkS2N_spec e st h).1]
  split
  · exact ⟨fun x hx => (mem_insertSet _ _ _).mpr (Or.inl hx), fun x hne hx => (List.mem_erase_of_ne hne).mpr hx⟩
  · split
    · exact ⟨fun _ hx => hx, fun x _ hx => (mem_insertSet _ _ _).mpr (Or.inl hx)⟩
    · exact ⟨fun _ hx => hx, fun _ _ hx => hx⟩

theorem checkS2N_settles (e : Epoch) (st : SlotState) (h : Nat) : HInv e (st.checkS2N e h).1 h := by
  rw [(checkS2N_spec e st h).1]
  split
  · exact Or.inl ((mem_insertSet _ _ _).mpr (Or.inr rfl))
  · rename_i hn
    split
    · exact hinv_iff.mpr (Or.inr ⟨hn, fun _ => (mem_insertSet _ _ _).mpr (Or.inr rfl)⟩)
    · rename_i hq
      exact hinv_iff.mpr (Or.inr ⟨hn, fun q => absurd q hq⟩)

theorem checkS2N_frame (e : Epoch) (st : SlotState) (h x : Nat) (hx : x ≠ h) (i : HInv e st x) :
    HInv e (st.checkS2N e h).1 x := by
  obtain ⟨a, b⟩ := checkS2N_sets e st h
  exact i.of_same (checkS2N_same e st h) a (b x hx)

theorem checkS2N_cinv (e : Epoch) (st : SlotState) (h : Nat) (i : CInv e st) : CInv e (st.checkS2N e h).1 := by
  intro x
  by_cases hx : x = h
  · subst hx; exact checkS2N_settles e st x
  · exact checkS2N_frame e st h x hx (i x)

theorem recheckPending_settles (e : Epoch) (hs : List Nat) (st : SlotState) (acc : List Event)
    (i : ∀ x, HInv e st x ∨ x ∈ hs) : CInv e (SlotState.recheckPending e st hs acc).1 := by
  induction hs generalizing st acc with
  | nil => exact fun x => (i x).resolve_right List.not_mem_nil
  | cons h hs ih =>
    -- either way `h` is settled in the next state `st'` and the other blocks keep their status
    have next : ∀ st', HInv e st' h → (∀ x, x ≠ h → HInv e st x → HInv e st' x) → ∀ x, HInv e st' x ∨ x ∈ hs :=
      fun st' hh keep x => by
        by_cases hxh : x = h
        · exact Or.inl (hxh ▸ hh)
        · exact (i x).imp (keep x hxh) (fun hx => (List.mem_cons.mp hx).resolve_left hxh)
    unfold SlotState.recheckPending
    split
    · rename_i hg
      exact ih _ _ (next st (Or.inl (by simpa [List.contains_eq_mem] using hg)) (fun _ _ hx => hx))
    · exact ih _ _ (next _ (checkS2N_settles e st h) (checkS2N_frame e st h))

theorem recheckPending_cinv (e : Epoch) (hs : List Nat) (st : SlotState) (acc : List Event) (i : CInv e st) :
    CInv e (SlotState.recheckPending e st hs acc).1 :=
  recheckPending_settles e hs st acc (fun x => Or.inl (i x))

theorem CInv.of_eq {e : Epoch} {a b : SlotState} (s : SameCond a b) (hp : b.pending = a.pending) (hs : b.sent = a.sent)
    (i : CInv e a) : CInv e b := by
  intro x
  exact (i x).of_same s (fun y hy => by rw [hs]; exact hy) (fun h => by rw [hp]; exact h)

theorem s2sCheck_point (e : Epoch) (st : SlotState) (x : Nat) :
    (HInv e st x → HInv e (st.s2sCheck e).1 x) ∧ (x ∈ st.pending → x ∈ (st.s2sCheck e).1.pending) := by
  unfold SlotState.s2sCheck
  split
  · exact ⟨fun i => i.of_same ⟨rfl, rfl, rfl, rfl, rfl, rfl, rfl, rfl⟩ (fun y hy => hy) id, fun h => h⟩
  · exact ⟨fun i => i, fun h => h⟩

theorem notarTail_point (e : Epoch) (B : SlotState) (h x : Nat) :
    HInv e (notarTail e B h).1 h ∧
    (x ≠ h → HInv e B x → HInv e (notarTail e B h).1 x) ∧
    (x ≠ h → x ∈ B.pending → x ∈ (notarTail e B h).1.pending) := by
  unfold notarTail
  split
  · exact ⟨(s2sCheck_point e _ h).1 (checkS2N_settles e B h),
      fun hx i => (s2sCheck_point e _ x).1 (checkS2N_frame e B h x hx i),
      fun hx hp => (s2sCheck_point e _ x).2 ((checkS2N_sets e B h).2 x hx hp)⟩
  · rename_i hg
    exact ⟨(s2sCheck_point e _ h).1 (Or.inl (by simpa [List.contains_eq_mem] using hg)),
      fun _ i => (s2sCheck_point e _ x).1 i, fun _ hp => (s2sCheck_point e _ x).2 hp⟩

theorem skipTail_cinv (e : Epoch) (B : SlotState) (i : ∀ x, HInv e B x ∨ x ∈ B.pending) : CInv e (skipTail e B).1 := by
  unfold skipTail
  exact fun x => (s2sCheck_point e _ x).1 (recheckPending_settles e B.pending B [] i x)

theorem stakeClause_mono {e : Epoch} {a b : SlotState} {h : Nat} (h1 : lookupD a.sNotar h ≤ lookupD b.sNotar h)
    (h2 : a.sSkip ≤ b.sSkip) (c : stakeClause e a h = true) : stakeClause e b h = true := by
  unfold stakeClause Epoch.isWeakest Epoch.isWeak Epoch.isQuorum at *
  simp only [Bool.and_eq_true, Bool.or_eq_true] at *
  refine ⟨isMet_mono h1 c.1, ?_⟩
  rcases c.2 with c2 | c2
  · exact Or.inl (isMet_mono h1 c2)
  · exact Or.inr (isMet_mono (by omega) c2)

/-- from `a` to `b` a vote was stored, seen from block `x`: the stakes grew, the parent entry is the same, and a node that had
    cast its initial vote reads the same own vote -/
structure AfterVote (e : Epoch) (a b : SlotState) (x : Nat) : Prop where
  notar : lookupD a.sNotar x ≤ lookupD b.sNotar x
  skip : a.sSkip ≤ b.sSkip
  par : b.parents.lookup x = a.parents.lookup x
  none : ownNone e b = true → ownNone e a = true
  voted : ownNone e a = false → ownVotedNot e b x = ownVotedNot e a x

theorem ownNone_of_votedNot {e : Epoch} {a : SlotState} {x : Nat} (h : ownVotedNot e a x = true) : ownNone e a = false := by
  unfold ownVotedNot at h
  unfold ownNone
  cases hs : a.vSkip.contains e.own
  · rw [hs] at h
    cases hl : a.vNotar.lookup e.own
    · rw [hl] at h; cases h
    · rfl
  · rfl

theorem AfterVote.mono {e : Epoch} {a b : SlotState} {x : Nat} (g : AfterVote e a b x) (c : S2NCond e a x) : S2NCond e b x :=
  ⟨stakeClause_mono g.notar g.skip c.1, g.par.trans c.2.1, (g.voted (ownNone_of_votedNot c.2.2)).trans c.2.2⟩

/-- a settled block whose notar stake is the same stays settled or is in `pending`: if it was not queued, the vote completes
    neither the condition nor what queues the block -/
theorem HInv.later {e : Epoch} {a b : SlotState} {x : Nat} (g : AfterVote e a b x) (hw : lookupD b.sNotar x = lookupD a.sNotar x)
    (hs : b.sent = a.sent) (hp : b.pending = a.pending) (i : HInv e a x) : HInv e b x ∨ x ∈ b.pending := by
  rcases hinv_iff.mp i with i | ⟨n, q⟩
  · exact Or.inl (Or.inl (hs ▸ i))
  by_cases hq : queued e a x
  · exact Or.inr (hp ▸ q hq)
  have cl : stakeClause e b x = false → stakeClause e a x = false := fun h =>
    Bool.eq_false_iff.mpr fun c => by rw [stakeClause_mono g.notar g.skip c] at h; cases h
  refine Or.inl (hinv_iff.mpr (Or.inr ⟨fun c => ?_, fun qB => absurd ⟨hw ▸ qB.1, qB.2.imp cl (fun pc => ⟨g.par ▸ pc.1, g.none pc.2⟩)⟩ hq⟩))
  -- nor safe: the stake clause and the parent's certificate were there before (else queued), so the node had voted, and
  -- not against `x`
  have w : e.isWeakest (lookupD a.sNotar x) = true := hw ▸ weakest_of_clause c.1
  have pc := g.par ▸ c.2.1
  have ca : stakeClause e a x = true := by
    cases h : stakeClause e a x
    · exact absurd ⟨w, Or.inl h⟩ hq
    · rfl
  have on : ownNone e a = false := by
    cases h : ownNone e a
    · rfl
    · exact absurd ⟨w, Or.inr ⟨pc, h⟩⟩ hq
  exact n ⟨ca, pc, (g.voted on).symm.trans c.2.2⟩

/-- an admitted notarization or skip vote is its signer's first: if it is the node's own, the node had not voted -/
theorem stored_afterVote (e : Epoch) (st : SlotState) (v : Vote) (ha : Adm st v) (x : Nat) : AfterVote e st (st.stored e v) x := by
  unfold SlotState.stored
  cases hk : v.kind <;> dsimp only
  case notar =>
    obtain ⟨a1, a2, _⟩ := adm_notar_facts st v hk ha
    have hl := fun y => lookup_after_store st.vNotar v.signer v.hash y a2
    refine ⟨by rw [lookupD_addTo]; exact Nat.le_add_right _ _, Nat.le_refl _, rfl, fun h => ?_, fun h => ?_⟩
    · unfold ownNone at h ⊢
      dsimp only at h
      rw [hl] at h
      split at h
      · rw [Bool.and_eq_true] at h; exact absurd h.2 (by simp)
      · exact h
    · unfold ownVotedNot
      dsimp only
      rw [hl, if_neg]
      intro ho
      unfold ownNone at h
      rw [ho, a2, Bool.eq_false_iff] at h
      exact h (by simpa [List.contains_eq_mem] using a1)
  case skip =>
    obtain ⟨_, a2, a3, _⟩ := adm_skip_facts st v hk ha
    refine ⟨Nat.le_refl _, Nat.le_add_right _ _, rfl, fun h => ?_, fun h => ?_⟩
    · unfold ownNone at h ⊢
      dsimp only at h
      rw [contains_append_single, Bool.not_or, Bool.and_assoc, Bool.and_comm (!(e.own == v.signer)), ← Bool.and_assoc,
        Bool.and_eq_true] at h
      exact h.1
    · unfold ownVotedNot
      dsimp only
      rw [contains_append_single, beq_eq_false_iff_ne.mpr, Bool.or_false]
      intro ho
      unfold ownNone at h
      rw [ho, a2, Bool.eq_false_iff] at h
      exact h (by simpa [List.contains_eq_mem] using a3)
  case nf | sf | final => exact ⟨Nat.le_refl _, Nat.le_refl _, rfl, id, fun _ => rfl⟩

theorem stored_notar_other (e : Epoch) (st : SlotState) (v : Vote) (x : Nat) (h : v.kind = .notar → x ≠ v.hash) :
    lookupD (st.stored e v).sNotar x = lookupD st.sNotar x := by
  unfold SlotState.stored
  cases hk : v.kind <;> dsimp only
  rw [lookupD_addTo, if_neg (h hk), Nat.add_zero]

/-- a vote that is neither a skip vote nor a notarization by the node or for `x` changes nothing block `x` reads -/
theorem stored_sameAt (e : Epoch) (st : SlotState) (v : Vote) (ha : Adm st v) (x : Nat) (h1 : v.kind ≠ .skip)
    (h2 : v.kind = .notar → x ≠ v.hash ∧ v.signer ≠ e.own) : SameAt e st (st.stored e v) x := by
  unfold SlotState.stored
  cases hk : v.kind <;> dsimp only
  case notar =>
    refine ⟨?_, rfl, rfl, rfl, ?_⟩
    · rw [lookupD_addTo, if_neg (h2 hk).1, Nat.add_zero]
    · rw [lookup_after_store _ _ _ _ (adm_notar_facts st v hk ha).2.1, if_neg (fun h => (h2 hk).2 h.symm)]
  case skip => exact absurd hk h1
  case nf | sf | final => exact ⟨rfl, rfl, rfl, rfl, rfl⟩

theorem ownWrap_cinv (e : Epoch) (v : Vote) (r : SlotState × List Cert × List Event)
    (i : ∀ x, HInv e r.1 x ∨ (v.signer = e.own ∧ x ∈ r.1.pending)) : CInv e (ownWrap e v r).1 := by
  unfold ownWrap
  split
  · exact recheckPending_settles e _ _ [] fun x => (i x).imp_right And.right
  · rename_i hne
    exact fun x => (i x).resolve_right fun h => hne h.1

theorem addVote_cinv (e : Epoch) (st : SlotState) (v : Vote) (ha : Adm st v) (i : CInv e st) : CInv e (st.addVote e v).1 := by
  rw [addVote_eq]
  apply ownWrap_cinv
  -- after store, count and tail every block is settled, except that the node's own notarization vote can leave a block
  -- unsettled but in `pending` (`HInv.later`): that is what the own-vote re-check is there for
  intro x
  rw [(countOf_tail e st v).1]
  have hs := (stored_same e st v).sent
  have hp := (stored_same e st v).pending
  have later : ∀ y, (v.kind = .notar → y ≠ v.hash) → HInv e (st.stored e v) y ∨ y ∈ (st.stored e v).pending := fun y hy =>
    (i y).later (stored_afterVote e st v ha y) (stored_notar_other e st v y hy) hs hp
  have same : ∀ y, v.kind ≠ .skip → (v.kind = .notar → y ≠ v.hash ∧ v.signer ≠ e.own) → HInv e (st.stored e v) y :=
    fun y h1 h2 => (i y).of_sameAt (stored_sameAt e st v ha y h1 h2) (fun z hz => hs ▸ hz) (fun h => hp ▸ h)
  unfold voteTail
  cases hk : v.kind <;> rw [hk] at later same <;> dsimp only
  · obtain ⟨p1, p2, p3⟩ := notarTail_point e (st.stored e v) v.hash x
    by_cases hx : x = v.hash
    · exact Or.inl (hx ▸ p1)
    · by_cases ho : v.signer = e.own
      · exact (later x fun _ => hx).imp (p2 hx) (fun h => ⟨ho, p3 hx h⟩)
      · exact Or.inl (p2 hx (same x nofun fun _ => ⟨hx, ho⟩))
  · exact Or.inl (same x nofun nofun)
  · exact Or.inl (skipTail_cinv e _ (fun y => later y nofun) x)
  · exact Or.inl (skipTail_cinv e _ (fun y => Or.inl (same y nofun nofun)) x)
  · exact Or.inl (same x nofun nofun)

theorem addCert_ps (a : SlotState) (c : Cert) : (a.addCert c).pending = a.pending := by
  obtain ⟨_, _, _, _, _, h⟩ := addCert_writes a c
  rw [h]

theorem cinv_moves (e : Epoch) : SlotMoves e (CInv e) where
  vote := addVote_cinv e
  cert := fun st c i => i.of_eq (addCert_same st c) (addCert_ps st c) (addCert_sent st c)
  known := fun st h hn i x => by
    -- a new parent is not certified: the conditions of its block are false, those of the others unchanged
    have hl := lookup_after_store st.parents h false x hn
    by_cases hx : x = h
    · rw [if_pos hx] at hl
      rcases i x with ii | ⟨n, c1, c2⟩
      · exact Or.inl ii
      · refine Or.inr ⟨fun c => ?_, c1, fun _ pc => ?_⟩
        · have := c.2.1; dsimp only at this; rw [hl] at this; cases this
        · dsimp only at pc; rw [hl] at pc; cases pc
    · rw [if_neg hx] at hl
      exact HInv.of_sameAt (a := st) ⟨rfl, rfl, hl.symm, rfl, rfl⟩ (fun y hy => hy) id (i x)
  certified := fun st h i => by
    have frame : ∀ x, x ≠ h → HInv e (st.certify h) x := fun x hx =>
      HInv.of_sameAt (a := st) ⟨rfl, rfl, by rw [SlotState.certify, lookup_map_certified, if_neg hx], rfl, rfl⟩
        (fun y hy => hy) id (i x)
    refine ⟨fun hg x => ?_, fun _ x => ?_⟩
    · by_cases hx : x = h
      · exact Or.inl (hx ▸ hg)
      · exact frame x hx
    · by_cases hx : x = h
      · rw [hx]; exact checkS2N_settles e _ h
      · exact checkS2N_frame e _ h x hx (frame x hx)

theorem CInv.init (e : Epoch) (slot : Nat) : CInv e { slot := slot } := by
  intro x
  refine Or.inr ⟨fun c => ?_, fun w cl => ?_, fun _ pc => ?_⟩
  · have := c.2.1; simp at this
  · -- with no stake counted the weakest threshold is met only if the total stake is zero, and then every threshold is
    have h0 : e.total = 0 := Nat.eq_zero_of_not_pos fun hpos =>
      Bool.false_ne_true ((isMet_no_stake hpos (by decide)).symm.trans w)
    unfold stakeClause Epoch.isWeakest Epoch.isWeak isMet at cl
    simp [lookupD, h0] at cl
  · simp at pc

def SInv (e : Epoch) (st : SlotState) : Prop := S2SCond e st → st.sentS2S = true

theorem SInv.frame {e : Epoch} {a b : SlotState} (h1 : a.sNotarOrSkip = b.sNotarOrSkip) (h2 : a.sTopNotar = b.sTopNotar)
    (h3 : a.vNotar = b.vNotar) (h4 : a.sentS2S = true → b.sentS2S = true) (i : SInv e a) : SInv e b := by
  intro c
  apply h4
  apply i
  unfold S2SCond at *
  rw [h1, h2, h3]; exact c

theorem SInv.of_same {e : Epoch} {a b : SlotState} (s : SameCond a b) (h4 : a.sentS2S = true → b.sentS2S = true)
    (i : SInv e a) : SInv e b := i.frame s.nos s.top s.vNotar h4

theorem s2sCheck_sinv (e : Epoch) (st : SlotState) : SInv e (st.s2sCheck e).1 := by
  unfold SlotState.s2sCheck
  split
  · intro _; rfl
  · rename_i hc
    intro c
    unfold S2SCond at c
    cases hs : st.sentS2S
    · exfalso; apply hc; simp [hs, c.1, c.2]
    · rfl

theorem countOf_sinv (e : Epoch) (st : SlotState) (v : Vote) (i : SInv e st) : SInv e (countOf e st v).1 := by
  rw [(countOf_tail e st v).1]
  unfold voteTail SlotState.stored
  cases v.kind <;> dsimp only
  · unfold notarTail; split <;> exact s2sCheck_sinv e _
  · exact i.frame rfl rfl rfl id
  · exact s2sCheck_sinv e _
  · exact s2sCheck_sinv e _
  · exact i.frame rfl rfl rfl id

theorem addVote_sinv (e : Epoch) (st : SlotState) (v : Vote) (i : SInv e st) : SInv e (st.addVote e v).1 := by
  rw [addVote_eq]
  unfold ownWrap
  split
  · obtain ⟨c, _, m⟩ := (checks_emit e).1 (countOf e st v).1.pending (countOf e st v).1
    exact (countOf_sinv e st v i).of_same c m.s2sMono
  · exact countOf_sinv e st v i

theorem sinv_moves (e : Epoch) : SlotMoves e (SInv e) where
  vote := fun st v _ => addVote_sinv e st v
  cert := fun st c i => i.of_same (addCert_same st c) (fun h => by rw [addCert_sentS2S st c]; exact h)
  known := fun _ _ _ i => i.frame rfl rfl rfl id
  certified := fun st h i =>
    have iB : SInv e (st.certify h) := i.frame rfl rfl rfl id
    ⟨fun _ => iB, fun _ => iB.of_same (checkS2N_same e _ h) (fun hh => by rw [checkS2N_sentS2S]; exact hh)⟩

theorem SInv.init (e : Epoch) (slot : Nat) : SInv e { slot := slot } := by
  intro c; have := c.2; simp at this

theorem S2NCond.certify {e : Epoch} {st : SlotState} {h : Nat} (c : S2NCond e st h) (x : Nat) : S2NCond e (st.certify x) h := by
  refine ⟨c.1, ?_, c.2.2⟩
  rw [SlotState.certify, lookup_map_certified, c.2.1]
  split <;> rfl

theorem s2nCond_moves (e : Epoch) (h : Nat) : SlotMoves e (S2NCond e · h) where
  vote := fun st v ha c => ((stored_afterVote e st v ha h).mono c).of_same (addVote_same e st v)
  cert := fun st c' c => c.of_same (addCert_same st c')
  known := fun st x hn c => by
    -- the new parent is not the block `h`, whose parent is known and certified
    refine ⟨c.1, ?_, c.2.2⟩
    show (st.parents ++ [(x, false)]).lookup h = some true
    rw [lookup_after_store _ _ _ _ hn, if_neg (fun hx => by have := c.2.1; rw [hx, hn] at this; cases this)]
    exact c.2.1
  certified := fun st x c => ⟨fun _ => c.certify x, fun _ => (c.certify x).of_same (checkS2N_same e _ x)⟩

def SentSound (e : Epoch) (st : SlotState) : Prop := ∀ h ∈ st.sent, S2NCond e st h

/-- a step under which the condition is monotone: what is newly recorded was announced, hence justified -/
theorem SentSound.of_step {e : Epoch} {a b : SlotState} {evs : List Event} (i : SentSound e a) (ht : Signals a b evs)
    (hs : EvSound e b evs) (hmono : ∀ h, S2NCond e a h → S2NCond e b h) : SentSound e b := by
  intro h hh
  rcases (ht.s2n.iff h).mp hh with x | x
  · exact hmono h (i h x)
  · obtain ⟨s, hm⟩ := s2n_of_mem_s2nHash x
    exact (hs _ hm).2

theorem sentSound_moves (e : Epoch) : SlotMoves e (SentSound e) where
  vote := fun st v ha i => i.of_step (addVote_emit e st v).2 (addVote_emit e st v).1
    (fun h => (s2nCond_moves e h).vote st v ha)
  cert := fun st c i h hh => by
    rw [addCert_sent st c] at hh
    exact (i h hh).of_same (addCert_same st c)
  known := fun st x hn i h hh => (s2nCond_moves e h).known st x hn (i h hh)
  certified := fun st x i =>
    have iB : SentSound e (st.certify x) := fun h hh => (i h hh).certify x
    ⟨fun _ => iB, fun hx => iB.of_step (checkS2N_emit e (st.certify x) x hx).2.2 (checkS2N_emit e (st.certify x) x hx).2.1
      (fun _ c => c.of_same (checkS2N_same e _ x))⟩

end AgModel.Pool
