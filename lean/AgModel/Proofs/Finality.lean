import AgModel.Model.Finality
/-!
Helper lemmas about `AgModel.Finality` (core Lean only).

The model functions are analysed once each: the implicit-skip loop by `skipLoop_skipped` / `skipLoop_open`, the
ancestor walk by the big-step relation `Walk` (`Walk.of_walk`, and the equations `walk_stop`, `walk_mark`,
`walk_last` for computing it), one operation by `step_cases`.  Everything else is stated on those.
-/
namespace AgModel.Finality

theorem setSt_self (st : Nat → Option Status) (s : Nat) (v : Status) : setSt st s v s = some v := if_pos rfl

theorem setSt_ne (st : Nat → Option Status) {s x : Nat} (v : Status) (h : x ≠ s) : setSt st s v x = st x :=
  if_neg h

def Dec (o : Option Status) : Prop := ∃ x, o = some x ∧ x.decided = true

theorem not_dec_none : ¬ Dec none := by
  intro ⟨x, h, _⟩; cases h

theorem dec_some {x : Status} : Dec (some x) ↔ x.decided = true := by
  constructor
  · intro ⟨y, h, hd⟩; cases h; exact hd
  · intro h; exact ⟨x, rfl, h⟩

theorem dec_skipped : Dec (some Status.implSkipped) := dec_some.mpr rfl

def finalHash : Option Status → Option Nat
  | some (.finalized h) => some h
  | some (.implFinalized h) => some h
  | _ => none

theorem finalHash_eq_some {o : Option Status} {h : Nat} :
    finalHash o = some h ↔ o = some (.finalized h) ∨ o = some (.implFinalized h) := by
  constructor
  · intro e
    cases o with
    | none => cases e
    | some x =>
      cases x with
      | finalized _ => cases e; exact Or.inl rfl
      | implFinalized _ => cases e; exact Or.inr rfl
      | notarized _ | finalPending | implSkipped => cases e
  · rintro (rfl | rfl) <;> rfl

theorem dec_cases {o : Option Status} (d : Dec o) :
    (∃ h, finalHash o = some h) ∨ o = some .implSkipped := by
  obtain ⟨x, rfl, hd⟩ := d
  cases x with
  | notarized h | finalPending => cases hd
  | finalized h | implFinalized h => exact Or.inl ⟨h, rfl⟩
  | implSkipped => exact Or.inr rfl

theorem skipped_iff_of_dec {o : Option Status} (d : Dec o) : o = some .implSkipped ↔ finalHash o = none := by
  rcases dec_cases d with ⟨h, e⟩ | e
  · exact ⟨fun e' => (by rw [e'] at e; cases e), fun e' => (by rw [e'] at e; cases e)⟩
  · exact ⟨fun _ => e ▸ rfl, fun _ => e⟩

theorem undec_cases {o : Option Status} (n : ¬ Dec o) :
    o = none ∨ (∃ h, o = some (.notarized h)) ∨ o = some .finalPending := by
  cases o with
  | none => exact Or.inl rfl
  | some x =>
    cases x with
    | notarized h => exact Or.inr (Or.inl ⟨h, rfl⟩)
    | finalPending => exact Or.inr (Or.inr rfl)
    | finalized _ | implFinalized _ | implSkipped => exact absurd (dec_some.mpr rfl) n

theorem dec_of_finalHash {o : Option Status} {h : Nat} (e : finalHash o = some h) : Dec o := by
  rcases finalHash_eq_some.mp e with rfl | rfl <;> exact dec_some.mpr rfl

def Evolves (st st' : Nat → Option Status) (lo hi : Nat) : Prop :=
  ∀ s, st' s = st s ∨ (lo ≤ s ∧ s < hi ∧ Dec (st' s) ∧ ¬ Dec (st s))

theorem Evolves.trans {a b c : Nat → Option Status} {lo hi : Nat}
    (h1 : Evolves a b lo hi) (h2 : Evolves b c lo hi) : Evolves a c lo hi := by
  intro s
  rcases h2 s with e2 | ⟨l2, u2, d2, n2⟩
  · rcases h1 s with e1 | ⟨l1, u1, d1, n1⟩
    · exact Or.inl (e2.trans e1)
    · exact Or.inr ⟨l1, u1, e2 ▸ d1, n1⟩
  · rcases h1 s with e1 | ⟨l1, u1, d1, n1⟩
    · exact Or.inr ⟨l2, u2, d2, e1 ▸ n2⟩
    · exact absurd d1 n2

theorem Evolves.mono {a b : Nat → Option Status} {lo hi lo' hi' : Nat}
    (h : Evolves a b lo hi) (hl : lo' ≤ lo) (hh : hi ≤ hi') : Evolves a b lo' hi' := by
  intro s
  rcases h s with e | ⟨l, u, d, n⟩
  · exact Or.inl e
  · exact Or.inr ⟨Nat.le_trans hl l, Nat.lt_of_lt_of_le u hh, d, n⟩

theorem Evolves.below {a b : Nat → Option Status} {lo hi x : Nat} (h : Evolves a b lo hi) (hx : x < lo) : b x = a x :=
  (h x).elim id fun c => absurd hx (Nat.not_lt.mpr c.1)

theorem evolves_set {st : Nat → Option Status} {s lo hi : Nat} {v : Status}
    (hl : lo ≤ s) (hh : s < hi) (hv : v.decided = true) (hn : ¬ Dec (st s)) :
    Evolves st (setSt st s v) lo hi := by
  intro x
  by_cases hx : x = s
  · subst hx; exact Or.inr ⟨hl, hh, setSt_self st x v ▸ dec_some.mpr hv, hn⟩
  · exact Or.inl (setSt_ne st v hx)

/-- the statuses the implicit-skip loop overwrites -/
def Open (o : Option Status) : Prop := o = none ∨ ∃ h, o = some (.notarized h)

theorem Open.not_dec {o : Option Status} (h : Open o) : ¬ Dec o := by
  rcases h with rfl | ⟨_, rfl⟩
  · exact not_dec_none
  · intro d; cases dec_some.mp d

/-- what the implicit-skip loop has done when it leaves after `k` rounds -/
structure Skipped (st st' : Nat → Option Status) (lo k : Nat) : Prop where
  inside : ∀ x, lo ≤ x → x < lo + k → Open (st x) ∧ st' x = some .implSkipped
  outside : ∀ x, ¬ (lo ≤ x ∧ x < lo + k) → st' x = st x

theorem Skipped.zero {st : Nat → Option Status} {lo : Nat} : Skipped st st lo 0 :=
  ⟨fun _ a b => absurd b (Nat.not_lt.mpr a), fun _ _ => rfl⟩

theorem Skipped.cons {st st' : Nat → Option Status} {lo k : Nat} (ho : Open (st lo))
    (h : Skipped (setSt st lo .implSkipped) st' (lo + 1) k) : Skipped st st' lo (k + 1) := by
  constructor
  · intro x a b
    by_cases hx : x = lo
    · subst hx
      exact ⟨ho, (h.outside x (fun c => Nat.lt_irrefl _ c.1)).trans (setSt_self _ _ _)⟩
    · have := h.inside x (Nat.lt_of_le_of_ne a (Ne.symm hx)) (Nat.lt_of_lt_of_eq b (Nat.add_right_comm lo k 1))
      rwa [setSt_ne _ _ hx] at this
  · intro x hx
    have hlo : x ≠ lo := fun e => hx ⟨Nat.le_of_eq e.symm, e ▸ Nat.lt_add_of_pos_right (Nat.succ_pos k)⟩
    rw [h.outside x (fun c => hx ⟨Nat.le_of_succ_le c.1, Nat.lt_of_lt_of_eq c.2 (Nat.add_right_comm lo 1 k)⟩)]
    exact setSt_ne _ _ hlo

theorem skipLoop_skipped {st : Nat → Option Status} {acc : List Nat} {n lo : Nat}
    {st' : Nat → Option Status} {sk : List Nat}
    (h : skipLoop st acc n lo = .cont st' sk ∨ skipLoop st acc n lo = .ret st' sk) :
    ∃ k, k ≤ n ∧ sk = acc ++ List.range' lo k ∧ Skipped st st' lo k := by
  induction n generalizing st acc lo with
  | zero =>
    simp only [skipLoop] at h
    rcases h with h | h <;> cases h
    exact ⟨0, Nat.le_refl _, (List.append_nil _).symm, .zero⟩
  | succ n ih =>
    have next : Open (st lo) →
        (∃ k, k ≤ n ∧ sk = acc ++ [lo] ++ List.range' (lo + 1) k ∧ Skipped (setSt st lo .implSkipped) st' (lo + 1) k) →
        ∃ k, k ≤ n + 1 ∧ sk = acc ++ List.range' lo k ∧ Skipped st st' lo k :=
      fun ho ⟨k, hk, e, s⟩ =>
        ⟨k + 1, Nat.succ_le_succ hk, by rw [e, List.range'_succ, List.append_assoc]; rfl, s.cons ho⟩
    simp only [skipLoop] at h
    split at h
    · rcases h with h | h <;> cases h
      exact ⟨0, Nat.zero_le _, (List.append_nil _).symm, .zero⟩
    · rename_i hst; exact next (Or.inr ⟨_, hst⟩) (ih h)
    · rename_i hst; exact next (Or.inl hst) (ih h)
    · rcases h with h | h <;> cases h

theorem skipLoop_open {st : Nat → Option Status} {acc : List Nat} {n lo : Nat}
    (h : ∀ s, lo ≤ s → s < lo + n → Open (st s)) :
    ∃ st', skipLoop st acc n lo = .cont st' (acc ++ List.range' lo n) ∧ Skipped st st' lo n := by
  induction n generalizing st acc lo with
  | zero => exact ⟨st, by rw [List.range'_zero, List.append_nil]; rfl, .zero⟩
  | succ n ih =>
    have ho := h lo (Nat.le_refl _) (Nat.lt_add_of_pos_right (Nat.succ_pos n))
    obtain ⟨st', e, s⟩ := ih (st := setSt st lo .implSkipped) (acc := acc ++ [lo]) (lo := lo + 1) (by
      intro s h1 h2
      rw [setSt_ne _ _ (Nat.ne_of_gt h1)]
      exact h s (Nat.le_of_succ_le h1) (Nat.lt_of_lt_of_eq h2 (Nat.add_right_comm lo 1 n)))
    refine ⟨st', ?_, s.cons ho⟩
    rw [List.range'_succ, List.append_cons, ← e]
    rcases ho with h0 | ⟨_, h0⟩ <;> simp only [skipLoop, h0]

/-- the loop as the walk calls it: over the slots strictly between `lo` and `hi` -/
theorem skipLoop_between {st : Nat → Option Status} {acc : List Nat} {lo hi : Nat}
    (h : ∀ s, lo < s → s < hi → Open (st s)) :
    ∃ st', skipLoop st acc (hi - lo - 1) (lo + 1) = .cont st' (acc ++ List.range' (lo + 1) (hi - lo - 1)) ∧
      (∀ x, lo < x → x < hi → st' x = some .implSkipped) ∧ (∀ x, ¬ (lo < x ∧ x < hi) → st' x = st x) := by
  have hb : ∀ x, (lo + 1 ≤ x ∧ x < lo + 1 + (hi - lo - 1)) ↔ (lo < x ∧ x < hi) := by
    intro x
    by_cases h : lo + 1 ≤ hi
    · rw [Nat.sub_sub, Nat.add_sub_cancel' h]; exact Iff.rfl
    · rw [Nat.sub_sub, Nat.sub_eq_zero_of_le (Nat.le_of_lt (Nat.not_le.mp h)), Nat.add_zero]
      exact ⟨fun ⟨a, b⟩ => absurd a (Nat.not_le.mpr b),
        fun ⟨a, b⟩ => absurd (Nat.le_of_lt (Nat.lt_of_le_of_lt a b)) h⟩
  obtain ⟨st', e, s⟩ := skipLoop_open (st := st) (acc := acc) (n := hi - lo - 1) (lo := lo + 1)
    (fun s a b => h s ((hb s).mp ⟨a, b⟩).1 ((hb s).mp ⟨a, b⟩).2)
  exact ⟨st', e, fun x a b => (s.inside x ((hb x).mpr ⟨a, b⟩).1 ((hb x).mpr ⟨a, b⟩).2).2,
    fun x a => s.outside x (fun c => a ((hb x).mp c))⟩

theorem Skipped.evolves {st st' : Nat → Option Status} {lo k : Nat} (h : Skipped st st' lo k) :
    Evolves st st' lo (lo + k) := by
  intro x
  by_cases hx : lo ≤ x ∧ x < lo + k
  · have ⟨o, e⟩ := h.inside x hx.1 hx.2
    exact Or.inr ⟨hx.1, hx.2, e ▸ dec_skipped, o.not_dec⟩
  · exact Or.inl (h.outside x hx)

/-- What `handle_implicitly_finalized(src, blk, ev)` can end in, as a big-step relation; `blk = none` stands for
    "no parent registered", where the walk ends.  The walk does nothing (`same`: no parent, or a block below the
    watermark); or some open slots after the block are skipped, and then either the walk ends — the loop returned early,
    or found the block finalized already — (`stop`), or the block is marked `ImplicitlyFinalized` and the walk goes on
    with its registered parent (`mark`).  The constructors keep only the premises the lemmas below need (`same` has
    none), so the relation bounds the function (`Walk.of_walk`) and does not determine it. -/
inductive Walk : Tracker → Nat → Option (Nat × Nat) → Event → Tracker → Event → Prop
  | same {t : Tracker} {src : Nat} {b : Option (Nat × Nat)} {ev : Event} : Walk t src b ev t ev
  | stop {t : Tracker} {src : Nat} {blk : Nat × Nat} {ev : Event} {st : Nat → Option Status} {k : Nat}
      (hf : t.first ≤ blk.1) (hk : blk.1 + 1 + k ≤ src) (hl : Skipped t.status st (blk.1 + 1) k) :
      Walk t src (some blk) ev { t with status := st }
        { ev with implSkipped := ev.implSkipped ++ List.range' (blk.1 + 1) k }
  | mark {t : Tracker} {src : Nat} {blk : Nat × Nat} {ev : Event} {st : Nat → Option Status} {k : Nat}
      {t' : Tracker} {ev' : Event} (hf : t.first ≤ blk.1) (hk : blk.1 + 1 + k ≤ src)
      (hl : Skipped t.status st (blk.1 + 1) k) (hn : ¬ Dec (st blk.1))
      (hw : Walk { t with status := setSt st blk.1 (.implFinalized blk.2) } blk.1 (t.parents blk)
        { ev with implSkipped := ev.implSkipped ++ List.range' (blk.1 + 1) k,
                  implFinalized := ev.implFinalized ++ [blk] } t' ev') :
      Walk t src (some blk) ev t' ev'

theorem Walk.of_walk {f : Nat} {t : Tracker} {src : Nat} {blk : Nat × Nat} {ev : Event}
    {t' : Tracker} {ev' : Event} (h : walk f t src blk ev = some (t', ev')) : Walk t src (some blk) ev t' ev' := by
  induction f generalizing t src blk ev with
  | zero => simp only [walk] at h; cases h
  | succ f ih =>
    unfold walk at h
    split at h
    · cases h
    split at h
    · cases h; exact .same
    rename_i hlt hfirst
    have hlt : blk.1 < src := Decidable.not_not.mp hlt
    have hfirst : t.first ≤ blk.1 := Nat.not_lt.mp hfirst
    have hle : ∀ {k}, k ≤ src - blk.1 - 1 → blk.1 + 1 + k ≤ src :=
      fun hk => Nat.add_le_of_le_sub' hlt (Nat.sub_sub src blk.1 1 ▸ hk)
    split at h
    · cases h
    · rename_i st sk hloop
      obtain ⟨k, hk, rfl, s⟩ := skipLoop_skipped (Or.inr hloop)
      cases h
      exact .stop hfirst (hle hk) s
    · rename_i st sk hloop
      obtain ⟨k, hk, e, s⟩ := skipLoop_skipped (Or.inl hloop)
      have hk := hle hk
      have hgo : ¬ Dec (st blk.1) →
          (match t.parents blk with
            | some p => walk f { t with status := setSt st blk.1 (.implFinalized blk.2) } blk.1 p
                { finalized := ev.finalized, implFinalized := ev.implFinalized ++ [blk], implSkipped := sk }
            | none => some ({ t with status := setSt st blk.1 (.implFinalized blk.2) },
                { finalized := ev.finalized, implFinalized := ev.implFinalized ++ [blk], implSkipped := sk })) = some (t', ev') →
          Walk t src (some blk) ev t' ev' := by
        intro hn hw
        subst e
        refine .mark hfirst hk s hn ?_
        split at hw
        · rename_i p hp; rw [hp]; exact ih hw
        · rename_i hp; rw [hp]; cases hw; exact .same
      dsimp only at h
      split at h
      · split at h
        · cases h; exact e ▸ .stop hfirst hk s
        · cases h
      · split at h
        · cases h; exact e ▸ .stop hfirst hk s
        · cases h
      · cases h
      · rename_i hst; exact hgo (hst ▸ fun d => nomatch dec_some.mp d) h
      · rename_i hst; exact hgo (hst ▸ fun d => nomatch dec_some.mp d) h
      · rename_i hst; exact hgo (hst ▸ not_dec_none) h

/-! The same cases as equations, for computing the walk; `src ≤ f` is the invariant of all call sites. -/

theorem walk_stop {f : Nat} {t : Tracker} {src : Nat} {blk : Nat × Nat} {ev : Event}
    {st : Nat → Option Status} {sk : List Nat} (hfuel : src ≤ f) (hs : blk.1 < src) (hf : t.first ≤ blk.1)
    (hl : skipLoop t.status ev.implSkipped (src - blk.1 - 1) (blk.1 + 1) = .cont st sk)
    (he : finalHash (st blk.1) = some blk.2) :
    walk f t src blk ev = some ({ t with status := st }, { ev with implSkipped := sk }) := by
  cases f with
  | zero => exact absurd (Nat.lt_of_lt_of_le hs hfuel) (Nat.not_lt_zero _)
  | succ f =>
    unfold walk
    rw [if_neg (fun h => h hs), if_neg (Nat.not_lt.mpr hf)]
    simp only [hl]
    rcases finalHash_eq_some.mp he with e | e <;> simp only [e, if_true]

theorem walk_mark {f : Nat} {t : Tracker} {src : Nat} {blk : Nat × Nat} {ev : Event}
    {st : Nat → Option Status} {sk : List Nat} (hs : blk.1 < src) (hf : t.first ≤ blk.1)
    (hl : skipLoop t.status ev.implSkipped (src - blk.1 - 1) (blk.1 + 1) = .cont st sk)
    (hn : ¬ Dec (st blk.1)) :
    walk (f + 1) t src blk ev =
      match t.parents blk with
      | some p => walk f { t with status := setSt st blk.1 (.implFinalized blk.2) } blk.1 p
          { ev with implSkipped := sk, implFinalized := ev.implFinalized ++ [blk] }
      | none => some ({ t with status := setSt st blk.1 (.implFinalized blk.2) },
          { ev with implSkipped := sk, implFinalized := ev.implFinalized ++ [blk] }) := by
  conv => lhs; unfold walk
  rw [if_neg (fun h => h hs), if_neg (Nat.not_lt.mpr hf)]
  simp only [hl]
  rcases undec_cases hn with e | ⟨_, e⟩ | e <;> simp only [e] <;> rfl

theorem walk_last {f : Nat} {t : Tracker} {src : Nat} {blk : Nat × Nat} {ev : Event}
    {st : Nat → Option Status} {sk : List Nat} (hfuel : src ≤ f) (hs : blk.1 < src) (hf : t.first ≤ blk.1)
    (hl : skipLoop t.status ev.implSkipped (src - blk.1 - 1) (blk.1 + 1) = .cont st sk)
    (hn : ¬ Dec (st blk.1)) (hp : t.parents blk = none) :
    walk f t src blk ev = some ({ t with status := setSt st blk.1 (.implFinalized blk.2) },
      { ev with implSkipped := sk, implFinalized := ev.implFinalized ++ [blk] }) := by
  cases f with
  | zero => exact absurd (Nat.lt_of_lt_of_le hs hfuel) (Nat.not_lt_zero _)
  | succ f => rw [walk_mark hs hf hl hn, hp]

structure WalkSpec (t t' : Tracker) (src : Nat) : Prop where
  highest : t'.highest = t.highest
  first : t'.first = t.first
  parents : t'.parents = t.parents
  evolves : Evolves t.status t'.status t.first src

theorem walk_spec {t : Tracker} {src : Nat} {b : Option (Nat × Nat)} {ev : Event}
    {t' : Tracker} {ev' : Event} (h : Walk t src b ev t' ev') : WalkSpec t t' src := by
  induction h with
  | same => exact ⟨rfl, rfl, rfl, fun _ => Or.inl rfl⟩
  | stop hf hk s => exact ⟨rfl, rfl, rfl, s.evolves.mono (Nat.le_succ_of_le hf) hk⟩
  | mark hf hk s hn _ ih =>
    have hs := Nat.lt_of_lt_of_le (Nat.lt_succ_of_le (Nat.le_add_right _ _)) (Nat.add_right_comm _ 1 _ ▸ hk)
    exact ⟨ih.highest, ih.first, ih.parents,
      ((s.evolves.mono (Nat.le_succ_of_le hf) hk).trans (evolves_set hf hs rfl hn)).trans
        (ih.evolves.mono (Nat.le_refl _) (Nat.le_of_lt hs))⟩

theorem walk_finalized {t : Tracker} {src : Nat} {b : Option (Nat × Nat)} {ev : Event}
    {t' : Tracker} {ev' : Event} (h : Walk t src b ev t' ev') : ev'.finalized = ev.finalized := by
  induction h with
  | same | stop => rfl
  | mark _ _ _ _ _ ih => exact ih

theorem advance_spec (st : Nat → Option Status) : ∀ f first,
    first ≤ advance st f first ∧ advance st f first ≤ first + f ∧
    (∀ s, first < s → s ≤ advance st f first → Dec (st s)) ∧
    (advance st f first < first + f → ¬ Dec (st (advance st f first + 1)))
  | 0, first => ⟨Nat.le_refl _, Nat.le_refl _, fun _ h1 h2 => absurd h1 (Nat.not_lt.mpr h2),
      fun h => absurd h (Nat.lt_irrefl _)⟩
  | f + 1, first => by
    have stay : ¬ Dec (st (first + 1)) → first ≤ first ∧ first ≤ first + (f + 1) ∧
        (∀ s, first < s → s ≤ first → Dec (st s)) ∧ (first < first + (f + 1) → ¬ Dec (st (first + 1))) :=
      fun n => ⟨Nat.le_refl _, Nat.le_add_right _ _, fun _ h1 h2 => absurd h1 (Nat.not_lt.mpr h2), fun _ => n⟩
    simp only [advance]
    split
    · rename_i x hx
      split
      · rename_i hd
        have ⟨a, b, c, d⟩ := advance_spec st f (first + 1)
        refine ⟨Nat.le_trans (Nat.le_succ _) a, Nat.le_trans b (Nat.le_of_eq (Nat.add_right_comm first 1 f)),
          fun s h1 h2 => ?_, fun h => d (Nat.lt_of_lt_of_eq h (Nat.add_right_comm first f 1))⟩
        by_cases hs : s = first + 1
        · subst hs; exact ⟨x, hx, hd⟩
        · exact c s (Nat.lt_of_le_of_ne h1 (Ne.symm hs)) h2
      · rename_i hd; exact stay (by rw [hx, dec_some]; exact hd)
    · rename_i hx; exact stay (by rw [hx]; exact not_dec_none)

theorem prune_status (t : Tracker) (s : Nat) :
    (prune t).status s = if s < (prune t).first then none else t.status s := rfl
theorem prune_parents (t : Tracker) (b : Nat × Nat) :
    (prune t).parents b = if b.1 < (prune t).first then none else t.parents b := rfl
theorem prune_first_ge (t : Tracker) : t.first ≤ (prune t).first := (advance_spec _ _ _).1
theorem prune_first_le (t : Tracker) : (prune t).first ≤ t.first + (t.highest - t.first) :=
  (advance_spec _ _ _).2.1

theorem prune_status_ge {t : Tracker} {s : Nat} (h : (prune t).first ≤ s) : (prune t).status s = t.status s :=
  if_neg (Nat.not_lt.mpr h)
theorem prune_parents_ge {t : Tracker} {b : Nat × Nat} (h : (prune t).first ≤ b.1) :
    (prune t).parents b = t.parents b :=
  if_neg (Nat.not_lt.mpr h)

/-- C08: "nothing is discarded before the whole prefix below it is decided". -/
theorem prune_only_decided (t : Tracker) (s : Nat) (h1 : t.first < s) (h2 : s ≤ (prune t).first) :
    Dec (t.status s) :=
  (advance_spec t.status _ t.first).2.2.1 s h1 h2

theorem prune_stops {t : Tracker} (h : (prune t).first < t.highest) : ¬ Dec (t.status ((prune t).first + 1)) :=
  (advance_spec t.status _ t.first).2.2.2 (by
    rw [Nat.add_sub_cancel' (Nat.le_of_lt (Nat.lt_of_le_of_lt (prune_first_ge t) h))]; exact h)

def Stable (st st' : Nat → Option Status) : Prop :=
  ∀ s, Dec (st s) → Dec (st' s) ∧ finalHash (st' s) = finalHash (st s)

theorem Stable.refl (st : Nat → Option Status) : Stable st st := fun _ h => ⟨h, rfl⟩

theorem Stable.trans {a b c : Nat → Option Status} (h1 : Stable a b) (h2 : Stable b c) : Stable a c := by
  intro s hd
  have ⟨d1, e1⟩ := h1 s hd
  have ⟨d2, e2⟩ := h2 s d1
  exact ⟨d2, e2.trans e1⟩

theorem Evolves.stable {a b : Nat → Option Status} {lo hi : Nat} (h : Evolves a b lo hi) : Stable a b := by
  intro s hd
  rcases h s with e | ⟨_, _, _, n⟩
  · rw [e]; exact ⟨hd, rfl⟩
  · exact absurd hd n

theorem stable_set {st : Nat → Option Status} {s : Nat} {v : Status}
    (h : Dec (st s) → v.decided = true ∧ finalHash (some v) = finalHash (st s)) : Stable st (setSt st s v) := by
  intro x hd
  by_cases hx : x = s
  · subst hx
    rw [setSt_self]
    exact ⟨dec_some.mpr (h hd).1, (h hd).2⟩
  · rw [setSt_ne _ _ hx]; exact ⟨hd, rfl⟩

structure InvB (t : Tracker) (hb : Nat) : Prop where
  first_le : t.first ≤ hb
  st_pruned : ∀ s, s < t.first → t.status s = none
  par_pruned : ∀ b, b.1 < t.first → t.parents b = none
  dec_le : ∀ s, Dec (t.status s) → s ≤ hb
  par_lt : ∀ b p, t.parents b = some p → p.1 < b.1

def Inv (t : Tracker) : Prop := InvB t t.highest

theorem init_status_pos {s : Nat} (h : s ≠ 0) : init.status s = none := if_neg h

theorem init_not_dec (s : Nat) : ¬ Dec (init.status s) := by
  by_cases h : s = 0
  · subst h; intro d; cases dec_some.mp d
  · rw [init_status_pos h]; exact not_dec_none

theorem inv_init : Inv init :=
  ⟨Nat.le_refl _, fun s h => absurd h (Nat.not_lt_zero s), fun _ _ => rfl, fun s d => absurd d (init_not_dec s),
    fun _ _ h => nomatch h⟩

theorem prune_inv {t : Tracker} (h : Inv t) : Inv (prune t) := by
  refine ⟨?_, ?_, ?_, ?_, ?_⟩
  · have := prune_first_le t
    rwa [Nat.add_sub_cancel' h.first_le] at this
  · intro s hs; exact if_pos hs
  · intro b hb; exact if_pos hb
  · intro s hd
    rw [prune_status] at hd
    split at hd
    · exact absurd hd not_dec_none
    · exact h.dec_le s hd
  · intro b p hp
    rw [prune_parents] at hp
    split at hp
    · cases hp
    · exact h.par_lt b p hp

structure StepSpec (t t' : Tracker) : Prop where
  inv : Inv t'
  highest : t.highest ≤ t'.highest
  first : t.first ≤ t'.first
  stable : ∀ s, Dec (t.status s) → s < t'.first ∨ (Dec (t'.status s) ∧ finalHash (t'.status s) = finalHash (t.status s))
  parents_stable : ∀ b p, t.parents b = some p → b.1 < t'.first ∨ t'.parents b = some p

/-- the state between the mutation and the final `prune()` of an operation -/
structure MidSpec (t t1 : Tracker) : Prop where
  inv : Inv t1
  highest : t.highest ≤ t1.highest
  first : t1.first = t.first
  stable : Stable t.status t1.status
  parents_stable : ∀ b p, t.parents b = some p → t1.parents b = some p

theorem MidSpec.step {t t1 : Tracker} (h : MidSpec t t1) : StepSpec t t1 :=
  ⟨h.inv, h.highest, Nat.le_of_eq h.first.symm, fun s hd => Or.inr (h.stable s hd),
   fun b p hp => Or.inr (h.parents_stable b p hp)⟩

theorem MidSpec.prune_step {t t1 : Tracker} (h : MidSpec t t1) : StepSpec t (prune t1) := by
  refine ⟨prune_inv h.inv, h.highest, h.first ▸ prune_first_ge t1, ?_, ?_⟩
  · intro s hd
    by_cases hs : s < (prune t1).first
    · exact Or.inl hs
    · rw [prune_status_ge (Nat.not_lt.mp hs)]; exact Or.inr (h.stable s hd)
  · intro b p hp
    by_cases hs : b.1 < (prune t1).first
    · exact Or.inl hs
    · rw [prune_parents_ge (Nat.not_lt.mp hs)]; exact Or.inr (h.parents_stable b p hp)

theorem walk_mid {t0 t : Tracker} {src : Nat} {b : Option (Nat × Nat)} {ev : Event}
    {t' : Tracker} {ev' : Event} (hm : MidSpec t0 t) (hsrc : src ≤ t.highest)
    (h : Walk t src b ev t' ev') : MidSpec t0 t' := by
  have w := walk_spec h
  have hi := hm.inv
  refine ⟨⟨?_, ?_, ?_, ?_, ?_⟩, ?_, ?_, ?_, ?_⟩
  · rw [w.first, w.highest]; exact hi.first_le
  · intro s hs
    rw [w.first] at hs
    exact (w.evolves.below hs).trans (hi.st_pruned s hs)
  · intro b hb; rw [w.first] at hb; rw [w.parents]; exact hi.par_pruned b hb
  · intro s hd
    rw [w.highest]
    rcases w.evolves s with e | ⟨_, u, _, _⟩
    · rw [e] at hd; exact hi.dec_le s hd
    · exact Nat.le_trans (Nat.le_of_lt u) hsrc
  · intro b p hp; rw [w.parents] at hp; exact hi.par_lt b p hp
  · rw [w.highest]; exact hm.highest
  · rw [w.first]; exact hm.first
  · exact hm.stable.trans w.evolves.stable
  · intro b p hp; rw [w.parents]; exact hm.parents_stable b p hp

theorem mid_set {t : Tracker} (hi : Inv t) {s hb : Nat} {v : Status} (hs : t.first ≤ s)
    (hhb : t.highest ≤ hb) (hv : v.decided = true → s ≤ hb)
    (hold : Dec (t.status s) → v.decided = true ∧ finalHash (some v) = finalHash (t.status s)) :
    MidSpec t { t with status := setSt t.status s v, highest := hb } := by
  refine ⟨⟨Nat.le_trans hi.first_le hhb, ?_, hi.par_pruned, ?_, hi.par_lt⟩, hhb, rfl, stable_set hold,
    fun _ _ hp => hp⟩
  · intro x (hx : x < t.first)
    exact (setSt_ne _ _ (Nat.ne_of_lt (Nat.lt_of_lt_of_le hx hs))).trans (hi.st_pruned x hx)
  · intro x (hd' : Dec (setSt t.status s v x))
    by_cases hx : x = s
    · subst hx; rw [setSt_self] at hd'; exact hv (dec_some.mp hd')
    · rw [setSt_ne _ _ hx] at hd'; exact Nat.le_trans (hi.dec_le x hd') hhb

theorem mid_highest_eq {t : Tracker} : ({ t with highest := t.highest } : Tracker) = t := rfl

theorem mid_setPar {t : Tracker} (hi : Inv t) {blk par : Nat × Nat} (hlt : par.1 < blk.1)
    (hf : t.first ≤ blk.1) (hnone : t.parents blk = none) :
    MidSpec t { t with parents := setPar t.parents blk par } := by
  refine ⟨⟨hi.first_le, hi.st_pruned, ?_, hi.dec_le, ?_⟩, Nat.le_refl _, rfl, Stable.refl _, ?_⟩
  · intro b (hb : b.1 < t.first)
    have : b ≠ blk := by intro e; subst e; exact Nat.not_lt.mpr hf hb
    exact (if_neg this).trans (hi.par_pruned b hb)
  · intro b p (hp' : (if b = blk then some par else t.parents b) = some p)
    split at hp'
    · rename_i e; cases hp'; rw [e]; exact hlt
    · exact hi.par_lt b p hp'
  · intro b p hp
    have : b ≠ blk := by intro e; subst e; rw [hnone] at hp; cases hp
    exact (if_neg this).trans hp

def Op.certSlot : Op → Option Nat
  | .parent _ _ => none
  | .fastFinal b => some b.1
  | .notar b => some b.1
  | .final s => some s

/-- the certificate `op` rewrites the status `o` of its slot `s` to `v` without deciding anything: the same
    certificate again, or the fast-finalization certificate of the block the slot is already finalized with -/
inductive Rewrites : Op → Nat → Option Status → Status → Prop
  | fast {b : Nat × Nat} {o : Option Status} (h : finalHash o = some b.2) :
      Rewrites (.fastFinal b) b.1 o (.finalized b.2)
  | notar {b : Nat × Nat} {o : Option Status} (h : o = none ∨ o = some (.notarized b.2)) :
      Rewrites (.notar b) b.1 o (.notarized b.2)
  | final {s : Nat} {o : Option Status} (h : o = none ∨ o = some .finalPending) :
      Rewrites (.final s) s o .finalPending

/-- the certificate `op` completes the direct finalization of block `(s, h)`, the status of slot `s` being `o` -/
inductive Completes : Op → Nat → Option Status → Nat → Prop
  | fast {b : Nat × Nat} {o : Option Status} (h : o = none ∨ o = some (.notarized b.2) ∨ o = some .finalPending) :
      Completes (.fastFinal b) b.1 o b.2
  | notar {b : Nat × Nat} : Completes (.notar b) b.1 (some .finalPending) b.2
  | final {s h : Nat} : Completes (.final s) s (some (.notarized h)) h

/-- the certificate `op` for slot `s` contradicts the status `o` of the slot: the "consensus safety violation"
    assertions of the three `mark_*` functions -/
inductive Conflict : Op → Nat → Option Status → Prop
  | fastFinal {b : Nat × Nat} {o : Option Status} {h : Nat} (e : finalHash o = some h) (ne : h ≠ b.2) :
      Conflict (.fastFinal b) b.1 o
  | fastNotar {b : Nat × Nat} {h : Nat} (ne : h ≠ b.2) : Conflict (.fastFinal b) b.1 (some (.notarized h))
  | fastSkipped {b : Nat × Nat} : Conflict (.fastFinal b) b.1 (some .implSkipped)
  | notarNotar {b : Nat × Nat} {h : Nat} (ne : h ≠ b.2) : Conflict (.notar b) b.1 (some (.notarized h))
  | notarFinal {b : Nat × Nat} {h : Nat} (ne : h ≠ b.2) : Conflict (.notar b) b.1 (some (.finalized h))
  | finalSkipped {s : Nat} : Conflict (.final s) s (some .implSkipped)

theorem Rewrites.same {op : Op} {s : Nat} {o : Option Status} {v : Status} (h : Rewrites op s o v) :
    (Dec o → v.decided = true ∧ finalHash (some v) = finalHash o) ∧ (v.decided = true → Dec o) := by
  cases h with
  | fast h => exact ⟨fun _ => ⟨rfl, h.symm⟩, fun _ => dec_of_finalHash h⟩
  | notar h | final h =>
    refine ⟨fun d => ?_, fun hv => nomatch hv⟩
    rcases h with rfl | rfl
    · exact absurd d not_dec_none
    · cases dec_some.mp d

theorem Completes.slot {op : Op} {s : Nat} {o : Option Status} {h : Nat} (c : Completes op s o h) :
    op.certSlot = some s := by
  cases c <;> rfl

theorem Completes.not_dec {op : Op} {s : Nat} {o : Option Status} {h : Nat} (c : Completes op s o h) :
    ¬ Dec o := by
  cases c with
  | fast h =>
    rcases h with rfl | rfl | rfl
    · exact not_dec_none
    · intro d; cases dec_some.mp d
    · intro d; cases dec_some.mp d
  | notar | final => intro d; cases dec_some.mp d

inductive Idle (t : Tracker) : Op → Prop
  | low {op : Op} {s : Nat} (hs : op.certSlot = some s) (hl : s < t.first) : Idle t op
  | decided {op : Op} {s : Nat} (hs : op.certSlot = some s) (hd : Dec (t.status s)) : Idle t op
  | linkLow {blk par : Nat × Nat} (hl : blk.1 < t.first) : Idle t (.parent blk par)
  | linkKnown {blk par : Nat × Nat} (hf : t.first ≤ blk.1) (hp : t.parents blk = some par) : Idle t (.parent blk par)

/-- `handle_finalized_block`, the tail of `add_parent` for a finalized block: an ancestor walk, then `prune()` -/
def walkPrune (t : Tracker) (src : Nat) (p : Nat × Nat) (ev : Event) : Res :=
  match walk src t src p ev with
  | some (t2, ev2) => .ok (prune t2) ev2
  | none => .panic

inductive StepCase (t : Tracker) (op : Op) : Res → Prop
  | idle (h : Idle t op) : StepCase t op (.ok t {})
  | set {s : Nat} {v : Status} (hf : t.first ≤ s) (h : Rewrites op s (t.status s) v) :
      StepCase t op (.ok { t with status := setSt t.status s v } {})
  | fin {s h : Nat} {r : Res} (hf : t.first ≤ s) (hc : Completes op s (t.status s) h)
      (hr : handleFinalizedBlock { t with status := setSt t.status s (.finalized h) } (s, h) {} = r) :
      StepCase t op r
  | link {blk par : Nat × Nat} (ho : op = .parent blk par) (hlt : par.1 < blk.1) (hf : t.first ≤ blk.1)
      (hp : t.parents blk = none) (hn : finalHash (t.status blk.1) ≠ some blk.2) :
      StepCase t op (.ok { t with parents := setPar t.parents blk par } {})
  | linkWalk {blk par : Nat × Nat} {r : Res} (ho : op = .parent blk par) (hlt : par.1 < blk.1) (hf : t.first ≤ blk.1)
      (hp : t.parents blk = none) (he : finalHash (t.status blk.1) = some blk.2)
      (hr : walkPrune { t with parents := setPar t.parents blk par } blk.1 par {} = r) : StepCase t op r
  | conflict {s : Nat} (hf : t.first ≤ s) (h : Conflict op s (t.status s)) : StepCase t op .panic
  | badLink {blk par : Nat × Nat} (ho : op = .parent blk par)
      (h : ¬ par.1 < blk.1 ∨ (t.first ≤ blk.1 ∧ ∃ p, t.parents blk = some p ∧ p ≠ par)) : StepCase t op .panic

/-- the guard the three `mark_*` functions start with: a certificate for a slot below the watermark is ignored -/
theorem StepCase.retained {t : Tracker} {op : Op} {s : Nat} {r : Res} (hs : op.certSlot = some s)
    (h : t.first ≤ s → StepCase t op r) : StepCase t op (if s < t.first then .ok t {} else r) := by
  split
  · rename_i hl; exact .idle (.low hs hl)
  · rename_i hf; exact h (Nat.not_lt.mp hf)

theorem step_cases (t : Tracker) (op : Op) : StepCase t op (step t op) := by
  cases op with
  | parent blk par =>
    show StepCase t _ (addParent t blk par)
    unfold addParent
    split
    · rename_i h; exact .badLink rfl (Or.inl h)
    rename_i hlt
    have hlt : par.1 < blk.1 := Decidable.not_not.mp hlt
    split
    · rename_i hl; exact .idle (.linkLow hl)
    rename_i hf
    have hf : t.first ≤ blk.1 := Nat.not_lt.mp hf
    split
    · rename_i p hp
      split
      · rename_i e; exact .idle (.linkKnown hf (e ▸ hp))
      · rename_i ne; exact .badLink rfl (Or.inr ⟨hf, p, hp, ne⟩)
    rename_i hp
    have hw : ∀ h, finalHash (t.status blk.1) = some h → StepCase t (.parent blk par)
        (if blk.2 = h then walkPrune { t with parents := setPar t.parents blk par } blk.1 par {}
        else .ok { t with parents := setPar t.parents blk par } {}) := by
      intro h e
      split
      · rename_i e'; exact .linkWalk rfl hlt hf hp (e' ▸ e) rfl
      · rename_i ne; exact .link rfl hlt hf hp (fun e' => ne (Option.some.inj (e.symm.trans e')).symm)
    dsimp only
    split
    · rename_i h hst; exact hw h (by rw [show t.status blk.1 = _ from hst]; rfl)
    · rename_i h hst; exact hw h (by rw [show t.status blk.1 = _ from hst]; rfl)
    · rename_i n1 n2
      exact .link rfl hlt hf hp (fun e => (finalHash_eq_some.mp e).elim (n1 _) (n2 _))
  | fastFinal b =>
    refine .retained rfl fun hf => ?_
    split
    · rename_i h hst
      split
      · rename_i e; exact .set hf (.fast (by rw [hst, e]; rfl))
      · rename_i ne; exact .conflict hf (.fastFinal (by rw [hst]; rfl) ne)
    · rename_i h hst
      split
      · rename_i e; exact .set hf (.fast (by rw [hst, e]; rfl))
      · rename_i ne; exact .conflict hf (.fastFinal (by rw [hst]; rfl) ne)
    · rename_i h hst
      split
      · rename_i e; exact .fin hf (.fast (Or.inr (Or.inl (by rw [hst, e])))) rfl
      · rename_i ne; exact .conflict hf (hst ▸ .fastNotar ne)
    · rename_i hst; exact .fin hf (.fast (Or.inr (Or.inr hst))) rfl
    · rename_i hst; exact .conflict hf (hst ▸ .fastSkipped)
    · rename_i hst; exact .fin hf (.fast (Or.inl hst)) rfl
  | notar b =>
    refine .retained rfl fun hf => ?_
    split
    · rename_i hst; exact .set hf (.notar (Or.inl hst))
    · rename_i h hst
      split
      · rename_i e; exact .set hf (.notar (Or.inr (by rw [hst, e])))
      · rename_i ne; exact .conflict hf (hst ▸ .notarNotar ne)
    · rename_i h hst
      split
      · exact .idle (.decided (s := b.1) rfl (hst ▸ dec_some.mpr rfl))
      · rename_i ne; exact .conflict hf (hst ▸ .notarFinal ne)
    · rename_i h hst; exact .idle (.decided (s := b.1) rfl (hst ▸ dec_some.mpr rfl))
    · rename_i hst; exact .idle (.decided (s := b.1) rfl (hst ▸ dec_skipped))
    · rename_i hst; exact .fin hf (hst ▸ .notar) rfl
  | final s =>
    refine .retained rfl fun hf => ?_
    split
    · rename_i hst; exact .set hf (.final (Or.inl hst))
    · rename_i hst; exact .set hf (.final (Or.inr hst))
    · rename_i h hst; exact .idle (.decided (s := s) rfl (hst ▸ dec_some.mpr rfl))
    · rename_i h hst; exact .idle (.decided (s := s) rfl (hst ▸ dec_some.mpr rfl))
    · rename_i h hst; exact .fin hf (hst ▸ .final) rfl
    · rename_i hst; exact .conflict hf (hst ▸ .finalSkipped)

theorem walkPrune_eq {t : Tracker} {src : Nat} {p : Nat × Nat} {ev : Event} {t2 : Tracker} {ev2 : Event}
    (h : walk src t src p ev = some (t2, ev2)) : walkPrune t src p ev = .ok (prune t2) ev2 := by
  unfold walkPrune; rw [h]

theorem walkPrune_walk {t : Tracker} {src : Nat} {p : Nat × Nat} {ev : Event} {t' : Tracker} {ev' : Event}
    (h : walkPrune t src p ev = .ok t' ev') : ∃ m, Walk t src (some p) ev m ev' ∧ t' = prune m := by
  unfold walkPrune at h
  split at h
  · rename_i hw; cases h; exact ⟨_, Walk.of_walk hw, rfl⟩
  · cases h

theorem hfb_none {t : Tracker} {blk : Nat × Nat} {ev : Event} (hp : t.parents blk = none) :
    handleFinalizedBlock t blk ev =
      .ok (prune { t with highest := max blk.1 t.highest }) { ev with finalized := some blk } := by
  simp only [handleFinalizedBlock, hp]

theorem hfb_some {t : Tracker} {blk p : Nat × Nat} {ev : Event} (hp : t.parents blk = some p) :
    handleFinalizedBlock t blk ev =
      walkPrune { t with highest := max blk.1 t.highest } blk.1 p { ev with finalized := some blk } := by
  simp only [handleFinalizedBlock, hp]; rfl

theorem hfb_walk {t : Tracker} {blk : Nat × Nat} {ev : Event} {t' : Tracker} {ev' : Event}
    (h : handleFinalizedBlock t blk ev = .ok t' ev') :
    ∃ m, Walk { t with highest := max blk.1 t.highest } blk.1 (t.parents blk) { ev with finalized := some blk } m ev' ∧
      t' = prune m := by
  cases hp : t.parents blk with
  | none => rw [hfb_none hp] at h; cases h; exact ⟨_, .same, rfl⟩
  | some p => rw [hfb_some hp] at h; exact walkPrune_walk h

theorem step_spec {t : Tracker} (hi : Inv t) {op : Op} {t' : Tracker} {ev : Event}
    (h : step t op = .ok t' ev) : StepSpec t t' := by
  have c := step_cases t op
  rw [h] at c
  cases c with
  | idle => exact ⟨hi, Nat.le_refl _, Nat.le_refl _, fun _ hd => Or.inr ⟨hd, rfl⟩, fun _ _ hp => Or.inr hp⟩
  | set hf hr =>
    exact (mid_set hi hf (Nat.le_refl _) (fun hv => hi.dec_le _ (hr.same.2 hv)) hr.same.1).step
  | @fin s hh _ hf hc hr =>
    obtain ⟨m, hw, rfl⟩ := hfb_walk hr
    have hm := mid_set (v := .finalized hh) hi hf (Nat.le_max_right _ _) (fun _ => Nat.le_max_left _ _)
      (fun d => absurd d hc.not_dec)
    exact (walk_mid hm (Nat.le_max_left _ _) hw).prune_step
  | link _ hlt hf hp => exact (mid_setPar hi hlt hf hp).step
  | linkWalk _ hlt hf hp he hr =>
    obtain ⟨m, hw, rfl⟩ := walkPrune_walk hr
    exact (walk_mid (mid_setPar hi hlt hf hp) (hi.dec_le _ (dec_of_finalHash he)) hw).prune_step

theorem run_cons {t t' : Tracker} {op : Op} {rest : List Op} {evs : List Event} :
    run t (op :: rest) = some (t', evs) ↔
      ∃ t1 ev evs', step t op = .ok t1 ev ∧ run t1 rest = some (t', evs') ∧ evs = ev :: evs' := by
  simp only [run]
  constructor
  · intro h
    cases hs : step t op with
    | panic => rw [hs] at h; cases h
    | ok t1 ev =>
      rw [hs] at h
      cases hr : run t1 rest with
      | none => simp only [hr] at h; cases h
      | some r => simp only [hr] at h; cases h; exact ⟨t1, ev, _, rfl, hr, rfl⟩
  · rintro ⟨t1, ev, evs', hs, hr, rfl⟩
    simp only [hs, hr]

theorem run_append {t t2 : Tracker} {A B : List Op} {e : List Event} :
    run t (A ++ B) = some (t2, e) ↔
      ∃ t1 e1 e2, run t A = some (t1, e1) ∧ run t1 B = some (t2, e2) ∧ e = e1 ++ e2 := by
  induction A generalizing t e with
  | nil => exact ⟨fun h => ⟨t, [], e, rfl, h, rfl⟩, fun ⟨t1, e1, e2, h1, h2, he⟩ => by cases h1; rw [he]; exact h2⟩
  | cons a A ih =>
    rw [List.cons_append, run_cons]
    constructor
    · rintro ⟨t1, ev, evs', hs, hr, rfl⟩
      obtain ⟨t1', e1, e2, h1, h2, rfl⟩ := ih.mp hr
      exact ⟨t1', ev :: e1, e2, run_cons.mpr ⟨t1, ev, e1, hs, h1, rfl⟩, h2, rfl⟩
    · rintro ⟨t1', e1, e2, h1, h2, rfl⟩
      obtain ⟨t1, ev, e1', hs, hr, rfl⟩ := run_cons.mp h1
      exact ⟨t1, ev, e1' ++ e2, hs, ih.mpr ⟨t1', e1', e2, hr, h2, rfl⟩, rfl⟩

theorem run_inv {t : Tracker} (hi : Inv t) {ops : List Op} {t' : Tracker} {evs : List Event}
    (h : run t ops = some (t', evs)) : Inv t' ∧ t.highest ≤ t'.highest ∧ t.first ≤ t'.first := by
  induction ops generalizing t evs with
  | nil => cases h; exact ⟨hi, Nat.le_refl _, Nat.le_refl _⟩
  | cons op rest ih =>
    obtain ⟨t1, ev, evs2, hs, hr, _⟩ := run_cons.mp h
    have sp := step_spec hi hs
    have ⟨i2, h2, f2⟩ := ih sp.inv hr
    exact ⟨i2, Nat.le_trans sp.highest h2, Nat.le_trans sp.first f2⟩

end AgModel.Finality
