import AgModel.Proofs.ClusterRun
import Mathlib.Algebra.BigOperators.Fin
/-!
# C01 cluster refinement: from the pool's list arithmetic to the weights of `Spec/Stake.lean`

`Pool.stakeOf e ((List.range n).filter p)` — how the pool model counts the stake of the validators satisfying `p` — equals
the weight `Spec.w` of `p` over `Fin n`; the total stake of the epoch is `Spec.total`; the thresholds `Epoch.isQuorum` …
are `Spec.Q` … . With these, a backed certificate is a certificate of the derived history (`certOn_of_backed`).
-/
namespace AgModel.Cluster
open AgModel AgModel.Node AgModel.NodePanic AgModel.Pool AgModel.Spec Finset

theorem list_sum_range (f : ℕ → ℕ) (n : ℕ) : ((List.range n).map f).sum = ∑ i ∈ Finset.range n, f i := by
  induction n with
  | zero => simp
  | succ n ih => rw [List.range_succ, List.map_append, List.sum_append, ih, Finset.sum_range_succ]; simp

theorem list_sum_filter (l : List ℕ) (f : ℕ → ℕ) (p : ℕ → Bool) :
    ((l.filter p).map f).sum = (l.map (fun j => if p j = true then f j else 0)).sum := by
  induction l with
  | nil => rfl
  | cons a t ih =>
    by_cases hp : p a = true <;> simp [List.filter, hp, ih]

theorem stakeOf_filter_eq_w (c : Cfg) (i : ℕ) (p : ℕ → Bool) :
    stakeOf (c.epoch i) ((List.range c.n).filter p) = w (stakeFn c) (fun v => p v.val = true) := by
  classical
  unfold stakeOf w
  rw [list_sum_filter, list_sum_range, ← Fin.sum_univ_eq_sum_range (fun j => if p j = true then (c.epoch i).stake j else 0) c.n,
    Finset.sum_filter]
  apply Finset.sum_congr rfl
  intro v _
  by_cases hp : p v.val = true <;> simp [hp, stakeFn, Epoch.stake, Cfg.epoch]

theorem list_getD_range (l : List ℕ) : (List.range l.length).map (fun j => l.getD j 0) = l := by
  apply List.ext_getElem
  · simp
  · intro k h1 h2
    simp [List.getD_eq_getElem?_getD, List.getElem?_eq_getElem h2]

theorem total_eq (c : Cfg) : total (stakeFn c) = c.stakes.sum := by
  unfold total stakeFn
  rw [Fin.sum_univ_eq_sum_range (fun j => c.stakes.getD j 0) c.n, ← list_sum_range]
  unfold Cfg.n
  rw [list_getD_range]

theorem epoch_total (c : Cfg) (i : ℕ) : (c.epoch i).total = total (stakeFn c) := by
  rw [total_eq]; rfl

theorem epoch_n (c : Cfg) (i : ℕ) : (c.epoch i).n = c.n := rfl

/-- `Fraction::is_met` on the epoch's total stake is the threshold on `Spec.total`, and is monotone in the stake -/
theorem of_isMet (c : Cfg) (i : ℕ) {num den x y : ℕ} (h : isMet num den x (c.epoch i).total = true) (hle : x ≤ y) :
    y * den ≥ total (stakeFn c) * num :=
  epoch_total c i ▸ Nat.le_trans (of_decide_eq_true h) (Nat.mul_le_mul_right _ hle)

theorem Q_of_threshold (c : Cfg) (i : ℕ) (k : CertKind) (x y : ℕ) (h : threshold (c.epoch i) k x = true) (hle : x ≤ y) :
    Q y (total (stakeFn c)) := by
  cases k
  case ff => exact Strong.toQ (of_isMet c i h hle)
  all_goals exact of_isMet c i h hle

theorem correct_of_not_byz {c : Cfg} {v : Fin c.n} (h : ¬ byz c v) : c.correct v.val = true := eq_true_of_ne_false h

theorem hist_notar_of_sig (c : Cfg) (s : State) (v : Fin c.n) (sl h : ℕ) (hs : (sigOf c s).notar v.val sl h) :
    (histOf c s).notar v (Blk.mk' sl h) := by
  intro hc
  by_cases h0 : sl = 0
  · left; rw [h0, Blk.mk'_zero]
  · right
    rw [Blk.mk'_slot, Blk.mk'_hash _ _ h0]
    exact hs hc

/-- everybody has notarized the genesis block (convention of `Spec.Protocol`) -/
theorem notarW_genesis (c : Cfg) (s : State) : notarW (stakeFn c) (histOf c s) Blk.genesis = total (stakeFn c) := by
  unfold notarW
  rw [← w_true]
  congr 1
  funext v
  exact propext ⟨fun _ => trivial, fun _ _ => Or.inl rfl⟩

theorem ffCert_genesis (c : Cfg) (s : State) : FastFinalCert (stakeFn c) (histOf c s) Blk.genesis := by
  unfold FastFinalCert; rw [notarW_genesis]; exact Nat.mul_le_mul_left _ (by decide)

theorem notarCert_genesis (c : Cfg) (s : State) : NotarCert (stakeFn c) (histOf c s) Blk.genesis :=
  (ffCert_genesis c s).notarCert

theorem certStake_le_w (c : Cfg) (i : ℕ) (x : Cert) (P : Fin c.n → Prop)
    (h1 : ∀ v : Fin c.n, v.val ∈ x.sig1 → P v) (h2 : ∀ v : Fin c.n, v.val ∈ x.sig2 → P v) :
    certStake (c.epoch i) x ≤ w (stakeFn c) P := by
  unfold certStake
  rw [epoch_n, stakeOf_filter_eq_w]
  refine w_mono _ fun v hv => ?_
  simp only [Bool.or_eq_true, List.contains_eq_mem, decide_eq_true_eq] at hv
  exact hv.elim (h1 v) (h2 v)

def CertOn (c : Cfg) (H : History (Fin c.n) Blk) (k : CertKind) (sl h : ℕ) : Prop :=
  match k with
  | .notar => NotarCert (stakeFn c) H (Blk.mk' sl h)
  | .nf => NFCert (stakeFn c) H (Blk.mk' sl h)
  | .skip => SkipCert (stakeFn c) H sl
  | .ff => FastFinalCert (stakeFn c) H (Blk.mk' sl h)
  | .final => FinalCert (stakeFn c) H sl

/-- the core of `cluster_certs_sound` (stage 2 of `Props/C01Cluster.lean`) -/
theorem certOn_of_backed (c : Cfg) (s : State) (i : ℕ) (x : Cert) (hb : CertBacked (sigOf c s) (c.epoch i) x) :
    CertOn c (histOf c s) x.kind x.slot x.hash := by
  have hthr := hb.thr
  have h1 := hb.s1
  have h2 := hb.s2
  unfold CertOn
  unfold threshold at hthr
  unfold sig1Of at h1
  unfold sig2Of at h2
  cases hk : x.kind <;> simp only [hk] at hthr h1 h2 ⊢
  case notar | ff =>
    -- notarization, fast-finalization: the notarization voters, each against its own threshold
    exact of_isMet c i hthr (certStake_le_w c i x _
      (fun v hv => hist_notar_of_sig c s v _ _ (h1 _ hv)) (fun v hv => hist_notar_of_sig c s v _ _ (h2 _ hv)))
  case nf =>
    -- a notar-fallback vote for an id `(0, h)` is not one for the genesis block of the history
    by_cases h0 : x.slot = 0
    · rw [h0, Blk.mk'_zero]; exact (notarCert_genesis c s).nfCert
    · exact of_isMet c i hthr (certStake_le_w c i x _
        (fun v hv => Or.inl (hist_notar_of_sig c s v _ _ (h1 _ hv))) (fun v hv => Or.inr fun hc => by rw [Blk.mk'_slot, Blk.mk'_hash _ _ h0]; exact h2 _ hv hc))
  case skip =>
    exact of_isMet c i hthr (certStake_le_w c i x _
      (fun v hv => Or.inl (h1 _ hv)) (fun v hv => Or.inr (h2 _ hv)))
  case final =>
    exact of_isMet c i hthr (certStake_le_w c i x _ (fun v hv => h1 _ hv) (fun v hv => h2 _ hv))

/-! ### the Byzantine bound, computably -/

/-- the Byzantine stake, as a list computation -/
def byzStake (c : Cfg) : ℕ := stakeOf (c.epoch 0) ((List.range c.n).filter (fun i => !c.correct i))

theorem w_byz (c : Cfg) : w (stakeFn c) (byz c) = byzStake c := by
  unfold byzStake
  rw [stakeOf_filter_eq_w]
  congr 1
  funext v
  unfold byz
  cases c.correct v.val <;> simp

/-- the hypothesis "less than 20 % of the stake is Byzantine" in computable form -/
theorem byz_bound_iff (c : Cfg) : 5 * w (stakeFn c) (byz c) < total (stakeFn c) ↔ 5 * byzStake c < c.stakes.sum := by
  rw [w_byz, total_eq]

/-!
### the stake clauses of safe-to-notar / safe-to-skip on the derived history

A slot state whose counters are recounts of its stored votes (`InvV`, C03) and whose stored votes are signed
(`QV (sigOf c s)`) turns the pool's stake clauses (`stakeClause`, `S2SCond`: C06) into the clauses R3 / R4 of
`Spec.Rules` on the derived history: the stake the pool counted is stake of votes in the history.
-/
section
variable (c : Cfg) (s : State) (i : ℕ) (st : SlotState) (iv : InvV (c.epoch i) st) (qv : QV (sigOf c s) st)

include qv in
theorem stored_notar {v : Fin c.n} {h : ℕ} (hv : (st.vNotar.lookup v.val == some h) = true) :
    (histOf c s).notar v (Blk.mk' st.slot h) :=
  hist_notar_of_sig c s v _ _ (qv.notar _ _ (mem_of_lookup_some (beq_iff_eq.mp hv)))

include qv in
theorem stored_skip {v : Fin c.n} (hv : st.vSkip.contains v.val = true) : (histOf c s).skip v st.slot :=
  qv.skip _ (List.contains_iff_mem.mp hv)

include iv in
theorem stored_disjoint {v : Fin c.n} (hn : (st.vNotar.lookup v.val).isSome = true) : ¬ st.vSkip.contains v.val = true :=
  fun hv => by rw [iv.noSkipNotar _ (List.contains_iff_mem.mp hv)] at hn; cases hn

include iv qv

/-- **R3, stake clause**: the stake clause of safe-to-notar for `(t, h)`, evaluated by the pool on a slot state with signed
    votes, holds on the derived history -/
theorem s2n_stake_on_hist (h : ℕ) (hs : stakeClause (c.epoch i) st h = true) :
    Weak (notarW (stakeFn c) (histOf c s) (Blk.mk' st.slot h)) (total (stakeFn c)) ∨
    (Weakest (notarW (stakeFn c) (histOf c s) (Blk.mk' st.slot h)) (total (stakeFn c)) ∧
      Q (w (stakeFn c) (fun u => (histOf c s).notar u (Blk.mk' st.slot h) ∨ (histOf c s).skip u st.slot)) (total (stakeFn c))) := by
  unfold stakeClause at hs
  simp only [Bool.and_eq_true, Bool.or_eq_true] at hs
  obtain ⟨hw, hor⟩ := hs
  have hn := iv.cNotar h
  have hk := iv.cSkip
  unfold SlotState.notarVoters at hn
  unfold SlotState.skipVoters at hk
  rw [epoch_n, stakeOf_filter_eq_w] at hn hk
  have ha : lookupD st.sNotar h ≤ notarW (stakeFn c) (histOf c s) (Blk.mk' st.slot h) :=
    hn ▸ w_mono _ fun v => stored_notar c s st qv
  rcases hor with hk' | hq
  · exact Or.inl (of_isMet c i hk' ha)
  · refine Or.inr ⟨of_isMet c i hw ha, of_isMet c i hq ?_⟩
    rw [hn, hk]
    exact w_add_le _ (fun v hv => stored_disjoint c i st iv (by rw [beq_iff_eq.mp hv]; rfl))
      (fun v hv => Or.inl (stored_notar c s st qv hv)) (fun v hv => Or.inr (stored_skip c s st qv hv))

/-- **R4, stake clause**: the stake clause of safe-to-skip holds on the derived history, for every candidate `cb` for the
    most voted block of the slot -/
theorem s2s_stake_on_hist (h0 : st.slot ≠ 0) (hs : (c.epoch i).isWeak (st.sNotarOrSkip - st.sTopNotar) = true)
    (cb : Blk) :
    Weak (w (stakeFn c) (fun u => (histOf c s).skip u st.slot ∨
      ∃ x : Blk, x.slot = st.slot ∧ x ≠ cb ∧ (histOf c s).notar u x)) (total (stakeFn c)) := by
  apply of_isMet c i hs
  -- the recounts, as weights
  have h1 := iv.cNotarOrSkip
  have h2 := iv.topGe cb.hash
  rw [iv.cNotar cb.hash] at h2
  have h3 := iv.cSkip
  unfold SlotState.notarVoters at h2
  unfold SlotState.skipVoters at h3
  rw [epoch_n, stakeOf_filter_eq_w] at h1 h2 h3
  -- the voters of any block: those of `cb`, and those of another block; the latter and the skip voters are in the history
  have hsplit := Nat.le_trans
    (w_mono (stakeFn c) (q := fun v : Fin c.n => (st.vNotar.lookup v.val == some cb.hash) = true ∨
        ((st.vNotar.lookup v.val).isSome = true ∧ ¬ (st.vNotar.lookup v.val == some cb.hash) = true))
      fun v hv => (Classical.em _).imp_right (And.intro hv)) (w_or_le _ _ _)
  have hadd := w_add_le (stakeFn c)
    (p := fun v : Fin c.n => (st.vNotar.lookup v.val).isSome = true ∧ ¬ (st.vNotar.lookup v.val == some cb.hash) = true)
    (q := fun v : Fin c.n => st.vSkip.contains v.val = true)
    (r := fun u => (histOf c s).skip u st.slot ∨ ∃ x : Blk, x.slot = st.slot ∧ x ≠ cb ∧ (histOf c s).notar u x)
    (fun v hv => stored_disjoint c i st iv hv.1)
    (fun v ⟨hsome, hne⟩ => by
      obtain ⟨x, hx⟩ := Option.isSome_iff_exists.mp hsome
      refine Or.inr ⟨Blk.mk' st.slot x, Blk.mk'_slot _ _, fun e => hne ?_, stored_notar c s st qv (by rw [hx]; exact beq_self_eq_true _)⟩
      rw [hx, ← Blk.mk'_hash st.slot x h0, e]; exact beq_self_eq_true _)
    (fun v hv => Or.inl (stored_skip c s st qv hv))
  -- sNotarOrSkip = w(any notar) + w(skip) (`h1`, `h3`); w(any notar) ≤ w(voters of `cb`) + w(voters of another block) (`hsplit`);
  -- sTopNotar ≥ w(voters of `cb`) (`h2`); w(voters of another block) + w(skip) ≤ the weight in the goal (`hadd`)
  omega

end

end AgModel.Cluster
