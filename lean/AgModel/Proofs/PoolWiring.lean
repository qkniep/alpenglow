import AgModel.Proofs.PoolGlue
import AgModel.Proofs.ParentReadyRun
import AgModel.Proofs.FinalityRun
import AgModel.Proofs.FinalitySafeDec
/-!
# Pool-level wiring of the two trackers (C07, pool level)

Which certificate / block registration drives which operation of the finality tracker and which mark of the
parent-ready tracker inside `PoolImpl` (`add_valid_cert`, `handle_finalization`, `prune`, `add_block`), as an
invariant `Wired` between the pool state and a *ghost log* of what the pool processed: the `CertCreated` events (one
per `add_valid_cert`) and the block registrations, in order.  The log is observable from the outside, and both trackers
are functions of it: `finOps L` is what the finality tracker received, `prTrace L` what the parent-ready tracker received
(marks, finalization batches carrying the events of the finality tracker, prunes to `first_unpruned_slot`).
`Consistent L` is the premise on the history that consensus safety (C01) provides; it implies the premise
`ParentReady.SafeRun (prTrace L)` of the parent-ready theorems.  `Wired` is kept because a pool operation acts on the
tracker part `p.trk` as `Trk.item` folded over the log items of the step (`poolStep_trk`), and every item that keeps the
log consistent keeps `Wired` (`Wired.item`).
-/
namespace AgModel.Pool

theorem fin_run_snoc_inv {t t1 t2 : Finality.Tracker} {A : List Finality.Op} {op : Finality.Op}
    {e1 e2 : List Finality.Event} (h1 : Finality.run t A = some (t1, e1))
    (h2 : Finality.run t (A ++ [op]) = some (t2, e2)) :
    ∃ ev, Finality.step t1 op = .ok t2 ev ∧ e2 = e1 ++ [ev] := by
  obtain ⟨t1', e1', e', h1', hop, rfl⟩ := Finality.run_append.mp h2
  rw [h1] at h1'; cases h1'
  obtain ⟨t', ev, _, hs, hnil, rfl⟩ := Finality.run_cons.mp hop
  cases hnil
  exact ⟨ev, hs, rfl⟩

theorem fin_event_ge_first {t t' : Finality.Tracker} {op : Finality.Op} {ev : Finality.Event}
    (h : Finality.step t op = .ok t' ev) :
    (∀ b ∈ Finality.evF ev, t.first ≤ b.1) ∧ (∀ s ∈ ev.implSkipped, t.first ≤ s) := by
  obtain ⟨m, me, _⟩ := Finality.step_mid h
  -- what is reported was undecided before and is decided now
  exact ⟨fun b hb => me.ge (Finality.dec_of_finalHash (me.spec.fin b hb).2) (me.spec.fin b hb).1,
    fun s hs => me.ge ((me.spec.skip s hs).2 ▸ Finality.dec_skipped) (me.spec.skip s hs).1⟩

/-- what the pool processed: `add_valid_cert(c)` ran (one `CertCreated` event each), `add_block(b, par)` was called -/
inductive LogItem where
  | cert (c : Cert)
  | block (b par : Nat × Nat)
deriving DecidableEq, Repr

def LogItem.finOp : LogItem → List Finality.Op
  | .cert c =>
    match c.kind with
    | .notar => [.notar (c.slot, c.hash)]
    | .ff => [.fastFinal (c.slot, c.hash)]
    | .final => [.final c.slot]
    | .nf => []
    | .skip => []
  | .block b par => [.parent b par]

def finOps (L : List LogItem) : List Finality.Op := L.flatMap LogItem.finOp

theorem finOps_append (A B : List LogItem) : finOps (A ++ B) = finOps A ++ finOps B := by
  unfold finOps; rw [List.flatMap_append]

theorem finOps_snoc (L : List LogItem) (it : LogItem) : finOps (L ++ [it]) = finOps L ++ it.finOp := by
  rw [finOps_append]; unfold finOps; rw [List.flatMap_singleton]

/-- `handle_finalization(finality_tracker.op(..))`: the finalization batch and the `prune` to the new watermark
    (nothing if the finality tracker panics) -/
def finPart (t : Finality.Tracker) (op : Finality.Op) : Finality.Tracker × List ParentReady.Op :=
  match Finality.step t op with
  | .ok t' ev => (t', [.fin ev, .prune t'.first])
  | .panic => (t, [])

/-- the mark `add_valid_cert` applies to the parent-ready tracker itself (after the finalization part) -/
def LogItem.marks : LogItem → List ParentReady.Op
  | .cert c =>
    match c.kind with
    | .notar => [.nf (c.slot, c.hash)]
    | .nf => [.nf (c.slot, c.hash)]
    | .skip => [.skip c.slot]
    | .ff => []
    | .final => []
  | .block _ _ => []

def finParts (t : Finality.Tracker) : List Finality.Op → Finality.Tracker × List ParentReady.Op
  | [] => (t, [])
  | op :: rest => ((finParts (finPart t op).1 rest).1, (finPart t op).2 ++ (finParts (finPart t op).1 rest).2)

/-- one log item: new finality tracker, operations on the parent-ready tracker (in the order of `add_valid_cert`:
    finalization batch and prune first, then the certificate's own mark) -/
def itemStep (t : Finality.Tracker) (it : LogItem) : Finality.Tracker × List ParentReady.Op :=
  ((finParts t it.finOp).1, (finParts t it.finOp).2 ++ it.marks)

def wireStep (acc : Finality.Tracker × List ParentReady.Op) (it : LogItem) : Finality.Tracker × List ParentReady.Op :=
  ((itemStep acc.1 it).1, acc.2 ++ (itemStep acc.1 it).2)

def wire (L : List LogItem) : Finality.Tracker × List ParentReady.Op := L.foldl wireStep (Finality.init, [])

/-- the finality tracker after the log.  It stays where it is when an operation panics, as in the pool, so it is defined
    for every log and `Wired.fin` can be an equation; when the operations are `Safe` it is the result of `Finality.run`
    (`trace_inv`). -/
def finState (L : List LogItem) : Finality.Tracker := (wire L).1
def prTrace (L : List LogItem) : List ParentReady.Op := (wire L).2

theorem finPart_ok {t t' : Finality.Tracker} {op : Finality.Op} {ev : Finality.Event}
    (hs : Finality.step t op = .ok t' ev) : finPart t op = (t', [.fin ev, .prune t'.first]) := by
  unfold finPart; rw [hs]

theorem finOp_cases (it : LogItem) : it.finOp = [] ∨ ∃ op, it.finOp = [op] := by
  cases it with
  | block b par => exact Or.inr ⟨_, rfl⟩
  | cert c =>
    obtain ⟨k, s, h, _, _, _⟩ := c
    cases k
    · exact Or.inr ⟨_, rfl⟩
    · exact Or.inl rfl
    · exact Or.inl rfl
    · exact Or.inr ⟨_, rfl⟩
    · exact Or.inr ⟨_, rfl⟩

theorem marks_cases (it : LogItem) :
    it.marks = [] ∨ ∃ op, it.marks = [op] ∧ ((∃ b, op = .nf b) ∨ ∃ s, op = .skip s) := by
  cases it with
  | block b par => exact Or.inl rfl
  | cert c =>
    obtain ⟨k, s, h, _, _, _⟩ := c
    cases k
    · exact Or.inr ⟨_, rfl, Or.inl ⟨_, rfl⟩⟩
    · exact Or.inr ⟨_, rfl, Or.inl ⟨_, rfl⟩⟩
    · exact Or.inr ⟨_, rfl, Or.inr ⟨_, rfl⟩⟩
    · exact Or.inl rfl
    · exact Or.inl rfl

theorem exists_cert_eq {c : Cert} (P : Cert → Prop) : (∃ c', LogItem.cert c = .cert c' ∧ P c') ↔ P c :=
  ⟨fun ⟨_, e, h⟩ => by cases e; exact h, fun h => ⟨c, rfl, h⟩⟩

theorem mem_marks_nf {it : LogItem} {b : Nat × Nat} :
    .nf b ∈ it.marks ↔ ∃ c, it = .cert c ∧ (c.kind = .notar ∨ c.kind = .nf) ∧ (c.slot, c.hash) = b := by
  cases it with
  | block _ _ => exact ⟨fun h => (nomatch h), fun ⟨_, e, _⟩ => (nomatch e)⟩
  | cert c =>
    rw [exists_cert_eq]
    simp only [LogItem.marks]
    cases c.kind <;> simp only [List.mem_singleton, List.not_mem_nil, ParentReady.Op.nf.injEq, reduceCtorEq, true_or,
      or_true, or_self, true_and, false_and, eq_comm]

theorem mem_marks_skip {it : LogItem} {s : Nat} :
    .skip s ∈ it.marks ↔ ∃ c, it = .cert c ∧ c.kind = .skip ∧ c.slot = s := by
  cases it with
  | block _ _ => exact ⟨fun h => (nomatch h), fun ⟨_, e, _⟩ => (nomatch e)⟩
  | cert c =>
    rw [exists_cert_eq]
    simp only [LogItem.marks]
    cases c.kind <;> simp only [List.mem_singleton, List.not_mem_nil, ParentReady.Op.skip.injEq, reduceCtorEq,
      true_and, false_and, eq_comm]

theorem mem_finOps_cert {L : List LogItem} {op : Finality.Op} {P : Cert → Prop}
    (h : ∀ c : Cert, op ∈ (LogItem.cert c).finOp ↔ P c) (hb : ∀ b p, op ≠ .parent b p) :
    op ∈ finOps L ↔ ∃ c, LogItem.cert c ∈ L ∧ P c := by
  unfold finOps
  rw [List.mem_flatMap]
  constructor
  · rintro ⟨it, hit, hop⟩
    cases it with
    | block x y => exact absurd (List.mem_singleton.mp hop) (hb x y)
    | cert c => exact ⟨c, hit, (h c).mp hop⟩
  · rintro ⟨c, hm, hp⟩
    exact ⟨_, hm, (h c).mpr hp⟩

theorem mem_finOps_notar {L : List LogItem} {b : Nat × Nat} :
    Finality.Op.notar b ∈ finOps L ↔ ∃ c, LogItem.cert c ∈ L ∧ c.kind = .notar ∧ (c.slot, c.hash) = b :=
  mem_finOps_cert (fun c => by cases hk : c.kind <;> simp [LogItem.finOp, hk, eq_comm]) (fun _ _ => nofun)

theorem mem_finOps_ff {L : List LogItem} {b : Nat × Nat} :
    Finality.Op.fastFinal b ∈ finOps L ↔ ∃ c, LogItem.cert c ∈ L ∧ c.kind = .ff ∧ (c.slot, c.hash) = b :=
  mem_finOps_cert (fun c => by cases hk : c.kind <;> simp [LogItem.finOp, hk, eq_comm]) (fun _ _ => nofun)

theorem mem_finOps_final {L : List LogItem} {s : Nat} :
    Finality.Op.final s ∈ finOps L ↔ ∃ c, LogItem.cert c ∈ L ∧ c.kind = .final ∧ c.slot = s :=
  mem_finOps_cert (fun c => by cases hk : c.kind <;> simp [LogItem.finOp, hk, eq_comm]) (fun _ _ => nofun)

theorem mem_finOps_parent {L : List LogItem} {b p : Nat × Nat} :
    Finality.Op.parent b p ∈ finOps L ↔ LogItem.block b p ∈ L := by
  unfold finOps
  rw [List.mem_flatMap]
  constructor
  · rintro ⟨it, hit, hop⟩
    cases it with
    | block x y =>
      simp only [LogItem.finOp, List.mem_singleton, Finality.Op.parent.injEq] at hop
      rw [hop.1, hop.2]; exact hit
    | cert x => cases hk : x.kind <;> simp [LogItem.finOp, hk] at hop
  · exact fun hm => ⟨_, hm, List.mem_singleton.mpr rfl⟩

theorem wire_snoc (L : List LogItem) (it : LogItem) : wire (L ++ [it]) = wireStep (wire L) it := by
  unfold wire; rw [List.foldl_append]; rfl

theorem finState_snoc (L : List LogItem) (it : LogItem) : finState (L ++ [it]) = (itemStep (finState L) it).1 := by
  unfold finState; rw [wire_snoc]; rfl

theorem prTrace_snoc (L : List LogItem) (it : LogItem) :
    prTrace (L ++ [it]) = prTrace L ++ (itemStep (finState L) it).2 := by
  unfold prTrace finState; rw [wire_snoc]; rfl

/-- **The consistency premise on the history** (what consensus safety, C01, gives for the certificates and blocks a
    correct node can ever process): the safety premise of the finality tracker (C08: parents in earlier slots, one
    parent per block, one finalized block per slot, ...) and two clauses that premise does not cover. -/
structure Consistent (L : List LogItem) : Prop where
  safe : Finality.Safe (finOps L)
  /-- no skip certificate for the slot of a **directly** finalized block (fast-finalization certificate, or
      finalization + notarization certificate).  The clause does not cover every `Final` block: for the *implicitly*
      finalized ancestors consensus safety does **not** give it — the slot of an ancestor that is certified only by a
      notar-fallback (or a notarization) certificate can also carry a skip certificate (the valid run `Findings.evs1` of
      `Props/C01Cluster.lean`: `Props/C10Cluster.lean`, `old_skip_premise_fails_on_valid_run`).  Directly finalized
      blocks are enough: the watermark of the finality tracker — the only slots that become prune roots of the
      parent-ready tracker — is always genesis or the slot of a *directly* finalized block (`first_direct`). -/
  skip_not_direct : ∀ c, LogItem.cert c ∈ L → c.kind = .skip → ∀ h, ¬ Finality.Direct (finOps L) (c.slot, h)
  /-- the only finalized block of slot 0 is genesis (the finalized blocks form a chain from genesis).  `Finality.Safe`
      does not imply it: its clause on notarized blocks (`notar_direct`, genesis counting as notarized) speaks of
      *directly* finalized blocks only, since a block finalized through a descendant can have a notarized sibling (D27);
      so the fact is stated here, at the pool level, where the parent-ready tracker's genesis mark needs it. -/
  genesis : ∀ h, Finality.Final (finOps L) (0, h) → h = 0

theorem finOps_sub {A B : List LogItem} (h : ∀ x, x ∈ A → x ∈ B) : Finality.Sub (finOps A) (finOps B) := by
  intro op hop
  unfold finOps at *
  rw [List.mem_flatMap] at *
  obtain ⟨x, hx, ho⟩ := hop
  exact ⟨x, h x hx, ho⟩

theorem Consistent.sub {A B : List LogItem} (hc : Consistent B) (h : ∀ x, x ∈ A → x ∈ B) : Consistent A :=
  ⟨hc.safe.sub (finOps_sub h), fun c hm hk hh hf => hc.skip_not_direct c (h _ hm) hk hh (hf.mono (finOps_sub h)),
   fun hh hf => hc.genesis hh (hf.mono (finOps_sub h))⟩

theorem Consistent.prefix {A B : List LogItem} (hc : Consistent (A ++ B)) : Consistent A :=
  hc.sub (fun _ hx => List.mem_append_left _ hx)

/-! ### the trace invariant, one parent-ready operation at a time

`NF` / `SK`: the certificate marks accepted so far (the part of the accepted history that does not come from
finalization events); `SC`: the slots with a skip certificate in the log. -/

open ParentReady in
structure TInv (t : Finality.Tracker) (fevs : List Finality.Event) (tr : List Op)
    (NF : Nat × Nat → Prop) (SK : Nat → Prop) (SC : Nat → Prop) : Prop where
  sorted : (pruneArgs tr).Pairwise (· ≤ ·)
  le_first : ∀ r ∈ pruneArgs tr, r ≤ t.first
  skips : ∀ s ∈ skipArgs tr, SC s ∨ s ∈ Finality.repS fevs
  nowait : waitSlots tr = []
  root : (hist tr).root = t.first
  nf : ∀ b, b ∈ (hist tr).nf ↔ b = (0, 0) ∨ NF b ∨ b ∈ Finality.repF fevs
  sk : ∀ s, s ∈ (hist tr).sk ↔ SK s ∨ s ∈ Finality.repS fevs

section
open ParentReady
variable {t t' : Finality.Tracker} {fevs : List Finality.Event} {tr : List Op}
  {NF : Nat × Nat → Prop} {SK SC : Nat → Prop}

theorem TInv.init : TInv Finality.init [] [] (fun _ => False) (fun _ => False) (fun _ => False) := by
  refine ⟨List.Pairwise.nil, fun r hr => (by cases hr), fun s hs => (by cases hs), rfl, rfl, ?_, ?_⟩
  · intro b; simp [hist, Finality.repF]
  · intro s; simp [hist, Finality.repS]

theorem TInv.congr {NF' : Nat × Nat → Prop} {SK' SC' : Nat → Prop} (i : TInv t fevs tr NF SK SC)
    (h1 : ∀ b, NF b ↔ NF' b) (h2 : ∀ s, SK s ↔ SK' s) (h3 : ∀ s, SC s → SC' s) : TInv t fevs tr NF' SK' SC' :=
  ⟨i.sorted, i.le_first, fun s hs => (i.skips s hs).imp (h3 s) id, i.nowait, i.root,
   fun b => by rw [i.nf, h1], fun s => by rw [i.sk, h2]⟩

/-- a finality operation, its finalization batch, the prune to the new watermark: the batch lies at or above the old
    watermark (= root), so all of it is accepted -/
theorem TInv.fin (i : TInv t fevs tr NF SK SC) {op : Finality.Op} {ev : Finality.Event}
    (hs : Finality.step t op = .ok t' ev) :
    TInv t' (fevs ++ [ev]) (tr ++ [Op.fin ev, Op.prune t'.first]) NF SK SC := by
  have hle : ∀ r ∈ pruneArgs tr, r ≤ t'.first := fun r hr => Nat.le_trans (i.le_first r hr) (fin_first_mono hs)
  obtain ⟨gF, gS⟩ := fin_event_ge_first hs
  have hh : hist (tr ++ [Op.fin ev, Op.prune t'.first]) = ((hist tr).finMark ev).pruneTo t'.first := by
    rw [hist_append]; rfl
  have hp : pruneArgs (tr ++ [Op.fin ev, Op.prune t'.first]) = pruneArgs tr ++ [t'.first] := by
    rw [pruneArgs_append]; rfl
  have hk : skipArgs (tr ++ [Op.fin ev, Op.prune t'.first]) = skipArgs tr ++ ev.implSkipped := by
    rw [skipArgs_append]; simp [skipArgs]
  obtain ⟨mF, mS⟩ := mem_finMark (hist tr) ev
  refine ⟨?_, ?_, ?_, ?_, ?_, ?_, ?_⟩
  · rw [hp, List.pairwise_append]
    exact ⟨i.sorted, List.pairwise_singleton _ _, fun a ha b hb => List.mem_singleton.mp hb ▸ hle a ha⟩
  · intro r hr
    rw [hp, List.mem_append, List.mem_singleton] at hr
    exact hr.elim (hle r) Nat.le_of_eq
  · intro s hs'
    rw [hk, List.mem_append] at hs'
    rw [Finality.repS_snoc, List.mem_append]
    exact hs'.elim (fun h => (i.skips s h).imp_right Or.inl) (fun h => Or.inr (Or.inr h))
  · rw [waitSlots_append, i.nowait]; rfl
  · rw [hh]; rfl
  · intro b
    rw [hh]
    show b ∈ ((hist tr).finMark ev).nf ↔ _
    rw [mF, and_iff_left_of_imp (fun hb => i.root ▸ gF b hb), i.nf, Finality.repF_snoc]
    show _ ∨ b ∈ Finality.evF ev ↔ _
    rw [List.mem_append, or_assoc, or_assoc]
  · intro s
    rw [hh]
    show s ∈ ((hist tr).finMark ev).sk ↔ _
    rw [mS, and_iff_left_of_imp (fun hs => i.root ▸ gS s hs), i.sk, Finality.repS_snoc, List.mem_append, or_assoc]

/-- a certificate's own mark, of either kind: accepted iff its slot is at or above the root (= the watermark) -/
theorem TInv.mark (i : TInv t fevs tr NF SK SC) {op : Op} (hop : (∃ b, op = .nf b) ∨ ∃ s, op = .skip s) :
    TInv t fevs (tr ++ [op]) (fun x => NF x ∨ (.nf x ∈ [op] ∧ t.first ≤ x.1))
      (fun x => SK x ∨ (.skip x ∈ [op] ∧ t.first ≤ x)) (fun x => SC x ∨ .skip x ∈ [op]) := by
  obtain ⟨mF, mS⟩ := Hist.step_mem (hist tr) op
  have hk := step_keeps (hist tr) (op := op) (by rcases hop with ⟨_, rfl⟩ | ⟨_, rfl⟩ <;> exact fun _ e => nomatch e)
  have hp : pruneArgs (tr ++ [op]) = pruneArgs tr := by
    rw [pruneArgs_append]; rcases hop with ⟨_, rfl⟩ | ⟨_, rfl⟩ <;> exact List.append_nil _
  have hn : ∀ x, x ∈ nfArgs [op] ↔ Op.nf x ∈ [op] := fun x => by
    rcases hop with ⟨_, rfl⟩ | ⟨_, rfl⟩ <;> simp [nfArgs]
  have hs : ∀ x, x ∈ skipArgs [op] ↔ Op.skip x ∈ [op] := fun x => by
    rcases hop with ⟨_, rfl⟩ | ⟨_, rfl⟩ <;> simp [skipArgs]
  refine ⟨hp ▸ i.sorted, hp ▸ i.le_first, fun s hs' => ?_,
    by rw [waitSlots_append, i.nowait]; rcases hop with ⟨_, rfl⟩ | ⟨_, rfl⟩ <;> rfl, by rw [hist_snoc, hk.1]; exact i.root,
    fun x => by rw [hist_snoc, mF, i.nf, i.root, hn, or_assoc, or_right_comm],
    fun x => by rw [hist_snoc, mS, i.sk, i.root, hs, or_right_comm]⟩
  rw [skipArgs_append, List.mem_append, hs] at hs'
  exact hs'.elim (fun h => (i.skips s h).imp_left Or.inl) (fun h => Or.inl (Or.inr h))

theorem TInv.fins {ops : List Finality.Op} {evs : List Finality.Event} (i : TInv t fevs tr NF SK SC)
    (hr : Finality.run t ops = some (t', evs)) :
    (finParts t ops).1 = t' ∧ TInv t' (fevs ++ evs) (tr ++ (finParts t ops).2) NF SK SC := by
  induction ops generalizing t fevs evs tr with
  | nil => cases hr; exact ⟨rfl, by simpa [finParts] using i⟩
  | cons op rest ih =>
    obtain ⟨t1, ev, evs2, hs, hr2, rfl⟩ := Finality.run_cons.mp hr
    obtain ⟨g1, g2⟩ := ih (i.fin hs) hr2
    simp only [finParts, finPart_ok hs]
    refine ⟨g1, ?_⟩
    rw [List.append_assoc, List.singleton_append] at g2
    rw [← List.append_assoc]
    exact g2

end

def SkipCertIn (L : List LogItem) (s : Nat) : Prop := ∃ c, LogItem.cert c ∈ L ∧ c.kind = .skip ∧ c.slot = s

/-- a notarization / notar-fallback certificate for `b` was added while `b`'s slot was at or above the watermark
    (`first_unpruned_slot` = root of the parent-ready tracker, *after* the finalization part of the same
    `add_valid_cert`): its notar-fallback mark was accepted -/
def NfCertAcc (L : List LogItem) (b : Nat × Nat) : Prop :=
  ∃ pre c, (pre ++ [LogItem.cert c]) <+: L ∧ (c.kind = .notar ∨ c.kind = .nf) ∧ (c.slot, c.hash) = b ∧
    (finState (pre ++ [LogItem.cert c])).first ≤ b.1

/-- a skip certificate for `s` was added while `s` was at or above the watermark: its skip mark was accepted.  A skip
    certificate causes no finality operation, so the watermark is the one before it (`finState pre`). -/
def SkCertAcc (L : List LogItem) (s : Nat) : Prop :=
  ∃ pre c, (pre ++ [LogItem.cert c]) <+: L ∧ c.kind = .skip ∧ c.slot = s ∧ (finState pre).first ≤ s

theorem cert_mem_iff_prefix {L : List LogItem} {c : Cert} :
    LogItem.cert c ∈ L ↔ ∃ pre, (pre ++ [LogItem.cert c]) <+: L :=
  ⟨fun hm => by
    obtain ⟨pre, post, rfl⟩ := List.append_of_mem hm
    exact ⟨pre, post, by rw [List.append_assoc]; rfl⟩,
   fun ⟨pre, hp⟩ => hp.mem (List.mem_append_right _ (List.mem_singleton.mpr rfl))⟩

theorem NfCertAcc.mem {L : List LogItem} {b : Nat × Nat} (h : NfCertAcc L b) :
    ∃ c, LogItem.cert c ∈ L ∧ (c.kind = .notar ∨ c.kind = .nf) ∧ (c.slot, c.hash) = b := by
  obtain ⟨pre, c, hp, hk, he, _⟩ := h
  exact ⟨c, cert_mem_iff_prefix.mpr ⟨pre, hp⟩, hk, he⟩

theorem SkCertAcc.mem {L : List LogItem} {s : Nat} (h : SkCertAcc L s) : SkipCertIn L s := by
  obtain ⟨pre, c, hp, hk, he, _⟩ := h
  exact ⟨c, cert_mem_iff_prefix.mpr ⟨pre, hp⟩, hk, he⟩

theorem exists_prefix_cert_snoc (Q : List LogItem → Cert → Prop) (L : List LogItem) (it : LogItem) :
    (∃ pre c, (pre ++ [LogItem.cert c]) <+: (L ++ [it]) ∧ Q pre c) ↔
      (∃ pre c, (pre ++ [LogItem.cert c]) <+: L ∧ Q pre c) ∨ ∃ c, it = .cert c ∧ Q L c := by
  constructor
  · rintro ⟨pre, c, hp, hq⟩
    rcases List.prefix_concat_iff.mp hp with e | hp'
    · obtain ⟨rfl, e2⟩ := List.append_inj' e rfl
      exact Or.inr ⟨c, (List.cons.inj e2).1.symm, hq⟩
    · exact Or.inl ⟨pre, c, hp', hq⟩
  · rintro (⟨pre, c, hp, hq⟩ | ⟨c, rfl, hq⟩)
    · exact ⟨pre, c, hp.trans (List.prefix_append _ _), hq⟩
    · exact ⟨L, c, List.prefix_refl _, hq⟩

theorem nfCertAcc_snoc (L : List LogItem) (it : LogItem) (b : Nat × Nat) :
    NfCertAcc (L ++ [it]) b ↔ NfCertAcc L b ∨ (.nf b ∈ it.marks ∧ (finState (L ++ [it])).first ≤ b.1) := by
  unfold NfCertAcc
  rw [exists_prefix_cert_snoc (fun pre c => (c.kind = .notar ∨ c.kind = .nf) ∧ (c.slot, c.hash) = b ∧
    (finState (pre ++ [LogItem.cert c])).first ≤ b.1), mem_marks_nf]
  refine or_congr_right ⟨?_, ?_⟩
  · rintro ⟨c, rfl, hk, hb, hf⟩; exact ⟨⟨c, rfl, hk, hb⟩, hf⟩
  · rintro ⟨⟨c, rfl, hk, hb⟩, hf⟩; exact ⟨c, rfl, hk, hb, hf⟩

/-- a skip certificate causes no finality operation -/
theorem finState_skip (L : List LogItem) {c : Cert} (hk : c.kind = .skip) : finState (L ++ [.cert c]) = finState L := by
  rw [finState_snoc]; simp only [itemStep, LogItem.finOp, hk, finParts]

theorem skCertAcc_snoc (L : List LogItem) (it : LogItem) (s : Nat) :
    SkCertAcc (L ++ [it]) s ↔ SkCertAcc L s ∨ (.skip s ∈ it.marks ∧ (finState (L ++ [it])).first ≤ s) := by
  unfold SkCertAcc
  rw [exists_prefix_cert_snoc (fun pre c => c.kind = .skip ∧ c.slot = s ∧ (finState pre).first ≤ s), mem_marks_skip]
  refine or_congr_right ⟨?_, ?_⟩
  · rintro ⟨c, rfl, hk, hb, hf⟩; exact ⟨⟨c, rfl, hk, hb⟩, (finState_skip L hk).symm ▸ hf⟩
  · rintro ⟨⟨c, rfl, hk, hb⟩, hf⟩; exact ⟨c, rfl, hk, hb, finState_skip L hk ▸ hf⟩

theorem skipCertIn_snoc (L : List LogItem) (it : LogItem) (s : Nat) :
    SkipCertIn (L ++ [it]) s ↔ SkipCertIn L s ∨ .skip s ∈ it.marks := by
  unfold SkipCertIn
  simp only [mem_marks_skip, List.mem_append, List.mem_singleton, or_and_right, exists_or]
  exact or_congr_right (exists_congr fun c => and_congr_left' eq_comm)

/-- **Along every log whose finality operations are safe**: the finality tracker runs without panic to
    `finState L` and keeps the run invariant of C08, and the trace of the parent-ready tracker has monotone prune
    roots (= the watermarks), no waits, and its accepted history is: genesis, the accepted certificate marks, and
    everything the finality tracker reported. -/
theorem trace_inv (L : List LogItem) (hs : Finality.Safe (finOps L)) :
    ∃ fevs, Finality.run Finality.init (finOps L) = some (finState L, fevs) ∧
      Finality.RunInv (finOps L) (finState L) fevs ∧
      TInv (finState L) fevs (prTrace L) (NfCertAcc L) (SkCertAcc L) (SkipCertIn L) := by
  induction L using ParentReady.snoc_induction with
  | nil =>
    refine ⟨[], rfl, Finality.runInv_init, TInv.init.congr (fun b => ⟨False.elim, fun h => ?_⟩)
      (fun s => ⟨False.elim, fun h => ?_⟩) (fun _ => False.elim)⟩
    · obtain ⟨_, hm, _⟩ := h.mem; cases hm
    · obtain ⟨_, hm, _⟩ := h.mem; cases hm
  | snoc L it ih =>
    obtain ⟨fevs, hrun, ri, ti⟩ := ih (hs.sub (finOps_sub fun _ => List.mem_append_left _))
    rw [finOps_snoc] at hs ⊢
    obtain ⟨t1, evs, hr, ri1⟩ := Finality.run_runInv it.finOp (finOps L) _ _ ri hs
    obtain ⟨g1, g2⟩ := ti.fins hr
    have hfs : finState (L ++ [it]) = t1 := by rw [finState_snoc]; exact g1
    rw [hfs]
    refine ⟨fevs ++ evs, Finality.run_append.mpr ⟨_, _, _, hrun, hr, rfl⟩, ri1, ?_⟩
    rw [prTrace_snoc]
    show TInv t1 (fevs ++ evs) (prTrace L ++ ((finParts (finState L) it.finOp).2 ++ it.marks)) _ _ _
    rw [← List.append_assoc]
    -- the item's own mark: accepted iff its slot is at or above the watermark reached
    have hNF := fun x => nfCertAcc_snoc L it x
    have hSK := fun x => skCertAcc_snoc L it x
    have hSC := fun x => skipCertIn_snoc L it x
    rw [hfs] at hNF hSK
    rcases marks_cases it with hm | ⟨op, hm, hop⟩ <;> rw [hm] at hNF hSK hSC ⊢
    · rw [List.append_nil]
      exact g2.congr (fun x => by rw [hNF]; simp) (fun x => by rw [hSK]; simp) (fun x hx => (hSC x).mpr (Or.inl hx))
    · exact (g2.mark hop).congr (fun x => (hNF x).symm) (fun x => (hSK x).symm) (fun x => (hSC x).mpr)

/-- under the safety premise the watermark is genesis or the slot of a **directly** finalized block.  It is not an
    implicitly skipped slot, nor the slot of a block `b` that is finalized only through a descendant `c` (a link
    `c → b` from a `Final` block): in both cases the slot after it would be decided, too — finalized (`c` itself) or
    implicitly skipped (strictly between the link's ends). -/
theorem first_direct {ops : List Finality.Op} (sf : Finality.Safe ops) {t : Finality.Tracker}
    {evs : List Finality.Event} (ri : Finality.RunInv ops t evs) :
    t.first = 0 ∨ ∃ h, Finality.Direct ops (t.first, h) := by
  obtain ⟨w1, w2⟩ := ri.watermark sf
  -- a link from a finalized block across the watermark decides the next slot
  have hlink : ∀ c p, Finality.Final ops c → Finality.LinkH ops c p → p.1 ≤ t.first → t.first < c.1 → False := by
    intro c p hc hl h1 h2
    apply w2
    by_cases e : t.first + 1 = c.1
    · right; exact ⟨c.2, by rw [e]; exact hc⟩
    · left; exact ⟨c, p, hc, hl, Nat.lt_succ_of_le h1, Nat.lt_of_le_of_ne h2 e⟩
  rcases Nat.eq_zero_or_pos t.first with e | hpos
  · exact Or.inl e
  · right
    rcases w1 t.first hpos (Nat.le_refl _) with ⟨c, p, hc, hl, h1, h2⟩ | ⟨h, hf⟩
    · exact (hlink c p hc hl (Nat.le_of_lt h1) h2).elim
    · refine ⟨h, ?_⟩
      generalize hb : (t.first, h) = b at hf
      cases hf with
      | direct d => exact d
      | @step c _ hc hl =>
        have hlt := sf.link_lt c b hl
        have hb1 : b.1 = t.first := by rw [← hb]
        exact (hlink c b hc hl (Nat.le_of_eq hb1) (hb1 ▸ hlt)).elim

open ParentReady in
theorem pruneArgs_itemStep (t : Finality.Tracker) (it : LogItem) :
    ∀ r ∈ pruneArgs (itemStep t it).2, r = (itemStep t it).1.first := by
  have hmarks : pruneArgs it.marks = [] := by
    rcases marks_cases it with hm | ⟨_, hm, ⟨_, rfl⟩ | ⟨_, rfl⟩⟩ <;> rw [hm] <;> rfl
  unfold itemStep
  rw [pruneArgs_append, hmarks, List.append_nil]
  rcases finOp_cases it with h | ⟨op, h⟩ <;> rw [h]
  · intro r hr; cases hr
  · simp only [finParts, List.append_nil]
    unfold finPart
    cases Finality.step t op with
    | panic => intro r hr; cases hr
    | ok t' ev => intro r hr; exact List.mem_singleton.mp hr

open ParentReady in
theorem roots_direct (L : List LogItem) (hs : Finality.Safe (finOps L)) :
    ∀ r ∈ pruneArgs (prTrace L), r = 0 ∨ ∃ h, Finality.Direct (finOps L) (r, h) := by
  induction L using ParentReady.snoc_induction with
  | nil => intro r hr; cases hr
  | snoc L it ih =>
    have hsub : Finality.Sub (finOps L) (finOps (L ++ [it])) := finOps_sub fun _ => List.mem_append_left _
    intro r hr
    rw [prTrace_snoc, pruneArgs_append, List.mem_append] at hr
    rcases hr with hr | hr
    · exact (ih (hs.sub hsub) r hr).imp_right (fun ⟨h, hf⟩ => ⟨h, hf.mono hsub⟩)
    · rw [pruneArgs_itemStep _ _ r hr, ← finState_snoc]
      obtain ⟨fevs, _, ri, _⟩ := trace_inv (L ++ [it]) hs
      exact first_direct hs ri

open ParentReady in
theorem roots_final (L : List LogItem) (hs : Finality.Safe (finOps L)) :
    ∀ r ∈ pruneArgs (prTrace L), r = 0 ∨ ∃ h, Finality.Final (finOps L) (r, h) :=
  fun r hr => (roots_direct L hs r hr).imp_right (fun ⟨h, hd⟩ => ⟨h, .direct hd⟩)

open ParentReady in
/-- **The consistency premise implies the premise `SafeRun` of the parent-ready theorems** for the operations the
    pool performs on its parent-ready tracker: the prune roots are the watermarks of the finality tracker
    (monotone), each is genesis or the slot of a *directly* finalized block (`roots_direct`), and such a slot is never
    accepted as a skip mark (not from a skip certificate: premise; not as an implicit skip: a finalized slot is not
    between a finalized block and its parent). -/
theorem safeRun_prTrace {L : List LogItem} (hc : Consistent L) : SafeRun (prTrace L) := by
  obtain ⟨fevs, _, ri, ti⟩ := trace_inv L hc.safe
  refine ⟨(hist_prunes _).2.2 ti.sorted, fun r hr => ?_⟩
  rcases roots_direct L hc.safe r (((hist_prunes _).1 r).mp hr) with e | ⟨h, hd⟩
  · left; rw [e]; decide
  · right
    intro hm
    rcases (ti.sk r).mp hm with a | a
    · obtain ⟨c, hmem, hk, hsl⟩ := a.mem
      exact hc.skip_not_direct c hmem hk h (by rw [hsl]; exact hd)
    · exact hc.safe.final_not_skip (.direct hd) (ri.soundS r a)

structure Trk where
  fin : Finality.Tracker
  pr : ParentReady.Tracker
  wakes : List ParentReady.Wake

def Pool.trk (p : Pool) : Trk := ⟨p.fin, p.pr, p.wakes⟩

def Trk.applyPr (k : Trk) (r : ParentReady.Res) : Trk :=
  match r with
  | none => k
  | some (pr, _, wk) => { k with pr := pr, wakes := k.wakes ++ wk }

def Trk.handleFin (k : Trk) (r : Finality.Res) : Trk :=
  match r with
  | .panic => k
  | .ok t ev =>
    let k1 := ({ k with fin := t } : Trk).applyPr (ParentReady.handleFinalization k.pr ev)
    { k1 with pr := ParentReady.prune k1.pr k1.fin.first }

/-- `add_valid_cert`, as far as the trackers are concerned -/
def Trk.addValidCert (k : Trk) (c : Cert) : Trk :=
  match c.kind with
  | .notar =>
    let k1 := k.handleFin (Finality.markNotarized k.fin (c.slot, c.hash))
    k1.applyPr (ParentReady.markNotarFallback k1.pr (c.slot, c.hash))
  | .nf => k.applyPr (ParentReady.markNotarFallback k.pr (c.slot, c.hash))
  | .skip => k.applyPr (ParentReady.markSkipped k.pr c.slot)
  | .ff => k.handleFin (Finality.markFastFinalized k.fin (c.slot, c.hash))
  | .final => k.handleFin (Finality.markFinalized k.fin c.slot)

def Trk.item (k : Trk) : LogItem → Trk
  | .cert c => k.addValidCert c
  | .block b par => k.handleFin (Finality.addParent k.fin b par)

theorem trk_fin (p : Pool) : p.trk.fin = p.fin := rfl
theorem trk_pr (p : Pool) : p.trk.pr = p.pr := rfl

theorem SlotsOnly.trk {p q : Pool} (h : SlotsOnly p q) : q.trk = p.trk := by
  unfold Pool.trk; rw [h.fin, h.pr, h.wakes]

theorem notifyWaiting_trk (p : Pool) (b : Nat × Nat) : (p.notifyWaiting b).1.trk = p.trk :=
  (notifyWaiting_frame p b).trk

theorem addWaiting_trk (p : Pool) (par b : Nat × Nat) : (Pool.addWaiting p par b).trk = p.trk := by
  unfold Pool.addWaiting; split <;> rfl

theorem addBlockTail_trk (p : Pool) (b par : Nat × Nat) (e0 : List Event) (cert : Bool) :
    (Pool.addBlockTail p b par e0 cert).1.trk = p.trk :=
  addBlockTail_ind (fun q _ => q.trk = p.trk) p b par e0 cert (fun q h => (addWaiting_trk q par b).trans h)
    (fun _ _ => (slotState_frame p b.1).trk) (fun _ st' _ _ => (mod_frame p b.1 st').trk) rfl

theorem applyPr_trk (p : Pool) (r : ParentReady.Res) : (p.applyPr r).1.trk = p.trk.applyPr r := by
  unfold Pool.applyPr Trk.applyPr
  cases r with
  | none => rfl
  | some x => rfl

theorem handleFin_trk (p : Pool) (r : Finality.Res) : (p.handleFin r).1.trk = p.trk.handleFin r := by
  cases r with
  | panic => rfl
  | ok t ev =>
    simp only [Pool.handleFin, Trk.handleFin, Pool.applyPr, Trk.applyPr, Pool.trk]
    cases ParentReady.handleFinalization p.pr ev <;> rfl

theorem addValidCert_trk (p : Pool) (c : Cert) : (p.addValidCert c).1.trk = p.trk.addValidCert c := by
  have h0 := (mod_frame p c.slot ((p.slotState c.slot).2.addCert c)).trk
  unfold Pool.addValidCert Trk.addValidCert
  dsimp only
  generalize ((p.slotState c.slot).1.putSlot ((p.slotState c.slot).2.addCert c)) = q at h0 ⊢
  rw [← h0]
  have hn : (CertKind.notar == CertKind.notar) = true := rfl
  have hf : (CertKind.nf == CertKind.notar) = false := rfl
  cases c.kind <;> dsimp only
  · rw [if_pos hn, applyPr_trk, notifyWaiting_trk, (notifyWaiting_frame _ _).pr, ← trk_pr (q.handleFin _).1, handleFin_trk]; rfl
  · rw [hf, applyPr_trk, notifyWaiting_trk, (notifyWaiting_frame _ _).pr]; rfl
  · rw [applyPr_trk]; rfl
  · rw [notifyWaiting_trk, handleFin_trk]; rfl
  · rw [handleFin_trk]; rfl

/-- when the block's slot is not above its parent's, `add_block` panics and changes nothing -/
theorem addBlock_trk (p : Pool) (b par : Nat × Nat) (hlt : par.1 < b.1) :
    (p.addBlock b par).1.trk = p.trk.handleFin (Finality.addParent p.fin b par) := by
  rcases addBlock_handleFin p b par with ⟨h, _⟩ | e | ⟨cert, e⟩
  · exact absurd hlt h
  · rw [e, handleFin_trk]
  · rw [e, addBlockTail_trk, (mod_frame _ _ _).trk, handleFin_trk]

/-- events that neither announce a certificate nor a ready parent -/
def Event.quiet : Event → Bool
  | .s2n _ _ => true
  | .s2s _ => true
  | .repair _ _ => true
  | .panic => true
  | .standstill _ _ _ => true
  | .cert _ => false
  | .parentReady _ _ _ => false

def Quiet (evs : List Event) : Prop := ∀ e ∈ evs, e.quiet = true

theorem Quiet.nil : Quiet [] := fun _ h => by cases h
theorem Quiet.append {a b : List Event} (ha : Quiet a) (hb : Quiet b) : Quiet (a ++ b) :=
  fun e he => (List.mem_append.mp he).elim (ha e) (hb e)
theorem Quiet.single {e : Event} (h : e.quiet = true) : Quiet [e] :=
  fun _ hx => List.mem_singleton.mp hx ▸ h

def certsOf (evs : List Event) : List LogItem := evs.filterMap (fun | .cert c => some (.cert c) | _ => none)

theorem certsOf_append (a b : List Event) : certsOf (a ++ b) = certsOf a ++ certsOf b := by
  unfold certsOf; rw [List.filterMap_append]

theorem mem_certsOf {c : Cert} {evs : List Event} : LogItem.cert c ∈ certsOf evs ↔ Event.cert c ∈ evs := by
  unfold certsOf
  rw [List.mem_filterMap]
  constructor
  · rintro ⟨ev, hev, h⟩
    cases ev <;> simp only [Option.some.injEq, LogItem.cert.injEq, reduceCtorEq] at h
    exact h ▸ hev
  · exact fun h => ⟨_, h, rfl⟩

theorem certsOf_quiet {evs : List Event} (h : Quiet evs) : certsOf evs = [] := by
  unfold certsOf
  rw [List.filterMap_eq_nil_iff]
  intro e he
  have := h e he
  cases e <;> first | rfl | cases this

theorem s2nOut_quiet (slot h : Nat) (r : S2N) : Quiet (s2nOut slot h r) := by
  cases r
  · exact Quiet.single rfl
  · exact Quiet.single rfl
  · exact Quiet.nil

theorem s2sCheck_quiet (e : Epoch) (st : SlotState) : Quiet (st.s2sCheck e).2 := by
  unfold SlotState.s2sCheck
  split
  · exact Quiet.single rfl
  · exact Quiet.nil

theorem slot_addVote_quiet (e : Epoch) (st : SlotState) (v : Vote) : Quiet (st.addVote e v).2.2 :=
  (checks_induction (e := e) (R := fun _ _ evs => Quiet evs) (fun _ => Quiet.nil) Quiet.append
    (fun _ _ _ => s2nOut_quiet _ _ _) (s2sCheck_quiet e)).2.2.2 st v

theorem notifyParentCertified_quiet (e : Epoch) (st : SlotState) (h : Nat) (st' : SlotState) (evs : List Event)
    (hn : st.notifyParentCertified e h = some (st', evs)) : Quiet evs := by
  unfold SlotState.notifyParentCertified at hn
  split at hn
  · cases hn
  · dsimp only at hn
    split at hn
    · cases hn; exact Quiet.nil
    · cases hn; exact s2nOut_quiet _ _ _

theorem notifyChildren_quiet (p : Pool) (kids : List (Nat × Nat)) (acc : List Event) (ha : Quiet acc) :
    Quiet (p.notifyChildren kids acc).2 :=
  notifyChildren_ind (fun _ _ A => Quiet A) (fun _ _ _ _ _ h => h) (fun _ _ _ _ _ _ h => h.append (Quiet.single rfl))
    (fun _ _ _ _ _ _ _ hn h => h.append (notifyParentCertified_quiet _ _ _ _ _ hn)) kids p acc ha

theorem notifyWaiting_quiet (p : Pool) (b : Nat × Nat) : Quiet (p.notifyWaiting b).2 := by
  unfold Pool.notifyWaiting
  exact notifyChildren_quiet _ _ _ Quiet.nil

theorem certsOf_applyPr (p : Pool) (r : ParentReady.Res) : certsOf (p.applyPr r).2 = [] := by
  unfold Pool.applyPr
  cases r with
  | none => rfl
  | some x =>
    exact List.filterMap_eq_nil_iff.mpr (fun e he => by obtain ⟨a, _, rfl⟩ := List.mem_map.mp he; rfl)

theorem certsOf_handleFin (p : Pool) (r : Finality.Res) : certsOf (p.handleFin r).2 = [] := by
  unfold Pool.handleFin
  cases r with
  | panic => rfl
  | ok t ev => exact certsOf_applyPr _ _

theorem certsOf_addValidCert (p : Pool) (c : Cert) : certsOf (p.addValidCert c).2 = [.cert c] := by
  obtain ⟨E, hE, he⟩ := addValidCert_indE c p (fun _ E => certsOf E = []) (fun _ E => certsOf E = []) [] rfl
    (fun q E op _ h => by rw [certsOf_append, h, certsOf_handleFin]; rfl)
    (fun _ q E h => by rw [certsOf_append, h, certsOf_quiet (notifyWaiting_quiet _ _)]; rfl) (fun _ _ _ h => h)
    (fun _ q E h => by rw [certsOf_append, certsOf_append, h, certsOf_applyPr]; rfl)
    (fun _ q E h => by rw [certsOf_append, h, certsOf_applyPr]; rfl)
  rw [show (p.addValidCert c).2 = E ++ [.cert c] from he, certsOf_append, hE]; rfl

def Trk.prStep (k : Trk) (op : ParentReady.Op) : Trk :=
  match ParentReady.applyOp k.pr op with
  | .ok (t', _, w) => { k with pr := t', wakes := k.wakes ++ w }
  | .error _ => k

theorem foldl_prStep_fin (ops : List ParentReady.Op) (k : Trk) : (ops.foldl Trk.prStep k).fin = k.fin := by
  induction ops generalizing k with
  | nil => rfl
  | cons op ops ih => rw [List.foldl_cons, ih]; unfold Trk.prStep; split <;> rfl

theorem applyPr_nf_eq (k : Trk) (b : Nat × Nat) :
    k.applyPr (ParentReady.markNotarFallback k.pr b) = k.prStep (.nf b) := by
  unfold Trk.applyPr Trk.prStep
  simp only [ParentReady.applyOp]
  cases ParentReady.markNotarFallback k.pr b <;> rfl

theorem applyPr_skip_eq (k : Trk) (s : Nat) :
    k.applyPr (ParentReady.markSkipped k.pr s) = k.prStep (.skip s) := by
  unfold Trk.applyPr Trk.prStep
  simp only [ParentReady.applyOp]
  cases ParentReady.markSkipped k.pr s <;> rfl

theorem handleFin_eq (k : Trk) (op : Finality.Op) :
    k.handleFin (Finality.step k.fin op) =
      (finPart k.fin op).2.foldl Trk.prStep { k with fin := (finPart k.fin op).1 } := by
  unfold Trk.handleFin finPart
  cases Finality.step k.fin op with
  | panic => rfl
  | ok t ev =>
    simp only [List.foldl_cons, List.foldl_nil, Trk.applyPr, Trk.prStep, ParentReady.applyOp]
    cases ParentReady.handleFinalization k.pr ev <;> simp

theorem trk_item_eq (k : Trk) (it : LogItem) :
    k.item it = (itemStep k.fin it).2.foldl Trk.prStep { k with fin := (itemStep k.fin it).1 } := by
  cases it with
  | block b par =>
    simp only [itemStep, LogItem.finOp, LogItem.marks, finParts, List.append_nil]
    exact handleFin_eq k (.parent b par)
  | cert c =>
    obtain ⟨kind, s, h, _, _, _⟩ := c
    cases kind <;>
      simp only [itemStep, LogItem.finOp, LogItem.marks, finParts, List.append_nil, List.nil_append, List.foldl_append]
    · rw [← handleFin_eq]; exact applyPr_nf_eq _ _
    · exact applyPr_nf_eq k _
    · exact applyPr_skip_eq k _
    · exact handleFin_eq k (.fastFinal (s, h))
    · exact handleFin_eq k (.final s)

open ParentReady in
theorem foldl_runStep_trk {ops : List Op} {k : Trk} {anns : List (Nat × (Nat × Nat))} {st' : RunState}
    (h : ops.foldl runStep (.ok ⟨k.pr, anns, k.wakes⟩) = .ok st') :
    ∃ anns', st' = ⟨(ops.foldl Trk.prStep k).pr, anns', (ops.foldl Trk.prStep k).wakes⟩ := by
  induction ops generalizing k anns with
  | nil => cases h; exact ⟨anns, rfl⟩
  | cons op ops ih =>
    obtain ⟨t', a, w, ha, h2⟩ := foldl_runStep_cons_ok h
    have hk : k.prStep op = { k with pr := t', wakes := k.wakes ++ w } := by
      unfold Trk.prStep; rw [ha]
    rw [List.foldl_cons, hk]
    exact ih (k := { k with pr := t', wakes := k.wakes ++ w }) h2

/-- **The wiring invariant**: the parent-ready tracker and the wake-ups sent so far are the result of running the trace
    `prTrace L` from `ParentReadyTracker::default()`, without panic. -/
structure Wired (k : Trk) (L : List LogItem) : Prop where
  fin : finState L = k.fin
  pr : ∃ anns, ParentReady.run (prTrace L) = .ok ⟨k.pr, anns, k.wakes⟩

theorem Wired.init (e : Epoch) : Wired ({ epoch := e } : Pool).trk [] :=
  ⟨rfl, ⟨[], rfl⟩⟩

theorem wired_runInv {p : Pool} {L : List LogItem} (w : Wired p.trk L) (sf : Finality.Safe (finOps L)) :
    ∃ fevs, Finality.RunInv (finOps L) p.fin fevs := by
  obtain ⟨fevs, _, ri, _⟩ := trace_inv L sf
  exact ⟨fevs, (show finState L = p.fin from w.fin) ▸ ri⟩

open ParentReady in
/-- the trace has no waits, so the only panic `reach_inv` leaves open is excluded -/
theorem Wired.run_item {k : Trk} {L : List LogItem} (w : Wired k L) (it : LogItem) (hc : Consistent (L ++ [it])) :
    ∃ anns st, (itemStep k.fin it).2.foldl runStep (.ok ⟨k.pr, anns, k.wakes⟩) = .ok st ∧
      run (prTrace (L ++ [it])) = .ok st := by
  obtain ⟨fevs, _, _, ti⟩ := trace_inv _ hc.safe
  obtain ⟨anns, hpr⟩ := w.pr
  rcases reach_inv _ (safeRun_prTrace hc) with ⟨st, hst, _⟩ | ⟨_, hnd⟩
  · refine ⟨anns, st, ?_, hst⟩
    rw [prTrace_snoc, run_append, hpr, w.fin] at hst
    exact hst
  · rw [ti.nowait] at hnd
    exact absurd List.nodup_nil hnd

theorem Wired.item {k : Trk} {L : List LogItem} (w : Wired k L) (it : LogItem) (hc : Consistent (L ++ [it])) :
    Wired (k.item it) (L ++ [it]) := by
  obtain ⟨anns, st, hst, hrun⟩ := w.run_item it hc
  obtain ⟨anns', e⟩ := foldl_runStep_trk (k := { k with fin := (itemStep k.fin it).1 }) hst
  rw [← trk_item_eq] at e
  exact ⟨by rw [finState_snoc, w.fin, trk_item_eq, foldl_prStep_fin], anns', by rw [hrun, e]⟩

theorem Wired.items {k : Trk} {L : List LogItem} (w : Wired k L) (its : List LogItem) (hc : Consistent (L ++ its)) :
    Wired (its.foldl Trk.item k) (L ++ its) := by
  induction its generalizing k L with
  | nil => exact (List.append_nil L).symm ▸ w
  | cons it its ih =>
    rw [List.append_cons] at hc ⊢
    exact ih (w.item it hc.prefix) hc

def stepItems (op : PoolOp) (evs : List Event) : List LogItem :=
  (match op with | .block b par => [LogItem.block b par] | _ => []) ++ certsOf evs

/-- **The ghost log of a pool run**: block registrations and `CertCreated` events, in order. -/
def poolLog (p : Pool) : List PoolOp → List LogItem
  | [] => []
  | op :: ops => stepItems op (poolStep p op).2 ++ poolLog (poolStep p op).1 ops

theorem poolLog_append (p : Pool) (a b : List PoolOp) :
    poolLog p (a ++ b) = poolLog p a ++ poolLog (poolRun p a).1 b := by
  induction a generalizing p with
  | nil => rfl
  | cons op a ih =>
    simp only [List.cons_append, poolLog, poolRun]
    rw [ih, List.append_assoc]

theorem certsOf_addValidCerts (cs : List Cert) (r : Pool) (acc : List Event) :
    certsOf (r.addValidCerts cs acc).2 = certsOf acc ++ cs.map LogItem.cert := by
  induction cs generalizing r acc with
  | nil => exact (List.append_nil _).symm
  | cons c cs ih =>
    unfold Pool.addValidCerts
    dsimp only
    rw [ih, certsOf_append, certsOf_addValidCert, List.append_assoc]; rfl

/-- the log items of an admitted vote are the certificates its slot created -/
theorem certsOf_voted (p : Pool) (v : Vote) (cs : List Cert) :
    certsOf (((p.voted v).addValidCerts cs []).2 ++ ((p.slotState v.slot).2.addVote p.epoch v).2.2) = cs.map LogItem.cert := by
  rw [certsOf_append, certsOf_addValidCerts, certsOf_quiet (slot_addVote_quiet _ _ _), List.append_nil]; rfl

theorem addValidCerts_trk (cs : List Cert) (p : Pool) (acc : List Event) :
    (p.addValidCerts cs acc).1.trk = (cs.map LogItem.cert).foldl Trk.item p.trk := by
  induction cs generalizing p acc with
  | nil => rfl
  | cons c cs ih => rw [addValidCerts_step, ih, addValidCert_trk]; rfl

theorem certsOf_addBlockTail (p : Pool) (b par : Nat × Nat) (e0 : List Event) (cert : Bool) :
    certsOf (Pool.addBlockTail p b par e0 cert).2 = certsOf e0 :=
  addBlockTail_ind (fun _ E => certsOf E = certsOf e0) p b par e0 cert (fun _ h => h)
    (fun _ _ => by rw [certsOf_append]; exact List.append_nil _)
    (fun _ _ _ hn => by rw [certsOf_append, certsOf_quiet (notifyParentCertified_quiet _ _ _ _ _ hn), List.append_nil]) rfl

theorem certsOf_addBlock (p : Pool) (b par : Nat × Nat) : certsOf (p.addBlock b par).2 = [] := by
  rcases addBlock_handleFin p b par with ⟨_, e⟩ | e | ⟨cert, e⟩ <;> rw [e]
  · rfl
  · exact certsOf_handleFin _ _
  · rw [certsOf_addBlockTail]; exact certsOf_handleFin _ _

theorem block_link_lt {L : List LogItem} {b par : Nat × Nat} (hs : Finality.Safe (finOps (L ++ [.block b par]))) :
    par.1 < b.1 :=
  hs.link_lt b par (by
    show Finality.Op.parent b par ∈ finOps (L ++ [.block b par])
    rw [finOps_snoc]
    exact List.mem_append_right _ (List.mem_singleton.mpr rfl))

theorem stepItems_vote (p : Pool) (v : Vote) :
    stepItems (.vote v) (poolStep p (.vote v)).2 = certsOf (p.addVote v).2.2 := by
  unfold stepItems; exact List.nil_append _

theorem stepItems_cert (p : Pool) (c : Cert) :
    stepItems (.cert c) (poolStep p (.cert c)).2 = certsOf (p.addCert c).2.2 := by
  unfold stepItems; exact List.nil_append _

theorem stepItems_block (p : Pool) (b par : Nat × Nat) :
    stepItems (.block b par) (poolStep p (.block b par)).2 = [.block b par] := by
  unfold stepItems poolStep
  rw [certsOf_addBlock]; rfl

theorem poolStep_trk (p : Pool) (op : PoolOp) (hb : ∀ b par, op = .block b par → par.1 < b.1) :
    (poolStep p op).1.trk = (stepItems op (poolStep p op).2).foldl Trk.item p.trk := by
  cases op with
  | vote v =>
    rw [stepItems_vote]
    show (p.addVote v).1.trk = _
    rcases addVote_outcomes p v with h | ⟨_, h⟩ | ⟨vd, _, _, h⟩ | ⟨_, _, h⟩ <;> rw [h]
    · rfl
    · rfl
    · exact (slotState_frame _ _).trk
    · dsimp only
      rw [certsOf_voted, addValidCerts_trk, (voted_frame p v).trk]
  | cert c =>
    rw [stepItems_cert]
    show (p.addCert c).1.trk = _
    rcases addCert_outcomes p c with h | h | h <;> rw [h]
    · rfl
    · exact (slotState_frame _ _).trk
    · dsimp only
      rw [certsOf_addValidCert, addValidCert_trk, (slotState_frame _ _).trk]; rfl
  | block b par =>
    rw [stepItems_block]
    exact addBlock_trk p b par (hb b par rfl)

theorem poolStep_wired (p : Pool) (op : PoolOp) (L : List LogItem) (w : Wired p.trk L)
    (hc : Consistent (L ++ stepItems op (poolStep p op).2)) :
    Wired (poolStep p op).1.trk (L ++ stepItems op (poolStep p op).2) := by
  rw [poolStep_trk p op (fun b par e => by subst e; rw [stepItems_block] at hc; exact block_link_lt hc.safe)]
  exact w.items _ hc

theorem poolLog_ind (I : Pool → List LogItem → Prop) (ops : List PoolOp)
    (hstep : ∀ op ∈ ops, ∀ p L, I p L → I (poolStep p op).1 (L ++ stepItems op (poolStep p op).2))
    (p : Pool) (L : List LogItem) (h : I p L) : I (poolRun p ops).1 (L ++ poolLog p ops) := by
  induction ops generalizing p L with
  | nil => rw [show poolLog p [] = [] from rfl, List.append_nil]; exact h
  | cons op ops ih =>
    show I (poolRun (poolStep p op).1 ops).1 (L ++ (stepItems op (poolStep p op).2 ++ poolLog (poolStep p op).1 ops))
    rw [← List.append_assoc]
    exact ih (fun o ho => hstep o (List.mem_cons_of_mem _ ho)) _ _ (hstep op List.mem_cons_self p L h)

theorem poolRun_wired (ops : List PoolOp) (p : Pool) (L : List LogItem) (w : Wired p.trk L)
    (hc : Consistent (L ++ poolLog p ops)) : Wired (poolRun p ops).1.trk (L ++ poolLog p ops) :=
  poolLog_ind (fun p L => Consistent L → Wired p.trk L) ops
    (fun op _ p L h hc => poolStep_wired p op L (h hc.prefix) hc) p L (fun _ => w) hc

theorem finParts_first_mono (t : Finality.Tracker) (ops : List Finality.Op) : t.first ≤ (finParts t ops).1.first := by
  induction ops generalizing t with
  | nil => exact Nat.le_refl _
  | cons op rest ih =>
    refine Nat.le_trans ?_ (ih (finPart t op).1)
    unfold finPart
    cases h : Finality.step t op with
    | panic => exact Nat.le_refl _
    | ok t' ev => exact fin_first_mono h

theorem finState_first_mono {pre L : List LogItem} (hp : pre <+: L) : (finState pre).first ≤ (finState L).first := by
  obtain ⟨post, rfl⟩ := hp
  induction post using ParentReady.snoc_induction with
  | nil => rw [List.append_nil]; exact Nat.le_refl _
  | snoc post it ih => rw [← List.append_assoc, finState_snoc]; exact Nat.le_trans ih (finParts_first_mono _ _)

/-- for a slot at or above the current watermark the qualification "while the slot was above the root" is void -/
theorem nfCertAcc_above {L : List LogItem} {b : Nat × Nat} (hb : (finState L).first ≤ b.1) :
    NfCertAcc L b ↔ ∃ c, LogItem.cert c ∈ L ∧ (c.kind = .notar ∨ c.kind = .nf) ∧ (c.slot, c.hash) = b := by
  constructor
  · exact NfCertAcc.mem
  · rintro ⟨c, hm, hk, he⟩
    obtain ⟨pre, hp⟩ := cert_mem_iff_prefix.mp hm
    exact ⟨pre, c, hp, hk, he, Nat.le_trans (finState_first_mono hp) hb⟩

theorem skCertAcc_above {L : List LogItem} {s : Nat} (hb : (finState L).first ≤ s) : SkCertAcc L s ↔ SkipCertIn L s := by
  constructor
  · exact SkCertAcc.mem
  · rintro ⟨c, hm, hk, he⟩
    obtain ⟨pre, hp⟩ := cert_mem_iff_prefix.mp hm
    exact ⟨pre, c, hp, hk, he, Nat.le_trans (finState_first_mono ((List.prefix_append _ _).trans hp)) hb⟩

/-- `Consistent` with bounded quantifiers -/
def ConsistentC (L : List LogItem) : Prop :=
  Finality.Safe (finOps L) ∧
  (∀ it ∈ L, match it with
    | .cert c => c.kind = .skip → ∀ b ∈ Finality.cands (finOps L), Finality.directB (finOps L) b = true → b.1 ≠ c.slot
    | .block _ _ => True) ∧
  ∀ b ∈ Finality.finals (finOps L), b.1 = 0 → b.2 = 0

instance (L : List LogItem) : Decidable (ConsistentC L) := by
  unfold ConsistentC
  have : ∀ it : LogItem, Decidable (match it with
    | .cert c => c.kind = .skip → ∀ b ∈ Finality.cands (finOps L), Finality.directB (finOps L) b = true → b.1 ≠ c.slot
    | .block _ _ => True) := by
    intro it; cases it <;> infer_instance
  infer_instance

theorem consistentC_iff {L : List LogItem} : ConsistentC L ↔ Consistent L := by
  constructor
  · rintro ⟨sf, h, hg⟩
    refine ⟨sf, fun c hm hk hh hd => ?_, fun hh hf => ?_⟩
    · exact h (.cert c) hm hk (c.slot, hh) (Finality.final_mem_cands (.direct hd)) (Finality.directB_iff.mpr hd) rfl
    · exact hg (0, hh) ((Finality.mem_finals sf.link_lt).mpr hf) rfl
  · rintro ⟨sf, h, hg⟩
    refine ⟨sf, fun it hm => ?_, fun b hb e => ?_⟩
    · cases it with
      | block b par => trivial
      | cert c =>
        intro hk b _ hd e
        exact h c hm hk b.2 (by rw [← e]; exact Finality.directB_iff.mp hd)
    · obtain ⟨s, x⟩ := b
      cases (e : s = 0)
      exact hg x ((Finality.mem_finals sf.link_lt).mp hb)

instance (L : List LogItem) : Decidable (Consistent L) := decidable_of_iff _ consistentC_iff

theorem applyPr_panic_iff (p : Pool) (r : ParentReady.Res) : Event.panic ∈ (p.applyPr r).2 ↔ r = none := by
  unfold Pool.applyPr
  cases r with
  | none => simp
  | some x => obtain ⟨pr, anns, wk⟩ := x; simp [prEvents]

theorem handleFin_panic_iff (p : Pool) (r : Finality.Res) :
    Event.panic ∈ (p.handleFin r).2 ↔
      (r = .panic ∨ ∃ t ev, r = .ok t ev ∧ ParentReady.handleFinalization p.pr ev = none) := by
  unfold Pool.handleFin
  cases r with
  | panic => simp
  | ok t ev =>
    dsimp only
    rw [applyPr_panic_iff]
    constructor
    · intro h; exact Or.inr ⟨t, ev, rfl, h⟩
    · rintro (h | ⟨t', ev', h, h2⟩)
      · cases h
      · cases h; exact h2

theorem fin_item_ok {k : Trk} {L : List LogItem} (w : Wired k L) (it : LogItem) (hc : Consistent (L ++ [it])) :
    ∀ op ∈ it.finOp, ∃ t ev, Finality.step k.fin op = .ok t ev := by
  intro op hop
  obtain ⟨f1, _, ri, _⟩ := trace_inv L hc.prefix.safe
  obtain ⟨t', evs, hr, _⟩ := Finality.run_runInv it.finOp (finOps L) _ _ ri (finOps_snoc L it ▸ hc.safe)
  rw [w.fin] at hr
  rcases finOp_cases it with h | ⟨op', h⟩ <;> rw [h] at hop hr
  · cases hop
  · cases List.mem_singleton.mp hop
    obtain ⟨t1, ev, _, hs, _⟩ := Finality.run_cons.mp hr
    exact ⟨t1, ev, hs⟩

end AgModel.Pool
