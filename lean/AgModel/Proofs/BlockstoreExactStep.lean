import AgModel.Proofs.BlockstoreExact
/-! One `add_shred` step on the exact invariant (core Lean only). -/
namespace AgModel.Blockstore

/-- the state between `try_reconstruct_slice` (which just completed a slice) and `try_reconstruct_block` -/
structure Pre (B : HBlock) (cap : Nat) (D : DSet) (b : BlockData) : Prop where
  hcap : b.cap = cap
  hslot : b.slot = B.slot
  cache : ∀ i, b.cache i = if i < B.n ∧ 0 < cnt D i then some (B.commit i) else none
  last : b.lastSlice = if 0 < cnt D (B.n - 1) then some (B.n - 1) else none
  shreds : ∀ i, b.shreds i = if i < B.n ∧ 0 < cnt D i then some (arrOf B D i) else none
  slices : ∀ i, b.slices i = if i < B.n ∧ DATA_SHREDS ≤ cnt D i then some (B.rslice i) else none
  completed : b.completed = none
  tree : b.tree = none

theorem pre_exact {B : HBlock} {cap : Nat} {D : DSet} {b : BlockData} (hp : Pre B cap D b) (hnf : ¬ Full B D) :
    Exact B cap D D D b := by
  refine ⟨hp.hcap, hp.hslot, hp.cache, hp.last, hp.shreds, fun i => ?_, by rw [hp.completed, if_neg hnf],
    by rw [hp.tree, if_neg hnf]⟩
  exact (hp.slices i).trans (ite_iff ⟨fun h => ⟨hnf, h⟩, fun h => h.2⟩ _ _)

/-- the premise of the first conjunct (here and in the steps built on this one): a block rejected for its parent's slot
    leaves a store that is not the function of the delivered set -/
theorem tryReconstructBlock_exact {B : HBlock} {env : Nat → Content} {cap : Nat} (hwf : B.Cut env cap)
    {D : DSet} {b : BlockData} (hp : Pre B cap D b) (hg : Good B cap b) :
    ((Full B D → B.fparent.1 < B.slot) → Exact B cap D D D (tryReconstructBlock b).1) ∧
      (tryReconstructBlock b).2 =
        if Full B D then (if B.fparent.1 < B.slot then .complete B.block.info else .error) else .noAction := by
  have hdp := data_shreds_pos
  rcases tryReconstructBlock_good hwf hg with ⟨e, hwhy⟩ | ⟨_, hall, e⟩ <;> rw [e]
  · -- nothing happens: the marker or a slice is missing, so something has not arrived
    have hnf : ¬ Full B D := fun hfull => by
      rcases hwhy with h | h | ⟨i, hi, h⟩
      · rw [hp.completed] at h; cases h
      · rw [hp.last, if_pos (by have := hfull (B.n - 1) (by have := hwf.npos; omega); omega)] at h; cases h
      · rw [hp.slices i, if_pos ⟨hi, hfull i hi⟩] at h; cases h
    rw [if_neg hnf]
    exact ⟨fun _ => pre_exact hp hnf, rfl⟩
  · have hfull : Full B D := fun k hk => (ite_some_eq ((hp.slices k).symm.trans (hall k hk))).1.2
    rw [if_pos hfull]
    by_cases hok : B.fparent.1 < B.slot
    · rw [if_pos hok, if_pos hok]
      refine ⟨fun _ => ⟨hp.hcap, hp.hslot, hp.cache, hp.last, hp.shreds, fun i => ?_, (if_pos hfull).symm,
        (if_pos hfull).symm⟩, rfl⟩
      refine Eq.trans ?_ (if_neg fun h => h.1 hfull).symm
      change (if i ≤ B.n - 1 then none else b.slices i) = none
      split
      · rfl
      · rw [hp.slices i, if_neg (by omega)]
    · rw [if_neg hok, if_neg hok]
      exact ⟨fun h => absurd (h hfull) hok, rfl⟩

/-- what `add_shred` answers when a delivery completes the block -/
def doneRes (B : HBlock) : AddRes := if B.fparent.1 < B.slot then .ev (.block B.block.info) else .err .invalidShred

theorem reconstruct_exact {B : HBlock} {env : Nat → Content} {cap : Nat} (hwf : B.Cut env cap)
    {D : DSet} {b : BlockData} {s : Shred}
    (hg : Exact B cap (dadd D s) (dadd D s) D b) (hs : B.Honest s) (hc : cnt D s.slice < DATA_SHREDS) :
    ((Full B (dadd D s) → B.fparent.1 < B.slot) →
      Exact B cap (dadd D s) (dadd D s) (dadd D s) (reconstruct env (insertShred b s) s.slice).1) ∧
      (reconstruct env (insertShred b s) s.slice).2 = if Full B (dadd D s) then doneRes B else .none := by
  have hnf : ¬ Full B D := not_full_of_lt hs.1 hc
  -- the block is open, the slice not decoded: what decides is the number of its shreds
  have hcond : (b.completed.isSome ∨ (b.slices s.slice).isSome ∨
      (present (upd ((b.shreds s.slice).getD arrEmpty) s.idx (some s))).length < DATA_SHREDS) ↔
      cnt (dadd D s) s.slice < DATA_SHREDS := by
    rw [hg.completed, if_neg hnf, hg.slices, if_neg (by omega), getD_arr hg hs.1, present_len_upd B D s hc]
    simp
  rw [reconstruct_own hwf (hg.good (Nat.zero_lt_of_lt hs.1)) hs, ite_iff hcond]
  by_cases hlt : cnt (dadd D s) s.slice < DATA_SHREDS
  · rw [if_pos hlt, if_neg (not_full_of_lt hs.1 hlt)]
    exact ⟨fun _ => exact_small hg hs hlt, rfl⟩
  · have hge : DATA_SHREDS ≤ cnt (dadd D s) s.slice := Nat.le_of_not_lt hlt
    rw [if_neg hlt]
    -- the state handed to `try_reconstruct_block`
    have hpre : Pre B cap (dadd D s) (B.decoded (insertShred b s) s.slice) := by
      refine ⟨hg.hcap, hg.hslot, hg.cache, hg.last, fun i => ?_, fun i => ?_,
        by change b.completed = none; rw [hg.completed, if_neg hnf], by change b.tree = none; rw [hg.tree, if_neg hnf]⟩
      · change upd (insertShred b s).shreds s.slice _ i = _
        by_cases hi : i = s.slice
        · rw [hi, upd_same, if_pos ⟨hs.1, cnt_add_pos D s hs.2.1⟩, arrOf_of_ge B hge]
        · rw [upd_other hi, insertShred_other b s hi, hg.shreds i, cnt_add_other D hi,
            arrOf_add_other B D hi]
      · change upd b.slices s.slice _ i = _
        by_cases hi : i = s.slice
        · rw [hi, upd_same, if_pos ⟨hs.1, hge⟩]
        · rw [upd_other hi, hg.slices i, cnt_add_other D hi]
          exact ite_iff ⟨fun h => h.2, fun h => ⟨hnf, h⟩⟩ _ _
    obtain ⟨hx, hr⟩ := tryReconstructBlock_exact hwf hpre
      (good_decoded (insertShred_good (hg.good (Nat.zero_lt_of_lt hs.1)) hs) hs.1)
    refine ⟨hx, ?_⟩
    change RecBlock.res _ = _
    rw [hr]
    unfold doneRes
    split
    · split <;> rfl
    · rfl

/-- the result of `add_shred` for a leader's shred `s` after the deliveries `D` -/
def resOf (B : HBlock) (D : DSet) (s : Shred) : AddRes :=
  if D s.slice s.idx = true ∨ DATA_SHREDS ≤ cnt D s.slice then .err .duplicate
  else if Empty B D then .ev .firstShred
  else if Full B (dadd D s) then doneRes B else .none

theorem storeStep_exact {B : HBlock} {env : Nat → Content} {cap : Nat} (hwf : B.Cut env cap)
    {D : DSet} {b : BlockData} {s : Shred}
    (hg : Exact B cap (dadd D s) (dadd D s) D b) (hs : B.Honest s) :
    ((Full B (dadd D s) → B.fparent.1 < B.slot) →
      Exact B cap (dadd D s) (dadd D s) (dadd D s) (storeStep env b s).1) ∧ (storeStep env b s).2 = resOf B D s := by
  have harr := getD_arr hg hs.1
  have hsome : (arrOf B D s.slice s.idx).isSome = true ↔ (D s.slice s.idx = true ∨ DATA_SHREDS ≤ cnt D s.slice) := by
    unfold arrOf
    constructor
    · intro h
      split at h
      · rename_i hc; exact hc.2
      · cases h
    · intro h
      rw [if_pos ⟨hs.2.1, h⟩]; rfl
  have hemp := mapEmpty_exact hwf.ncap hg
  unfold resOf
  rcases storeStep_cases env b s with ⟨e, arr, h1, h2⟩ | ⟨hnd, ⟨he, e⟩ | ⟨he, e⟩⟩ <;> rw [e]
  · have hdup := hsome.mp (by rw [← harr, h1]; exact h2)
    exact ⟨fun _ => exact_dup hg hdup, (if_pos hdup).symm⟩
  all_goals
    have hdup : ¬ (D s.slice s.idx = true ∨ DATA_SHREDS ≤ cnt D s.slice) := fun h => by
      have := hsome.mpr h
      rw [← harr, hnd] at this; cases this
    have hD : D s.slice s.idx = false := Bool.eq_false_iff.mpr fun h => hdup (Or.inl h)
    have hc : cnt D s.slice < DATA_SHREDS := Nat.lt_of_not_le fun h => hdup (Or.inr h)
    rw [if_neg hdup]
  · have hE := hemp.mp he
    have hlt : cnt (dadd D s) s.slice < DATA_SHREDS := by
      rw [cnt_add_new hD hs.2.1, hE s.slice hs.1]; exact data_shreds_gt_one
    exact ⟨fun _ => exact_small hg hs hlt, (if_pos hE).symm⟩
  · rw [if_neg (fun h => by rw [hemp.mpr h] at he; cases he)]
    exact reconstruct_exact hwf hg hs hc

/-- **The exact invariant**: one `add_shred` of a leader's shred answers `resOf B D s` and, unless it rejects the block
    for its parent's slot, moves the store from the state of the delivered set `D` to the state of `D ∪ {s}`. -/
theorem addShred_exact {B : HBlock} {env : Nat → Content} {cap : Nat} (hwf : B.Cut env cap)
    {D : DSet} {b : BlockData} {s : Shred} (hg : Exact B cap D D D b) (hs : B.Honest s) :
    ((Full B (dadd D s) → B.fparent.1 < B.slot) →
      Exact B cap (dadd D s) (dadd D s) (dadd D s) (addShredCore env b s).1) ∧ (addShredCore env b s).2 = resOf B D s := by
  rw [addShredCore_own (hg.good (Nat.zero_lt_of_lt hs.1)) hs]
  exact storeStep_exact hwf (exact_staged hg hs) hs

end AgModel.Blockstore
