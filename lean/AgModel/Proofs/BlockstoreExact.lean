import AgModel.Proofs.BlockstoreHonest
/-! The exact (completeness) invariant of `AgModel.Blockstore.addShredCore` for a correct leader's block:
    the dissemination `BlockData` is a *function of the set of delivered shreds* (core Lean only). -/
namespace AgModel.Blockstore

/-- a set of delivered shreds: `D i j` = shred `j` of slice `i` has been delivered -/
abbrev DSet := Nat → Nat → Bool

/-- `D ∪ {s}` -/
def dadd (D : DSet) (s : Shred) : DSet := fun i j => D i j || (i == s.slice && j == s.idx)

def cnt (D : DSet) (i : Nat) : Nat := (List.range TOTAL_SHREDS).countP (D i)

def Full (B : HBlock) (D : DSet) : Prop := ∀ k, k < B.n → DATA_SHREDS ≤ cnt D k

def Empty (B : HBlock) (D : DSet) : Prop := ∀ k, k < B.n → cnt D k = 0

instance (B : HBlock) (D : DSet) : Decidable (Full B D) := by unfold Full; infer_instance
instance (B : HBlock) (D : DSet) : Decidable (Empty B D) := by unfold Empty; infer_instance

theorem data_shreds_gt_one : 1 < DATA_SHREDS := by decide

theorem countP_range_set (p : Nat → Bool) (k n : Nat) (hk : k < n) (hp : p k = false) :
    (List.range n).countP (fun j => p j || j == k) = (List.range n).countP p + 1 := by
  induction n with
  | zero => omega
  | succ n ih =>
    rw [List.range_succ, List.countP_append, List.countP_append]
    by_cases hkn : k < n
    · rw [ih hkn]
      have : (n == k) = false := by simp; omega
      simp [this]; omega
    · have hkn' : k = n := by omega
      subst hkn'
      have h1 : (List.range k).countP (fun j => p j || j == k) = (List.range k).countP p := by
        apply List.countP_congr
        intro j hj
        have : j < k := List.mem_range.mp hj
        have : (j == k) = false := by simp; omega
        simp [this]
      rw [h1]
      simp [hp]

theorem cnt_add_other (D : DSet) {s : Shred} {i : Nat} (h : i ≠ s.slice) : cnt (dadd D s) i = cnt D i := by
  unfold cnt
  have : dadd D s i = D i := by
    funext j; simp [dadd, h]
  rw [this]

theorem dadd_same {D : DSet} {s : Shred} (h : D s.slice s.idx = true) : dadd D s = D := by
  funext i j
  unfold dadd
  by_cases hi : i = s.slice
  · by_cases hj : j = s.idx
    · subst hi; subst hj; simp [h]
    · simp [hj]
  · simp [hi]

theorem cnt_add_new {D : DSet} {s : Shred} (h : D s.slice s.idx = false) (hj : s.idx < TOTAL_SHREDS) :
    cnt (dadd D s) s.slice = cnt D s.slice + 1 := by
  unfold cnt
  have : dadd D s s.slice = fun j => D s.slice j || j == s.idx := by
    funext j; simp [dadd]
  rw [this]
  exact countP_range_set (D s.slice) s.idx TOTAL_SHREDS hj h

theorem cnt_mono (D : DSet) (s : Shred) (i : Nat) : cnt D i ≤ cnt (dadd D s) i := by
  unfold cnt
  apply List.countP_mono_left
  intro j _ hj
  simp [dadd, hj]

theorem cnt_pos_of {D : DSet} {i j : Nat} (hj : j < TOTAL_SHREDS) (h : D i j = true) : 0 < cnt D i := by
  unfold cnt
  rw [List.countP_pos_iff]
  exact ⟨j, List.mem_range.mpr hj, h⟩

theorem cnt_zero {D : DSet} {i j : Nat} (hj : j < TOTAL_SHREDS) (h : cnt D i = 0) : D i j = false := by
  cases hd : D i j with
  | false => rfl
  | true => have := cnt_pos_of hj hd; omega

theorem cnt_add_pos (D : DSet) (s : Shred) (hj : s.idx < TOTAL_SHREDS) : 0 < cnt (dadd D s) s.slice :=
  cnt_pos_of (j := s.idx) hj (by simp [dadd])

theorem full_mono (B : HBlock) (D : DSet) (s : Shred) (h : Full B D) : Full B (dadd D s) := by
  intro k hk
  have := h k hk
  have := cnt_mono D s k
  omega

theorem full_add_of_ge (B : HBlock) (D : DSet) (s : Shred) (h : DATA_SHREDS ≤ cnt D s.slice) :
    Full B (dadd D s) ↔ Full B D := by
  constructor
  · intro hf k hk
    by_cases hks : k = s.slice
    · subst hks; exact h
    · rw [← cnt_add_other D hks]; exact hf k hk
  · exact full_mono B D s

theorem not_full_of_lt {B : HBlock} {D : DSet} {i : Nat} (hi : i < B.n) (h : cnt D i < DATA_SHREDS) : ¬ Full B D := by
  intro hf
  have := hf i hi
  omega

theorem not_empty_add (B : HBlock) (D : DSet) (s : Shred) (hi : s.slice < B.n) (hj : s.idx < TOTAL_SHREDS) :
    ¬ Empty B (dadd D s) := by
  intro he
  have := he s.slice hi
  have := cnt_add_pos D s hj
  omega

theorem not_full_add_of_empty (B : HBlock) (D : DSet) (s : Shred) (hi : s.slice < B.n) (hj : s.idx < TOTAL_SHREDS)
    (he : Empty B D) : ¬ Full B (dadd D s) := by
  apply not_full_of_lt hi
  have h0 := he s.slice hi
  rw [cnt_add_new (cnt_zero hj h0) hj, h0]
  exact data_shreds_gt_one

theorem not_full_of_empty {B : HBlock} {D : DSet} (hn : 0 < B.n) (he : Empty B D) : ¬ Full B D :=
  not_full_of_lt hn (by rw [he 0 hn]; exact data_shreds_pos)

def dnone : DSet := fun _ _ => false

theorem cnt_dnone (i : Nat) : cnt dnone i = 0 := by
  unfold cnt dnone; simp

theorem empty_dnone (B : HBlock) : Empty B dnone := fun k _ => cnt_dnone k

theorem not_full_dnone (B : HBlock) (hn : 0 < B.n) : ¬ Full B dnone := not_full_of_empty hn (empty_dnone B)

/-- the shred array of slice `i` after the deliveries `D`: the delivered shreds while fewer than
    `DATA_SHREDS` arrived, all `TOTAL_SHREDS` (refilled by the decoder) from then on -/
def arrOf (B : HBlock) (D : DSet) (i : Nat) : ShredArr :=
  fun j => if j < TOTAL_SHREDS ∧ (D i j = true ∨ DATA_SHREDS ≤ cnt D i) then some (B.shred i j) else none

/-- the dissemination `BlockData` as a function of the delivered sets (`Dc` for the commitment cache,
    `Dl` for the last-slice marker, `D` for the rest: the three stages of `add_shred` move them one
    after the other from `D` to `D ∪ {s}`) -/
structure Exact (B : HBlock) (cap : Nat) (Dc Dl D : DSet) (b : BlockData) : Prop where
  hcap : b.cap = cap
  hslot : b.slot = B.slot
  cache : ∀ i, b.cache i = if i < B.n ∧ 0 < cnt Dc i then some (B.commit i) else none
  last : b.lastSlice = if 0 < cnt Dl (B.n - 1) then some (B.n - 1) else none
  shreds : ∀ i, b.shreds i = if i < B.n ∧ 0 < cnt D i then some (arrOf B D i) else none
  slices : ∀ i, b.slices i = if ¬ Full B D ∧ i < B.n ∧ DATA_SHREDS ≤ cnt D i then some (B.rslice i) else none
  completed : b.completed = if Full B D then some B.block else none
  tree : b.tree = if Full B D then some B.roots else none

theorem exact_new (B : HBlock) (cap : Nat) (hn : 0 < B.n) : Exact B cap dnone dnone dnone (BlockData.new cap B.slot) := by
  have hnf := not_full_dnone B hn
  constructor <;> simp [BlockData.new, cnt_dnone, hnf]
  intro _ _; decide

theorem arrOf_honest (B : HBlock) (D : DSet) (i : Nat) : B.OwnArr i (arrOf B D i) := by
  intro j x h
  obtain ⟨hc, rfl⟩ := ite_some_eq h
  exact ⟨hc.1, rfl⟩

theorem Exact.good {B : HBlock} {cap : Nat} {Dc Dl D : DSet} {b : BlockData} (hg : Exact B cap Dc Dl D b) (hn : 0 < B.n) :
    Good B cap b := by
  refine ⟨hg.hcap, hg.hslot, fun i c h => ?_, fun l h => ?_, fun i arr h => ?_, fun i r h => ?_, fun blk h => ?_⟩
  · obtain ⟨hc, rfl⟩ := ite_some_eq ((hg.cache i).symm.trans h)
    exact ⟨hc.1, rfl⟩
  · obtain ⟨_, rfl⟩ := ite_some_eq (hg.last.symm.trans h)
    omega
  · obtain ⟨hc, rfl⟩ := ite_some_eq ((hg.shreds i).symm.trans h)
    exact ⟨hc.1, arrOf_honest B D i⟩
  · obtain ⟨hc, rfl⟩ := ite_some_eq ((hg.slices i).symm.trans h)
    exact ⟨hc.2.1, rfl⟩
  · obtain ⟨_, rfl⟩ := ite_some_eq (hg.completed.symm.trans h)
    rfl

theorem exact_staged {B : HBlock} {cap : Nat} {D : DSet} {b : BlockData} {s : Shred}
    (hg : Exact B cap D D D b) (hs : B.Honest s) : Exact B cap (dadd D s) (dadd D s) D (B.staged b s) := by
  obtain ⟨hlt, hidx, _⟩ := hs
  have hcache : ∀ i, upd b.cache s.slice (some (B.commit s.slice)) i =
      if i < B.n ∧ 0 < cnt (dadd D s) i then some (B.commit i) else none := by
    intro i
    by_cases hi : i = s.slice
    · rw [hi, upd_same, if_pos ⟨hlt, cnt_add_pos D s hidx⟩]
    · rw [upd_other hi, hg.cache i, cnt_add_other D hi]
  unfold HBlock.staged
  split
  · rename_i hc
    have hsl : s.slice = B.n - 1 := by omega
    have hret : ∀ {α : Type} (f : Nat → Option α) (g : Nat → Option α), (∀ i, f i = g i) → (∀ i, B.n ≤ i → g i = none) →
        ∀ i, retainLe f s.slice i = g i := by
      intro α f g hfg hnone i
      by_cases hi : i ≤ s.slice
      · rw [retainLe_of_le f hi]; exact hfg i
      · rw [retainLe_of_lt f (Nat.not_le.mp hi), hnone i (by omega)]
    refine ⟨hg.hcap, hg.hslot, hcache, ?_, hret _ _ hg.shreds fun i hi => if_neg (by omega),
      hret _ _ hg.slices fun i hi => if_neg (by omega), hg.completed, hg.tree⟩
    change some s.slice = _
    rw [← hsl, if_pos (cnt_add_pos D s hidx)]
  · rename_i hc
    refine ⟨hg.hcap, hg.hslot, hcache, ?_, hg.shreds, hg.slices, hg.completed, hg.tree⟩
    change b.lastSlice = _
    rw [hg.last]
    apply ite_iff
    by_cases hn : s.slice + 1 = B.n
    · -- the marker is there already
      have hp : 0 < cnt D (B.n - 1) := by
        cases hl : b.lastSlice with
        | none => exact absurd ⟨hn, hl⟩ hc
        | some l => exact (ite_some_eq (hg.last.symm.trans hl)).1
      exact ⟨fun _ => Nat.lt_of_lt_of_le hp (cnt_mono D s _), fun _ => hp⟩
    · rw [cnt_add_other D (by omega)]

theorem arrOf_add_other (B : HBlock) (D : DSet) {s : Shred} {i : Nat} (h : i ≠ s.slice) :
    arrOf B (dadd D s) i = arrOf B D i := by
  funext j
  unfold arrOf
  rw [cnt_add_other D h]
  have : dadd D s i j = D i j := by simp [dadd, h]
  rw [this]

theorem arrOf_of_ge (B : HBlock) {D : DSet} {i : Nat} (h : DATA_SHREDS ≤ cnt D i) : arrOf B D i = B.fullArr i := by
  funext j
  exact ite_iff ⟨fun h' => h'.1, fun h' => ⟨h', Or.inr h⟩⟩ _ _

theorem arrOf_upd_small {B : HBlock} {D : DSet} {s : Shred} (hs : B.Honest s)
    (hlt : cnt (dadd D s) s.slice < DATA_SHREDS) :
    upd (arrOf B D s.slice) s.idx (some s) = arrOf B (dadd D s) s.slice := by
  obtain ⟨_, hidx, heq⟩ := hs
  have hlt' : cnt D s.slice < DATA_SHREDS := by have := cnt_mono D s s.slice; omega
  funext j
  unfold upd arrOf
  by_cases hj : j = s.idx
  · subst hj
    rw [if_pos rfl, if_pos ⟨hidx, Or.inl (by simp [dadd])⟩]
    exact congrArg some heq
  · rw [if_neg hj]
    apply ite_iff
    have : dadd D s s.slice j = D s.slice j := by simp [dadd, hj]
    rw [this]
    -- below the threshold on both sides
    exact and_congr_right fun _ => or_congr_right ⟨fun h => by omega, fun h => by omega⟩

theorem present_len_upd (B : HBlock) (D : DSet) (s : Shred) (hlt : cnt D s.slice < DATA_SHREDS) :
    (present (upd (arrOf B D s.slice) s.idx (some s))).length = cnt (dadd D s) s.slice := by
  unfold present cnt
  rw [List.length_filterMap_eq_countP]
  apply List.countP_congr
  intro j hj
  have hj' : j < TOTAL_SHREDS := List.mem_range.mp hj
  unfold upd arrOf dadd
  by_cases hjs : j = s.idx
  · simp [hjs]
  · have hnot : ¬ DATA_SHREDS ≤ cnt D s.slice := by omega
    simp [hjs, hj', hnot]

theorem getD_arr {B : HBlock} {cap : Nat} {Dc Dl D : DSet} {b : BlockData} {i : Nat}
    (hg : Exact B cap Dc Dl D b) (hi : i < B.n) : (b.shreds i).getD arrEmpty = arrOf B D i := by
  rw [hg.shreds]
  split
  · rfl
  · rename_i hc
    have h0 : cnt D i = 0 := by omega
    funext j
    simp only [Option.getD_none, arrEmpty, arrOf]
    rw [if_neg]
    rintro ⟨hj, h | h⟩
    · rw [cnt_zero hj h0] at h; exact absurd h (by simp)
    · rw [h0] at h; exact absurd h (by decide)

theorem mapEmpty_exact {B : HBlock} {cap : Nat} {Dc Dl D : DSet} {b : BlockData} (hn : B.n ≤ cap)
    (hg : Exact B cap Dc Dl D b) : mapEmpty b.cap b.shreds = true ↔ Empty B D := by
  rw [mapEmpty_iff]
  constructor
  · intro h k hk
    have := h k (by rw [hg.hcap]; omega)
    rw [hg.shreds] at this
    split at this
    · simp at this
    · omega
  · intro h i _
    rw [hg.shreds]
    rw [if_neg]
    rintro ⟨h1, h2⟩
    have := h i h1
    omega

theorem exact_small {B : HBlock} {cap : Nat} {D : DSet} {b : BlockData} {s : Shred}
    (hg : Exact B cap (dadd D s) (dadd D s) D b) (hs : B.Honest s)
    (hlt : cnt (dadd D s) s.slice < DATA_SHREDS) :
    Exact B cap (dadd D s) (dadd D s) (dadd D s) (insertShred b s) := by
  have hlt' : cnt D s.slice < DATA_SHREDS := by have := cnt_mono D s s.slice; omega
  have hnf : ¬ Full B D := not_full_of_lt hs.1 hlt'
  have hnf' : ¬ Full B (dadd D s) := not_full_of_lt hs.1 hlt
  refine ⟨hg.hcap, hg.hslot, hg.cache, hg.last, fun i => ?_, fun i => ?_, ?_, ?_⟩
  · by_cases hi : i = s.slice
    · rw [hi, insertShred_same, getD_arr hg hs.1, if_pos ⟨hs.1, cnt_add_pos D s hs.2.1⟩,
        arrOf_upd_small hs hlt]
    · rw [insertShred_other b s hi, hg.shreds i, cnt_add_other D hi, arrOf_add_other B D hi]
  · change b.slices i = _
    rw [hg.slices i]
    apply ite_iff
    by_cases hi : i = s.slice
    · subst hi
      exact ⟨fun h => by omega, fun h => by omega⟩
    · rw [cnt_add_other D hi]
      exact ⟨fun h => ⟨hnf', h.2⟩, fun h => ⟨hnf, h.2⟩⟩
  · change b.completed = _; rw [hg.completed, if_neg hnf, if_neg hnf']
  · change b.tree = _; rw [hg.tree, if_neg hnf, if_neg hnf']

/-- a duplicate (already stored, or slice already decoded) leaves the state of `D ∪ {s}`, which is that of `D` -/
theorem exact_dup {B : HBlock} {cap : Nat} {D : DSet} {b : BlockData} {s : Shred}
    (hg : Exact B cap (dadd D s) (dadd D s) D b) (hdup : D s.slice s.idx = true ∨ DATA_SHREDS ≤ cnt D s.slice) :
    Exact B cap (dadd D s) (dadd D s) (dadd D s) b := by
  rcases hdup with h | h
  · rw [dadd_same h] at hg ⊢
    exact hg
  · have hdp := data_shreds_pos
    have hfull := full_add_of_ge B D s h
    have hmono := cnt_mono D s s.slice
    have harr : ∀ i, arrOf B (dadd D s) i = arrOf B D i := by
      intro i
      by_cases hi : i = s.slice
      · subst hi; rw [arrOf_of_ge B (by omega), arrOf_of_ge B h]
      · exact arrOf_add_other B D hi
    -- the counts of `D` and `D ∪ {s}` pass the same thresholds up to `DATA_SHREDS`
    have hiff : ∀ i m, m ≤ DATA_SHREDS → (m ≤ cnt (dadd D s) i ↔ m ≤ cnt D i) := by
      intro i m hm
      by_cases hi : i = s.slice
      · subst hi; constructor <;> intro _ <;> omega
      · rw [cnt_add_other D hi]
    refine ⟨hg.hcap, hg.hslot, hg.cache, hg.last, fun i => ?_, fun i => ?_, ?_, ?_⟩
    · rw [hg.shreds i, harr i]
      exact ite_iff (and_congr_right fun _ => (hiff i 1 hdp).symm) _ _
    · rw [hg.slices i]
      apply ite_iff
      rw [hiff i _ (Nat.le_refl _), hfull]
    · rw [hg.completed]; exact ite_iff hfull.symm _ _
    · rw [hg.tree]; exact ite_iff hfull.symm _ _

end AgModel.Blockstore
