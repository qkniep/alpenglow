import AgModel.Proofs.ProgressNode
/-!
# C02 progress, Stage C (partial): the order of deliveries matters only per node

The nodes are independent: the state of a node after a run is `nodeRun` over the projection of the run to that node
(`run_proj`, `Proofs/ClusterRun.lean`), so any interleaving *between* nodes of the same per-node sequences gives the same
state. What is left is the order at one node: the votes of a round may arrive from the senders in any order, and any number
of surplus `pump`s is harmless (`node_slot_any_order`).
-/
namespace AgModel.Cluster
open AgModel.Node AgModel.NodePanic AgModel.Pool

theorem stakeOf_perm (e : Epoch) {L L' : List Nat} (h : L.Perm L') : stakeOf e L = stakeOf e L' := by
  unfold stakeOf
  exact (h.map _).sum_eq

theorem queue1_length_le (e : Epoch) (s h : Nat) (X : List Nat) : (queue1 e s h X).length ≤ 4 := by
  have : (quorumVEvs s h).length ≤ 3 := by unfold quorumVEvs; split <;> simp
  unfold queue1
  split <;> split <;> simp <;> omega

theorem queue2_length_le (e : Epoch) (s : Nat) (F : List Nat) : (queue2 e s F).length ≤ 1 := by
  unfold queue2
  split <;> simp

/-- every queued pool event is one Votor sees (`enqueue` filters the others out) -/
def QOk (n : Node) : Prop := ∀ ev ∈ n.queue, (toVotor ev).isSome = true

theorem nodeRun_qok (ops : List NodeOp) (n : Node) (h : QOk n) : QOk (nodeRun n ops) :=
  have L : Lift (fun _ _ => True) (fun _ ev => (toVotor ev).isSome = true) (fun _ _ => True) (fun _ => True)
      (fun _ _ _ => True) :=
    ⟨fun _ => ⟨fun _ h => h, fun _ h => h⟩, fun _ _ => ⟨trivial, fun _ _ h => h⟩, fun _ _ => trivial, fun _ _ => trivial⟩
  (L.run ops n ⟨trivial, h, trivial⟩ fun op _ _ _ => .trivial op).queue

theorem QOk.length {n : Node} (h : QOk n) : n.queue.length = (vEvs n.queue).length := (List.filterMap_length_eq_length.mpr h).symm

/-- `4 ≤ m1`, `1 ≤ m2`: the queue of a round never holds more (`queue1_length_le`, `queue2_length_le`), so the pumps drain it;
    the block leaves the queue empty, so `m0` is arbitrary -/
theorem node_slot_any_order {e : Epoch} (hpos : 0 < e.total) {hi s h : Nat} {p : Nat × Nat} {N : Node} (hs : s ≤ hi)
    (r : NReady e hi s p N) (C L1 L2 : List Nat) (hC : C.Nodup) (hCn : ∀ j ∈ C, j < e.n) (h1 : L1.Perm C) (h2 : L2.Perm C)
    (hq : e.isQuorum (stakeOf e C) = true) (m0 m1 m2 : Nat) (hm1 : 4 ≤ m1) (hm2 : 1 ≤ m2) :
    ∀ N', N' = nodeRun N ([.poolBlock (s, h) p, .votorBlock s ⟨h, p.1, p.2⟩] ++ List.replicate m0 .pump ++
        L1.map (fun j => NodeOp.recvVote ⟨.notar, s, h, j⟩) ++ List.replicate m1 .pump ++
        L2.flatMap (fun j => [NodeOp.recvVote ⟨.notar, s, h, j⟩, NodeOp.recvVote ⟨.final, s, 0, j⟩]) ++
        List.replicate m2 .pump) →
    NReady e hi (s + 1) (s, h) N' ∧ ∀ (st : State) i, st i = N' → PoolFinalized st i (Blk.mk' s h) := by
  rintro N' rfl
  have hq0 : QOk N := by intro ev hev; rw [r.queue] at hev; cases hev
  have hL1 : L1.Nodup := h1.nodup_iff.mpr hC
  have hL2 : L2.Nodup := h2.nodup_iff.mpr hC
  simp only [nodeRun_append]
  have n1 := node_block (h := h) hpos hs r
  have q1 := nodeRun_qok [.poolBlock (s, h) p, .votorBlock s ⟨h, p.1, p.2⟩] N hq0
  generalize nodeRun N [.poolBlock (s, h) p, .votorBlock s ⟨h, p.1, p.2⟩] = N1 at *
  have hN1q : N1.queue = [] := by
    have := q1.length; rw [n1.queue] at this
    exact List.eq_nil_of_length_eq_zero this
  rw [nodeRun_pumps_idle N1 hN1q m0]
  have n1' : NMid e hi s h p [] [] false false false (queue1 e s h []) N1 := by rw [queue1_nil e hpos]; exact n1
  have n2 := node_notar_votes hpos L1 [] N1 n1' (by simpa using hL1) (fun j hj => hCn j (h1.mem_iff.mp hj))
  simp only [List.nil_append] at n2
  have q2 := nodeRun_qok (L1.map (fun j => NodeOp.recvVote ⟨.notar, s, h, j⟩)) N1 q1
  generalize nodeRun N1 (L1.map (fun j => NodeOp.recvVote ⟨.notar, s, h, j⟩)) = N2 at *
  have hlen2 : N2.queue.length ≤ m1 := by
    rw [q2.length, n2.queue]; exact Nat.le_trans (queue1_length_le _ _ _ _) hm1
  obtain ⟨n3, -⟩ := node_pumps n2 (votor_round1 n2.votor L1) m1 hlen2
  have hqL1 : e.isQuorum (stakeOf e L1) = true := by rw [stakeOf_perm e h1]; exact hq
  rw [hqL1] at n3
  simp only [Bool.true_and] at n3
  have q3 := nodeRun_qok (List.replicate m1 NodeOp.pump) N2 q2
  generalize nodeRun N2 (List.replicate m1 NodeOp.pump) = N3 at *
  have n3' : NMid e hi s h p L1 [] true (ParentReady.isWindowStart (s + 1)) (e.isStrong (stakeOf e L1)) (queue2 e s []) N3 := by
    rw [queue2_nil e hpos]; exact n3
  have n4 := node_round2 hqL1 L2 [] N3 n3' (by simpa using hL2)
    (fun j hj => ⟨h1.mem_iff.mpr (h2.mem_iff.mp hj), hCn j (h2.mem_iff.mp hj)⟩)
  simp only [List.nil_append] at n4
  have q4 := nodeRun_qok (L2.flatMap (fun j => [NodeOp.recvVote ⟨.notar, s, h, j⟩, NodeOp.recvVote ⟨.final, s, 0, j⟩])) N3 q3
  generalize nodeRun N3 (L2.flatMap (fun j => [NodeOp.recvVote ⟨.notar, s, h, j⟩, NodeOp.recvVote ⟨.final, s, 0, j⟩])) = N4 at *
  have hlen4 : N4.queue.length ≤ m2 := by
    rw [q4.length, n4.queue]; exact Nat.le_trans (queue2_length_le _ _ _) hm2
  have hqL2 : e.isQuorum (stakeOf e L2) = true := by rw [stakeOf_perm e h2]; exact hq
  obtain ⟨n5, hq5⟩ := node_pumps n4 (votor_round2 (e := e) n4.votor L2) m2 hlen4
  rw [hqL2, Bool.or_true] at n5
  refine ⟨node_done n5 (Or.inr ⟨hqL1, hqL2⟩) hq5, fun st i hN => ?_⟩
  rw [← hN] at n5
  exact n5.finalized (Or.inr ⟨hqL1, hqL2⟩)

theorem nodeRun_hfcs_mono (n : Node) (ops : List NodeOp) : n.votor.hfcs ≤ (nodeRun n ops).votor.hfcs :=
  have L : Lift (fun _ _ => True) (fun _ _ => True) (fun _ _ => True) (fun v => n.votor.hfcs ≤ v.hfcs) (fun _ _ _ => True) :=
    ⟨fun _ => ⟨fun _ h => h, fun _ h => h⟩, fun _ _ => ⟨trivial, fun _ _ _ => trivial⟩, fun _ _ => trivial,
      fun _ h => Nat.le_trans h (Votor.Ext.step _ _).1⟩
  (L.run ops n ⟨trivial, fun _ _ => trivial, Nat.le_refl _⟩ fun op _ _ _ => .trivial op).votor

end AgModel.Cluster
