import AgModel.Props.C14
import AgModel.Proofs.BlockstoreInv
/-!
The blockstore invariant at slot / store level, its preservation by `add_shred_from_repair`,
`add_shred_from_dissemination` and by every response the repair task handles, none of which panics
(helper lemmas for `Props/C14Live.lean`).
-/
namespace AgModel.Repair
open AgModel.Blockstore AgModel.Merkle

variable (env : Nat → Content) (cap : Nat)

/-- **The blockstore invariant of one slot**: the dissemination spot and every repair spot satisfy
    `BInv`, repair spots belong to the slot, a completed repaired block hashes to its key, every
    stored shred's last-slice flag agrees with the last-slice marker of its spot (`FlagInv`) and its data/coding
    type fits its index (`TyInv`). -/
structure SInv (sd : SlotData) : Prop where
  dis : BInv sd.dis
  rep : ∀ h b, repGet sd.rep h = some b → BInv b ∧ b.slot = sd.dis.slot ∧ b.cap = sd.dis.cap
  ok : RepOk sd
  flg : FlagInv sd.dis ∧ ∀ h b, repGet sd.rep h = some b → FlagInv b
  typ : TyInv sd.dis ∧ ∀ h b, repGet sd.rep h = some b → TyInv b

theorem sinv_new (cap slot : Nat) : SInv (SlotData.new cap slot) :=
  ⟨binv_new cap slot, fun _ _ hb => (nomatch hb), repOk_new cap slot,
    ⟨shredsAll_new cap slot, fun _ _ hb => (nomatch hb)⟩, ⟨shredsAll_new cap slot, fun _ _ hb => (nomatch hb)⟩⟩

theorem flagIfBad_fst_cases (sd : SlotData) (r : AddRes) :
    (flagIfBad sd r).1.dis = sd.dis ∧ (flagIfBad sd r).1.rep = sd.rep := ⟨flagIfBad_dis sd r, flagIfBad_rep sd r⟩

theorem addRepair_sinv (sd : SlotData) (h : H) (s : Shred) (hinv : SInv sd) :
    SInv (addRepair env sd h s).1 ∧ (addRepair env sd h s).2.1 ≠ .panic := by
  have hspot : BInv (spot sd h) ∧ (spot sd h).slot = sd.dis.slot ∧ (spot sd h).cap = sd.dis.cap :=
    spot_ind (P := fun b => BInv b ∧ b.slot = sd.dis.slot ∧ b.cap = sd.dis.cap) sd h ⟨binv_new _ _, rfl, rfl⟩
      (hinv.rep h)
  obtain ⟨hb', hnp⟩ := addShredF_binv env _ s hspot.1
  obtain ⟨hslot, hcap⟩ := addShredF_slot_cap env (spot sd h) s
  have hf' := addShredF_flagInv env _ s hspot.1 (spot_ind sd h (shredsAll_new _ _) (hinv.flg.2 h))
  have ht' := addShred_tyInv env _ s (spot_ind sd h (shredsAll_new _ _) (hinv.typ.2 h))
  refine ⟨⟨?_, ?_, addRepair_repOk env sd h s hinv.ok, ⟨?_, ?_⟩, ⟨?_, ?_⟩⟩, ?_⟩
  · rw [addRepair_dis]; exact hinv.dis
  · rw [addRepair_dis]
    exact addRepair_spots (P := fun _ b => BInv b ∧ b.slot = sd.dis.slot ∧ b.cap = sd.dis.cap) env sd h s hinv.rep
      fun _ => ⟨hb', hslot.trans hspot.2.1, hcap.trans hspot.2.2⟩
  · rw [addRepair_dis]; exact hinv.flg.1
  · exact addRepair_spots (P := fun _ b => FlagInv b) env sd h s hinv.flg.2 fun _ => hf'
  · rw [addRepair_dis]; exact hinv.typ.1
  · exact addRepair_spots (P := fun _ b => TyInv b) env sd h s hinv.typ.2 fun _ => ht'
  · rcases addRepair_cases env sd h s with ⟨_, _, _, _, e⟩ | ⟨_, _, e⟩ <;> rw [e]
    · exact fun e => nomatch e
    · exact hnp

theorem addDissem_sinv (sd : SlotData) (s : Shred) (hinv : SInv sd) :
    SInv (addDissem env sd s).1 ∧ (addDissem env sd s).2.1 ≠ .panic := by
  obtain ⟨hb', hnp⟩ := addShredF_binv env sd.dis s hinv.dis
  obtain ⟨hslot, hcap⟩ := addShredF_slot_cap env sd.dis s
  by_cases hm : sd.misbehaved = true
  · rw [addDissem_flagged env sd s hm]; exact ⟨hinv, by simp⟩
  · have hm' : sd.misbehaved = false := by simpa using hm
    have hok := addDissem_repOk env sd s hinv.ok
    have hdis : (addDissem env sd s).1.dis = (addShred env sd.dis s).1 ∧ (addDissem env sd s).1.rep = sd.rep ∧
        (addDissem env sd s).2.1 = (addShred env sd.dis s).2 := by
      rw [addDissem_eq env sd s hm']
      exact ⟨flagIfBad_dis _ _, flagIfBad_rep _ _, flagIfBad_res _ _⟩
    refine ⟨⟨by rw [hdis.1]; exact hb', ?_, hok,
      ⟨by rw [hdis.1]; exact addShredF_flagInv env sd.dis s hinv.dis hinv.flg.1,
       by intro h b hg; rw [hdis.2.1] at hg; exact hinv.flg.2 h b hg⟩,
      ⟨by rw [hdis.1]; exact addShred_tyInv env sd.dis s hinv.typ.1,
       by intro h b hg; rw [hdis.2.1] at hg; exact hinv.typ.2 h b hg⟩⟩, by rw [hdis.2.2]; exact hnp⟩
    intro h b hg
    rw [hdis.2.1] at hg
    rw [hdis.1]
    obtain ⟨h1, h2, h3⟩ := hinv.rep h b hg
    exact ⟨h1, h2.trans hslot.symm, h3.trans hcap.symm⟩

/-- the leader's own slices (`add_own_slice`, under its own assert and with a parent on the first slice) -/
theorem addOwn_sinv (sd : SlotData) (c : Commitment) (sz : Nat) (parent : Option (Nat × Nat)) (txs : Option (List Nat))
    (hinv : SInv sd) (hl : sd.dis.lastSlice = none) (hp : c.slice = 0 → parent.isSome) :
    SInv (addOwn sd c sz parent txs).1 := by
  obtain ⟨h1, h2, h3⟩ := addOwnSlice_binv sd.dis c sz parent txs hinv.dis hl hp
  have e : (addOwn sd c sz parent txs).1 = { sd with dis := (addOwnSlice sd.dis c sz parent txs).1 } := by
    unfold addOwn
    generalize addOwnSlice sd.dis c sz parent txs = res
    obtain ⟨b, r⟩ := res
    cases r <;> rfl
  rw [e]
  refine ⟨h1, ?_, ?_, ⟨addOwnSlice_flagInv sd.dis c sz parent txs hinv.flg.1 hl, hinv.flg.2⟩,
    ⟨addOwnSlice_tyInv sd.dis c sz parent txs hinv.typ.1 hl, hinv.typ.2⟩⟩
  · intro h b hg
    obtain ⟨a1, a2, a3⟩ := hinv.rep h b hg
    exact ⟨a1, a2.trans h2.symm, a3.trans h3.symm⟩
  · intro h b blk hg hc
    exact hinv.ok h b blk hg hc

theorem runDissem_sinv (ss : List Shred) (sd : SlotData) (hinv : SInv sd) :
    SInv (runDissem env sd ss).1 := by
  induction ss generalizing sd with
  | nil => exact hinv
  | cons s rest ih =>
    simp only [runDissem]
    exact ih _ (addDissem_sinv env sd s hinv).1

def StoreInv (cap : Nat) (store : Store) : Prop :=
  ∀ slot, SInv (storeGet cap store slot) ∧ (storeGet cap store slot).dis.slot = slot ∧ (storeGet cap store slot).dis.cap = cap

theorem storeInv_nil (cap : Nat) : StoreInv cap [] := by
  intro slot; exact ⟨sinv_new cap slot, rfl, rfl⟩

/-- fix D3 (`try_reconstruct_block` refuses a parent whose slot is not earlier than the block's), read off the
    announcement; it is what keeps the `assert!` of `pool.add_block` from firing in the shred arm -/
theorem addShred_block_parent (b : BlockData) (s : Shred) (info : BlockInfo)
    (h : (addShredCore env b s).2 = .ev (.block info)) : info.parent.1 < b.slot := by
  have heq : addShredCore env b s = ((addShredCore env b s).1, .ev (.block info)) := Prod.ext rfl h
  obtain ⟨b1, hb1⟩ := addShred_block_origin env b _ s info heq
  obtain ⟨_, _, hslot, _⟩ := tryReconstructBlock_complete hb1
  have h1 := (tryReconstructBlock_slot_cap b1).1
  rw [hb1] at h1
  rw [← h1, (addShred_slot_cap env b s).1] at hslot
  exact hslot

/-- **The repair task never panics**: under the invariants, no response whatsoever reaches the
    `unreachable!`, a blockstore `expect`, the `assert_eq!` on the block hash or the `assert!` of
    `pool.add_block`. -/
theorem handleResponse_no_panic (st : RepairSt) (store : Store) (resp : Resp)
    (hk : RootsKnown st) (hs : StoreInv cap store) :
    (handleResponse env cap st store resp).2.2.panic = false ∧ StoreInv cap (handleResponse env cap st store resp).2.1 := by
  rcases handleResponse_cases env cap st store resp with e | ⟨_, b, i, j, ho, hn⟩ | ⟨r, rfl, ho, e⟩ | ⟨b, l, root, π, rfl, ho, hv, e⟩ |
    ⟨b, i, root, π, rfl, ho, hv, e⟩ | ⟨b, i, j, slot, s, ok, rfl, ho, hv, e⟩
  · rw [e]; exact ⟨rfl, hs⟩
  · have := hk b i j ho
    rw [hn] at this; cases this
  · rw [e]; exact ⟨rfl, hs⟩
  · rw [e]; exact ⟨rfl, hs⟩
  · rw [e]; exact ⟨rfl, hs⟩
  · rw [e, ingest_eq]
    obtain ⟨hsi, hslot, hcap⟩ := hs b.slot
    obtain ⟨hsv, hnp⟩ := addRepair_sinv env _ b.hash s hsi
    refine ⟨?_, fun slot => ?_⟩
    case refine_2 =>
      rw [storeGet_storeSet]
      split
      · next e => subst e; rw [addRepair_dis]; exact ⟨hsv, hslot, hcap⟩
      · exact hs slot
    -- a block announced by the spot has the requested hash, and its parent lies before the spot's slot, `b.slot`
    rcases hres : (addRepair env (storeGet cap store b.slot) b.hash s).2.1 with _ | (_ | info | _) | _ | _ <;> try rfl
    · have hh := repair_announces_requested_hash env _ b.hash s info hres
      have hpar : info.parent.1 < b.slot := by
        rcases addRepair_cases env (storeGet cap store b.slot) b.hash s with ⟨_, _, _, _, e⟩ | ⟨_, _, e⟩ <;> rw [hres] at e
        · cases e
        · rw [addShred_of_ty _ _ s hv.ty] at e
          have := addShred_block_parent env _ s info e.symm
          rwa [spot_ind (P := fun x => x.slot = (storeGet cap store b.slot).dis.slot) _ b.hash rfl
            (fun bb hg => (hsi.rep b.hash bb hg).2.1), hslot] at this
      simp only [shredOut, hh, ne_eq, not_true_eq_false, if_false, if_neg (Nat.not_le.mpr hpar)]
    · exact absurd hres hnp

end AgModel.Repair
