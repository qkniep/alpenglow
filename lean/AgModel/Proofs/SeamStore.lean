import AgModel.Proofs.Repair
/-! A property of all shreds a `BlockData` holds: kept by `add_shred` when the delivered shred has it and the decoder's
    regeneration (`refill`, for a root the decoding environment accepts) keeps it. Instantiated with `Seam.Backed`
    (`Props/C12Seam.lean`) for what a node serves to repair peers. -/
namespace AgModel.Blockstore
open AgModel.Merkle

/-- `ShredsAll (fun _ => P) b.shreds` of `Proofs/Blockstore.lean`, written out -/
def AllStored (P : Shred → Prop) (b : BlockData) : Prop :=
  ∀ i arr j s, b.shreds i = some arr → arr j = some s → P s

/-- regeneration keeps `P`: the shreds `deshred` rebuilds from a present shred `f` whose root decodes -/
def RegenKeeps (env : Nat → Content) (P : Shred → Prop) : Prop :=
  ∀ f j p t, j < TOTAL_SHREDS → env f.root = .ok p t → P f → P { f with idx := j, ty := true }

theorem addShred_all {env : Nat → Content} {P : Shred → Prop} {b : BlockData} {s : Shred} (hr : RegenKeeps env P)
    (hf : AllStored P b) (hs : P s) : AllStored P (addShred env b s).1 := by
  cases hty : s.ty with
  | false => rw [addShred_wrongType env b s hty]; exact hf
  | true => rw [addShred_of_ty env b s hty]; exact addShredCore_shredsAll env hr b s hf hs

def SdStored (P : Shred → Prop) (sd : SlotData) : Prop :=
  AllStored P sd.dis ∧ ∀ h b, repGet sd.rep h = some b → AllStored P b

theorem sdStored_new (P : Shred → Prop) (cap slot : Nat) : SdStored P (SlotData.new cap slot) :=
  ⟨shredsAll_new cap slot, by intro h b hb; cases hb⟩

theorem flag_sdStored (P : Shred → Prop) (sd : SlotData) (h : SdStored P sd) : SdStored P (flag sd).1 := by
  rw [flag_fst]; exact h

theorem addDissem_sdStored (env : Nat → Content) (P : Shred → Prop) (hr : RegenKeeps env P) (sd : SlotData) (s : Shred)
    (h : SdStored P sd) (hs : P s) : SdStored P (addDissem env sd s).1 := by
  cases hm : sd.misbehaved with
  | true => rw [addDissem_flagged env sd s hm]; exact h
  | false =>
    rw [addDissem_eq env sd s hm]
    exact ⟨by rw [flagIfBad_dis]; exact addShred_all hr h.1 hs, by rw [flagIfBad_rep]; exact h.2⟩

theorem getShred_stored (P : Shred → Prop) (sd : SlotData) (h : SdStored P sd) (hash : H) (i j : Nat) (s : Shred)
    (hg : getShred sd hash i j = some s) : P s := by
  obtain ⟨bd, arr, hb, ha, hs⟩ := AgModel.Repair.getShred_eq hg
  rcases AgModel.Repair.blockData_cases hb with ⟨rfl, _⟩ | hr
  · exact h.1 i arr j s ha hs
  · exact h.2 _ _ hr i arr j s ha hs

end AgModel.Blockstore
