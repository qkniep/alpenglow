import AgModel.Proofs.PoolCerts
/-! Safe-to-notar / safe-to-skip: every emitted event is justified in the state it is emitted in, and emitted at most once. -/
namespace AgModel.Pool

def S2SCond (e : Epoch) (st : SlotState) : Prop :=
  e.isWeak (st.sNotarOrSkip - st.sTopNotar) = true ∧ (st.vNotar.lookup e.own).isSome = true

instance (e : Epoch) (st : SlotState) : Decidable (S2SCond e st) := by
  unfold S2SCond; infer_instance

/-- everything `S2NCond` / `S2SCond` read, and the slot number that `EvSound` reads -/
structure SameCond (a b : SlotState) : Prop where
  slot : a.slot = b.slot
  sNotar : a.sNotar = b.sNotar
  sSkip : a.sSkip = b.sSkip
  vSkip : a.vSkip = b.vSkip
  vNotar : a.vNotar = b.vNotar
  nos : a.sNotarOrSkip = b.sNotarOrSkip
  top : a.sTopNotar = b.sTopNotar
  parents : a.parents = b.parents

theorem SameCond.refl (a : SlotState) : SameCond a a := ⟨rfl, rfl, rfl, rfl, rfl, rfl, rfl, rfl⟩
theorem SameCond.trans {a b c : SlotState} (h1 : SameCond a b) (h2 : SameCond b c) : SameCond a c :=
  ⟨h1.slot.trans h2.slot, h1.sNotar.trans h2.sNotar, h1.sSkip.trans h2.sSkip, h1.vSkip.trans h2.vSkip,
   h1.vNotar.trans h2.vNotar, h1.nos.trans h2.nos, h1.top.trans h2.top, h1.parents.trans h2.parents⟩

theorem S2NCond.of_same {e : Epoch} {a b : SlotState} {h : Nat} (s : SameCond a b) (c : S2NCond e a h) : S2NCond e b h := by
  unfold S2NCond stakeClause ownVotedNot at *
  rw [← s.sNotar, ← s.sSkip, ← s.vSkip, ← s.vNotar, ← s.parents]; exact c

theorem S2SCond.of_same {e : Epoch} {a b : SlotState} (s : SameCond a b) (c : S2SCond e a) : S2SCond e b := by
  unfold S2SCond at *
  rw [← s.nos, ← s.top, ← s.vNotar]; exact c

theorem checkS2N_same (e : Epoch) (st : SlotState) (h : Nat) : SameCond st (st.checkS2N e h).1 := by
  obtain ⟨p, s, hh⟩ := checkS2N_writes e st h
  rw [hh]
  exact ⟨rfl, rfl, rfl, rfl, rfl, rfl, rfl, rfl⟩

theorem checkS2N_sentS2S (e : Epoch) (st : SlotState) (h : Nat) : (st.checkS2N e h).1.sentS2S = st.sentS2S := by
  obtain ⟨p, s, hh⟩ := checkS2N_writes e st h
  rw [hh]

def s2nHash : Event → Option Nat
  | .s2n _ h => some h
  | _ => none

def EvSound (e : Epoch) (r : SlotState) (evs : List Event) : Prop :=
  ∀ ev ∈ evs, match ev with
    | .s2n s h => s = r.slot ∧ S2NCond e r h
    | .s2s s => s = r.slot ∧ S2SCond e r
    | _ => True

theorem EvSound.append {e : Epoch} {r : SlotState} {a b : List Event} (h1 : EvSound e r a) (h2 : EvSound e r b) :
    EvSound e r (a ++ b) := by
  intro ev hev
  rcases List.mem_append.mp hev with h | h
  · exact h1 ev h
  · exact h2 ev h

theorem EvSound.of_same {e : Epoch} {a b : SlotState} {evs : List Event} (s : SameCond a b) (h : EvSound e a evs) :
    EvSound e b evs := by
  intro ev hev
  have := h ev hev
  cases ev with
  | s2n sl hh => exact ⟨this.1.trans s.slot, this.2.of_same s⟩
  | s2s sl => exact ⟨this.1.trans s.slot, this.2.of_same s⟩
  | _ => trivial

theorem EvSound.nil (e : Epoch) (r : SlotState) : EvSound e r [] := by intro ev h; simp at h

theorem s2n_of_mem_s2nHash {evs : List Event} {h : Nat} (hm : h ∈ evs.filterMap s2nHash) : ∃ s, Event.s2n s h ∈ evs := by
  obtain ⟨ev, hev, hs⟩ := List.mem_filterMap.mp hm
  cases ev with
  | s2n s h' => simp only [s2nHash, Option.some.injEq] at hs; exact ⟨s, hs ▸ hev⟩
  | _ => simp [s2nHash] at hs

def isS2S : Event → Bool
  | .s2s _ => true
  | _ => false

structure Grows {α : Type} (A B : α → Prop) (ks : List α) : Prop where
  nodup : ks.Nodup
  fresh : ∀ k ∈ ks, ¬ A k
  iff : ∀ k, B k ↔ A k ∨ k ∈ ks

theorem Grows.same {α : Type} {A B : α → Prop} (h : ∀ k, B k ↔ A k) : Grows A B [] :=
  ⟨List.nodup_nil, fun _ hk => absurd hk List.not_mem_nil,
   fun k => (h k).trans ⟨Or.inl, fun h => h.resolve_right List.not_mem_nil⟩⟩

theorem Grows.trans {α : Type} {A B C : α → Prop} {k1 k2 : List α} (h1 : Grows A B k1) (h2 : Grows B C k2) :
    Grows A C (k1 ++ k2) := by
  refine ⟨List.nodup_append.mpr ⟨h1.nodup, h2.nodup, fun x hx y hy hxy => ?_⟩, fun k hk => ?_, fun k => ?_⟩
  · exact h2.fresh y hy ((h1.iff y).mpr (Or.inr (hxy ▸ hx)))
  · rcases List.mem_append.mp hk with h | h
    · exact h1.fresh k h
    · exact fun a => h2.fresh k h ((h1.iff k).mpr (Or.inl a))
  · rw [h2.iff, h1.iff, List.mem_append, or_assoc]

def s2sMark : Event → Option Unit
  | .s2s _ => some ()
  | _ => none

/-- Between a state `a` and a later state `b` with events `evs`: `sent` grew by exactly the safe-to-notar hashes of `evs`,
    each new and emitted once, and the safe-to-skip flag likewise (a set with one possible member). So nothing is signalled
    twice, what is emitted is recorded, and what is recorded was emitted. -/
structure Signals (a b : SlotState) (evs : List Event) : Prop where
  s2n : Grows (· ∈ a.sent) (· ∈ b.sent) (evs.filterMap s2nHash)
  s2s : Grows (fun _ => a.sentS2S = true) (fun _ => b.sentS2S = true) (evs.filterMap s2sMark)

theorem Signals.quiet {a b : SlotState} {evs : List Event} (h1 : evs.filterMap s2nHash = []) (h2 : evs.filterMap s2sMark = [])
    (hs : b.sent = a.sent) (hf : b.sentS2S = a.sentS2S) : Signals a b evs :=
  ⟨h1 ▸ Grows.same (fun _ => by rw [hs]), h2 ▸ Grows.same (fun _ => by rw [hf])⟩

theorem Signals.trans {a b c : SlotState} {e1 e2 : List Event} (h1 : Signals a b e1) (h2 : Signals b c e2) :
    Signals a c (e1 ++ e2) :=
  ⟨List.filterMap_append ▸ h1.s2n.trans h2.s2n, List.filterMap_append ▸ h1.s2s.trans h2.s2s⟩

theorem Signals.of_left {a a' b : SlotState} {evs : List Event} (h1 : a.sent = a'.sent) (h2 : a.sentS2S = a'.sentS2S)
    (h : Signals a b evs) : Signals a' b evs :=
  (Signals.quiet rfl rfl h1 h2 : Signals a' a []).trans h

theorem Signals.of_right {a b b' : SlotState} {evs : List Event} (h1 : b'.sent = b.sent) (h2 : b'.sentS2S = b.sentS2S)
    (h : Signals a b evs) : Signals a b' evs :=
  List.append_nil evs ▸ h.trans (Signals.quiet rfl rfl h1 h2 : Signals b b' [])

theorem Signals.s2sMono {a b : SlotState} {evs : List Event} (h : Signals a b evs) (ha : a.sentS2S = true) : b.sentS2S = true :=
  (h.s2s.iff ()).mpr (Or.inl ha)

theorem s2sMark_length (evs : List Event) : (evs.filterMap s2sMark).length = (evs.filter isS2S).length := by
  rw [List.length_filterMap_eq_countP, List.countP_eq_length_filter]
  congr 2; funext ev
  cases ev <;> rfl

theorem Signals.s2sOne {a b : SlotState} {evs : List Event} (h : Signals a b evs) : (evs.filter isS2S).length ≤ 1 := by
  rw [← s2sMark_length]
  have := h.s2s.nodup
  generalize evs.filterMap s2sMark = l at this
  match l, this with
  | [], _ => exact Nat.zero_le 1
  | [_], _ => exact Nat.le_refl 1
  | () :: () :: _, hn => exact absurd List.mem_cons_self (List.nodup_cons.mp hn).1

theorem Signals.s2s_emitted {a b : SlotState} {evs : List Event} (h : Signals a b evs) (hb : b.sentS2S = true)
    (ha : a.sentS2S = false) : evs.filter isS2S ≠ [] := by
  intro hn
  have hl := s2sMark_length evs
  rw [hn] at hl
  rcases (h.s2s.iff ()).mp hb with x | x
  · rw [ha] at x; cases x
  · rw [List.eq_nil_of_length_eq_zero hl] at x; cases x

abbrev Checked (e : Epoch) (a b : SlotState) (evs : List Event) : Prop := SameCond a b ∧ EvSound e b evs ∧ Signals a b evs

theorem checkS2N_emit (e : Epoch) (st : SlotState) (h : Nat) (hg : h ∉ st.sent) :
    Checked e st (st.checkS2N e h).1 (s2nOut (st.checkS2N e h).1.slot h (st.checkS2N e h).2) := by
  have hsame := checkS2N_same e st h
  have hflag := checkS2N_sentS2S e st h
  obtain ⟨hiff, hsafe, hnot⟩ := checkS2N_safe_iff e st h
  refine ⟨hsame, ?_⟩
  cases hr : (st.checkS2N e h).2 with
  | safe =>
    refine ⟨fun ev hev => ?_, ⟨List.pairwise_singleton _ _, fun x hx => List.mem_singleton.mp hx ▸ hg, fun x => ?_⟩,
      Grows.same fun _ => by rw [hflag]⟩
    · rw [List.mem_singleton.mp hev]; exact ⟨rfl, (hiff.mp hr).of_same hsame⟩
    · rw [hsafe hr, mem_insertSet]; exact or_congr_right List.mem_singleton.symm
  | missing =>
    exact ⟨fun ev hev => by rw [List.mem_singleton.mp hev]; trivial,
      Signals.quiet rfl rfl (hnot (by rw [hr]; exact S2N.noConfusion)) hflag⟩
  | awaiting => exact ⟨EvSound.nil e _, Signals.quiet rfl rfl (hnot (by rw [hr]; exact S2N.noConfusion)) hflag⟩

theorem s2sCheck_emit (e : Epoch) (st : SlotState) : Checked e st (st.s2sCheck e).1 (st.s2sCheck e).2 := by
  unfold SlotState.s2sCheck
  split
  · rename_i hc
    simp only [Bool.and_eq_true, Bool.not_eq_true'] at hc
    refine ⟨⟨rfl, rfl, rfl, rfl, rfl, rfl, rfl, rfl⟩, fun ev hev => ?_, Grows.same fun _ => Iff.rfl,
      List.pairwise_singleton _ _, fun _ _ => by rw [hc.1.1]; exact Bool.false_ne_true,
      fun _ => ⟨fun _ => Or.inr (List.mem_singleton.mpr rfl), fun _ => rfl⟩⟩
    rw [List.mem_singleton.mp hev]
    exact ⟨rfl, hc.1.2, hc.2⟩
  · exact ⟨SameCond.refl _, EvSound.nil e st, Signals.quiet rfl rfl rfl rfl⟩

theorem checks_emit (e : Epoch) :
    (∀ hs a, Checked e a (SlotState.recheckPending e a hs []).1 (SlotState.recheckPending e a hs []).2) ∧
    (∀ (st : SlotState) (v : Vote), Checked e (st.stored e v) (st.addVote e v).1 (st.addVote e v).2.2) := by
  have ind := checks_induction (e := e) (R := Checked e)
    (fun a => ⟨SameCond.refl a, EvSound.nil e a, Signals.quiet rfl rfl rfl rfl⟩)
    (fun ⟨c1, s1, m1⟩ ⟨c2, s2, m2⟩ => ⟨c1.trans c2, (s1.of_same c2).append s2, m1.trans m2⟩)
    (checkS2N_emit e) (s2sCheck_emit e)
  exact ⟨ind.1, ind.2.2.2⟩

theorem addVote_emit (e : Epoch) (st : SlotState) (v : Vote) :
    EvSound e (st.addVote e v).1 (st.addVote e v).2.2 ∧ Signals st (st.addVote e v).1 (st.addVote e v).2.2 :=
  ⟨((checks_emit e).2 st v).2.1, ((checks_emit e).2 st v).2.2.of_left (stored_same e st v).sent (stored_same e st v).sentS2S⟩

theorem addVote_same (e : Epoch) (st : SlotState) (v : Vote) : SameCond (st.stored e v) (st.addVote e v).1 :=
  ((checks_emit e).2 st v).1

theorem addCert_same (a : SlotState) (c : Cert) : SameCond a (a.addCert c) := by
  obtain ⟨_, _, _, _, _, h⟩ := addCert_writes a c
  rw [h]
  exact ⟨rfl, rfl, rfl, rfl, rfl, rfl, rfl, rfl⟩

theorem addCert_sent (a : SlotState) (c : Cert) : (a.addCert c).sent = a.sent := by
  obtain ⟨_, _, _, _, _, h⟩ := addCert_writes a c
  rw [h]

theorem addCert_sentS2S (a : SlotState) (c : Cert) : (a.addCert c).sentS2S = a.sentS2S := by
  obtain ⟨_, _, _, _, _, h⟩ := addCert_writes a c
  rw [h]

theorem slotStep_emit (e : Epoch) (st : SlotState) (op : SlotOp) :
    EvSound e (slotStep e st op).1 (slotStep e st op).2.2 ∧ Signals st (slotStep e st op).1 (slotStep e st op).2.2 := by
  have quiet : ∀ b : SlotState, b.sent = st.sent → b.sentS2S = st.sentS2S → EvSound e b [] ∧ Signals st b [] :=
    fun b h1 h2 => ⟨EvSound.nil e b, Signals.quiet rfl rfl h1 h2⟩
  refine slotStep_cases e st op (fun r => EvSound e r.1 r.2.2 ∧ Signals st r.1 r.2.2) (quiet st rfl rfl) (fun v _ => ?_)
    (fun c _ => quiet _ (addCert_sent st c) (addCert_sentS2S st c)) (fun h _ => quiet _ rfl rfl)
    ⟨fun ev hev => by rw [List.mem_singleton.mp hev]; trivial, Signals.quiet rfl rfl rfl rfl⟩ (fun h => ?_)
  · exact addCerts_keeps (Q := fun s => EvSound e s _ ∧ Signals st s _) (fun s c ⟨h1, h2⟩ =>
      ⟨h1.of_same (addCert_same s c), h2.of_right (addCert_sent s c) (addCert_sentS2S s c)⟩) _ _ (addVote_emit e st v)
  · refine ⟨fun _ => quiet (st.certify h) rfl rfl, fun hg => ?_⟩
    obtain ⟨_, s1, m1⟩ := checkS2N_emit e (st.certify h) h hg
    exact ⟨s1, m1.of_left (a := st.certify h) rfl rfl⟩

theorem slotRun_emit (e : Epoch) (ops : List SlotOp) (st : SlotState) :
    Signals st (slotRun e st ops).1 (slotRun e st ops).2.2 := by
  induction ops generalizing st with
  | nil => exact Signals.quiet rfl rfl rfl rfl
  | cons op ops ih =>
    simp only [slotRun]
    exact (slotStep_emit e st op).2.trans (ih _)

end AgModel.Pool
