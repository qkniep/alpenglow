import AgModel.Proofs.ParentReady
/-!
# C02 progress, parent-ready-tracker part: what the tracker computes in the timely schedule

Computation lemmas with explicit premises, phrased through the observations `get t s` and `t.root`.
-/
namespace AgModel.ParentReady

@[simp] theorem put_root (t : Tracker) (s : Nat) (v : PState) : (put t s v).root = t.root := rfl
@[simp] theorem touch_root (t : Tracker) (s : Nat) : (touch t s).root = t.root := rfl
@[simp] theorem put_top (t : Tracker) (s : Nat) (v : PState) : (put t s v).top = t.top := rfl
@[simp] theorem touch_top (t : Tracker) (s : Nat) : (touch t s).top = t.top := rfl

theorem fwd_fresh (f : Nat) (t : Tracker) (slot : Nat) (p : Nat × Nat)
    (hsk : (get t slot).skip = false) (hrd : (get t slot).ready = []) :
    ∃ t' wk, fwd (f + 1) t slot [p] = some (t', (if isWindowStart slot then [(slot, p)] else []), wk) ∧
      t'.root = t.root ∧
      get t' slot = (if isWindowStart slot then { get t slot with ready := [p], waiter := false } else get t slot) ∧
      ∀ x, x ≠ slot → get t' x = get t x := by
  obtain ⟨t1, w1, e1, hd⟩ := @fwd_head t slot [p] (fun _ => ⟨List.pairwise_singleton _ p, by rw [hrd]; simp⟩)
  have hsk1 : (get t1 slot).skip = false := by rw [hd.skip]; exact hsk
  refine ⟨t1, w1, by simp only [fwd, e1, hsk1]; cases isWindowStart slot <;> rfl, hd.root, ?_,
    fun x hx => hd.miss x (fun h => hx h.1)⟩
  cases hw : isWindowStart slot
  · exact hd.miss slot (fun h => by rw [hw] at h; exact Bool.false_ne_true h.2)
  · rw [hd.hit slot ⟨rfl, hw⟩, if_pos rfl]
    generalize get t slot = st at hrd
    cases st; cases hrd; simp [addSt]

theorem markNotarFallback_new (t : Tracker) (s h : Nat) (hr : t.root ≤ s) (hn : (get t s).nfs.contains h = false)
    (hsk : (get t (s + 1)).skip = false) (hrd : (get t (s + 1)).ready = []) :
    ∃ t' wk, markNotarFallback t (s, h) = some (t', (if isWindowStart (s + 1) then [(s + 1, (s, h))] else []), wk) ∧
      t'.root = t.root ∧ get t' s = { get t s with nfs := (get t s).nfs ++ [h] } ∧
      get t' (s + 1) = (if isWindowStart (s + 1) then { get t (s + 1) with ready := [(s, h)], waiter := false } else get t (s + 1)) ∧
      ∀ x, x ≠ s → x ≠ s + 1 → get t' x = get t x := by
  have hne : s + 1 ≠ s := Nat.succ_ne_self s
  obtain ⟨t', wk, e, r, g1, g2⟩ := fwd_fresh (t.top + 1 - s) (put t s { get t s with nfs := (get t s).nfs ++ [h] }) (s + 1) (s, h)
    (by rw [get_put_other _ _ hne]; exact hsk) (by rw [get_put_other _ _ hne]; exact hrd)
  rw [markNotarFallback_fresh (fun hk => hk.elim (fun a => Nat.lt_irrefl _ (Nat.lt_of_lt_of_le a hr))
    (fun a => Bool.false_ne_true (hn ▸ a)))]
  refine ⟨t', wk, e, r, by rw [g2 s hne.symm, get_put_same], by rw [g1, get_put_other _ _ hne], fun x h1 h2 => ?_⟩
  rw [g2 x h2, get_put_other _ _ h1]

theorem markAllNf_known (bs : List (Nat × Nat)) (t : Tracker)
    (h : ∀ b ∈ bs, b.1 < t.root ∨ (get t b.1).nfs.contains b.2 = true) :
    ∃ t', markAllNf t bs = some (t', [], []) ∧ t'.root = t.root ∧ ∀ x, get t' x = get t x := by
  induction bs generalizing t with
  | nil => exact ⟨t, rfl, rfl, fun _ => rfl⟩
  | cons b bs ih =>
    obtain ⟨t1, e1, r1, _, g1⟩ := markNotarFallback_same (h b List.mem_cons_self)
    obtain ⟨t2, e2, r2, g2⟩ := ih t1 (fun x hx => by rw [r1, g1]; exact h x (List.mem_cons_of_mem _ hx))
    exact ⟨t2, by simp only [markAllNf, e1, e2, List.append_nil], by rw [r2, r1], fun x => by rw [g2, g1]⟩

theorem markAllSkipped_known (ss : List Nat) (t : Tracker) (h : ∀ s ∈ ss, s < t.root ∨ (get t s).skip = true) :
    ∃ t', markAllSkipped t ss = some (t', [], []) ∧ t'.root = t.root ∧ ∀ x, get t' x = get t x := by
  induction ss generalizing t with
  | nil => exact ⟨t, rfl, rfl, fun _ => rfl⟩
  | cons s ss ih =>
    obtain ⟨t1, e1, r1, _, g1⟩ := markSkipped_same (h s List.mem_cons_self)
    obtain ⟨t2, e2, r2, g2⟩ := ih t1 (fun x hx => by rw [r1, g1]; exact h x (List.mem_cons_of_mem _ hx))
    exact ⟨t2, by simp only [markAllSkipped, e1, e2, List.append_nil], by rw [r2, r1], fun x => by rw [g2, g1]⟩

theorem handleFinalization_known (t : Tracker) (ev : Finality.Event)
    (hF : ∀ b ∈ ev.finalized.toList ++ ev.implFinalized, b.1 < t.root ∨ (get t b.1).nfs.contains b.2 = true)
    (hS : ∀ s ∈ ev.implSkipped, s < t.root ∨ (get t s).skip = true) :
    ∃ t', handleFinalization t ev = some (t', [], []) ∧ t'.root = t.root ∧ ∀ x, get t' x = get t x := by
  obtain ⟨t1, e1, r1, g1⟩ := markAllNf_known _ t hF
  obtain ⟨t2, e2, r2, g2⟩ := markAllSkipped_known ev.implSkipped t1 (fun s hs => by rw [r1, g1]; exact hS s hs)
  exact ⟨t2, by simp only [handleFinalization, e1, e2, List.append_nil, lastMax, Option.toList_none],
    by rw [r2, r1], fun x => by rw [g2, g1]⟩

theorem handleFinalization_empty (t : Tracker) : handleFinalization t {} = some (t, [], []) := rfl

/-- The tracker in the middle of a window that is being skipped: the slots `s ≤ y < k` are skip-marked, nothing else is known
    from `s` on; `p` is the one potential parent: in the ready list of `s` if `s` starts a window, else the notar-fallback
    block of slot `s - 1`. -/
structure SkipRun (s k : Nat) (p : Nat × Nat) (t : Tracker) : Prop where
  plt : p.1 < s
  root_le : t.root ≤ p.1
  marked : ∀ y, s ≤ y → y < k → (get t y).skip = true
  unmarked : ∀ y, k ≤ y → (get t y).skip = false
  noNfs : ∀ y, s ≤ y → (get t y).nfs = []
  readyS : (get t s).ready = (if isWindowStart s then [p] else [])
  readyAbove : ∀ y, s < y → (get t y).ready = []
  parent : isWindowStart s = false → p.1 + 1 = s ∧ (get t p.1).nfs = [p.2] ∧ (get t p.1).skip = false

theorem collectL_quiet (g : Nat → PState) (m n : Nat) {a b : Nat} (hab : a ≤ b) (acc : List (Nat × Nat))
    (h : ∀ y, a ≤ y → y < b → (g y).skip = true ∧ (g y).nfs = [] ∧ (g y).ready = []) :
    collectL g m (n + (b - a)) b acc = collectL g m n a acc := by
  obtain ⟨d, rfl⟩ := Nat.exists_eq_add_of_le hab
  rw [Nat.add_sub_cancel_left]
  induction d generalizing acc with
  | zero => rfl
  | succ d ih =>
    obtain ⟨h1, h2, h3⟩ := h (a + d) (Nat.le_add_right a d) (Nat.lt_succ_self _)
    show collectL g m (n + d + 1) (a + d + 1) acc = _
    simp only [collectL, accNfs, Nat.add_sub_cancel, h1, h2, h3, not_true_eq_false, if_false, List.map_nil, List.append_nil, ite_self]
    exact ih acc (Nat.le_add_right a d) (fun y hy1 hy2 => h y hy1 (Nat.lt_succ_of_lt hy2))

theorem window_facts (s k : Nat) (h1 : s ≤ k) (h2 : k < windowFirst s + W) :
    windowFirst k = windowFirst s ∧ (isWindowStart (k + 1) = true ↔ k + 1 = windowFirst s + W) ∧
    (isWindowStart s = true ↔ s = windowFirst s) := by
  unfold isWindowStart windowFirst at *
  have hsk : s / W * W ≤ k := Nat.le_trans (Nat.div_mul_le_self s W) h1
  refine ⟨by rw [Nat.div_eq_of_lt_le hsk (by rw [Nat.succ_mul]; exact h2)], ?_, ?_⟩
  · rw [beq_iff_eq]
    constructor
    · intro hr
      -- `k + 1` is a multiple of `W` in `(s / W * W, s / W * W + W]`
      have hc : (k + 1) / W * W = k + 1 := Nat.div_mul_cancel (Nat.dvd_of_mod_eq_zero hr)
      have hlt : s / W < (k + 1) / W := Nat.lt_of_mul_lt_mul_right (by rw [hc]; exact Nat.lt_succ_of_le hsk)
      have := Nat.mul_le_mul_right W hlt
      rw [hc, Nat.succ_mul] at this
      exact Nat.le_antisymm h2 this
    · intro e; rw [e, Nat.add_mod_right, Nat.mul_mod_left]
  · rw [beq_iff_eq]
    exact ⟨fun hr => (Nat.div_mul_cancel (Nat.dvd_of_mod_eq_zero hr)).symm, fun e => by rw [e, Nat.mul_mod_left]⟩

/-- the backward collection from the newly marked slot `k` walks over the skip-marked slots down to `s` (`collectL_quiet`)
    and takes `p` from the ready list of `s` (a window start, where the walk ends by fuel) or from the notar-fallback
    blocks of slot `s - 1` (which is not skip-marked, so the walk ends there) -/
theorem SkipRun.collectL_eq {s k : Nat} {p : Nat × Nat} {t : Tracker} (r : SkipRun s k p t) (hsk : s ≤ k)
    (hkE : k < windowFirst s + W) :
    collectL (get (skipT1 t k)) k (k + 1 - max (windowFirst k) t.root) (k + 1) [] = [p] := by
  obtain ⟨wf1, _, wf3⟩ := window_facts s k hsk hkE
  have gnf := skipT1_nfs t k
  have grd := skipT1_ready t k
  have gsk : ∀ y, s ≤ y → y ≤ k → (get (skipT1 t k) y).skip = true := by
    intro y hy1 hy2
    by_cases e : y = k
    · rw [e, get_skipT1_same]
    · rw [get_skipT1_other t e]; exact r.marked y hy1 (Nat.lt_of_le_of_ne hy2 e)
  have hplt := r.plt
  by_cases hws : isWindowStart s = true
  · have hlo : max (windowFirst k) t.root = s := by
      rw [wf1, ← wf3.mp hws]; exact Nat.max_eq_left (Nat.le_trans r.root_le (Nat.le_of_lt hplt))
    have e := collectL_quiet (get (skipT1 t k)) k 1 (Nat.add_le_add_right hsk 1) [] (fun y hy1 hy2 =>
      ⟨gsk y (Nat.le_of_lt hy1) (Nat.le_of_lt_succ hy2), (gnf y).trans (r.noNfs y (Nat.le_of_lt hy1)),
        (grd y).trans (r.readyAbove y hy1)⟩)
    rw [hlo, show k + 1 - s = 1 + (k + 1 - (s + 1)) by rw [Nat.add_sub_add_right, Nat.add_comm 1, Nat.sub_add_comm hsk], e]
    simp only [collectL, accNfs, Nat.add_sub_cancel, gsk s (Nat.le_refl _) hsk, gnf, r.noNfs s (Nat.le_refl _), grd, r.readyS, hws,
      not_true_eq_false, if_false, if_true, List.map_nil, List.append_nil, ite_self, List.nil_append]
  · have hws' : isWindowStart s = false := by simpa using hws
    obtain ⟨q1, q2, q3⟩ := r.parent hws'
    have hlo : max (windowFirst k) t.root ≤ p.1 := by
      have hlt : windowFirst s < s := Nat.lt_of_le_of_ne (windowFirst_le s) (fun e => hws (wf3.mpr e.symm))
      exact Nat.max_le.mpr ⟨wf1 ▸ Nat.le_of_lt_succ (q1 ▸ hlt), r.root_le⟩
    generalize max (windowFirst k) t.root = lo at hlo ⊢
    have hn : k + 1 - lo = p.1 - lo + 1 + (k + 1 - s) := by
      rw [Nat.add_comm (p.1 - lo + 1), ← Nat.sub_add_comm hlo, q1]
      exact (Nat.sub_add_sub_cancel (Nat.le_succ_of_le hsk) (q1 ▸ Nat.le_succ_of_le hlo)).symm
    have e := collectL_quiet (get (skipT1 t k)) k (p.1 - lo + 1) (Nat.le_succ_of_le hsk) [] (fun y hy1 hy2 =>
      ⟨gsk y hy1 (Nat.le_of_lt_succ hy2), (gnf y).trans (r.noNfs y hy1), (grd y).trans (by
        by_cases hys : y = s
        · rw [hys, r.readyS, hws']; rfl
        · exact r.readyAbove y (Nat.lt_of_le_of_ne hy1 (Ne.symm hys)))⟩)
    rw [hn, e]
    have hp : s - 1 = p.1 := by rw [← q1]; rfl
    have hpk : p.1 ≠ k := Nat.ne_of_lt (Nat.lt_of_lt_of_le hplt hsk)
    simp only [collectL, accNfs, hp, get_skipT1_other t hpk, q3, q2, ne_eq, hpk, not_false_eq_true, if_true, Bool.false_eq_true,
      List.nil_append, List.map_cons, List.map_nil]

theorem markSkipped_run (s k : Nat) (p : Nat × Nat) (t : Tracker) (r : SkipRun s k p t) (hsk : s ≤ k)
    (hkE : k < windowFirst s + W) :
    ∃ t' wk, markSkipped t k = some (t', (if k + 1 = windowFirst s + W then [(k + 1, p)] else []), wk) ∧ t'.root = t.root ∧
      get t' k = { get t k with skip := true } ∧
      (k + 1 = windowFirst s + W → get t' (k + 1) = { get t (k + 1) with ready := [p], waiter := false }) ∧
      ∀ y, y ≠ k → (y ≠ k + 1 ∨ k + 1 ≠ windowFirst s + W) → get t' y = get t y := by
  obtain ⟨_, wf2, _⟩ := window_facts s k hsk hkE
  have hrk : t.root ≤ k := Nat.le_trans r.root_le (Nat.le_trans (Nat.le_of_lt r.plt) hsk)
  obtain ⟨c, ec, cr, _, cg⟩ := markSkipped_fresh (fun hk => hk.elim (Nat.not_lt.mpr hrk)
    (fun a => Bool.false_ne_true (r.unmarked k (Nat.le_refl _) ▸ a)))
  rw [ec, funext cg, r.collectL_eq hsk hkE]
  have g2 : ∀ y, y ≠ k → get c y = get t y := fun y hy => by rw [cg, get_skipT1_other t hy]
  have hne : k + 1 ≠ k := Nat.succ_ne_self k
  obtain ⟨t', wk, e, rt, ga, gb⟩ := fwd_fresh (c.top + 1 - k) c (k + 1) p
    (by rw [g2 _ hne]; exact r.unmarked _ (Nat.le_succ k)) (by rw [g2 _ hne]; exact r.readyAbove _ (Nat.lt_succ_of_le hsk))
  have hif : (isWindowStart (k + 1) = true) = (k + 1 = windowFirst s + W) := propext wf2
  simp only [hif, g2 _ hne] at e ga
  refine ⟨t', wk, e, rt.trans cr, ?_, fun hE => by rw [ga, if_pos hE], fun y hy1 hy2 => ?_⟩
  · rw [gb k hne.symm, cg, get_skipT1_same]
  · by_cases hy : y = k + 1
    · subst hy
      rw [ga, if_neg (hy2.resolve_left (fun h => h rfl))]
    · rw [gb y hy, g2 y hy1]

end AgModel.ParentReady
