import AgModel.Proofs.FinalitySpec
/-!
# The safety premise `Safe` is decidable

`SafeC G` is `Safe G` with every quantifier bounded by what occurs in `G` and the closure `Final` computed with
fuel (`finalB`); `safeC_iff : SafeC G ↔ Safe G` gives `instance : Decidable (Safe G)`, which the kernel can
evaluate on concrete histories (`by decide`).
-/
namespace AgModel.Finality

def linksOf : List Op → List ((Nat × Nat) × (Nat × Nat))
  | [] => []
  | .parent c p :: r => (c, p) :: linksOf r
  | _ :: r => linksOf r

def notars : List Op → List (Nat × Nat)
  | [] => [(0, 0)]
  | .notar b :: r => b :: notars r
  | _ :: r => notars r

def fasts : List Op → List (Nat × Nat)
  | [] => []
  | .fastFinal b :: r => b :: fasts r
  | _ :: r => fasts r

def finSlots : List Op → List Nat
  | [] => []
  | .final s :: r => s :: finSlots r
  | _ :: r => finSlots r

theorem mem_linksOf {G : List Op} {c p : Nat × Nat} : (c, p) ∈ linksOf G ↔ LinkH G c p := by
  unfold LinkH
  induction G with
  | nil => simp [linksOf]
  | cons op r ih => cases op <;> simp [linksOf, ih]

theorem mem_notars {G : List Op} {b : Nat × Nat} : b ∈ notars G ↔ NotarH G b := by
  unfold NotarH
  induction G with
  | nil => simp [notars]
  | cons op r ih =>
    cases op <;> simp [notars, ih]
    -- left: the `.notar` case, where the new block has to be moved past the genesis disjunct of `NotarH`
    exact or_left_comm

theorem mem_fasts {G : List Op} {b : Nat × Nat} : b ∈ fasts G ↔ FastH G b := by
  unfold FastH
  induction G with
  | nil => simp [fasts]
  | cons op r ih => cases op <;> simp [fasts, ih]

theorem mem_finSlots {G : List Op} {s : Nat} : s ∈ finSlots G ↔ FinH G s := by
  unfold FinH
  induction G with
  | nil => simp [finSlots]
  | cons op r ih => cases op <;> simp [finSlots, ih]

def directB (G : List Op) (b : Nat × Nat) : Bool :=
  decide (b ∈ fasts G) || (decide (b.1 ∈ finSlots G) && decide (b ∈ notars G))

theorem directB_iff {G : List Op} {b : Nat × Nat} : directB G b = true ↔ Direct G b := by
  simp [directB, Direct, mem_fasts, mem_finSlots, mem_notars]

def finalB (G : List Op) : Nat → Nat × Nat → Bool
  | 0, b => directB G b
  | n + 1, b => directB G b || (linksOf G).any (fun l => decide (l.2 = b) && finalB G n l.1)

def maxSlot (G : List Op) : Nat := (linksOf G).foldr (fun l m => max l.1.1 m) 0

theorem le_foldr_max {L : List ((Nat × Nat) × (Nat × Nat))} {l : (Nat × Nat) × (Nat × Nat)} (h : l ∈ L) :
    l.1.1 ≤ L.foldr (fun l m => max l.1.1 m) 0 := by
  induction L with
  | nil => cases h
  | cons x r ih =>
    simp only [List.foldr]
    rcases List.mem_cons.mp h with e | e
    · subst e; exact Nat.le_max_left _ _
    · exact Nat.le_trans (ih e) (Nat.le_max_right _ _)

theorem finalB_sound {G : List Op} : ∀ (n : Nat) (b : Nat × Nat), finalB G n b = true → Final G b
  | 0, b, h => .direct (directB_iff.mp h)
  | n + 1, b, h => by
    simp only [finalB, Bool.or_eq_true, List.any_eq_true, Bool.and_eq_true, decide_eq_true_eq] at h
    rcases h with h | ⟨l, hl, e, hf⟩
    · exact .direct (directB_iff.mp h)
    · subst e
      exact .step (finalB_sound n l.1 hf) (mem_linksOf.mp hl)

theorem finalB_complete {G : List Op} (hlt : ∀ c p, LinkH G c p → p.1 < c.1) {b : Nat × Nat} (h : Final G b) :
    ∀ n, maxSlot G - b.1 ≤ n → finalB G n b = true := by
  induction h with
  | @direct b d =>
    intro n _
    cases n with
    | zero => exact directB_iff.mpr d
    | succ n => simp only [finalB, Bool.or_eq_true]; exact Or.inl (directB_iff.mpr d)
  | @step c p hc hl ih =>
    intro n hn
    have h1 := hlt c p hl
    have h2 : c.1 ≤ maxSlot G := le_foldr_max (l := (c, p)) (mem_linksOf.mpr hl)
    -- the child needs strictly less fuel than the parent
    have h3 : maxSlot G - c.1 < n := Nat.lt_of_lt_of_le (Nat.sub_lt_sub_left (Nat.lt_of_lt_of_le h1 h2) h1) hn
    cases n with
    | zero => exact absurd h3 (Nat.not_lt_zero _)
    | succ n =>
      simp only [finalB, Bool.or_eq_true, List.any_eq_true, Bool.and_eq_true, decide_eq_true_eq]
      exact Or.inr ⟨(c, p), mem_linksOf.mpr hl, rfl, ih n (Nat.le_of_lt_succ h3)⟩

/-- where a `Final` block can occur: fast-finalized, notarized (or genesis), or the parent in a link -/
def cands (G : List Op) : List (Nat × Nat) :=
  fasts G ++ notars G ++ (linksOf G).map (·.2)

def finals (G : List Op) : List (Nat × Nat) := (cands G).filter (finalB G (maxSlot G))

theorem final_mem_cands {G : List Op} {b : Nat × Nat} (h : Final G b) : b ∈ cands G := by
  unfold cands
  cases h with
  | direct d =>
    rcases d with d | ⟨_, d⟩
    · exact List.mem_append_left _ (List.mem_append_left _ (mem_fasts.mpr d))
    · exact List.mem_append_left _ (List.mem_append_right _ (mem_notars.mpr d))
  | @step c _ _ hl =>
    exact List.mem_append_right _ (List.mem_map.mpr ⟨(c, b), mem_linksOf.mpr hl, rfl⟩)

theorem mem_finals {G : List Op} (hlt : ∀ c p, LinkH G c p → p.1 < c.1) {b : Nat × Nat} :
    b ∈ finals G ↔ Final G b := by
  unfold finals
  rw [List.mem_filter]
  constructor
  · intro ⟨_, h⟩; exact finalB_sound _ _ h
  · intro h; exact ⟨final_mem_cands h, finalB_complete hlt h _ (Nat.sub_le _ _)⟩

def SafeC (G : List Op) : Prop :=
  (∀ l ∈ linksOf G, l.2.1 < l.1.1) ∧
  (∀ l ∈ linksOf G, ∀ l' ∈ linksOf G, l.1 = l'.1 → l.2 = l'.2) ∧
  (∀ b ∈ finals G, ∀ b' ∈ finals G, b.1 = b'.1 → b = b') ∧
  (∀ l ∈ linksOf G, l.1 ∈ finals G → ∀ q ∈ finals G, ¬ (l.2.1 < q.1 ∧ q.1 < l.1.1)) ∧
  (∀ b ∈ notars G, ∀ b' ∈ notars G, b.1 = b'.1 → b = b') ∧
  (∀ b ∈ notars G, ∀ b' ∈ cands G, directB G b' = true → b.1 = b'.1 → b = b') ∧
  (∀ s ∈ finSlots G, ∀ l ∈ linksOf G, l.1 ∈ finals G → ¬ (l.2.1 < s ∧ s < l.1.1))

instance (G : List Op) : Decidable (SafeC G) := by unfold SafeC; infer_instance

theorem safeC_iff {G : List Op} : SafeC G ↔ Safe G := by
  constructor
  · intro ⟨h1, h2, h3, h4, h5, h6, h7⟩
    have hlt : ∀ c p, LinkH G c p → p.1 < c.1 := fun c p h => h1 (c, p) (mem_linksOf.mpr h)
    have mf : ∀ {b}, b ∈ finals G ↔ Final G b := mem_finals hlt
    refine ⟨hlt, ?_, ?_, ?_, ?_, ?_, ?_⟩
    · intro c p p' a b
      exact h2 (c, p) (mem_linksOf.mpr a) (c, p') (mem_linksOf.mpr b) rfl
    · intro b b' a a' e
      exact h3 b (mf.mpr a) b' (mf.mpr a') e
    · intro c p q a l a'
      exact h4 (c, p) (mem_linksOf.mpr l) (mf.mpr a) q (mf.mpr a')
    · intro b b' a a' e
      exact h5 b (mem_notars.mpr a) b' (mem_notars.mpr a') e
    · intro b b' a a' e
      exact h6 b (mem_notars.mpr a) b' (final_mem_cands (.direct a')) (directB_iff.mpr a') e
    · intro s a ⟨c, p, hc, hl, x, y⟩
      exact h7 s (mem_finSlots.mpr a) (c, p) (mem_linksOf.mpr hl) (mf.mpr hc) ⟨x, y⟩
  · intro sf
    have mf : ∀ {b}, b ∈ finals G ↔ Final G b := mem_finals sf.link_lt
    refine ⟨?_, ?_, ?_, ?_, ?_, ?_, ?_⟩
    · intro l hl; exact sf.link_lt l.1 l.2 (mem_linksOf.mp hl)
    · intro l hl l' hl' e
      have a : LinkH G l.1 l.2 := mem_linksOf.mp hl
      have b : LinkH G l'.1 l'.2 := mem_linksOf.mp hl'
      rw [← e] at b
      exact sf.link_fun _ _ _ a b
    · intro b hb b' hb' e
      exact sf.final_fun b b' (mf.mp hb) (mf.mp hb') e
    · intro l hl hf q hq
      exact sf.no_final_between l.1 l.2 q (mf.mp hf) (mem_linksOf.mp hl) (mf.mp hq)
    · intro b hb b' hb' e
      exact sf.notar_fun b b' (mem_notars.mp hb) (mem_notars.mp hb') e
    · intro b hb b' _ hd e
      exact sf.notar_direct b b' (mem_notars.mp hb) (directB_iff.mp hd) e
    · intro s hs l hl hf hx
      exact sf.fin_not_skip s (mem_finSlots.mp hs) ⟨l.1, l.2, mf.mp hf, mem_linksOf.mp hl, hx.1, hx.2⟩

instance (G : List Op) : Decidable (Safe G) := decidable_of_iff _ safeC_iff

example : Safe [.fastFinal (5, 3), .final 1, .parent (5, 3) (2, 2), .parent (1, 1) (0, 0), .parent (2, 2) (1, 1)] := by
  decide

end AgModel.Finality
