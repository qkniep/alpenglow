import AgModel.Proofs.BlockProducer
import AgModel.Proofs.BlockstoreHonest
/-! The slices a producer run emits, seen as a block of a correct leader (`Blockstore.HBlock`) that is well-formed
    (`HBlock.WF`): the bridge from `AgModel.BlockProducer` to the follower-side theorems of C13. -/
namespace AgModel.BlockProducer
open AgModel.Blockstore

def txIds (o : SliceOut) : List Nat := o.payload.txs.map (·.id)

/-- what a follower decodes from ≥ 32 shreds of the slice (`ReconstructedSlice`) -/
def rsOf (root : Nat → Nat) (o : SliceOut) : RSlice :=
  ⟨o.index, o.isLast, root o.index, o.payload.parent, some (txIds o)⟩

theorem foldSlices_cons_keep {r : RSlice} {rest : List RSlice} {P : Nat × Nat} {sw : Bool} {acc t : List Nat}
    (h : r.slice = 0 ∨ r.parent = none) (ht : r.txs = some t) :
    foldSlices (r :: rest) P sw acc = foldSlices rest P sw (acc ++ t) := by
  rw [foldSlices]
  rcases h with h | h <;> simp [h, ht]

theorem foldSlices_cons_switch {r : RSlice} {rest : List RSlice} {P np : Nat × Nat} {acc t : List Nat}
    (hs : r.slice ≠ 0) (hp : r.parent = some np) (hne : np ≠ P) (ht : r.txs = some t) :
    foldSlices (r :: rest) P false acc = foldSlices rest np true (acc ++ t) := by
  rw [foldSlices]
  simp [hs, hp, hne, ht]

/-- the follower's handover fold over the slices emitted from slice index ≥ 1 on ends with the producer's parent:
    while no ParentReady was seen the fold has not switched and holds the parent the producer was called with, so
    the one slice that carries another hash is accepted as the switch -/
theorem fold_run (c : Cfg) (root : Nat → Nat) (ins : List SliceIn) (s : PState) (hk1 : 1 ≤ s.k) (sw : Bool)
    (acc : List Nat) (hns : s.seen = false → sw = false ∧ s.parent = c.parent) :
    foldSlices ((run c s ins).2.map (rsOf root)) s.parent sw acc =
      some ((run c s ins).1.parent, acc ++ (run c s ins).2.flatMap txIds) := by
  induction ins generalizing s sw acc with
  | nil => simp [run, foldSlices]
  | cons si rest ih =>
    rcases run_cons_cases c s si rest with ⟨st, _, h⟩ | ⟨s', o, E, h⟩
    · rw [h]; simp [foldSlices]
    rw [h, List.map_cons, List.flatMap_cons, ← List.append_assoc]
    have hk' : 1 ≤ s'.k := E.k ▸ Nat.le_succ_of_le hk1
    have hbase : baseParent c s = none := if_neg (Nat.ne_of_gt hk1)
    rcases parent_cases c s si with ⟨h1, h2⟩ | ⟨hseen, np, hpr, hne, h1, h2⟩
    · have hp : s'.parent = s.parent := E.parent.trans h2
      rw [foldSlices_cons_keep (Or.inr (E.oparent.trans (h1.trans hbase))) rfl, ← hp]
      exact ih s' hk' sw _ fun h' => hp ▸ hns (E.unseen h').1
    · obtain ⟨rfl, hPc⟩ := hns hseen
      have hp : s'.parent = np := E.parent.trans h2
      have hne' : np ≠ s.parent := fun h => hne (by rw [h, hPc])
      rw [foldSlices_cons_switch (by rw [rsOf, E.index]; exact Nat.ne_of_gt hk1)
        (E.oparent.trans h1) hne' rfl, ← hp]
      exact ih s' hk' true _ fun h' => nomatch hpr.symm.trans (E.unseen h').2

theorem fold_produce (c : Cfg) (root : Nat → Nat) (ins : List SliceIn) (hne : (produce c ins).2 ≠ []) :
    ∃ o p, (produce c ins).2.head? = some o ∧ o.index = 0 ∧ o.payload.parent = some p ∧
      foldSlices ((produce c ins).2.map (rsOf root)) p false [] =
        some ((produce c ins).1.parent, (produce c ins).2.flatMap txIds) := by
  unfold produce at hne ⊢
  cases ins with
  | nil => exact absurd rfl hne
  | cons si rest =>
    rcases run_cons_cases c (init c) si rest with ⟨st, _, h⟩ | ⟨s', o, E, h⟩
    · rw [h] at hne; exact absurd rfl hne
    rw [h]
    -- the first slice always carries the parent the block has after it
    have hfirst : o.payload.parent = some s'.parent ∧ (s'.seen = false → s'.parent = c.parent) := by
      rw [E.oparent, E.parent]
      rcases parent_cases c (init c) si with ⟨h1, h2⟩ | ⟨_, np, hpr, _, h1, h2⟩
      · exact ⟨h1.trans (h2 ▸ rfl), fun _ => h2⟩
      · exact ⟨h1.trans (h2 ▸ rfl), fun h => nomatch hpr.symm.trans (E.unseen h).2⟩
    refine ⟨o, s'.parent, rfl, E.index, hfirst.1, ?_⟩
    rw [List.map_cons, List.flatMap_cons,
      foldSlices_cons_keep (Or.inl E.index) rfl,
      fold_run c root rest s' (E.k ▸ Nat.le_refl 1) false _ fun h => ⟨rfl, hfirst.2 h⟩]
    rfl

/-- the produced slices as a block of a (correct) leader, in the vocabulary of the follower-side theorems -/
def toHBlock (c : Cfg) (root sz : Nat → Nat) (r : PState × List SliceOut) : HBlock :=
  { slot := c.slot, n := r.2.length, root := root, sz := sz,
    parent := fun i => (r.2[i]?).bind (·.payload.parent),
    txs := fun i => ((r.2[i]?).map txIds).getD [],
    fparent := r.1.parent }

theorem produce_getElem {c : Cfg} {ins : List SliceIn} (hd : (produce c ins).1.status = .done) {i : Nat}
    (hi : i < (produce c ins).2.length) :
    (produce c ins).2[i].index = i ∧ (produce c ins).2[i].isLast = decide (i + 1 = (produce c ins).2.length) := by
  have sp := produce_spec c ins
  refine ⟨?_, ?_⟩
  · have h' := congrArg (fun l => l[i]?) sp.index
    simp only [List.getElem?_map, List.getElem?_eq_getElem hi, Option.map_some, List.getElem?_range' hi] at h'
    simpa using h'
  obtain ⟨pre, l, hpl, hl, hpre⟩ := sp.last hd
  generalize (produce c ins).2 = outs at hpl hi ⊢
  subst hpl
  rw [List.length_append, List.length_singleton]
  by_cases hip : i < pre.length
  · rw [List.getElem_append_left hip, hpre _ (List.getElem_mem hip)]
    exact (decide_eq_false (by omega)).symm
  · have : i = pre.length := by rw [List.length_append, List.length_singleton] at hi; omega
    subst this
    rw [List.getElem_append_right (Nat.le_refl _)]
    simpa using hl

theorem toHBlock_faithful (c : Cfg) (root sz : Nat → Nat) (ins : List SliceIn) (hd : (produce c ins).1.status = .done) :
    (List.range (toHBlock c root sz (produce c ins)).n).map (toHBlock c root sz (produce c ins)).rslice =
      (produce c ins).2.map (rsOf root) := by
  apply List.ext_getElem
  · simp [toHBlock]
  · intro i hi1 hi2
    have hi : i < (produce c ins).2.length := by simpa using hi2
    obtain ⟨hidx, hlast⟩ := produce_getElem hd hi
    simp only [List.getElem_map, List.getElem_range, HBlock.rslice, HBlock.isLast, toHBlock, rsOf,
      List.getElem?_eq_getElem hi, Option.bind_some, Option.map_some, Option.getD_some, hidx, hlast]

theorem toHBlock_allTxs (c : Cfg) (root sz : Nat → Nat) (r : PState × List SliceOut) :
    (toHBlock c root sz r).allTxs = r.2.flatMap txIds := by
  have : (List.range (toHBlock c root sz r).n).map (toHBlock c root sz r).txs = r.2.map txIds := by
    apply List.ext_getElem
    · simp [toHBlock]
    · intro i hi1 hi2
      have hi : i < r.2.length := by simpa using hi2
      simp [toHBlock, List.getElem?_eq_getElem hi]
  rw [HBlock.allTxs, List.flatMap_def, this, ← List.flatMap_def]

/-- **what a producer run emits is a well-formed block of a correct leader** (for every decoder `env` that decodes the
    root of each emitted slice to what the leader encoded - the Reed-Solomon law of C13, C11 covers the shredder) -/
theorem produce_wf (c : Cfg) (root sz : Nat → Nat) (env : Nat → Content) (cap : Nat) (ins : List SliceIn)
    (hd : (produce c ins).1.status = .done) (hcap : MAX_SLICES ≤ cap) (hsz : ∀ i, sz i ≠ 0)
    (henv : ∀ o ∈ (produce c ins).2, env (root o.index) = .ok o.payload.parent (some (txIds o)))
    (hp : c.parent.1 < c.slot) (hpr : ∀ si ∈ ins, ∀ np, si.pr = some np → np.1 < c.slot) :
    (toHBlock c root sz (produce c ins)).WF env cap := by
  have sp := produce_spec c ins
  obtain ⟨pre, l, hpl, _, _⟩ := sp.last hd
  have hne : (produce c ins).2 ≠ [] := by rw [hpl]; exact List.append_ne_nil_of_right_ne_nil _ (List.cons_ne_nil _ _)
  have hpos : 0 < (produce c ins).2.length := List.length_pos_iff.mpr hne
  obtain ⟨o, p, ho, _, hop, hfold⟩ := fold_produce c root ins hne
  have h0 : (produce c ins).2[0]? = some o := List.head?_eq_getElem? ▸ ho
  exact {
    npos := hpos
    ncap := Nat.le_trans sp.count hcap
    szpos := hsz
    pslot := produce_parent_lt hp hpr
    envok := fun i hi => by
      have hi' : i < (produce c ins).2.length := hi
      have := henv _ (List.getElem_mem hi')
      rw [(produce_getElem hd hi').1] at this
      simp [toHBlock, List.getElem?_eq_getElem hi', this]
    fold := ⟨p, by simp [toHBlock, h0, hop],
      by rw [toHBlock_faithful c root sz ins hd, toHBlock_allTxs]; exact hfold⟩ }

end AgModel.BlockProducer
