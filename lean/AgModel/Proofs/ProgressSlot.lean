import AgModel.Proofs.PoolCerts
/-!
# C02 progress, slot-state part: votes of the timely schedule entering one `SlotState`

* `Silent evs`: only repair requests (nothing Votor sees, no panic);
* `Calm e h st`: the safe-to-notar / safe-to-skip machinery stays silent for block `h` — the own vote (if any) is a notarization
  vote for `h`, nothing was signalled, the notar-or-skip stake does not exceed the top notar stake;
* `NotarSt e s h X F st`: the state of slot `s` after exactly the validators `X` voted notar for `h` and `F` voted final
  (`NotarBase`), with every certificate whose threshold is met, all for `h`, and no other (`NotarCerts`).
-/
namespace AgModel.Pool

variable {e : Epoch} {s h : Nat} {X F : List Nat}

def Silent (evs : List Event) : Prop := ∀ ev ∈ evs, ∃ a b, ev = .repair a b

theorem Silent.nil : Silent [] := fun _ h => by cases h

theorem Silent.append {a b : List Event} (ha : Silent a) (hb : Silent b) : Silent (a ++ b) := by
  intro ev h
  rcases List.mem_append.mp h with h | h
  · exact ha ev h
  · exact hb ev h

structure Calm (e : Epoch) (h : Nat) (st : SlotState) : Prop where
  noSkip : st.vSkip.contains e.own = false
  ownNotar : ∀ x, st.vNotar.lookup e.own = some x → x = h
  sent : st.sent = []
  sentS2S : st.sentS2S = false
  pending : st.pending = [] ∨ st.pending = [h]
  top : st.sNotarOrSkip ≤ st.sTopNotar

theorem quorum_nil (e : Epoch) (hpos : 0 < e.total) : e.isQuorum (stakeOf e []) = false := isMet_no_stake hpos (by decide)

theorem strong_nil (e : Epoch) (hpos : 0 < e.total) : e.isStrong (stakeOf e []) = false := isMet_no_stake hpos (by decide)

theorem checkS2N_calm {st : SlotState} (hc : Calm e h st) :
    Silent (s2nOut (st.checkS2N e h).1.slot h (st.checkS2N e h).2) ∧ Calm e h (st.checkS2N e h).1 := by
  have hp : Calm e h { st with pending := insertSet st.pending h } :=
    ⟨hc.noSkip, hc.ownNotar, hc.sent, hc.sentS2S, Or.inr (by rcases hc.pending with hp | hp <;> simp [hp, insertSet]), hc.top⟩
  obtain ⟨hst, hiff⟩ := checkS2N_spec e st h
  -- the own vote, if any, is for `h`: the last condition of safe-to-notar fails
  have hno : ¬ S2NCond e st h := fun hc' => by
    have := hc'.2.2
    unfold ownVotedNot at this
    rw [hc.noSkip, Bool.false_or] at this
    cases hl : st.vNotar.lookup e.own with
    | none => rw [hl] at this; cases this
    | some h' => rw [hl, hc.ownNotar h' hl] at this; simp at this
  constructor
  · cases hr : (st.checkS2N e h).2 with
    | safe => exact absurd (hiff.mp hr) hno
    | missing => exact fun ev hev => ⟨_, _, List.mem_singleton.mp hev⟩
    | awaiting => exact Silent.nil
  · rw [hst, if_neg hno]
    split
    · exact hp
    · exact hc

/-- the re-check loop over `pending` runs at most once: for `h` -/
theorem recheckPending_own_calm {st : SlotState} (hc : Calm e h st) :
    Silent (SlotState.recheckPending e st st.pending []).2 ∧ Calm e h (SlotState.recheckPending e st st.pending []).1 := by
  rcases hc.pending with hp | hp <;> rw [hp]
  · exact ⟨Silent.nil, hc⟩
  · unfold SlotState.recheckPending
    rw [hc.sent]
    simp only [List.contains_nil, Bool.false_eq_true, if_false, SlotState.recheckPending, List.nil_append]
    exact checkS2N_calm hc

theorem s2sCheck_calm {st : SlotState} (hpos : 0 < e.total) (hc : Calm e h st) : st.s2sCheck e = (st, []) := by
  unfold SlotState.s2sCheck
  have : st.sNotarOrSkip - st.sTopNotar = 0 := Nat.sub_eq_zero_of_le hc.top
  rw [this]
  have : e.isWeak 0 = false := isMet_no_stake hpos (by decide)
  rw [this]
  simp

theorem addVote_calm {st : SlotState} (v : Vote)
    (hk : (v.kind = .notar ∧ v.hash = h ∧ 0 < e.total) ∨ v.kind = .final) (hc : Calm e h (st.stored e v)) :
    Silent (st.addVote e v).2.2 ∧ Calm e h (st.addVote e v).1 := by
  obtain ⟨t1, t2⟩ := countOf_tail e st v
  have ht : Silent (voteTail e (st.stored e v) v).2 ∧ Calm e h (voteTail e (st.stored e v) v).1 := by
    unfold voteTail
    rcases hk with ⟨hk, rfl, hpos⟩ | hk <;> simp only [hk]
    · unfold notarTail
      rw [hc.sent, if_pos (show (!([] : List Nat).contains v.hash) = true from rfl)]
      obtain ⟨h1, h2⟩ := checkS2N_calm hc
      rw [s2sCheck_calm hpos h2]
      exact ⟨h1.append Silent.nil, h2⟩
    · exact ⟨Silent.nil, hc⟩
  rw [← t1, ← t2] at ht
  rw [addVote_eq]
  unfold ownWrap
  split
  · obtain ⟨h3, h4⟩ := recheckPending_own_calm ht.2
    exact ⟨ht.1.append h3, h4⟩
  · exact ht

theorem addCert_notar (st : SlotState) (c : Cert) (hk : c.kind = .notar) : st.addCert c = { st with cNotar := some c } := by
  unfold SlotState.addCert; simp only [hk]
theorem addCert_ff (st : SlotState) (c : Cert) (hk : c.kind = .ff) : st.addCert c = { st with cFf := some c } := by
  unfold SlotState.addCert; simp only [hk]
theorem addCert_final (st : SlotState) (c : Cert) (hk : c.kind = .final) : st.addCert c = { st with cFin := some c } := by
  unfold SlotState.addCert; simp only [hk]
theorem addCert_skip (st : SlotState) (c : Cert) (hk : c.kind = .skip) : st.addCert c = { st with cSkip := some c } := by
  unfold SlotState.addCert; simp only [hk]
theorem addCert_nf_new (st : SlotState) (c : Cert) (hk : c.kind = .nf) (hn : st.isNf c.hash = false) :
    st.addCert c = { st with cNf := st.cNf ++ [c] } := by
  unfold SlotState.addCert; simp only [hk, hn, Bool.false_eq_true, if_false]

theorem isNf_append_single (st : SlotState) (c : Cert) (h : Nat) :
    ({ st with cNf := st.cNf ++ [c] } : SlotState).isNf h = (st.isNf h || c.hash == h) := by
  simp [SlotState.isNf, List.any_append]

structure NotarBase (e : Epoch) (s h : Nat) (X F : List Nat) (st : SlotState) : Prop where
  slot : st.slot = s
  vNotar : st.vNotar = X.map (fun j => (j, h))
  vNf : st.vNf = []
  vSkip : st.vSkip = []
  vSf : st.vSf = []
  vFin : st.vFin = F
  sNotar : lookupD st.sNotar h = stakeOf e X
  sNf : lookupD st.sNf h = 0
  sFin : st.sFin = stakeOf e F
  sNotarOrSkip : st.sNotarOrSkip = stakeOf e X
  sTop : st.sTopNotar = stakeOf e X
  sent : st.sent = []
  sentS2S : st.sentS2S = false
  pending : st.pending = [] ∨ st.pending = [h]

structure NotarCerts (e : Epoch) (h : Nat) (X F : List Nat) (st : SlotState) : Prop where
  cNotarSome : e.isQuorum (stakeOf e X) = true → ∃ x, st.cNotar = some x ∧ x.hash = h
  cNotarNone : e.isQuorum (stakeOf e X) = false → st.cNotar = none
  cFfSome : e.isStrong (stakeOf e X) = true → ∃ x, st.cFf = some x ∧ x.hash = h
  cFfNone : e.isStrong (stakeOf e X) = false → st.cFf = none
  cNf : st.isNf h = e.isQuorum (stakeOf e X)
  cFin : st.cFin.isSome = e.isQuorum (stakeOf e F)

def NotarSt (e : Epoch) (s h : Nat) (X F : List Nat) (st : SlotState) : Prop :=
  NotarBase e s h X F st ∧ NotarCerts e h X F st

theorem lookup_map_pair (X : List Nat) (h k : Nat) :
    (X.map (fun j => (j, h))).lookup k = if k ∈ X then some h else none := by
  induction X with
  | nil => simp
  | cons a t ih =>
    simp only [List.map_cons, List.lookup_cons, List.mem_cons]
    by_cases hk : k = a
    · subst hk; simp
    · have : (k == a) = false := by simpa using hk
      simp only [this, ih, hk, false_or]

theorem NotarBase.calm {st : SlotState} (b : NotarBase e s h X F st) : Calm e h st := by
  refine ⟨by rw [b.vSkip]; rfl, ?_, b.sent, b.sentS2S, b.pending, by rw [b.sNotarOrSkip, b.sTop]; exact Nat.le_refl _⟩
  intro x hx
  rw [b.vNotar, lookup_map_pair] at hx
  split at hx
  · cases hx; rfl
  · cases hx

theorem NotarBase.addCert {e : Epoch} {s h : Nat} {X F : List Nat} {st : SlotState} (b : NotarBase e s h X F st) (c : Cert) :
    NotarBase e s h X F (st.addCert c) := by
  obtain ⟨_, _, _, _, _, h⟩ := addCert_writes st c
  rw [h]
  exact { b with }

theorem NotarBase.addCerts {st : SlotState} (cs : List Cert) (b : NotarBase e s h X F st) :
    NotarBase e s h X F (cs.foldl SlotState.addCert st) :=
  addCerts_keeps (fun _ c b => b.addCert c) cs st b

theorem stakeOf_snoc (e : Epoch) (X : List Nat) (j : Nat) : stakeOf e (X ++ [j]) = stakeOf e X + e.stake j := by
  simp [stakeOf]

theorem isQuorum_snoc (e : Epoch) (X : List Nat) (j : Nat) (h : e.isQuorum (stakeOf e X) = true) :
    e.isQuorum (stakeOf e (X ++ [j])) = true :=
  isMet_mono (by rw [stakeOf_snoc]; exact Nat.le_add_right _ _) h

theorem isQuorum_snoc_cases (e : Epoch) (X : List Nat) (j : Nat) :
    (e.isQuorum (stakeOf e X) = false ∧ e.isQuorum (stakeOf e (X ++ [j])) = false) ∨
    (e.isQuorum (stakeOf e X) = false ∧ e.isQuorum (stakeOf e (X ++ [j])) = true) ∨
    (e.isQuorum (stakeOf e X) = true ∧ e.isQuorum (stakeOf e (X ++ [j])) = true) := by
  have := isQuorum_snoc e X j
  cases h0 : e.isQuorum (stakeOf e X) <;> cases h1 : e.isQuorum (stakeOf e (X ++ [j])) <;> simp
  exact absurd (this h0) (by rw [h1]; decide)

theorem isStrong_snoc (e : Epoch) (X : List Nat) (j : Nat) (h : e.isStrong (stakeOf e X) = true) :
    e.isStrong (stakeOf e (X ++ [j])) = true :=
  isMet_mono (by rw [stakeOf_snoc]; exact Nat.le_add_right _ _) h

/-! A threshold `q` that is monotone in the voters goes from `q0` to `q1` with one more vote; the certificate is created exactly
when `q1 && !q0`. -/

theorem or_crossed {q0 q1 : Bool} (hm : q0 = true → q1 = true) : (q0 || (q1 && !q0)) = q1 := by
  cases q0 <;> cases q1 <;> first | rfl | exact absurd (hm rfl) (by decide)

theorem ite_crossed {α : Type} (A : List α) {q0 q1 : Bool} (hm : q0 = true → q1 = true) :
    (if q1 = true then A else []) = (if q0 = true then A else []) ++ (if (q1 && !q0) = true then A else []) := by
  cases q0 <;> cases q1 <;> first | rfl | exact (List.append_nil _).symm | exact absurd (hm rfl) (by decide)

theorem held_crossed {o : Option Cert} {q0 q1 : Bool} {c : Cert} (hc : c.hash = h) (hm : q0 = true → q1 = true)
    (hs : q0 = true → ∃ x, o = some x ∧ x.hash = h) (hn : q0 = false → o = none) :
    (q1 = true → ∃ x, (if (q1 && !q0) = true then some c else o) = some x ∧ x.hash = h) ∧
    (q1 = false → (if (q1 && !q0) = true then some c else o) = none) := by
  cases q0 <;> cases q1
  · exact ⟨nofun, fun _ => hn rfl⟩
  · exact ⟨fun _ => ⟨c, rfl, hc⟩, nofun⟩
  · exact absurd (hm rfl) (by decide)
  · exact ⟨fun _ => hs rfl, nofun⟩

theorem isSome_crossed {o : Option Cert} {q0 q1 : Bool} (c : Cert) (hm : q0 = true → q1 = true) (ho : o.isSome = q0) :
    (if (q1 && !q0) = true then some c else o).isSome = q1 := by
  cases q0 <;> cases q1 <;> first | exact ho | rfl | exact absurd (hm rfl) (by decide)

theorem isNone_of_held {o : Option Cert} {q : Bool} (hs : q = true → ∃ x, o = some x ∧ x.hash = h) (hn : q = false → o = none) :
    o.isNone = !q := by
  cases q
  · rw [hn rfl]; rfl
  · obtain ⟨x, hx, _⟩ := hs rfl; rw [hx]; rfl

theorem isNone_of_isSome {o : Option Cert} {q : Bool} (h : o.isSome = q) : o.isNone = !q := by
  rw [← h]; cases o <;> rfl

/-- Here and in the lemmas about `addVote`, `addValidCert`, `addBlock` below and in the pool files, the result of the operation is
    bound once (`∀ A, A = … →`) so that the conclusion can speak of its components without repeating the term; callers pass `_ rfl`. -/
theorem foldl_addCert_crossed (a : SlotState) (b1 b2 : Bool) {c1 c2 c3 : Cert} (k1 : c1.kind = .nf) (k2 : c2.kind = .notar)
    (k3 : c3.kind = .ff) (hn : b1 = true → a.isNf c1.hash = false) :
    ∀ A, A = (((if b1 = true then [c1, c2] else []) ++ (if b2 = true then [c3] else [])).foldl SlotState.addCert a) →
    A.cNotar =
      (if b1 = true then some c2 else a.cNotar) ∧
    A.cFf =
      (if b2 = true then some c3 else a.cFf) ∧
    A.isNf c1.hash =
      (a.isNf c1.hash || b1) ∧
    A.cFin = a.cFin := by
  rintro A rfl
  have h1 : ∀ b : Bool, (b = true → a.isNf c1.hash = false) → (if b = true then [c1, c2] else []).foldl SlotState.addCert a =
      if b = true then { a with cNf := a.cNf ++ [c1], cNotar := some c2 } else a := by
    intro b hb
    cases b
    · rfl
    · show (a.addCert c1).addCert c2 = _
      rw [addCert_nf_new _ _ k1 (hb rfl), addCert_notar _ _ k2]; rfl
  have h2 : ∀ (b : Bool) (x : SlotState), (if b = true then [c3] else []).foldl SlotState.addCert x =
      if b = true then { x with cFf := some c3 } else x := by
    intro b x
    cases b
    · rfl
    · exact addCert_ff _ _ k3
  have h3 : ({ a with cNf := a.cNf ++ [c1], cNotar := some c2 } : SlotState).isNf c1.hash = true := by
    simp [SlotState.isNf]
  rw [List.foldl_append, h1 b1 hn, h2]
  cases b1 <;> cases b2
  · exact ⟨rfl, rfl, (Bool.or_false _).symm, rfl⟩
  · exact ⟨rfl, rfl, (Bool.or_false _).symm, rfl⟩
  · exact ⟨rfl, rfl, h3.trans (Bool.or_true _).symm, rfl⟩
  · exact ⟨rfl, rfl, h3.trans (Bool.or_true _).symm, rfl⟩

theorem CoreEq.fields {a b : SlotState} (h : CoreEq a b) :
    a.slot = b.slot ∧ a.vNotar = b.vNotar ∧ a.vNf = b.vNf ∧ a.vSkip = b.vSkip ∧ a.vSf = b.vSf ∧ a.vFin = b.vFin ∧
    a.sNotar = b.sNotar ∧ a.sNf = b.sNf ∧ a.sFin = b.sFin ∧ a.sNotarOrSkip = b.sNotarOrSkip ∧ a.sTopNotar = b.sTopNotar ∧
    a.cNotar = b.cNotar ∧ a.cNf = b.cNf ∧ a.cFf = b.cFf ∧ a.cFin = b.cFin ∧ a.cSkip = b.cSkip ∧ a.sSkip = b.sSkip ∧ a.sSf = b.sSf :=
  ⟨(congrArg SlotState.slot h.eq :), (congrArg SlotState.vNotar h.eq :), (congrArg SlotState.vNf h.eq :), (congrArg SlotState.vSkip h.eq :),
   (congrArg SlotState.vSf h.eq :), (congrArg SlotState.vFin h.eq :), (congrArg SlotState.sNotar h.eq :), (congrArg SlotState.sNf h.eq :),
   (congrArg SlotState.sFin h.eq :), (congrArg SlotState.sNotarOrSkip h.eq :), (congrArg SlotState.sTopNotar h.eq :),
   (congrArg SlotState.cNotar h.eq :), (congrArg SlotState.cNf h.eq :), (congrArg SlotState.cFf h.eq :), (congrArg SlotState.cFin h.eq :),
   (congrArg SlotState.cSkip h.eq :), (congrArg SlotState.sSkip h.eq :), (congrArg SlotState.sSf h.eq :)⟩

theorem NotarSt.notar_vote {st : SlotState} (hst : NotarSt e s h X F st) (j : Nat) :
    st.checkSlashable ⟨.notar, s, h, j⟩ = none ∧ st.shouldIgnore ⟨.notar, s, h, j⟩ = decide (j ∈ X) := by
  obtain ⟨b, _⟩ := hst
  have hl : st.vNotar.lookup j = if j ∈ X then some h else none := by rw [b.vNotar, lookup_map_pair]
  by_cases hj : j ∈ X
  · rw [if_pos hj] at hl
    exact ⟨by simp [SlotState.checkSlashable, b.vSkip, hl], by simp [SlotState.shouldIgnore, hl, hj]⟩
  · rw [if_neg hj] at hl
    exact ⟨by simp [SlotState.checkSlashable, b.vSkip, hl], by simp [SlotState.shouldIgnore, b.vNf, hl, hj]⟩

theorem NotarSt.final_vote {st : SlotState} (hst : NotarSt e s h X F st) (j : Nat) :
    st.checkSlashable ⟨.final, s, 0, j⟩ = none ∧ st.shouldIgnore ⟨.final, s, 0, j⟩ = decide (j ∈ F) := by
  obtain ⟨b, _⟩ := hst
  constructor
  · simp [SlotState.checkSlashable, b.vSkip, b.vSf, b.vNf]
  · simp [SlotState.shouldIgnore, b.vFin]

theorem NotarSt.dup_final {e : Epoch} {s h : Nat} {X F : List Nat} {st : SlotState} (hst : NotarSt e s h X F st) {j : Nat}
    (hj : j ∈ F) : st.checkSlashable ⟨.final, s, 0, j⟩ = none ∧ st.shouldIgnore ⟨.final, s, 0, j⟩ = true := by
  have := hst.final_vote j
  rwa [decide_eq_true hj] at this

theorem foldl_addCert_final (a : SlotState) (b : Bool) {c : Cert} (k : c.kind = .final) :
    (if b = true then [c] else []).foldl SlotState.addCert a = { a with cFin := if b = true then some c else a.cFin } := by
  cases b
  · rfl
  · exact addCert_final a c k

theorem foldl_addCert_skip (a : SlotState) (b : Bool) {c : Cert} (k : c.kind = .skip) :
    (if b = true then [c] else []).foldl SlotState.addCert a = { a with cSkip := if b = true then some c else a.cSkip } := by
  cases b
  · rfl
  · exact addCert_skip a c k

def IsCert (k : CertKind) (s h : Nat) (c : Cert) : Prop := c.kind = k ∧ c.slot = s ∧ c.hash = h

theorem NotarBase.of_coreEq {a b : SlotState} (hab : CoreEq a b) (i : NotarBase e s h X F a) (hc : Calm e h b) :
    NotarBase e s h X F b := by
  have : NotarBase e s h X F a.core := { i with sent := rfl, sentS2S := rfl, pending := Or.inl rfl }
  rw [hab.eq] at this
  exact { this with sent := hc.sent, sentS2S := hc.sentS2S, pending := hc.pending }

theorem NotarCerts.of_coreEq {a b : SlotState} (hab : CoreEq a b) (i : NotarCerts e h X F a) : NotarCerts e h X F b := by
  have : NotarCerts e h X F a.core := { i with }
  rw [hab.eq] at this
  exact { this with }

/-! Between storing a vote and creating the certificates it makes due, the votes and counters are those of the new voters
(`NotarBase` for `X'`, `F'`) while the certificates held are still those of the old ones (`NotarCerts` for `X`, `F`). The next two
lemmas say which certificates are then created and that adding them brings `NotarCerts` up to date. -/

theorem NotarCerts.notar_crossed {A : SlotState} {X' : List Nat} (b : NotarBase e s h X' F A) (cc : NotarCerts e h X F A)
    (hq : e.isQuorum (stakeOf e X) = true → e.isQuorum (stakeOf e X') = true)
    (hs : e.isStrong (stakeOf e X) = true → e.isStrong (stakeOf e X') = true) :
    notarCertsOn e A h =
      (if (e.isQuorum (stakeOf e X') && !e.isQuorum (stakeOf e X)) = true then [mkNfCert e A h, notarCertOf e A h] else []) ++
      (if (e.isStrong (stakeOf e X') && !e.isStrong (stakeOf e X)) = true then [ffCertOf e A h] else []) ∧
    NotarCerts e h X' F ((notarCertsOn e A h).foldl SlotState.addCert A) := by
  have hlist : notarCertsOn e A h =
      (if (e.isQuorum (stakeOf e X') && !e.isQuorum (stakeOf e X)) = true then [mkNfCert e A h, notarCertOf e A h] else []) ++
      (if (e.isStrong (stakeOf e X') && !e.isStrong (stakeOf e X)) = true then [ffCertOf e A h] else []) := by
    unfold notarCertsOn
    rw [b.sNotar, b.sNf, cc.cNf, isNone_of_held cc.cNotarSome cc.cNotarNone, isNone_of_held cc.cFfSome cc.cFfNone, Nat.zero_add]
    cases (e.isQuorum (stakeOf e X') && !e.isQuorum (stakeOf e X)) <;> rfl
  refine ⟨hlist, ?_⟩
  rw [hlist]
  obtain ⟨g1, g2, g3, g4⟩ := foldl_addCert_crossed A (e.isQuorum (stakeOf e X') && !e.isQuorum (stakeOf e X))
    (e.isStrong (stakeOf e X') && !e.isStrong (stakeOf e X))
    (c1 := mkNfCert e A h) (c2 := notarCertOf e A h) (c3 := ffCertOf e A h) rfl rfl rfl (by
      intro hc
      show A.isNf h = false
      rw [cc.cNf]
      cases hq0 : e.isQuorum (stakeOf e X)
      · rfl
      · rw [hq0, Bool.not_true, Bool.and_false] at hc; cases hc) _ rfl
  have hN1 := held_crossed (c := notarCertOf e A h) rfl hq cc.cNotarSome cc.cNotarNone
  have hF1 := held_crossed (c := ffCertOf e A h) rfl hs cc.cFfSome cc.cFfNone
  refine ⟨?_, ?_, ?_, ?_, ?_, ?_⟩
  · rw [g1]; exact hN1.1
  · rw [g1]; exact hN1.2
  · rw [g2]; exact hF1.1
  · rw [g2]; exact hF1.2
  · refine g3.trans ?_
    show (A.isNf h || _) = _
    rw [cc.cNf]; exact or_crossed hq
  · rw [g4]; exact cc.cFin

theorem NotarCerts.final_crossed {A : SlotState} {F' : List Nat} (b : NotarBase e s h X F' A) (cc : NotarCerts e h X F A)
    (hq : e.isQuorum (stakeOf e F) = true → e.isQuorum (stakeOf e F') = true) :
    finCertsOn e A = (if (e.isQuorum (stakeOf e F') && !e.isQuorum (stakeOf e F)) = true then [finCertOf e A] else []) ∧
    NotarCerts e h X F' ((finCertsOn e A).foldl SlotState.addCert A) := by
  have hlist : finCertsOn e A =
      (if (e.isQuorum (stakeOf e F') && !e.isQuorum (stakeOf e F)) = true then [finCertOf e A] else []) := by
    unfold finCertsOn
    rw [b.sFin, isNone_of_isSome cc.cFin]
  refine ⟨hlist, ?_⟩
  rw [hlist, foldl_addCert_final _ _ rfl]
  exact ⟨cc.cNotarSome, cc.cNotarNone, cc.cFfSome, cc.cFfNone, cc.cNf, isSome_crossed _ hq cc.cFin⟩

theorem NotarSt.addNotar {st : SlotState} (hpos : 0 < e.total)
    (hst : NotarSt e s h X F st) (j : Nat) :
    ∀ R, R = (st.addVote e ⟨.notar, s, h, j⟩) →
    ∃ c1 c2 c3, IsCert .nf s h c1 ∧ IsCert .notar s h c2 ∧ IsCert .ff s h c3 ∧
      R.2.1 =
        (if (e.isQuorum (stakeOf e (X ++ [j])) && !e.isQuorum (stakeOf e X)) = true then [c1, c2] else []) ++
        (if (e.isStrong (stakeOf e (X ++ [j])) && !e.isStrong (stakeOf e X)) = true then [c3] else []) ∧
      Silent R.2.2 ∧
      NotarSt e s h (X ++ [j]) F
        (R.2.1.foldl SlotState.addCert R.1) := by
  rintro R rfl
  obtain ⟨b, cc⟩ := hst
  have hsn : lookupD (addTo st.sNotar h (e.stake j)) h = stakeOf e (X ++ [j]) := by
    rw [lookupD_addTo, b.sNotar, stakeOf_snoc]; simp
  -- with the vote stored and counted; the checks that follow touch `sent`, `sentS2S`, `pending` only
  have b1 : NotarBase e s h (X ++ [j]) F (st.stored e ⟨.notar, s, h, j⟩) :=
    { b with
      vNotar := by show st.vNotar ++ [(j, h)] = _; rw [b.vNotar]; simp
      sNotar := hsn
      sNotarOrSkip := by show st.sNotarOrSkip + e.stake j = _; rw [b.sNotarOrSkip, stakeOf_snoc]
      sTop := by
        show max (lookupD (addTo st.sNotar h (e.stake j)) h) st.sTopNotar = _
        rw [hsn, b.sTop, stakeOf_snoc]; exact Nat.max_eq_left (Nat.le_add_right _ _) }
  obtain ⟨hsil, hcalm⟩ := addVote_calm ⟨.notar, s, h, j⟩ (Or.inl ⟨rfl, rfl, hpos⟩) b1.calm
  have hco := addVote_core e st ⟨.notar, s, h, j⟩
  obtain ⟨hlist, cc1⟩ := NotarCerts.notar_crossed b1 (X := X) { cc with } (isQuorum_snoc e X j) (isStrong_snoc e X j)
  have hcerts : (st.addVote e ⟨.notar, s, h, j⟩).2.1 = notarCertsOn e (st.stored e ⟨.notar, s, h, j⟩) h := addVote_certs e st _
  refine ⟨_, _, _, ⟨rfl, b.slot, rfl⟩, ⟨rfl, b.slot, rfl⟩, ⟨rfl, b.slot, rfl⟩, hcerts.trans hlist, hsil,
    (b1.of_coreEq hco hcalm).addCerts _, ?_⟩
  rw [hcerts]
  exact cc1.of_coreEq (addCerts_coreEq _ _ _ hco)

theorem NotarSt.addFinal {st : SlotState}
    (hst : NotarSt e s h X F st) (j : Nat) :
    ∀ R, R = (st.addVote e ⟨.final, s, 0, j⟩) →
    ∃ c, IsCert .final s 0 c ∧
      R.2.1 =
        (if (e.isQuorum (stakeOf e (F ++ [j])) && !e.isQuorum (stakeOf e F)) = true then [c] else []) ∧
      Silent R.2.2 ∧
      NotarSt e s h X (F ++ [j])
        (R.2.1.foldl SlotState.addCert R.1) := by
  rintro R rfl
  obtain ⟨b, cc⟩ := hst
  have b1 : NotarBase e s h X (F ++ [j]) (st.stored e ⟨.final, s, 0, j⟩) :=
    { b with
      vFin := by show st.vFin ++ [j] = _; rw [b.vFin]
      sFin := by show st.sFin + e.stake j = _; rw [b.sFin, stakeOf_snoc] }
  obtain ⟨hsil, hcalm⟩ := addVote_calm ⟨.final, s, 0, j⟩ (Or.inr rfl) b1.calm
  have hco := addVote_core e st ⟨.final, s, 0, j⟩
  obtain ⟨hlist, cc1⟩ := NotarCerts.final_crossed b1 (F := F) { cc with } (isQuorum_snoc e F j)
  have hcerts : (st.addVote e ⟨.final, s, 0, j⟩).2.1 = finCertsOn e (st.stored e ⟨.final, s, 0, j⟩) := addVote_certs e st _
  refine ⟨_, ⟨rfl, b.slot, rfl⟩, hcerts.trans hlist, hsil, (b1.of_coreEq hco hcalm).addCerts _, ?_⟩
  rw [hcerts]
  exact cc1.of_coreEq (addCerts_coreEq _ _ _ hco)

/-- the state of a slot `t` in which exactly the validators `Y` voted skip (and nothing else happened) -/
structure SkipSt (e : Epoch) (t : Nat) (Y : List Nat) (st : SlotState) : Prop where
  slot : st.slot = t
  vNotar : st.vNotar = []
  vNf : st.vNf = []
  vSkip : st.vSkip = Y
  vSf : st.vSf = []
  vFin : st.vFin = []
  sSkip : st.sSkip = stakeOf e Y
  sSf : st.sSf = 0
  cSkip : st.cSkip.isSome = e.isQuorum (stakeOf e Y)
  pending : st.pending = []
  sentS2S : st.sentS2S = false

theorem SkipSt.init (e : Epoch) (hpos : 0 < e.total) (t : Nat) : SkipSt e t [] { slot := t } := by
  refine ⟨rfl, rfl, rfl, rfl, rfl, rfl, rfl, rfl, ?_, rfl, rfl⟩
  show false = e.isQuorum 0
  exact (quorum_nil e hpos).symm

theorem SkipSt.admits {e : Epoch} {t : Nat} {Y : List Nat} {st : SlotState} (hst : SkipSt e t Y st) {j : Nat} (hj : j ∉ Y) :
    st.checkSlashable ⟨.skip, t, 0, j⟩ = none ∧ st.shouldIgnore ⟨.skip, t, 0, j⟩ = false := by
  constructor
  · simp [SlotState.checkSlashable, hst.vFin, hst.vNotar]
  · simp [SlotState.shouldIgnore, hst.vSkip, hst.vSf, hj]

theorem SkipSt.of_coreEq {a b : SlotState} {t : Nat} {Y : List Nat} (hab : CoreEq a b) (i : SkipSt e t Y a)
    (hp : b.pending = []) (hs : b.sentS2S = false) : SkipSt e t Y b := by
  have : SkipSt e t Y a.core := { i with pending := rfl, sentS2S := rfl }
  rw [hab.eq] at this
  exact { this with pending := hp, sentS2S := hs }

theorem SkipSt.addSkip {st : SlotState} {t : Nat} {Y : List Nat} (hst : SkipSt e t Y st) (j : Nat) :
    ∀ R, R = (st.addVote e ⟨.skip, t, 0, j⟩) →
    ∃ c, IsCert .skip t 0 c ∧
      R.2.1 =
        (if (e.isQuorum (stakeOf e (Y ++ [j])) && !e.isQuorum (stakeOf e Y)) = true then [c] else []) ∧
      R.2.2 = [] ∧
      SkipSt e t (Y ++ [j]) (R.2.1.foldl SlotState.addCert R.1) := by
  rintro R rfl
  -- nothing is pending, the own notarization vote is missing: no re-check, no safe-to-skip
  have hev : (st.addVote e ⟨.skip, t, 0, j⟩).2.2 = [] ∧ (st.addVote e ⟨.skip, t, 0, j⟩).1.pending = [] ∧
      (st.addVote e ⟨.skip, t, 0, j⟩).1.sentS2S = false := by
    unfold SlotState.addVote SlotState.countSkip
    simp only [Bool.false_eq_true, if_false, hst.pending, SlotState.recheckPending, SlotState.s2sCheck, hst.vNotar,
      List.lookup_nil, Option.isSome_none, Bool.and_false, List.append_nil]
    by_cases hown : j = e.own <;> simp [hown, hst.sentS2S]
  obtain ⟨e1, e2, e3⟩ := hev
  have hcerts : (st.addVote e ⟨.skip, t, 0, j⟩).2.1 = skipCertsOn e (st.stored e ⟨.skip, t, 0, j⟩) := addVote_certs e st _
  have hlist : skipCertsOn e (st.stored e ⟨.skip, t, 0, j⟩) =
      (if (e.isQuorum (stakeOf e (Y ++ [j])) && !e.isQuorum (stakeOf e Y)) = true then
        [skipCertOf e (st.stored e ⟨.skip, t, 0, j⟩)] else []) := by
    unfold skipCertsOn
    rw [show (st.stored e ⟨.skip, t, 0, j⟩).sSkip = stakeOf e (Y ++ [j]) by show st.sSkip + e.stake j = _; rw [hst.sSkip, stakeOf_snoc],
      show (st.stored e ⟨.skip, t, 0, j⟩).cSkip = st.cSkip from rfl,
      show (st.stored e ⟨.skip, t, 0, j⟩).sSf = 0 from hst.sSf, isNone_of_isSome hst.cSkip, Nat.add_zero]
  refine ⟨_, ⟨rfl, hst.slot, rfl⟩, hcerts.trans hlist, e1, ?_⟩
  -- computed on the state with the vote stored and counted, which the state after the checks agrees with up to `pending`, `sentS2S`
  have hco := addCerts_coreEq (skipCertsOn e (st.stored e ⟨.skip, t, 0, j⟩)) _ _ (addVote_core e st ⟨.skip, t, 0, j⟩)
  rw [hlist, foldl_addCert_skip _ _ rfl, foldl_addCert_skip _ _ rfl] at hco
  rw [hcerts, hlist, foldl_addCert_skip _ _ rfl]
  exact SkipSt.of_coreEq hco
    { hst with
      vSkip := by show st.vSkip ++ [j] = _; rw [hst.vSkip]
      sSkip := by show st.sSkip + e.stake j = _; rw [hst.sSkip, stakeOf_snoc]
      cSkip := isSome_crossed _ (isQuorum_snoc e Y j) hst.cSkip } e2 e3

end AgModel.Pool

