import AgModel.Model.Finality
/-!
# The naive reference semantics of the finality tracker (run-level specification for C08)

The *history* of a run is the list of operations delivered so far.  From it, with no reference to the tracker:

* `Direct H b`  : `b` has a fast-finalization mark, or its slot a finalization mark and `b` a notarization mark
                  (genesis `(0,0)` counts as notarized: `FinalityTracker::default()` inserts `Notarized(GENESIS)`);
* `Final H b`   : the closure of `Direct` under the parent links present in `H`;
* `Skip H s`    : `s` lies strictly between a `Final` block and its parent;
* `Safe H`      : the safety premise on a history (what consensus safety, C01, guarantees for the certificate
                  sets a correct node can ever hold).  It does not contain "the notarized block of a slot is the
                  `Final` one": C01 excludes a second certified block only next to a *directly* finalized block
                  (`notar_direct`); an implicitly finalized block can have a notarized sibling (one equivocating
                  leader suffices), and the tracker, since the D27 repair, does not panic on it.
-/
namespace AgModel.Finality

def NotarH (H : List Op) (b : Nat × Nat) : Prop := b = (0, 0) ∨ Op.notar b ∈ H
def FinH (H : List Op) (s : Nat) : Prop := Op.final s ∈ H
def FastH (H : List Op) (b : Nat × Nat) : Prop := Op.fastFinal b ∈ H
def LinkH (H : List Op) (c p : Nat × Nat) : Prop := Op.parent c p ∈ H

instance (H : List Op) (b : Nat × Nat) : Decidable (NotarH H b) := by unfold NotarH; infer_instance
instance (H : List Op) (s : Nat) : Decidable (FinH H s) := by unfold FinH; infer_instance
instance (H : List Op) (b : Nat × Nat) : Decidable (FastH H b) := by unfold FastH; infer_instance
instance (H : List Op) (c p : Nat × Nat) : Decidable (LinkH H c p) := by unfold LinkH; infer_instance

def Direct (H : List Op) (b : Nat × Nat) : Prop := FastH H b ∨ (FinH H b.1 ∧ NotarH H b)

instance (H : List Op) (b : Nat × Nat) : Decidable (Direct H b) := by unfold Direct; infer_instance

inductive Final (H : List Op) : Nat × Nat → Prop
  | direct {b : Nat × Nat} : Direct H b → Final H b
  | step {c p : Nat × Nat} : Final H c → LinkH H c p → Final H p

def Skip (H : List Op) (s : Nat) : Prop := ∃ c p, Final H c ∧ LinkH H c p ∧ p.1 < s ∧ s < c.1

structure Safe (G : List Op) : Prop where
  link_lt : ∀ c p, LinkH G c p → p.1 < c.1
  link_fun : ∀ c p p', LinkH G c p → LinkH G c p' → p = p'
  final_fun : ∀ b b', Final G b → Final G b' → b.1 = b'.1 → b = b'
  no_final_between : ∀ c p q, Final G c → LinkH G c p → Final G q → ¬ (p.1 < q.1 ∧ q.1 < c.1)
  notar_fun : ∀ b b', NotarH G b → NotarH G b' → b.1 = b'.1 → b = b'
  /-- Only next to a *directly* finalized block: one that is finalized through a descendant can have a notarized
      sibling (D27). -/
  notar_direct : ∀ b b', NotarH G b → Direct G b' → b.1 = b'.1 → b = b'
  fin_not_skip : ∀ s, FinH G s → ¬ Skip G s

def Sub (H G : List Op) : Prop := ∀ op, op ∈ H → op ∈ G

theorem Sub.refl (H : List Op) : Sub H H := fun _ h => h
theorem Sub.trans {A B C : List Op} (h1 : Sub A B) (h2 : Sub B C) : Sub A C := fun o h => h2 o (h1 o h)
theorem sub_append_left (H : List Op) (op : Op) : Sub H (H ++ [op]) :=
  fun _ h => List.mem_append_left _ h
theorem Sub.of_snoc {H G : List Op} {op : Op} (h : Sub (H ++ [op]) G) : Sub H G :=
  (sub_append_left H op).trans h

theorem NotarH.mono {H G : List Op} (hs : Sub H G) {b : Nat × Nat} (h : NotarH H b) : NotarH G b :=
  h.elim Or.inl (fun x => Or.inr (hs _ x))
theorem FinH.mono {H G : List Op} (hs : Sub H G) {s : Nat} (h : FinH H s) : FinH G s := hs _ h
theorem FastH.mono {H G : List Op} (hs : Sub H G) {b : Nat × Nat} (h : FastH H b) : FastH G b := hs _ h
theorem LinkH.mono {H G : List Op} (hs : Sub H G) {c p : Nat × Nat} (h : LinkH H c p) : LinkH G c p := hs _ h

theorem Direct.mono {H G : List Op} (hs : Sub H G) {b : Nat × Nat} (h : Direct H b) : Direct G b :=
  h.elim (fun x => Or.inl (x.mono hs)) (fun x => Or.inr ⟨x.1.mono hs, x.2.mono hs⟩)

theorem Final.mono {H G : List Op} (hs : Sub H G) {b : Nat × Nat} (h : Final H b) : Final G b := by
  induction h with
  | direct d => exact .direct (d.mono hs)
  | step _ l ih => exact .step ih (l.mono hs)

theorem Skip.mono {H G : List Op} (hs : Sub H G) {s : Nat} (h : Skip H s) : Skip G s := by
  obtain ⟨c, p, hc, hl, h1, h2⟩ := h
  exact ⟨c, p, hc.mono hs, hl.mono hs, h1, h2⟩

theorem Safe.sub {G H : List Op} (sf : Safe G) (hs : Sub H G) : Safe H where
  link_lt c p h := sf.link_lt c p (h.mono hs)
  link_fun c p p' h h' := sf.link_fun c p p' (h.mono hs) (h'.mono hs)
  final_fun b b' h h' := sf.final_fun b b' (h.mono hs) (h'.mono hs)
  no_final_between c p q h l h' := sf.no_final_between c p q (h.mono hs) (l.mono hs) (h'.mono hs)
  notar_fun b b' h h' := sf.notar_fun b b' (h.mono hs) (h'.mono hs)
  notar_direct b b' h h' := sf.notar_direct b b' (h.mono hs) (h'.mono hs)
  fin_not_skip s h h' := sf.fin_not_skip s (h.mono hs) (h'.mono hs)

theorem Safe.final_not_skip {G : List Op} (sf : Safe G) {b : Nat × Nat} (hb : Final G b) : ¬ Skip G b.1 := by
  intro ⟨c, p, hc, hl, h1, h2⟩
  exact sf.no_final_between c p b hc hl hb ⟨h1, h2⟩

theorem Safe.span_unique {G : List Op} (sf : Safe G) {c p c' p' : Nat × Nat} {s : Nat}
    (hc : Final G c) (hl : LinkH G c p) (hc' : Final G c') (hl' : LinkH G c' p')
    (h1 : p.1 < s) (h2 : s < c.1) (h1' : p'.1 < s) (h2' : s < c'.1) : c' = c ∧ p' = p := by
  have a := sf.no_final_between c p c' hc hl hc'
  have b := sf.no_final_between c' p' c hc' hl' hc
  have : c'.1 = c.1 := Nat.le_antisymm (Nat.not_lt.mp (fun h => b ⟨Nat.lt_trans h1' h2, h⟩))
    (Nat.not_lt.mp (fun h => a ⟨Nat.lt_trans h1 h2', h⟩))
  have e := sf.final_fun c' c hc' hc this
  subst e
  exact ⟨rfl, sf.link_fun _ _ _ hl' hl⟩

theorem mem_snoc {α : Type} {H : List α} {op x : α} : x ∈ H ++ [op] ↔ x ∈ H ∨ op = x := by
  rw [List.mem_append, List.mem_singleton, eq_comm]

theorem not_mem_snoc {α : Type} {H : List α} {op x : α} (h : ¬ x ∈ H) (hop : op ≠ x) : ¬ x ∈ H ++ [op] :=
  fun a => (mem_snoc.mp a).elim h hop

theorem notarH_snoc {H : List Op} {op : Op} {b : Nat × Nat} :
    NotarH (H ++ [op]) b ↔ NotarH H b ∨ op = .notar b := by
  unfold NotarH; rw [mem_snoc, or_assoc]

theorem finH_snoc {H : List Op} {op : Op} {s : Nat} : FinH (H ++ [op]) s ↔ FinH H s ∨ op = .final s := mem_snoc

theorem fastH_snoc {H : List Op} {op : Op} {b : Nat × Nat} :
    FastH (H ++ [op]) b ↔ FastH H b ∨ op = .fastFinal b := mem_snoc

theorem linkH_snoc {H : List Op} {op : Op} {c p : Nat × Nat} :
    LinkH (H ++ [op]) c p ↔ LinkH H c p ∨ op = .parent c p := mem_snoc

end AgModel.Finality
