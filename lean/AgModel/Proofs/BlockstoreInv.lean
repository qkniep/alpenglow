import AgModel.Proofs.Blockstore
/-!
What holds of every `BlockData` reachable through `add_shred` with *arbitrary* validated shreds (any slice / index /
flags / mix of validly signed slices of a Byzantine leader): the general invariant `BInv`, with which `add_shred` never
panics, and two facts about the stored shreds that the repair responder relies on, `FlagInv` and `TyInv`. That what the
responder serves (slice roots, proofs, shreds) is consistent with the Merkle tree of the completed block is drawn from
the clauses `tre` / `cmp` of `BInv` in `Proofs/RepairResponder.lean`.
-/
namespace AgModel.Blockstore
open AgModel.Merkle

def FullArr (arr : ShredArr) : Prop := ∀ j, j < TOTAL_SHREDS → (arr j).isSome

structure BInv (b : BlockData) : Prop where
  shr : ∀ i arr j s, b.shreds i = some arr → arr j = some s →
    s.slice = i ∧ s.idx = j ∧ b.cache i = some s.commitment
  /-- a reconstructed slice sits at its index, has the cached root, the first one has a parent, and
      its shred array was refilled -/
  slc : ∀ i r, b.slices i = some r → r.slice = i ∧ (i = 0 → r.parent.isSome) ∧
    (∃ c, b.cache i = some c ∧ c.root = r.root) ∧ (∃ arr, b.shreds i = some arr ∧ FullArr arr)
  lst : ∀ l i, b.lastSlice = some l → l < i → b.shreds i = none ∧ b.slices i = none
  /-- the double-Merkle tree was built over the cached roots of slices `0..=last`, all refilled -/
  tre : ∀ roots, b.tree = some roots → ∃ l, b.lastSlice = some l ∧ roots.length = l + 1 ∧ l < b.cap ∧
    ∀ i, i ≤ l → (∃ c, b.cache i = some c ∧ roots[i]? = some c.root) ∧ (∃ arr, b.shreds i = some arr ∧ FullArr arr)
  cmp : ∀ blk, b.completed = some blk → ∃ roots, b.tree = some roots ∧ blk.hash = (Tree.new roots).root

theorem binv_new (cap slot : Nat) : BInv (BlockData.new cap slot) := by
  constructor <;> simp [BlockData.new]

theorem BInv.fresh {b : BlockData} (h : BInv b) (hl : b.lastSlice = none) : b.tree = none ∧ b.completed = none := by
  have ht : b.tree = none := by
    cases ht : b.tree with
    | none => rfl
    | some roots => obtain ⟨l, h1, _⟩ := h.tre roots ht; exact nomatch hl.symm.trans h1
  refine ⟨ht, ?_⟩
  cases hc : b.completed with
  | none => rfl
  | some blk => obtain ⟨roots, h1, _⟩ := h.cmp blk hc; exact nomatch ht.symm.trans h1

theorem binv_cache_mono {b : BlockData} {cache' : Nat → Option Commitment} (h : BInv b)
    (hm : ∀ i c, b.cache i = some c → cache' i = some c) : BInv { b with cache := cache' } := by
  constructor
  · intro i arr j s h1 h2
    obtain ⟨a, b', c⟩ := h.shr i arr j s h1 h2
    exact ⟨a, b', hm _ _ c⟩
  · intro i r h1
    obtain ⟨a, b', ⟨c, hc, hr⟩, d⟩ := h.slc i r h1
    exact ⟨a, b', ⟨c, hm _ _ hc, hr⟩, d⟩
  · exact h.lst
  · intro roots h1
    obtain ⟨l, h2, h3, h4, h5⟩ := h.tre roots h1
    refine ⟨l, h2, h3, h4, fun i hi => ?_⟩
    obtain ⟨⟨c, hc, hr⟩, d⟩ := h5 i hi
    exact ⟨⟨c, hm _ _ hc, hr⟩, d⟩
  · exact h.cmp

theorem markLastSlice_binv {b : BlockData} (h : BInv b) (hl : b.lastSlice = none) (k : Nat) : BInv (markLastSlice b k) := by
  obtain ⟨ht, hc⟩ := h.fresh hl
  constructor
  · intro i arr j s h1 h2
    exact h.shr i arr j s (retainLe_eq_some h1).2 h2
  · intro i r h1
    obtain ⟨hi, h1⟩ := retainLe_eq_some h1
    obtain ⟨a, b', c, arr, harr, hf⟩ := h.slc i r h1
    exact ⟨a, b', c, arr, (retainLe_of_le _ hi).trans harr, hf⟩
  · intro l i h1 h2
    cases h1
    exact ⟨retainLe_of_lt _ h2, retainLe_of_lt _ h2⟩
  · intro roots h1; exact nomatch ht.symm.trans h1
  · intro blk h1; exact nomatch hc.symm.trans h1

theorem lastStep_binv {b b2 : BlockData} {s : Shred} (h : BInv b) (hl : lastStep b s = some b2) :
    BInv b2 ∧ ∀ l, b2.lastSlice = some l → s.slice ≤ l := by
  rcases lastStep_some hl with ⟨rfl, ⟨h1, _⟩ | ⟨l, h1, h2⟩⟩ | ⟨rfl, h1, _⟩
  · refine ⟨h, fun l hl' => ?_⟩
    rw [h1] at hl'; cases hl'
  · refine ⟨h, fun l' hl' => ?_⟩
    cases h1.symm.trans hl'
    omega
  · exact ⟨markLastSlice_binv h h1 _, fun l hl' => Nat.le_of_eq (Option.some.inj hl')⟩

/-- what storing a shred (`insertShred_binv`) and the refill of `try_reconstruct_slice` have in common: the array of a
    slice at or below the marker is replaced by one that extends it with well-placed shreds -/
theorem binv_setShreds {b : BlockData} (h : BInv b) {k : Nat} (hk : ∀ l, b.lastSlice = some l → k ≤ l) {arr' : ShredArr}
    (hext : ∀ arr, b.shreds k = some arr → ∀ j, (arr j).isSome → (arr' j).isSome)
    (hplace : ∀ j s', arr' j = some s' → s'.slice = k ∧ s'.idx = j ∧ b.cache k = some s'.commitment) :
    BInv { b with shreds := upd b.shreds k (some arr') } := by
  -- a refilled array stays refilled
  have hfull : ∀ i, (∃ arr, b.shreds i = some arr ∧ FullArr arr) →
      ∃ arr, upd b.shreds k (some arr') i = some arr ∧ FullArr arr := by
    rintro i ⟨arr, h1, h2⟩
    by_cases hi : i = k
    · exact ⟨arr', hi ▸ upd_same, fun j hj => hext arr (hi ▸ h1) j (h2 j hj)⟩
    · exact ⟨arr, (upd_other hi).trans h1, h2⟩
  refine ⟨fun i a j s' ha hs' => ?_, fun i r h1 => ?_, fun l i hl hli => ⟨?_, (h.lst l i hl hli).2⟩,
    fun roots h1 => ?_, h.cmp⟩
  · rcases upd_eq_some ha with ⟨rfl, e⟩ | ⟨_, e⟩
    · cases e; exact hplace j s' hs'
    · exact h.shr i a j s' e hs'
  · obtain ⟨a, b', c, d⟩ := h.slc i r h1
    exact ⟨a, b', c, hfull i d⟩
  · exact (upd_other (by have := hk l hl; omega)).trans (h.lst l i hl hli).1
  · obtain ⟨l, h2, h3, h4, h5⟩ := h.tre roots h1
    exact ⟨l, h2, h3, h4, fun i hi => ⟨(h5 i hi).1, hfull i (h5 i hi).2⟩⟩

theorem refill_full (f : Shred) (arr : ShredArr) : FullArr (refill f arr) := by
  intro j hj
  unfold refill
  rw [if_pos hj]
  cases arr j <;> rfl

theorem tryReconstructSlice_binv (env : Nat → Content) {b : BlockData} {k : Nat} (h : BInv b)
    (hk : ∀ l, b.lastSlice = some l → k ≤ l) (hsome : (b.shreds k).isSome) :
    BInv (tryReconstructSlice env b k).1 ∧ (tryReconstructSlice env b k).2 ≠ .panic := by
  rcases tryReconstructSlice_cases env b k with ⟨e, _⟩ | ⟨_, hn⟩ | ⟨e, _⟩ | ⟨arr, r, arr', harr, hd, hr⟩
  · rw [e]; exact ⟨h, nofun⟩
  · rw [hn] at hsome; cases hsome
  · rw [e]; exact ⟨h, nofun⟩
  · obtain ⟨f, j0, p, t, hj0, _, rfl, rfl⟩ := deshred_ok hd
    obtain ⟨hfs, _, hfc⟩ := h.shr k arr j0 f harr hj0
    -- the refilled positions carry the first shred's header, which is well placed
    have h1 : BInv { b with shreds := upd b.shreds k (some (refill f arr)) } := by
      refine binv_setShreds h hk (fun a ha j hj => refill_some f arr j (by rw [harr] at ha; cases ha; exact hj))
        fun j s' hs' => ?_
      rcases refill_eq_some hs' with hold | ⟨_, _, rfl⟩
      · exact h.shr k arr j s' harr hold
      · exact ⟨hfs, rfl, hfc⟩
    rcases hr with ⟨_, _, e⟩ | ⟨hpar, e⟩ <;> rw [e]
    · exact ⟨h1, nofun⟩
    · refine ⟨⟨h1.shr, upd_forall h1.slc
          ⟨hfs, fun h0 => hpar (hfs.trans h0), ⟨f.commitment, hfc, rfl⟩, _, upd_same, refill_full f arr⟩,
        fun l i hl hli => ⟨(h1.lst l i hl hli).1, ?_⟩, h1.tre, h1.cmp⟩, nofun⟩
      change upd b.slices k _ i = none
      rw [upd_other (by have := hk l hl; omega)]
      exact (h.lst l i hl hli).2

theorem tryReconstructBlock_binv {b : BlockData} (h : BInv b) :
    BInv (tryReconstructBlock b).1 ∧ (tryReconstructBlock b).2 ≠ .panic := by
  rcases tryReconstructBlock_cases b with ⟨e, _⟩ | ⟨last, hcomp, hlast, hlen, hr⟩
  · rw [e]; exact ⟨h, nofun⟩
  have hnone : ∀ i, last < i → b.slices i = none := fun i hi => (h.lst last i hlast hi).2
  obtain ⟨hcap, hfull⟩ := slices_full_of_count b.cap b.slices last hnone hlen
  -- `hv`: in key order the values are the slices `0..=last` (the default of the `getD` is never reached)
  have hv : mapVals b.cap b.slices = (List.range (last + 1)).map fun i => (b.slices i).getD ⟨0, false, 0, none, none⟩ :=
    (mapVals_of_keys (Nat.succ_le_of_lt hcap)
      (fun i hi => by obtain ⟨x, hx⟩ := hfull i (by omega); rw [hx]; rfl) fun i hi => hnone i (by omega)).2
  -- `try_reconstruct_block` records the tree before it can fail: every outcome below is this state or extends it
  have hT : BInv { b with tree := some (blockRoots b) } := by
    refine ⟨h.shr, h.slc, h.lst, fun roots hr => ?_, fun blk hb => nomatch hcomp.symm.trans hb⟩
    cases hr
    refine ⟨last, hlast, by rw [blockRoots, hv]; simp, hcap, fun i hi => ?_⟩
    obtain ⟨r, hs⟩ := hfull i hi
    obtain ⟨_, _, ⟨c, hc, hcr⟩, hfa⟩ := h.slc i r hs
    refine ⟨⟨c, hc, ?_⟩, hfa⟩
    rw [blockRoots, hv]
    simp only [List.map_map, List.getElem?_map, Function.comp_def]
    rw [List.getElem?_range (by omega)]
    simp [hs, hcr]
  rcases hr with ⟨_, hp⟩ | ⟨_, _, _, _, e, _⟩ | ⟨_, _, _, _, _, _, _, _, e⟩
  · -- the first slice is there and has a parent
    obtain ⟨first, hs0⟩ := hfull 0 (Nat.zero_le _)
    have := (h.slc 0 first hs0).2.1 rfl
    rw [hp first hs0] at this; cases this
  · rw [e]; exact ⟨hT, nofun⟩
  · rw [e]
    refine ⟨⟨hT.shr, fun i r hi => ?_, fun l i hl hli => ⟨(hT.lst l i hl hli).1, ?_⟩, hT.tre, fun blk hb => ?_⟩, nofun⟩
    · simp only at hi
      split at hi
      · cases hi
      · exact hT.slc i r hi
    · simp only
      split
      · rfl
      · exact (hT.lst l i hl hli).2
    · cases hb; exact ⟨_, rfl, rfl⟩

theorem reconstruct_binv (env : Nat → Content) {b : BlockData} {k : Nat} (h : BInv b)
    (hk : ∀ l, b.lastSlice = some l → k ≤ l) (hsome : (b.shreds k).isSome) :
    BInv (reconstruct env b k).1 ∧ (reconstruct env b k).2 ≠ .panic := by
  obtain ⟨h1, h2⟩ := tryReconstructSlice_binv env h hk hsome
  rw [reconstruct_eq]
  split
  · obtain ⟨h3, h4⟩ := tryReconstructBlock_binv h1
    refine ⟨h3, fun hp => h4 ?_⟩
    cases hr : (tryReconstructBlock (tryReconstructSlice env b k).1).2 <;> rw [hr] at hp <;> cases hp
  · refine ⟨h1, fun hp => h2 ?_⟩
    cases hr : (tryReconstructSlice env b k).2 <;> rw [hr] at hp <;> cases hp

theorem insertShred_binv {b : BlockData} {s : Shred} (h : BInv b) (hc : b.cache s.slice = some s.commitment)
    (hl : ∀ l, b.lastSlice = some l → s.slice ≤ l) : BInv (insertShred b s) := by
  refine binv_setShreds h hl (fun a ha j hj => ?_) fun j s' hs' => ?_
  · rw [ha, Option.getD_some]
    by_cases hjs : j = s.idx
    · rw [hjs, upd_same]; rfl
    · rw [upd_other hjs]; exact hj
  · rcases upd_eq_some hs' with ⟨rfl, e⟩ | ⟨_, e⟩
    · cases e; exact ⟨rfl, rfl, hc⟩
    · cases hsh : b.shreds s.slice with
      | none => rw [hsh] at e; cases e
      | some arr => rw [hsh] at e; exact h.shr _ arr j s' hsh e

theorem storeStep_binv (env : Nat → Content) {b : BlockData} {s : Shred} (h : BInv b)
    (hc : b.cache s.slice = some s.commitment) (hl : ∀ l, b.lastSlice = some l → s.slice ≤ l) :
    BInv (storeStep env b s).1 ∧ (storeStep env b s).2 ≠ .panic := by
  rcases storeStep_cases env b s with ⟨e, _⟩ | ⟨_, ⟨_, e⟩ | ⟨_, e⟩⟩ <;> rw [e]
  · exact ⟨h, nofun⟩
  · exact ⟨insertShred_binv h hc hl, nofun⟩
  · exact reconstruct_binv env (insertShred_binv h hc hl) hl (by rw [insertShred_same]; rfl)

/-- **The blockstore invariant is preserved by `add_shred` for every shred whatsoever, and `add_shred`
    never panics** (the `expect`s of `try_reconstruct_slice` / `try_reconstruct_block`). Stated for `addShredCore`,
    `add_shred` past its type check; for `addShred` itself see `addShredF_binv` below. -/
theorem addShred_binv (env : Nat → Content) (b : BlockData) (s : Shred) (h : BInv b) :
    BInv (addShredCore env b s).1 ∧ (addShredCore env b s).2 ≠ .panic := by
  rcases addShredCore_cases env b s with e | ⟨c, hcache, hmono, e | ⟨b2, hl, e⟩⟩ <;> rw [e]
  · exact ⟨h, nofun⟩
  all_goals have h1 := binv_cache_mono h hmono
  · exact ⟨h1, nofun⟩
  · obtain ⟨h2, hle⟩ := lastStep_binv h1 hl
    exact storeStep_binv env h2 (by rw [lastStep_cache _ b2 s hl]; exact hcache) hle

/-- `add_own_slice` keeps the invariant whenever its own `assert!(self.last_slice.is_none())` holds and
    the first slice carries a parent (what the block producer always does) -/
theorem addOwnSlice_binv (b : BlockData) (c : Commitment) (sz : Nat) (parent : Option (Nat × Nat)) (txs : Option (List Nat))
    (h : BInv b) (hl : b.lastSlice = none) (hp : c.slice = 0 → parent.isSome) :
    BInv (addOwnSlice b c sz parent txs).1 ∧ (addOwnSlice b c sz parent txs).1.slot = b.slot ∧
      (addOwnSlice b c sz parent txs).1.cap = b.cap := by
  rw [addOwnSlice_fst b c sz parent txs hl]
  -- the state before the slice is written: marker set or not, still without tree and completed block
  have hb1 : ∀ b1 : BlockData, BInv b1 → b1.tree = none → b1.completed = none → (∀ l, b1.lastSlice = some l → c.slice ≤ l) →
      BInv { b1 with cache := upd b1.cache c.slice (some c), shreds := upd b1.shreds c.slice (some (ownArr c sz)),
                     slices := upd b1.slices c.slice (some ⟨c.slice, c.isLast, c.root, parent, txs⟩) } := by
    intro b1 h1 ht hc hk
    constructor
    · intro i arr j s ha hs
      rcases upd_eq_some ha with ⟨rfl, e⟩ | ⟨hi, e⟩
      · cases e
        obtain rfl := ownArr_eq_some hs
        exact ⟨rfl, rfl, upd_same⟩
      · obtain ⟨x, y, z⟩ := h1.shr i arr j s e hs
        exact ⟨x, y, (upd_other hi).trans z⟩
    · intro i r hr
      rcases upd_eq_some hr with ⟨rfl, e⟩ | ⟨hi, e⟩
      · cases e
        refine ⟨rfl, hp, ⟨c, upd_same, rfl⟩, _, upd_same, fun j hj => ?_⟩
        unfold ownArr; rw [if_pos hj]; rfl
      · obtain ⟨x, y, ⟨c', hc', hr'⟩, arr, harr, hf⟩ := h1.slc i r e
        exact ⟨x, y, ⟨c', (upd_other hi).trans hc', hr'⟩, arr, (upd_other hi).trans harr, hf⟩
    · intro l i hl' hli
      have hi : i ≠ c.slice := by have := hk l hl'; omega
      exact ⟨(upd_other hi).trans (h1.lst l i hl' hli).1, (upd_other hi).trans (h1.lst l i hl' hli).2⟩
    · intro roots hr; exact nomatch ht.symm.trans hr
    · intro blk hb; exact nomatch hc.symm.trans hb
  obtain ⟨ht, hc⟩ := h.fresh hl
  have hB : BInv (ownInsert b c sz parent txs) := by
    unfold ownInsert
    split
    · exact hb1 _ (markLastSlice_binv h hl _) ht hc fun l hl' => Nat.le_of_eq (Option.some.inj hl')
    · exact hb1 _ h ht hc fun l hl' => nomatch hl.symm.trans hl'
  have hb0 : (ownInsert b c sz parent txs).slot = b.slot ∧ (ownInsert b c sz parent txs).cap = b.cap := by
    unfold ownInsert; split <;> exact ⟨rfl, rfl⟩
  have hsc := tryReconstructBlock_slot_cap (ownInsert b c sz parent txs)
  exact ⟨(tryReconstructBlock_binv hB).1, hsc.1.trans hb0.1, hsc.2.trans hb0.2⟩

/-!
The last-slice flag of stored shreds. The repair requester compares a repaired shred's flag with the proven
last slice index (fix D26), so a responder must only ever serve shreds whose flag agrees with the last slice
index it reports (`Proofs/RepairResponder.lean`, `Props/C14Live.lean`). `FlagInv`: every shred held in a
`BlockData` carries `is_last = (its slice is the marked last slice)`, whatever shreds `add_shred` was given.
-/

def FlagInv (b : BlockData) : Prop :=
  ∀ i arr j s, b.shreds i = some arr → arr j = some s → s.isLast = decide (b.lastSlice = some i)

theorem lastStep_flagInv {b b2 : BlockData} {s : Shred} (h : BInv b) (hf : FlagInv b)
    (hcache : b.cache s.slice = some s.commitment) (hl : lastStep b s = some b2) :
    FlagInv b2 ∧ s.isLast = decide (b2.lastSlice = some s.slice) := by
  rcases lastStep_some hl with ⟨rfl, ⟨h1, h2⟩ | ⟨l, h1, ⟨h2, h3⟩ | ⟨h2, h3⟩⟩⟩ | ⟨rfl, h1, h2⟩
  · exact ⟨hf, by rw [h1, h2]; rfl⟩
  · exact ⟨hf, by rw [h1, h3]; exact (decide_eq_false (by simp; omega)).symm⟩
  · exact ⟨hf, by rw [h1, h3, h2]; exact (decide_eq_true rfl).symm⟩
  · refine ⟨fun i arr j s' ha hs' => ?_, by rw [h2]; exact (decide_eq_true rfl).symm⟩
    -- the shreds held so far are unflagged; none of them is of the slice now marked, whose cached commitment is flagged
    have ha := (retainLe_eq_some ha).2
    have hold := hf i arr j s' ha hs'
    rw [h1] at hold
    rw [hold]
    refine (decide_eq_false fun e => ?_).symm
    cases Option.some.inj e
    have hc' := (h.shr s.slice arr j s' ha hs').2.2
    rw [hcache] at hc'
    have : s'.isLast = s.isLast := (congrArg Commitment.isLast (Option.some.inj hc')).symm
    rw [this, h2] at hold
    cases hold

theorem storeStep_flagInv (env : Nat → Content) {b : BlockData} {s : Shred} (hf : FlagInv b)
    (hs : s.isLast = decide (b.lastSlice = some s.slice)) : FlagInv (storeStep env b s).1 := by
  unfold FlagInv
  rw [storeStep_lastSlice]
  -- `FlagInv` unfolded is a `ShredsAll`; the refill copies a stored shred's header, so its flag (the `fun … h => h`)
  exact storeStep_shredsAll (Q := fun i x => x.isLast = decide (b.lastSlice = some i)) env (fun _ _ _ _ _ _ _ h => h) b s hf hs

/-- **`add_shred` keeps the flags of the stored shreds consistent with the last-slice marker**, for every
    shred whatsoever (a shred is only stored after the last-slice bookkeeping accepted its flag). -/
theorem addShred_flagInv (env : Nat → Content) (b : BlockData) (s : Shred) (h : BInv b) (hf : FlagInv b) :
    FlagInv (addShredCore env b s).1 := by
  rcases addShredCore_cases env b s with e | ⟨c, hcache, hmono, e | ⟨b2, hl, e⟩⟩ <;> rw [e]
  · exact hf
  · exact hf
  · obtain ⟨hf2, hs⟩ := lastStep_flagInv (binv_cache_mono h hmono) hf hcache hl
    exact storeStep_flagInv env hf2 hs

theorem addOwnSlice_flagInv (b : BlockData) (c : Commitment) (sz : Nat) (parent : Option (Nat × Nat))
    (txs : Option (List Nat)) (hf : FlagInv b) (hl : b.lastSlice = none) :
    FlagInv (addOwnSlice b c sz parent txs).1 := by
  rw [addOwnSlice_fst b c sz parent txs hl]
  intro i arr j s h1 h2
  rw [(tryReconstructBlock_shreds_last _).1] at h1
  rw [(tryReconstructBlock_shreds_last _).2]
  unfold ownInsert at h1 ⊢
  -- the own shreds carry the slice's flag; the others are unflagged and not of the marked slice
  rcases upd_eq_some h1 with ⟨rfl, e⟩ | ⟨hi, e⟩
  · cases e
    obtain rfl := ownArr_eq_some h2
    cases hil : c.isLast
    · exact (decide_eq_false (by simp [hl])).symm
    · exact (decide_eq_true (by simp [markLastSlice])).symm
  · have hold : s.isLast = false := by
      have e' : b.shreds i = some arr := by
        split at e
        · exact (retainLe_eq_some e).2
        · exact e
      rw [hf i arr j s e' h2, hl]; rfl
    rw [hold]
    refine (decide_eq_false fun e' => hi ?_).symm
    split at e'
    · exact (Option.some.inj e').symm
    · exact nomatch hl.symm.trans e'

/-!
The data/coding type of stored shreds (for `Proofs/RepairStore.lean` / `Props/C14Live.lean`): `add_shred` drops a
shred whose type does not fit its index before anything is stored (D15 `fix:`), so every shred a `BlockData`
holds - received, regenerated by `deshred` (`refill` sets the type), or the leader's own - has the type that
fits its index (`TyInv`). A responder therefore only ever serves such shreds, which is what the requester asks for
(fix D15b).
-/

def TyInv (b : BlockData) : Prop :=
  ∀ i arr j s, b.shreds i = some arr → arr j = some s → s.ty = true

theorem addShredCore_tyInv (env : Nat → Content) (b : BlockData) (s : Shred) (hf : TyInv b) (hs : s.ty = true) :
    TyInv (addShredCore env b s).1 :=
  addShredCore_shredsAll (P := fun x => x.ty = true) env (fun _ _ _ _ _ _ _ => rfl) b s hf hs

/-- **`add_shred` only ever stores shreds whose data/coding type fits their index** (D15 `fix:`), for every
    shred whatsoever. -/
theorem addShred_tyInv (env : Nat → Content) (b : BlockData) (s : Shred) (hf : TyInv b) :
    TyInv (addShred env b s).1 :=
  addShred_ind (P := fun r => TyInv r.1) hf (addShredCore_tyInv env b s hf)

theorem addOwnSlice_tyInv (b : BlockData) (c : Commitment) (sz : Nat) (parent : Option (Nat × Nat))
    (txs : Option (List Nat)) (hf : TyInv b) (hl : b.lastSlice = none) :
    TyInv (addOwnSlice b c sz parent txs).1 := by
  rw [addOwnSlice_fst b c sz parent txs hl]
  unfold TyInv
  rw [(tryReconstructBlock_shreds_last _).1]
  refine shredsAll_upd (Q := fun _ x => x.ty = true) ?_ fun j s h => ownArr_eq_some h ▸ rfl
  split
  · exact shredsAll_retainLe (Q := fun _ x => x.ty = true) hf _
  · exact hf

/-! `addShred` (`addShredCore` behind the type check of the D15 `fix:`) inherits the invariants of `addShredCore`; these
    are the forms used at slot level -/

theorem addShredF_binv (env : Nat → Content) (b : BlockData) (s : Shred) (h : BInv b) :
    BInv (addShred env b s).1 ∧ (addShred env b s).2 ≠ .panic :=
  addShred_ind (P := fun r => BInv r.1 ∧ r.2 ≠ .panic) ⟨h, nofun⟩ fun _ => addShred_binv env b s h

theorem addShredF_slot_cap (env : Nat → Content) (b : BlockData) (s : Shred) :
    (addShred env b s).1.slot = b.slot ∧ (addShred env b s).1.cap = b.cap :=
  addShred_ind (P := fun r => r.1.slot = b.slot ∧ r.1.cap = b.cap) ⟨rfl, rfl⟩ fun _ => addShred_slot_cap env b s

theorem addShredF_flagInv (env : Nat → Content) (b : BlockData) (s : Shred) (h : BInv b) (hf : FlagInv b) :
    FlagInv (addShred env b s).1 :=
  addShred_ind (P := fun r => FlagInv r.1) hf fun _ => addShred_flagInv env b s h hf

end AgModel.Blockstore
