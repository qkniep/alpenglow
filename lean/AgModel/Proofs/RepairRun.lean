import AgModel.Props.C14
import AgModel.Props.C15
import AgModel.Proofs.BlockstoreLive
/-!
Runs of the repair task (`AgModel.Repair`) over arbitrary event schedules (`Ev`, `run`): the invariant `RepInv` that
makes the repair of a correct leader's block complete, what it asks of the events (`Admissible`), fairness of a schedule
(`Fair`), and the measure `mu` by which fair schedules exist. `Props/C14Live.lean` is stated in these terms.
-/
namespace AgModel.Repair
open AgModel.Blockstore AgModel.Merkle

variable (B : HBlock) (env : Nat → Content) (cap : Nat)

theorem roots_length : B.roots.length = B.n := by simp [HBlock.roots]

theorem roots_getD_lt (i : Nat) (hi : i < B.n) : B.roots.getD i 0 = B.root i := by
  simp [HBlock.roots, List.getD_eq_getElem?_getD, hi]

theorem roots_getD_ge (i : Nat) (hi : B.n ≤ i) : B.roots.getD i 0 = 0 := by
  simp [HBlock.roots, List.getD_eq_getElem?_getD, hi]

theorem roots_ne_nil (hn : 0 < B.n) : B.roots ≠ [] := by
  intro h; have := roots_length B; rw [h] at this; simp at this; omega

/-- a slice-root response that verifies against the block hash carries the leader's root of an
    existing slice (C15 `sound`; a `SliceRoot` is never the empty padding leaf) -/
theorem valid_root_is_honest (hn : 0 < B.n) (i root : Nat) (π : List H) (hr : root ≠ 0)
    (hv : checkProof root i B.block.hash π = true) : i < B.n ∧ root = B.root i := by
  obtain ⟨_, _, hd⟩ := Merkle.sound B.roots (roots_ne_nil B hn) root i π hv
  by_cases hi : i < B.n
  · exact ⟨hi, by rw [hd, roots_getD_lt B i hi]⟩
  · exfalso; rw [roots_getD_ge B i (by omega)] at hd; exact hr hd

/-- a last-slice-root response that verifies carries the index and root of the leader's last slice
    (C15 `last_sound`) -/
theorem valid_last_is_honest (hn : 0 < B.n) (hroots : ∀ i, i < B.n → B.root i ≠ 0)
    (l root : Nat) (π : List H) (hr : root ≠ 0)
    (hv : checkProofLast root l B.block.hash π = true) : l = B.n - 1 ∧ root = B.root (B.n - 1) := by
  obtain ⟨_, _, hd, hright⟩ := Merkle.last_sound B.roots (roots_ne_nil B hn) root l π hv
  have hl : l < B.n := by
    rcases Nat.lt_or_ge l B.n with h | h
    · exact h
    · exfalso; rw [roots_getD_ge B l h] at hd; exact hr hd
  have hl2 : ¬ l < B.n - 1 := by
    intro hlt
    have := hright (B.n - 1) hlt
    rw [roots_getD_lt B (B.n - 1) (by omega)] at this
    exact hroots (B.n - 1) (by omega) this
  have : l = B.n - 1 := by omega
  subst this
  exact ⟨rfl, by rw [hd, roots_getD_lt B _ hl]⟩

/-- what can happen at the requester: a response of any kind from any peer, the earliest timeout
    firing, a request to repair some block -/
inductive Ev where
  | resp (r : Resp)
  | timeout
  | start (b : Bid)
deriving DecidableEq, Repr

structure Sys where
  st : RepairSt
  store : Store

def stepEv (env : Nat → Content) (cap : Nat) (σ : Sys) : Ev → Sys × Out
  | .resp r =>
    (⟨(handleResponse env cap σ.st σ.store r).1, (handleResponse env cap σ.st σ.store r).2.1⟩,
      (handleResponse env cap σ.st σ.store r).2.2)
  | .timeout => (⟨(fireTimeout σ.st).1, σ.store⟩, (fireTimeout σ.st).2)
  | .start b => (⟨(repairBlock cap σ.st σ.store b).1, σ.store⟩, (repairBlock cap σ.st σ.store b).2)

def run (env : Nat → Content) (cap : Nat) : Sys → List Ev → Sys × List Out
  | σ, [] => (σ, [])
  | σ, e :: rest =>
    ((run env cap (stepEv env cap σ e).1 rest).1, (stepEv env cap σ e).2 :: (run env cap (stepEv env cap σ e).1 rest).2)

theorem run_append (σ : Sys) (a b : List Ev) :
    run env cap σ (a ++ b) =
      ((run env cap (run env cap σ a).1 b).1, (run env cap σ a).2 ++ (run env cap (run env cap σ a).1 b).2) := by
  induction a generalizing σ with
  | nil => rfl
  | cons e a ih => simp only [List.cons_append, run, ih]

theorem stepEv_invalid {env : Nat → Content} {cap : Nat} {σ : Sys} {r : Resp} (hk : RootsKnown σ.st)
    (hv : ¬ Valid σ.st r) : stepEv env cap σ (.resp r) = (σ, {}) := by
  simp only [stepEv, invalid_response_inert env cap σ.st σ.store r hk hv]

/-- a response that fails validation can be inserted anywhere in a schedule: same final state, one empty output more -/
theorem run_insert_invalid (σ : Sys) (a b : List Ev) (r : Resp)
    (hk : RootsKnown (run env cap σ a).1.st) (hv : ¬ Valid (run env cap σ a).1.st r) :
    (run env cap σ (a ++ .resp r :: b)).1 = (run env cap σ (a ++ b)).1 ∧
    (∀ p : Out → Bool, p {} = false → (run env cap σ (a ++ .resp r :: b)).2.filter p = (run env cap σ (a ++ b)).2.filter p) ∧
    (∀ q : Out → Bool, q {} = true → (run env cap σ (a ++ .resp r :: b)).2.all q = (run env cap σ (a ++ b)).2.all q) ∧
    (run env cap σ (a ++ [.resp r])).2.getLast? = some {} := by
  simp only [run_append, run, stepEv_invalid hk hv, List.filter_append, List.all_append, List.all_cons, true_and,
    List.getLast?_concat, and_true]
  exact ⟨fun p hp => by rw [List.filter_cons_of_neg (by rw [hp]; exact Bool.false_ne_true)],
    fun q hq => by rw [hq, Bool.true_and]⟩

def Req.bid : Req → Bid
  | .last b => b
  | .root b _ => b
  | .shred b _ _ => b

def bidOf (B : HBlock) : Bid := ⟨B.slot, B.block.hash⟩

/-- the repair spot of `B`: `spot (storeGet cap store B.slot) B.block.hash`, by `rfl` -/
def spotOf (cap : Nat) (B : HBlock) (store : Store) : BlockData :=
  (repGet (storeGet cap store B.slot).rep B.block.hash).getD
    (BlockData.new (storeGet cap store B.slot).dis.cap (storeGet cap store B.slot).dis.slot)

/-- **The progress invariant of the repair of `B`**: the spot holds only the leader's data and is
    live; every proven slice root is the leader's; requests about `B` stay inside the block; and every
    item of the block is either obtained or still requested. -/
structure RepInv (B : HBlock) (cap : Nat) (σ : Sys) : Prop where
  nodis : ∀ blk, (storeGet cap σ.store B.slot).dis.completed = some blk → blk.hash ≠ B.block.hash
  live : Live B cap (spotOf cap B σ.store)
  rootsKnown : RootsKnown σ.st
  roots : ∀ i root, rootGet σ.st.sliceRoots (bidOf B, i) = some root → i < B.n ∧ root = B.root i
  /-- once a slice root of `B` was requested or proven, the recorded last slice index is the leader's -/
  lastKnown : ∀ i, (Req.root (bidOf B) i ∈ σ.st.outstanding ∨ (rootGet σ.st.sliceRoots (bidOf B, i)).isSome) →
    lastGet σ.st.lastSlices (bidOf B) = some (B.n - 1)
  reqRoot : ∀ i, Req.root (bidOf B) i ∈ σ.st.outstanding → i < B.n
  reqShred : ∀ i j, Req.shred (bidOf B) i j ∈ σ.st.outstanding → i < B.n ∧ j < TOTAL_SHREDS
  prog : (spotOf cap B σ.store).completed.isSome ∨ Req.last (bidOf B) ∈ σ.st.outstanding ∨
    ∀ i, i < B.n → (Req.root (bidOf B) i ∈ σ.st.outstanding ∨
      ((rootGet σ.st.sliceRoots (bidOf B, i)).isSome ∧
        ∀ j, j < TOTAL_SHREDS → (Req.shred (bidOf B) i j ∈ σ.st.outstanding ∨ Stored (spotOf cap B σ.store) i j)))

/-- the view of `B`'s repair is unchanged or only gained a `LastSliceRoot` request -/
theorem repInv_grow (σ σ' : Sys) (hinv : RepInv B cap σ)
    (h1 : ∀ r, r.bid = bidOf B → r ∈ σ.st.outstanding → r ∈ σ'.st.outstanding)
    (h2 : ∀ r, r.bid = bidOf B → r ∈ σ'.st.outstanding → r ∈ σ.st.outstanding ∨ r = .last (bidOf B))
    (hroots : ∀ i, rootGet σ'.st.sliceRoots (bidOf B, i) = rootGet σ.st.sliceRoots (bidOf B, i))
    (hlasts : lastGet σ'.st.lastSlices (bidOf B) = lastGet σ.st.lastSlices (bidOf B))
    (hrk : RootsKnown σ'.st)
    (hdis : (storeGet cap σ'.store B.slot).dis.completed = (storeGet cap σ.store B.slot).dis.completed)
    (hspot : spotOf cap B σ'.store = spotOf cap B σ.store) : RepInv B cap σ' := by
  have old : ∀ r, r.bid = bidOf B → r ∈ σ'.st.outstanding → r ≠ .last (bidOf B) → r ∈ σ.st.outstanding :=
    fun r hr h hne => (h2 r hr h).resolve_right hne
  refine ⟨hdis ▸ hinv.nodis, hspot ▸ hinv.live, hrk, fun i root h => hinv.roots i root (hroots i ▸ h), fun i h => ?_,
    fun i h => hinv.reqRoot i (old _ rfl h fun e => nomatch e),
    fun i j h => hinv.reqShred i j (old _ rfl h fun e => nomatch e), ?_⟩
  · rw [hlasts]
    exact hinv.lastKnown i (h.imp (old _ rfl · fun e => nomatch e) (hroots i ▸ ·))
  · rw [hspot]
    exact hinv.prog.imp id (Or.imp (h1 _ rfl) fun h i hi => (h i hi).imp (h1 _ rfl) fun ⟨hr, hs⟩ =>
      ⟨hroots i ▸ hr, fun j hj => (hs j hj).imp_left (h1 _ rfl)⟩)

theorem repInv_same (σ σ' : Sys) (hinv : RepInv B cap σ)
    (hout : ∀ r, r.bid = bidOf B → (r ∈ σ'.st.outstanding ↔ r ∈ σ.st.outstanding))
    (hroots : ∀ i, rootGet σ'.st.sliceRoots (bidOf B, i) = rootGet σ.st.sliceRoots (bidOf B, i))
    (hlasts : lastGet σ'.st.lastSlices (bidOf B) = lastGet σ.st.lastSlices (bidOf B))
    (hrk : RootsKnown σ'.st)
    (hdis : (storeGet cap σ'.store B.slot).dis.completed = (storeGet cap σ.store B.slot).dis.completed)
    (hspot : spotOf cap B σ'.store = spotOf cap B σ.store) : RepInv B cap σ' :=
  repInv_grow B cap σ σ' hinv (fun r hr h => (hout r hr).mpr h) (fun r hr h => Or.inl ((hout r hr).mp h))
    hroots hlasts hrk hdis hspot

theorem storeSet_addRepair_frame (store : Store) (b : Bid) (s : Shred) (slot : Nat) :
    (storeGet cap (storeSet store b.slot (addRepair env (storeGet cap store b.slot) b.hash s).1) slot).dis =
      (storeGet cap store slot).dis ∧
    ∀ h, b ≠ ⟨slot, h⟩ → repGet (storeGet cap (storeSet store b.slot
      (addRepair env (storeGet cap store b.slot) b.hash s).1) slot).rep h = repGet (storeGet cap store slot).rep h := by
  rw [storeGet_storeSet]
  split
  · next hs =>
    subst hs
    refine ⟨addRepair_dis .., fun h hne => ?_⟩
    have hh : h ≠ b.hash := fun hh => hne (hh ▸ rfl)
    rcases addRepair_cases env (storeGet cap store b.slot) b.hash s with ⟨_, _, _, e, _⟩ | ⟨_, e, _⟩ <;> rw [e]
    · rw [repGet_repDel, if_neg hh]
    · rw [repGet_repSet, if_neg hh]
  · exact ⟨rfl, fun _ _ => rfl⟩

theorem repInv_accept_other (σ : Sys) (hinv : RepInv B cap σ) (r : Req) (i root : Nat) (lasts : List (Bid × Nat))
    (rs : List Req) (hr : r.bid ≠ bidOf B) (hrs : ∀ y ∈ rs, y.bid = r.bid)
    (hl : lastGet lasts (bidOf B) = lastGet σ.st.lastSlices (bidOf B))
    (hrk : RootsKnown (accept σ.st r (r.bid, i) root lasts rs)) :
    RepInv B cap ⟨accept σ.st r (r.bid, i) root lasts rs, σ.store⟩ :=
  repInv_same B cap σ _ hinv
    (fun x hx => (accept_outstanding ..).trans ⟨fun h => h.elim And.left fun h => absurd ((hrs x h).symm.trans hx) hr,
      fun h => Or.inl ⟨h, fun e => hr (e ▸ hx)⟩⟩)
    (fun _ => (accept_roots ..).trans (if_neg fun e => hr (congrArg Prod.fst e).symm))
    ((accept_lasts ..).symm ▸ hl) hrk rfl rfl

/-- **What the completion theorem asks of the events: only typing constraints of the model's wider
    response type, nothing about peers.** A slice root in a response is a 32-byte hash, never the empty padding leaf
    (id `0`, `padding_leaf_witness`); and the payload size class of a shred that verifies under the leader's
    slice root at index `j` is that of the leader's leaf `j` (the payload is what the Merkle path
    authenticates; in the model `sz` is a free attribute, `size_class_witness`).
    Nothing is assumed about which variants of a slice the leader signed (a validly signed shred with the other
    last-slice marker is admissible, `evilLast_admissible`: the code rejects it, fix D26), nor about the
    unauthenticated data/coding type: a responder may flip it, the requester drops such a response and keeps the
    request outstanding (D15b `fix:`; `evilTag_admissible`, `tag_no_longer_derails`). Against the code before that
    fix the assumption is necessary: witness `derail_by_tag_old`. -/
def Admissible (B : HBlock) : Ev → Prop
  | .resp (.lastRoot (.last b) _ root _) => b = bidOf B → root ≠ 0
  | .resp (.sliceRoot (.root b _) root _) => b = bidOf B → root ≠ 0
  | .resp (.shred (.shred b i j) _ s sigOk) =>
    b = bidOf B → sigOk = true → s.slice = i → s.idx = j → s.root = B.root i → s.isLast = B.isLast i →
      s.sz = B.sz i
  | _ => True

/-- under the invariant the requester's last-slice check accepts exactly the leader's flag -/
theorem last_flag_of_inv (σ : Sys) (hinv : RepInv B cap σ) (hn : 0 < B.n) (i : Nat)
    (hr : (rootGet σ.st.sliceRoots (bidOf B, i)).isSome) :
    decide (lastGet σ.st.lastSlices (bidOf B) = some i) = B.isLast i := by
  rw [hinv.lastKnown i (Or.inr hr)]
  simp only [HBlock.isLast, Option.some.injEq]
  apply decide_eq_decide.mpr
  omega

/-- the block was announced to Votor and handed to the pool in this step -/
def Announced (B : HBlock) (o : Out) : Prop :=
  o.poolAdd = some (bidOf B, B.fparent) ∧ Event.block B.block.info ∈ o.events ∧ o.panic = false

theorem own_shred_store (hwf : B.WF env cap) (store : Store) (s : Shred)
    (hs : B.Honest s) (hg : Good B cap (spotOf cap B store)) :
    spotOf cap B (storeSet store B.slot (addRepair env (storeGet cap store B.slot) B.block.hash s).1) =
        (addShredCore env (spotOf cap B store) s).1 ∧
    (addRepair env (storeGet cap store B.slot) B.block.hash s).2.1 = (addShredCore env (spotOf cap B store) s).2 ∧
    (addRepair env (storeGet cap store B.slot) B.block.hash s).2.2 = evOf (addShredCore env (spotOf cap B store) s).2 := by
  have hsp : spotOf cap B store = spot (storeGet cap store B.slot) B.block.hash := rfl
  rw [hsp] at hg ⊢
  have hres := (addShred_good B env cap hwf _ s hg hs).2
  have e0 : storeGet cap (storeSet store B.slot (addRepair env (storeGet cap store B.slot) B.block.hash s).1) B.slot =
      (addRepair env (storeGet cap store B.slot) B.block.hash s).1 := by rw [storeGet_storeSet, if_pos rfl]
  rcases addRepair_cases env (storeGet cap store B.slot) B.block.hash s with ⟨info, hi, hne, _, _⟩ | ⟨_, e1, e2⟩
  · rw [addShred_of_ty _ _ s hs.ty] at hi
    rcases hres with h | h | h | h <;> rw [h] at hi <;> cases hi
    exact absurd rfl hne
  · rw [addShred_of_ty _ _ s hs.ty] at e1 e2
    refine ⟨?_, e2, ?_⟩
    · unfold spotOf
      rw [e0, e1, repGet_repSet, if_pos rfl]
      rfl
    · -- an honest shred's result is never `Equivocation` / `InvalidShred`, so `flagIfBad` sends `evOf` of it
      have hok := hres.ok
      rw [← e2] at hok ⊢
      unfold addRepair at hok ⊢
      rw [flagIfBad_res] at hok ⊢
      rw [flagIfBad_events, if_neg (by rw [hok]; exact Bool.false_ne_true)]

def RepStep (B : HBlock) (cap : Nat) (σ σ' : Sys) (o : Out) : Prop :=
  RepInv B cap σ' ∧
    ((spotOf cap B σ.store).completed = none → (spotOf cap B σ'.store).completed.isSome → Announced B o)

theorem step_of_spot_eq {B : HBlock} {cap : Nat} {σ σ' : Sys} {o : Out} (hinv : RepInv B cap σ')
    (h : spotOf cap B σ'.store = spotOf cap B σ.store) : RepStep B cap σ σ' o :=
  ⟨hinv, by rw [h]; intro h1 h2; rw [h1] at h2; cases h2⟩

theorem repInv_root (σ : Sys) (hinv : RepInv B cap σ) (i0 : Nat) (hi0 : i0 < B.n)
    (ho : Req.root (bidOf B) i0 ∈ σ.st.outstanding) (st' : RepairSt) (hrk : RootsKnown st')
    (hst : accept σ.st (.root (bidOf B) i0) (bidOf B, i0) (B.root i0) σ.st.lastSlices
      ((List.range TOTAL_SHREDS).map (Req.shred (bidOf B) i0)) = st') : RepInv B cap ⟨st', σ.store⟩ := by
  have hout : ∀ x, x ∈ st'.outstanding ↔ (x ∈ σ.st.outstanding ∧ x ≠ .root (bidOf B) i0) ∨
      x ∈ (List.range TOTAL_SHREDS).map (Req.shred (bidOf B) i0) := fun x => hst ▸ accept_outstanding ..
  have hroot : ∀ i, rootGet st'.sliceRoots (bidOf B, i) =
      if i = i0 then some (B.root i0) else rootGet σ.st.sliceRoots (bidOf B, i) := fun i => by
    rw [← hst, accept_roots]; simp only [Prod.mk.injEq, true_and]
  have hlast : st'.lastSlices = σ.st.lastSlices := hst ▸ accept_lasts ..
  have keep : ∀ x, x ∈ σ.st.outstanding → x ≠ .root (bidOf B) i0 → x ∈ st'.outstanding :=
    fun x hx hne => (hout x).mpr (Or.inl ⟨hx, hne⟩)
  refine ⟨hinv.nodis, hinv.live, hrk, fun i root h => ?_, fun i _ => hlast ▸ hinv.lastKnown i0 (Or.inl ho),
    fun i h => ?_, fun i j h => ?_, ?_⟩
  · rw [hroot] at h
    split at h
    · next e => cases e; cases h; exact ⟨hi0, rfl⟩
    · exact hinv.roots i root h
  · rcases (hout _).mp h with h | h
    · exact hinv.reqRoot i h.1
    · obtain ⟨_, _, e⟩ := List.mem_map.mp h; cases e
  · rcases (hout _).mp h with h | h
    · exact hinv.reqShred i j h.1
    · obtain ⟨j', hj', e⟩ := List.mem_map.mp h
      cases e; exact ⟨hi0, List.mem_range.mp hj'⟩
  · rcases hinv.prog with h | h | h
    · exact Or.inl h
    · exact Or.inr (Or.inl (keep _ h (fun e => nomatch e)))
    · refine Or.inr (Or.inr fun i hi => ?_)
      by_cases hii : i = i0
      · subst hii
        exact Or.inr ⟨by rw [hroot, if_pos rfl]; rfl, fun j hj =>
          Or.inl ((hout _).mpr (Or.inr (List.mem_map.mpr ⟨j, List.mem_range.mpr hj, rfl⟩)))⟩
      · rcases h i hi with h | ⟨hr, hs⟩
        · exact Or.inl (keep _ h (fun e => by cases e; exact hii rfl))
        · exact Or.inr ⟨by rw [hroot, if_neg hii]; exact hr, fun j hj => (hs j hj).imp (keep _ · (fun e => nomatch e)) id⟩

theorem repInv_shred (hwf : B.WF env cap) (σ : Sys)
    (hinv : RepInv B cap σ) (i j : Nat) (ho : Req.shred (bidOf B) i j ∈ σ.st.outstanding) :
    RepStep B cap σ ⟨done σ.st (.shred (bidOf B) i j),
        storeSet σ.store B.slot (addRepair env (storeGet cap σ.store B.slot) B.block.hash (B.shred i j)).1⟩
      (shredOut (bidOf B) (addRepair env (storeGet cap σ.store B.slot) B.block.hash (B.shred i j)).2.1
        (addRepair env (storeGet cap σ.store B.slot) B.block.hash (B.shred i j)).2.2) := by
  obtain ⟨hi, hj⟩ := hinv.reqShred i j ho
  have hs : B.Honest (B.shred i j) := ⟨hi, hj, rfl⟩
  obtain ⟨e1, e3, e4⟩ := own_shred_store B env cap hwf σ.store _ hs hinv.live.good
  have e2 := (storeSet_addRepair_frame env cap σ.store (bidOf B) (B.shred i j) B.slot).1
  obtain ⟨hlive, hmono, hnew⟩ := addShred_live B env cap hwf (spotOf cap B σ.store) _ hinv.live hs
  have hkeep : (spotOf cap B σ.store).completed.isSome →
      (addShredCore env (spotOf cap B σ.store) (B.shred i j)).1.completed.isSome := fun h => by
    rw [(addShred_of_completed env _ _ h).1]; exact h
  have hold : ∀ x, x ∈ σ.st.outstanding → x ≠ .shred (bidOf B) i j → x ∈ (done σ.st (.shred (bidOf B) i j)).outstanding :=
    fun x hx hne => (done_outstanding ..).mpr ⟨hx, hne⟩
  -- the spot after the step is `addShredCore` on the old spot (`e1`), to which `addShred_live` applies; of the
  -- requester only the answered request goes (`done`)
  unfold RepStep
  rw [e3, e4, e1]
  refine ⟨{ nodis := fun blk => e2 ▸ hinv.nodis blk
            live := e1 ▸ hlive
            rootsKnown := done_rootsKnown _ _ hinv.rootsKnown
            roots := hinv.roots
            lastKnown := fun i' h => hinv.lastKnown i' (h.imp_left fun h => ((done_outstanding ..).mp h).1)
            reqRoot := fun i' h => hinv.reqRoot i' ((done_outstanding ..).mp h).1
            reqShred := fun i' j' h => hinv.reqShred i' j' ((done_outstanding ..).mp h).1
            prog := ?_ }, fun hnone hsome => ?_⟩
  · show (spotOf cap B (storeSet _ _ _)).completed.isSome ∨ _
    rw [e1]
    rcases hinv.prog with h | h | h
    · exact Or.inl (hkeep h)
    · exact Or.inr (Or.inl (hold _ h (fun e => nomatch e)))
    · refine Or.inr (Or.inr fun i' hi' => (h i' hi').imp (hold _ · (fun e => nomatch e)) fun ⟨hr, hss⟩ => ⟨hr, fun j' hj' => ?_⟩)
      by_cases hij : i' = i ∧ j' = j
      · obtain ⟨rfl, rfl⟩ := hij
        exact Or.inr hnew
      · exact (hss j' hj').imp (hold _ · (fun e => by cases e; exact hij ⟨rfl, rfl⟩)) (hmono i' j')
  · -- the block was completed by this very shred: `add_shred` announced it, both asserts pass
    rcases addShred_completed env (spotOf cap B σ.store) (B.shred i j) with hsame | ⟨info, txs, hr, _⟩
    · rw [hsame, hnone] at hsome; cases hsome
    · have hinfo : info = B.block.info := by
        rcases (addShred_good B env cap hwf _ _ hinv.live.good hs).2 with h | h | h | h <;> rw [hr] at h <;> cases h
        rfl
      subst hinfo
      have hps : ¬ B.block.info.parent.1 ≥ (bidOf B).slot := Nat.not_le.mpr hwf.pslot
      have hh : B.block.info.hash = (bidOf B).hash := rfl
      rw [hr]
      simp only [shredOut, evOf, ne_eq, hh, not_true_eq_false, if_false, hps]
      exact ⟨rfl, List.mem_singleton.mpr rfl, rfl⟩

/-- an accepted response about `B` is one of the leader's items, by what `Valid` checks (C15 soundness for the
    proofs) and the typing constraints `Admissible`; one about another block id does not touch `B`'s repair -/
theorem repInv_resp (hwf : B.WF env cap) (hroots : ∀ i, i < B.n → B.root i ≠ 0) (σ : Sys) (resp : Resp)
    (hinv : RepInv B cap σ) (hadm : Admissible B (.resp resp)) :
    RepStep B cap σ (stepEv env cap σ (.resp resp)).1 (stepEv env cap σ (.resp resp)).2 := by
  have hn := hwf.npos
  have hrk := handleResponse_rootsKnown env cap σ.st σ.store resp hinv.rootsKnown
  show RepStep B cap σ ⟨(handleResponse env cap σ.st σ.store resp).1, (handleResponse env cap σ.st σ.store resp).2.1⟩
    (handleResponse env cap σ.st σ.store resp).2.2
  rcases handleResponse_cases env cap σ.st σ.store resp with e | ⟨e, _⟩ | ⟨r, rfl, ho, e⟩ | ⟨b, l, root, π, rfl, ho, hv, e⟩ |
    ⟨b, i, root, π, rfl, ho, hv, e⟩ | ⟨b, i, j, slot, s, ok, rfl, ho, hv, e⟩
  · rw [e]; exact step_of_spot_eq hinv rfl
  · rw [e]; exact step_of_spot_eq hinv rfl
  · rw [e] at hrk ⊢
    exact step_of_spot_eq (repInv_same B cap σ ⟨_, σ.store⟩ hinv
      (fun x _ => (sendRequest_outstanding σ.st r x).trans (or_iff_left_of_imp (· ▸ ho))) (fun _ => rfl) rfl hrk rfl rfl) rfl
  · rw [e] at hrk ⊢
    by_cases hb : b = bidOf B
    · subst hb
      obtain ⟨rfl, rfl⟩ := valid_last_is_honest B hn hroots l root π (hadm rfl) hv
      refine step_of_spot_eq (σ' := ⟨_, σ.store⟩) ?_ rfl
      refine ⟨hinv.nodis, hinv.live, hrk, fun i root h => ?_,
        fun i _ => ?_, fun i h => ?_, fun i j h => ?_, Or.inr (Or.inr fun i hi => Or.inl ?_)⟩
      · rw [accept_roots] at h
        split at h
        · next e => cases e; cases h; exact ⟨by omega, rfl⟩
        · exact hinv.roots i root h
      · exact (accept_lasts ..).symm ▸ (lastGet_lastSet ..).trans (if_pos rfl)
      · rcases (accept_outstanding ..).mp h with h | h
        · exact hinv.reqRoot i h.1
        · obtain ⟨i', hi', e⟩ := List.mem_map.mp h
          cases e; have := List.mem_range.mp hi'; omega
      · rcases (accept_outstanding ..).mp h with h | h
        · exact hinv.reqShred i j h.1
        · obtain ⟨_, _, e⟩ := List.mem_map.mp h; cases e
      · exact (accept_outstanding ..).mpr (Or.inr (List.mem_map.mpr ⟨i, List.mem_range.mpr (by omega), rfl⟩))
    · exact step_of_spot_eq (repInv_accept_other B cap σ hinv (.last b) l root _ _ hb
        (fun y hy => by obtain ⟨_, _, rfl⟩ := List.mem_map.mp hy; rfl)
        ((lastGet_lastSet ..).trans (if_neg (Ne.symm hb))) hrk) rfl
  · rw [e] at hrk ⊢
    by_cases hb : b = bidOf B
    · subst hb
      obtain ⟨hi, rfl⟩ := valid_root_is_honest B hn i root π (hadm rfl) hv
      exact step_of_spot_eq (repInv_root B cap σ hinv i hi ho _ hrk rfl) rfl
    · exact step_of_spot_eq (repInv_accept_other B cap σ hinv (.root b i) i root _ _ hb
        (fun y hy => by obtain ⟨_, _, rfl⟩ := List.mem_map.mp hy; rfl) rfl hrk) rfl
  · rw [e, ingest_eq] at hrk ⊢
    obtain ⟨_, h1, h2, h3, h4, h5, rfl⟩ := hv
    by_cases hb : b = bidOf B
    · subst hb
      -- the shred is the leader's: root and last-slice flag by the invariant, size class by `Admissible`
      obtain ⟨hi, hsr⟩ := hinv.roots i s.root h3
      have hil : s.isLast = B.isLast i := h4.trans (last_flag_of_inv B cap σ hinv hn i (by rw [h3]; rfl))
      have hsz := hadm rfl rfl h1 h2 hsr hil
      obtain ⟨sl, il, rt, ix, sz, ty⟩ := s
      simp only at h1 h2 hsr hil hsz h5
      subst h1 h2 hsr hil hsz h5
      exact repInv_shred B env cap hwf σ hinv _ _ ho
    · obtain ⟨hd, hr⟩ := storeSet_addRepair_frame env cap σ.store b s B.slot
      have hs : spotOf cap B (storeSet σ.store b.slot (addRepair env (storeGet cap σ.store b.slot) b.hash s).1) =
          spotOf cap B σ.store := by
        unfold spotOf
        rw [hd]
        exact congrArg (fun o : Option BlockData => o.getD _) (hr _ hb)
      exact step_of_spot_eq (repInv_same B cap σ ⟨_, _⟩ hinv
        (fun x hx => (done_outstanding ..).trans (and_iff_left_of_imp fun _ e => hb (by rw [e] at hx; exact hx)))
        (fun _ => rfl) rfl hrk (by rw [hd]) hs) hs

theorem stepEv_repInv (hwf : B.WF env cap)
    (hroots : ∀ i, i < B.n → B.root i ≠ 0) (σ : Sys) (e : Ev) (hinv : RepInv B cap σ) (hadm : Admissible B e) :
    RepStep B cap σ (stepEv env cap σ e).1 (stepEv env cap σ e).2 := by
  cases e with
  | resp r => exact repInv_resp B env cap hwf hroots σ r hinv hadm
  | timeout =>
    exact step_of_spot_eq (repInv_same B cap σ _ hinv (fun r _ => fireTimeout_outstanding σ.st r)
      (fun i => by simp [stepEv, (fireTimeout_frame σ.st).1]) (by simp [stepEv, (fireTimeout_frame σ.st).2.1])
      (fireTimeout_rootsKnown σ.st hinv.rootsKnown) rfl rfl) rfl
  | start b =>
    refine step_of_spot_eq (σ' := ⟨(repairBlock cap σ.st σ.store b).1, σ.store⟩) ?_ rfl
    rcases repairBlock_cases cap σ.st σ.store b with e | e <;> rw [e]
    · exact hinv
    · refine repInv_grow B cap σ _ hinv (fun r _ h => (sendRequest_outstanding ..).mpr (Or.inl h)) (fun r hr h => ?_)
        (fun _ => rfl) rfl (sendRequest_rootsKnown _ _ hinv.rootsKnown (fun _ _ _ e => nomatch e)) rfl rfl
      rcases (sendRequest_outstanding ..).mp h with h | rfl
      · exact Or.inl h
      · exact Or.inr (congrArg Req.last hr)

theorem run_repInv (hwf : B.WF env cap)
    (hroots : ∀ i, i < B.n → B.root i ≠ 0) (evs : List Ev) (σ : Sys) (hinv : RepInv B cap σ)
    (hadm : ∀ e ∈ evs, Admissible B e) :
    RepInv B cap (run env cap σ evs).1 ∧
      ((spotOf cap B σ.store).completed = none → (spotOf cap B (run env cap σ evs).1.store).completed.isSome →
        ∃ o ∈ (run env cap σ evs).2, Announced B o) := by
  induction evs generalizing σ with
  | nil => exact ⟨hinv, fun h1 h2 => by rw [run, h1] at h2; cases h2⟩
  | cons e rest ih =>
    obtain ⟨s1, s2⟩ := stepEv_repInv B env cap hwf hroots σ e hinv (hadm e List.mem_cons_self)
    obtain ⟨r1, r2⟩ := ih (stepEv env cap σ e).1 s1 (fun x hx => hadm x (List.mem_cons_of_mem _ hx))
    refine ⟨r1, fun h1 h2 => ?_⟩
    -- the block is announced by the first step after which the spot is complete
    cases hmid : (spotOf cap B (stepEv env cap σ e).1.store).completed with
    | none =>
      obtain ⟨o, ho, ha⟩ := r2 hmid h2
      exact ⟨o, List.mem_cons_of_mem _ ho, ha⟩
    | some blk => exact ⟨_, List.mem_cons_self, s2 h1 (by rw [hmid]; rfl)⟩

theorem blockData_of_spot (store : Store) (blk : Block)
    (hnodis : ∀ blk, (storeGet cap store B.slot).dis.completed = some blk → blk.hash ≠ B.block.hash)
    (hc : (spotOf cap B store).completed = some blk) :
    blockData (storeGet cap store B.slot) B.block.hash = some (spotOf cap B store) := by
  have hbd : blockData (storeGet cap store B.slot) B.block.hash = repGet (storeGet cap store B.slot).rep B.block.hash := by
    unfold blockData
    split
    · next b hd => exact if_neg (hnodis b hd)
    · rfl
  rw [hbd]
  unfold spotOf at hc ⊢
  cases hr : repGet (storeGet cap store B.slot).rep B.block.hash with
  | none => rw [hr] at hc; exact nomatch hc
  | some b => rfl

/-- **Quiescence means completion**: when the invariant holds and no request about `B` is outstanding,
    every shred of `B` has been stored, hence (liveness of reconstruction) the block is
    complete and `get_block` returns it. -/
theorem repInv_quiescent_done (σ : Sys) (hinv : RepInv B cap σ)
    (hq : ∀ r ∈ σ.st.outstanding, r.bid ≠ bidOf B) :
    (spotOf cap B σ.store).completed = some B.block ∧
      getBlock (storeGet cap σ.store B.slot) B.block.hash = some B.block := by
  have hc : (spotOf cap B σ.store).completed = some B.block := by
    rcases hinv.prog with h | h | h
    · obtain ⟨blk, hcc⟩ := Option.isSome_iff_exists.mp h
      rw [hcc, hinv.live.good.completed blk hcc]
    · exact absurd rfl (hq _ h)
    · exact live_all_stored_completed B cap _ hinv.live fun i j hi hj =>
        (((h i hi).resolve_left fun h => hq _ h rfl).2 j hj).resolve_left fun h => hq _ h rfl
  exact ⟨hc, by unfold getBlock; rw [blockData_of_spot B cap σ.store _ hinv.nodis hc]; exact hc⟩

/-- what a peer that holds `B` answers -/
def honestResp (B : HBlock) (r : Req) : Resp :=
  match r with
  | .last _ => .lastRoot r (B.n - 1) (B.root (B.n - 1)) ((Tree.new B.roots).createProof (B.n - 1))
  | .root _ i => .sliceRoot r (B.root i) ((Tree.new B.roots).createProof i)
  | .shred b i j => .shred r b.slot (B.shred i j) true

theorem honestResp_req (B : HBlock) (r : Req) : (honestResp B r).req = r := by
  cases r <;> rfl

/-- `r` is *served* in the schedule `evs` starting from `σ`: at some point the response `ρ r` is
    delivered while `r` is outstanding -/
def Served (env : Nat → Content) (cap : Nat) (ρ : Req → Resp) (r : Req) : Sys → List Ev → Prop
  | _, [] => False
  | σ, e :: rest => (e = .resp (ρ r) ∧ r ∈ σ.st.outstanding) ∨ Served env cap ρ r (stepEv env cap σ e).1 rest

/-- **Fairness of a finite schedule** (towards the block id `bid`, with `ρ` the correct responder):
    every request about `bid` that is outstanding at any point of the schedule — in particular every
    request issued or re-sent during it — is served at that point or later. At the end of the schedule nothing comes
    later: the `[]` clause is that no request about `bid` is outstanding. -/
def Fair (env : Nat → Content) (cap : Nat) (ρ : Req → Resp) (bid : Bid) : Sys → List Ev → Prop
  | σ, [] => ∀ r ∈ σ.st.outstanding, r.bid ≠ bid
  | σ, e :: rest =>
    (∀ r ∈ σ.st.outstanding, r.bid = bid → Served env cap ρ r σ (e :: rest)) ∧
      Fair env cap ρ bid (stepEv env cap σ e).1 rest

theorem fair_quiescent (ρ : Req → Resp) (bid : Bid) (evs : List Ev) (σ : Sys)
    (h : Fair env cap ρ bid σ evs) : ∀ r ∈ (run env cap σ evs).1.st.outstanding, r.bid ≠ bid := by
  induction evs generalizing σ with
  | nil => exact h
  | cons e rest ih => exact ih _ h.2

/-- a request about `B` weighs one more than all the requests its acceptance sends -/
def wt (B : HBlock) (r : Req) : Nat :=
  if r.bid = bidOf B then
    match r with
    | .last _ => 1 + (TOTAL_SHREDS + 1) * B.n
    | .root _ _ => TOTAL_SHREDS + 1
    | .shred _ _ _ => 1
  else 0

def mu (B : HBlock) (st : RepairSt) : Nat := (st.outstanding.map (wt B)).sum

theorem sum_filter_le (f : Req → Nat) (p : Req → Bool) (l : List Req) : ((l.filter p).map f).sum ≤ (l.map f).sum := by
  induction l with
  | nil => exact Nat.le_refl _
  | cons x rest ih =>
    rw [List.filter_cons]
    split <;> simp only [List.map_cons, List.sum_cons] <;> omega

theorem sum_filter_ne (f : Req → Nat) (l : List Req) (r : Req) (h : r ∈ l) :
    ((l.filter (· ≠ r)).map f).sum + f r ≤ (l.map f).sum := by
  induction l with
  | nil => cases h
  | cons x rest ih =>
    by_cases hx : x = r
    · subst hx
      have := sum_filter_le f (· ≠ x) rest
      rw [List.filter_cons_of_neg (by simp), List.map_cons, List.sum_cons]
      omega
    · have := ih ((List.mem_cons.mp h).resolve_left (Ne.symm hx))
      rw [List.filter_cons_of_pos (by simpa using hx), List.map_cons, List.map_cons, List.sum_cons, List.sum_cons]
      omega

theorem mu_done (st : RepairSt) (r : Req) (h : r ∈ st.outstanding) :
    mu B (done st r) + wt B r ≤ mu B st := by
  unfold mu done
  exact sum_filter_ne (wt B) st.outstanding r h

theorem mu_sendAll (st : RepairSt) (rs : List Req) :
    mu B (sendAll st rs) ≤ mu B st + (rs.map (wt B)).sum := by
  unfold sendAll
  induction rs generalizing st with
  | nil => simp
  | cons r rest ih =>
    simp only [List.foldl_cons, List.map_cons, List.sum_cons]
    have h1 := ih (sendRequest st r)
    have h2 : mu B (sendRequest st r) ≤ mu B st + wt B r := by
      unfold mu sendRequest
      dsimp only
      split
      · omega
      · simp
    omega

theorem sum_wt_range (f : Nat → Req) (c n : Nat) (h : ∀ i, wt B (f i) = c) :
    (((List.range n).map f).map (wt B)).sum = c * n := by
  induction n with
  | zero => rfl
  | succ n ih => rw [List.range_succ, List.map_append, List.map_append, List.sum_append, ih, Nat.mul_succ]; simp [h]

theorem wt_last : wt B (.last (bidOf B)) = 1 + (TOTAL_SHREDS + 1) * B.n := if_pos rfl
theorem wt_root (i : Nat) : wt B (.root (bidOf B) i) = TOTAL_SHREDS + 1 := if_pos rfl
theorem wt_shred (i j : Nat) : wt B (.shred (bidOf B) i j) = 1 := if_pos rfl

theorem mu_accept (st : RepairSt) (r : Req) (k : Bid × Nat) (root : Nat) (lasts : List (Bid × Nat))
    (rs : List Req) (h : r ∈ st.outstanding) (hlt : (rs.map (wt B)).sum < wt B r) :
    mu B (accept st r k root lasts rs) < mu B st := by
  have h1 : mu B (accept st r k root lasts rs) ≤ mu B (done st r) + (rs.map (wt B)).sum := mu_sendAll B _ rs
  have h2 := mu_done B st r h
  omega

theorem mu_roots_only (B : HBlock) (st st' : RepairSt) (h : st'.outstanding = st.outstanding) : mu B st' = mu B st := by
  unfold mu; rw [h]

def InBlock (B : HBlock) : Req → Prop
  | .last _ => True
  | .root _ i => i < B.n
  | .shred _ i j => i < B.n ∧ j < TOTAL_SHREDS

theorem inBlock_of_inv (σ : Sys) (hinv : RepInv B cap σ) (r : Req)
    (hr : r ∈ σ.st.outstanding) (hb : r.bid = bidOf B) : InBlock B r := by
  cases r with
  | last b => trivial
  | root b i => simp only [Req.bid] at hb; subst hb; exact hinv.reqRoot i hr
  | shred b i j => simp only [Req.bid] at hb; subst hb; exact hinv.reqShred i j hr

theorem honest_root_valid (hn32 : B.n ≤ 2 ^ 32) (i : Nat) (hi : i < B.n) :
    checkProof (B.root i) i (bidOf B).hash ((Tree.new B.roots).createProof i) = true := by
  have := Merkle.complete B.roots i (by rw [roots_length]; exact hi) (by rw [roots_length]; exact hn32)
  rw [roots_getD_lt B i hi] at this
  exact this

theorem honest_last_valid (hn : 0 < B.n) (hn32 : B.n ≤ 2 ^ 32) :
    checkProofLast (B.root (B.n - 1)) (B.n - 1) (bidOf B).hash ((Tree.new B.roots).createProof (B.n - 1)) = true := by
  have := Merkle.complete_last B.roots (roots_ne_nil B hn) (by rw [roots_length]; exact hn32)
  rw [roots_length, roots_getD_lt B (B.n - 1) (by omega)] at this
  exact this

/-- **A correct response to an outstanding request makes progress**: it is admissible, removes only
    that request, and strictly decreases the weight of what is still requested. -/
theorem honest_step (hwf : B.WF env cap)
    (hroots : ∀ i, i < B.n → B.root i ≠ 0) (hn32 : B.n ≤ 2 ^ 32) (σ : Sys) (r : Req)
    (hinv : RepInv B cap σ) (hout : r ∈ σ.st.outstanding) (hb : r.bid = bidOf B) :
    Admissible B (.resp (honestResp B r)) ∧
      (∀ x ∈ σ.st.outstanding, x ≠ r → x ∈ (stepEv env cap σ (.resp (honestResp B r))).1.st.outstanding) ∧
      mu B (stepEv env cap σ (.resp (honestResp B r))).1.st < mu B σ.st := by
  have hn := hwf.npos
  rcases r with b | ⟨b, i⟩ | ⟨b, i, j⟩ <;> obtain rfl : b = bidOf B := hb
  · simp only [honestResp, stepEv]
    rw [handle_last hout (honest_last_valid B hn hn32)]
    refine ⟨fun _ => hroots (B.n - 1) (by omega), fun x hx hne => (accept_outstanding ..).mpr (Or.inl ⟨hx, hne⟩),
      mu_accept B _ _ _ _ _ _ hout ?_⟩
    rw [sum_wt_range B _ _ _ (wt_root B), wt_last, show B.n - 1 + 1 = B.n by omega]
    omega
  · have hi := hinv.reqRoot i hout
    simp only [honestResp, stepEv]
    rw [handle_root hout (honest_root_valid B hn32 i hi)]
    refine ⟨fun _ => hroots i hi, fun x hx hne => (accept_outstanding ..).mpr (Or.inl ⟨hx, hne⟩),
      mu_accept B _ _ _ _ _ _ hout ?_⟩
    rw [sum_wt_range B _ _ _ (wt_shred B i), wt_root]
    omega
  · obtain ⟨root, hroot⟩ := shred_arm_root_known σ.st (bidOf B) i j hinv.rootsKnown hout
    obtain ⟨_, rfl⟩ := hinv.roots i root hroot
    have hlast : (B.shred i j).isLast = decide (lastGet σ.st.lastSlices (bidOf B) = some i) :=
      (last_flag_of_inv B cap σ hinv hn i (by rw [hroot]; rfl)).symm
    have h2 := mu_done B σ.st (Req.shred (bidOf B) i j) hout
    rw [wt_shred] at h2
    simp only [honestResp, stepEv, handle_shred_valid (s := B.shred i j) hout ⟨rfl, rfl, rfl, hroot, hlast, rfl, rfl⟩,
      ingest_eq]
    exact ⟨fun _ _ _ _ _ _ => rfl, fun x hx hne => (done_outstanding ..).mpr ⟨hx, hne⟩, by omega⟩

/-- **Fair schedules exist from every state of the repair, and they are finite**: whatever happened
    before (any admissible prefix leads to a `RepInv` state), answering the outstanding requests
    correctly, one at a time, is a fair schedule — by induction on the weight `mu` of what is still
    requested (last-slice root > slice roots > shreds). `ρ`: any responder that answers the requests inside the
    block as the holder does. -/
theorem fair_extension (hwf : B.WF env cap)
    (hroots : ∀ i, i < B.n → B.root i ≠ 0) (hn32 : B.n ≤ 2 ^ 32) (ρ : Req → Resp)
    (hρ : ∀ r, r.bid = bidOf B → InBlock B r → ρ r = honestResp B r) (σ : Sys) (hinv : RepInv B cap σ) :
    ∃ ext : List Ev, (∀ e ∈ ext, Admissible B e) ∧
      (∀ e ∈ ext, ∃ r, r.bid = bidOf B ∧ InBlock B r ∧ e = .resp (ρ r)) ∧
      Fair env cap ρ (bidOf B) σ ext := by
  generalize hm : mu B σ.st = m
  induction m using Nat.strongRecOn generalizing σ with
  | _ m ih =>
    rcases Classical.em (∃ r, r ∈ σ.st.outstanding ∧ r.bid = bidOf B) with ⟨r, hout, hb⟩ | hnone
    · have hin := inBlock_of_inv B cap σ hinv r hout hb
      obtain ⟨hadm, hkeep, hlt⟩ := honest_step B env cap hwf hroots hn32 σ r hinv hout hb
      rw [← hρ r hb hin] at hadm hkeep hlt
      have hinv' := (stepEv_repInv B env cap hwf hroots σ _ hinv hadm).1
      obtain ⟨ext, h1, h2, h3⟩ := ih _ (by rw [← hm]; exact hlt) _ hinv' rfl
      refine ⟨.resp (ρ r) :: ext, List.forall_mem_cons.mpr ⟨hadm, h1⟩,
        List.forall_mem_cons.mpr ⟨⟨r, hb, hin, rfl⟩, h2⟩, fun r' hr' hb' => ?_, h3⟩
      by_cases hrr : r' = r
      · subst hrr; exact Or.inl ⟨rfl, hr'⟩
      · right
        have hin' := hkeep r' hr' hrr
        cases ext with
        | nil => exact absurd hb' (h3 r' hin')
        | cons e' rest => exact h3.1 r' hin' hb'
    · exact ⟨[], fun _ h => (nomatch h), fun _ h => (nomatch h), fun r hr hb => hnone ⟨r, hr, hb⟩⟩

/-- **`repair_block` establishes the invariant**: on a requester that knows nothing about `B` yet (no
    request, no proven root, no repair spot, block not held), starting the repair of `B` yields a
    state satisfying `RepInv`. -/
theorem repInv_begin (hn : 0 < B.n) (σ : Sys)
    (hslot : (storeGet cap σ.store B.slot).dis.slot = B.slot) (hcap : (storeGet cap σ.store B.slot).dis.cap = cap)
    (hnone : getBlock (storeGet cap σ.store B.slot) B.block.hash = none)
    (hspot : repGet (storeGet cap σ.store B.slot).rep B.block.hash = none)
    (hrk : RootsKnown σ.st)
    (hnoroots : ∀ i, rootGet σ.st.sliceRoots (bidOf B, i) = none)
    (hnoreq : ∀ r ∈ σ.st.outstanding, r.bid ≠ bidOf B) :
    RepInv B cap (stepEv env cap σ (.start (bidOf B))).1 := by
  have hst : (stepEv env cap σ (.start (bidOf B))).1 = ⟨sendRequest σ.st (.last (bidOf B)), σ.store⟩ := by
    show Sys.mk (repairBlock cap σ.st σ.store (bidOf B)).1 σ.store = _
    unfold repairBlock
    rw [show getBlock (storeGet cap σ.store (bidOf B).slot) (bidOf B).hash = none from hnone]
    rfl
  rw [hst]
  have hsp : spotOf cap B σ.store = BlockData.new cap B.slot := by
    unfold spotOf; rw [hspot, hslot, hcap]; rfl
  have hout : ∀ x ∈ (sendRequest σ.st (.last (bidOf B))).outstanding, x.bid = bidOf B → x = .last (bidOf B) :=
    fun x hx hb => ((sendRequest_outstanding ..).mp hx).elim (fun h => absurd hb (hnoreq x h)) id
  refine ⟨fun blk hd hh => ?_, hsp ▸ live_new B cap hn,
    sendRequest_rootsKnown σ.st _ hrk (fun _ _ _ e => nomatch e), fun i root h => ?_, fun i h => ?_,
    fun i h => (nomatch hout _ h rfl), fun i j h => (nomatch hout _ h rfl),
    Or.inr (Or.inl ((sendRequest_outstanding ..).mpr (Or.inr rfl)))⟩
  · have : getBlock (storeGet cap σ.store B.slot) B.block.hash = some blk := by
      simp [getBlock, blockData, show (storeGet cap σ.store B.slot).dis.completed = some blk from hd, hh]
    rw [hnone] at this; cases this
  · exact nomatch (hnoroots i).symm.trans h
  · rcases h with h | h
    · exact (nomatch hout _ h rfl)
    · exact nomatch (congrArg Option.isSome (hnoroots i)).symm.trans h

end AgModel.Repair
