import AgModel.Model.Trie
import AgModel.Model.OrdMap
import AgModel.Proofs.TrieKey
/-! The trie against the sorted association list `OrdMap` (core Lean only): a well-formed chain lists its entries
in key order; `getRec`, `insertRec`, `removeRec` act on the listing as `find`, `put`, `del` and keep the chain
well-formed; well-formed tries with equal listings are equal. Each of the three operations meets a key on the
path with the first entry of a chain in the same way (`wf_cons_key`). `splitLeaves` is `insertRec` into the one-entry
chain that the first leaf collapses from (`splitLeaves_eq_insertRec`), so the insert spec covers it by descending. -/
namespace AgModel.Trie

def agrees (k : Key) (P : List Nat) : Prop := P <+: chunks k

theorem agrees_nil (k : Key) : agrees k [] := List.nil_prefix

theorem chunks_getElem? (k : Key) (d : Nat) (h : d < 52) : (chunks k)[d]? = some (chunkAt k d) := by
  unfold chunks
  rw [numChunks_eq]
  simp [h]

theorem agrees_snoc {k : Key} {P : List Nat} {c : Nat} :
    agrees k (P ++ [c]) ↔ agrees k P ∧ P.length < 52 ∧ chunkAt k P.length = c := by
  constructor
  · rintro ⟨t, e⟩
    have hl := congrArg List.length e
    rw [chunks_length, List.length_append, List.length_append, List.length_singleton] at hl
    have hd : P.length < 52 := by omega
    have hg := chunks_getElem? k _ hd
    rw [← e, List.append_assoc, List.getElem?_append_right (Nat.le_refl _), Nat.sub_self] at hg
    exact ⟨⟨[c] ++ t, by rw [← e, List.append_assoc]⟩, hd, (Option.some.inj hg).symm⟩
  · rintro ⟨⟨t, e⟩, hd, hc⟩
    have hg := chunks_getElem? k _ hd
    rw [← e, List.getElem?_append_right (Nat.le_refl _), Nat.sub_self] at hg
    cases t with
    | nil => cases hg
    | cons x t => exact ⟨t, by rw [← e, ← hc, ← Option.some.inj hg, List.append_assoc]; rfl⟩

theorem keyLt_of_chunk {k1 k2 : Key} {P : List Nat} (h1 : agrees k1 P) (h2 : agrees k2 P)
    (hd : P.length < 52) (hc : chunkAt k1 P.length < chunkAt k2 P.length) : keyLt k1 k2 = true := by
  obtain ⟨t1, e1⟩ := agrees_snoc.2 ⟨h1, hd, rfl⟩
  obtain ⟨t2, e2⟩ := agrees_snoc.2 ⟨h2, hd, rfl⟩
  rw [keyLt, ← e1, ← e2, List.append_assoc, List.append_assoc, lexLt_append_left]
  simp [lexLt, hc]

/-- well-formed *child* reached by path `Q` (which includes the child's chunk) -/
def wfc (ch : Node) (Q : List Nat) : Bool :=
  match ch with
  | .leaf k _ => decide ((chunks k).take Q.length = Q)
  | .nil => false
  | .cons c' ch' rest' => Node.wf (.cons c' ch' rest') Q 0 && !singleLeaf (.cons c' ch' rest')

theorem wf_cons_iff {c : Nat} {ch rest : Node} {P : List Nat} {lb : Nat} :
    Node.wf (.cons c ch rest) P lb = true ↔
      lb ≤ c ∧ c < 32 ∧ wfc ch (P ++ [c]) = true ∧ Node.wf rest P (c + 1) = true := by
  cases ch <;> simp [Node.wf, wfc, and_assoc]

theorem wf_not_leaf (k : Key) (v : Nat) (P : List Nat) (lb : Nat) : Node.wf (.leaf k v) P lb = false := by
  simp [Node.wf]

theorem wfc_leaf {k : Key} {v : Nat} {Q : List Nat} : wfc (.leaf k v) Q = true ↔ agrees k Q := by
  rw [wfc, decide_eq_true_eq, agrees, List.prefix_iff_eq_take, eq_comm]

theorem wfc_cons {c : Nat} {ch rest : Node} {Q : List Nat} :
    wfc (.cons c ch rest) Q = true ↔
      Node.wf (.cons c ch rest) Q 0 = true ∧ singleLeaf (.cons c ch rest) = false := by
  simp [wfc]

theorem wf_mono {n : Node} {P : List Nat} {lb lb' : Nat} (h : n.wf P lb = true) (hl : lb' ≤ lb) :
    n.wf P lb' = true := by
  cases n with
  | leaf k v => cases h
  | nil => rfl
  | cons c ch rest =>
    rw [wf_cons_iff] at h ⊢
    exact ⟨by omega, h.2⟩

/-- Induction over well-formed tries, for chains (`wf`, any lower bound) and children (`wfc`, bound 0) at once. -/
theorem wf_rec {M : Node → List Nat → Nat → Prop}
    (leaf : ∀ k v Q, agrees k Q → M (.leaf k v) Q 0)
    (nil : ∀ P lb, M .nil P lb)
    (cons : ∀ c ch rest P lb, Node.wf (.cons c ch rest) P lb = true →
      M ch (P ++ [c]) 0 → M rest P (c + 1) → M (.cons c ch rest) P lb)
    (n : Node) : ∀ P, (∀ lb, n.wf P lb = true → M n P lb) ∧ (wfc n P = true → M n P 0) := by
  induction n with
  | leaf k v =>
    exact fun P => ⟨fun lb h => (nomatch h), fun h => leaf k v P (wfc_leaf.1 h)⟩
  | nil => exact fun P => ⟨fun lb _ => nil P lb, fun h => (by cases h)⟩
  | cons c ch rest ihc ihr =>
    intro P
    have hwf : ∀ lb, Node.wf (.cons c ch rest) P lb = true → M (.cons c ch rest) P lb := fun lb h =>
      cons c ch rest P lb h ((ihc _).2 (wf_cons_iff.1 h).2.2.1) ((ihr P).1 _ (wf_cons_iff.1 h).2.2.2)
    exact ⟨hwf, fun h => hwf 0 (wfc_cons.1 h).1⟩

theorem wf_keys (n : Node) (P : List Nat) :
    (∀ lb, n.wf P lb = true → ∀ kv ∈ toList n, agrees kv.1 P ∧ lb ≤ chunkAt kv.1 P.length) ∧
    (wfc n P = true → ∀ kv ∈ toList n, agrees kv.1 P ∧ 0 ≤ chunkAt kv.1 P.length) := by
  refine wf_rec (M := fun n P lb => ∀ kv ∈ toList n, agrees kv.1 P ∧ lb ≤ chunkAt kv.1 P.length) ?_ ?_ ?_ n P
  · intro k v Q h kv hkv
    rw [toList, List.mem_singleton] at hkv
    rw [hkv]; exact ⟨h, Nat.zero_le _⟩
  · intro P lb kv hkv; cases hkv
  · intro c ch rest P lb h ihc ihr kv hkv
    have h1 := (wf_cons_iff.1 h).1
    rw [toList, List.mem_append] at hkv
    rcases hkv with hkv | hkv
    · have := agrees_snoc.1 (ihc kv hkv).1
      exact ⟨this.1, by omega⟩
    · exact ⟨(ihr kv hkv).1, by have := (ihr kv hkv).2; omega⟩

theorem wfc_keys {ch : Node} {Q : List Nat} (h : wfc ch Q = true) : ∀ kv ∈ toList ch, agrees kv.1 Q :=
  fun kv hkv => ((wf_keys ch Q).2 h kv hkv).1

theorem wf_cons_keys {c : Nat} {ch rest : Node} {P : List Nat} {lb : Nat}
    (h : Node.wf (.cons c ch rest) P lb = true) :
    (∀ kv ∈ toList ch, agrees kv.1 P ∧ chunkAt kv.1 P.length = c) ∧
    (∀ kv ∈ toList rest, agrees kv.1 P ∧ c < chunkAt kv.1 P.length) := by
  rw [wf_cons_iff] at h
  refine ⟨fun kv hkv => ?_, fun kv hkv => ?_⟩
  · have := agrees_snoc.1 (wfc_keys h.2.2.1 kv hkv)
    exact ⟨this.1, this.2.2⟩
  · exact (wf_keys rest P).1 _ h.2.2.2 kv hkv

open AgModel.OrdMap (find put del Sorted)

def After (key : Key) (l : OrdMap.Map) : Prop := ∀ kv ∈ l, keyLt key kv.1 = true
def Before (key : Key) (l : OrdMap.Map) : Prop := ∀ kv ∈ l, keyLt kv.1 key = true

theorem After.ne {key : Key} {l : OrdMap.Map} (h : After key l) : ∀ kv ∈ l, kv.1 ≠ key :=
  fun kv hkv e => keyLt_ne (h kv hkv) e.symm

theorem Before.ne {key : Key} {l : OrdMap.Map} (h : Before key l) : ∀ kv ∈ l, kv.1 ≠ key :=
  fun kv hkv => keyLt_ne (h kv hkv)

theorem find_none_iff {l : OrdMap.Map} {key : Key} : find l key = none ↔ ∀ kv ∈ l, kv.1 ≠ key := by
  induction l with
  | nil => exact iff_of_true rfl (fun _ h => nomatch h)
  | cons a l ih =>
    rw [find, List.forall_mem_cons, ← ih]
    split
    · next h => exact iff_of_false (fun h' => nomatch h') (fun h' => h'.1 h)
    · next h => exact (and_iff_right h).symm

theorem find_append (a b : OrdMap.Map) (key : Key) : find (a ++ b) key = (find a key).or (find b key) := by
  induction a with
  | nil => rfl
  | cons x a ih => rw [List.cons_append, find, find, ih]; split <;> rfl

theorem del_of_not_mem {a : OrdMap.Map} {key : Key} (h : ∀ kv ∈ a, kv.1 ≠ key) : del a key = a :=
  List.filter_eq_self.2 (fun kv hkv => decide_eq_true (h kv hkv))

theorem del_append (a b : OrdMap.Map) (key : Key) : del (a ++ b) key = del a key ++ del b key :=
  List.filter_append ..

theorem put_append_right {a b : OrdMap.Map} {key : Key} {v : Nat} (h : Before key a) :
    put keyLt (a ++ b) key v = a ++ put keyLt b key v := by
  induction a with
  | nil => rfl
  | cons x a ih =>
    rw [List.cons_append, put, if_neg (h.ne x (List.mem_cons_self ..)), keyLt_asymm (h x (List.mem_cons_self ..)),
      ih (fun kv hkv => h kv (List.mem_cons_of_mem _ hkv))]
    rfl

theorem put_append_left {a b : OrdMap.Map} {key : Key} {v : Nat} (h : After key b) :
    put keyLt (a ++ b) key v = put keyLt a key v ++ b := by
  induction a with
  | nil =>
    cases b with
    | nil => rfl
    | cons x b =>
      show put keyLt (x :: b) key v = (key, v) :: x :: b
      rw [put, if_neg (h.ne x (List.mem_cons_self ..)), if_pos (h x (List.mem_cons_self ..))]
  | cons x a ih =>
    rw [List.cons_append, put, put, ih]
    split
    · rfl
    · split <;> rfl

theorem sorted_cons_ne {x : Key × Nat} {l : OrdMap.Map} (h : Sorted keyLt (x :: l)) : ∀ kv ∈ l, kv.1 ≠ x.1 :=
  fun kv hkv e => keyLt_ne ((List.pairwise_cons.1 h).1 kv hkv) e.symm

theorem perm_find_del (m : OrdMap.Map) (k : Key) (hs : Sorted keyLt m) :
    m.Perm ((find m k).toList.map (fun v => (k, v)) ++ del m k) := by
  induction m with
  | nil => exact .refl _
  | cons x m ih =>
    rw [find, del, List.filter_cons, ← del]
    by_cases hk : x.1 = k
    · -- the entry is at the head, and the entries after it have larger keys
      rw [if_pos hk, if_neg (by simpa using hk), del_of_not_mem (hk ▸ sorted_cons_ne hs), ← hk]
      exact .refl _
    · rw [if_neg hk, if_pos (by simpa using hk)]
      exact ((ih (List.pairwise_cons.1 hs).2).cons x).trans List.perm_middle.symm

theorem length_del (l : OrdMap.Map) (key : Key) (h : Sorted keyLt l) :
    (del l key).length + (if (find l key).isSome then 1 else 0) = l.length := by
  rw [(perm_find_del l key h).length_eq, List.length_append, Nat.add_comm]
  cases find l key <;> rfl

theorem put_perm (m : OrdMap.Map) (k : Key) (v : Nat) (hs : Sorted keyLt m) :
    (put keyLt m k v).Perm ((k, v) :: del m k) := by
  induction m with
  | nil => exact .refl _
  | cons x m ih =>
    have hp := List.pairwise_cons.1 hs
    rw [put, del, List.filter_cons, ← del]
    by_cases h1 : x.1 = k
    · rw [if_pos h1, if_neg (by simpa using h1), del_of_not_mem (h1 ▸ sorted_cons_ne hs)]
    · rw [if_neg h1, if_pos (c := decide (x.1 ≠ k) = true) (by simpa using h1)]
      split
      · next h2 =>
        rw [del_of_not_mem fun kv hkv e => keyLt_ne (keyLt_trans h2 (hp.1 kv hkv)) e.symm]
      · exact ((ih hp.2).cons x).trans (List.Perm.swap _ _ _)

theorem length_put (m : OrdMap.Map) (k : Key) (v : Nat) (hs : Sorted keyLt m) :
    (put keyLt m k v).length + (if (find m k).isSome then 1 else 0) = m.length + 1 := by
  rw [(put_perm m k v hs).length_eq, List.length_cons, ← length_del m k hs]
  omega

theorem singleLeaf_inv (n : Node) (h : singleLeaf n = true) : ∃ c k v, n = .cons c (.leaf k v) .nil := by
  unfold singleLeaf at h
  split at h
  · exact ⟨_, _, _, rfl⟩
  · cases h

theorem wfc_ne_nil : ∀ {n : Node} {Q : List Nat}, wfc n Q = true → ∃ a t, toList n = a :: t
  | .leaf k v, _, _ => ⟨(k, v), [], rfl⟩
  | .cons c ch r, Q, h => by
    obtain ⟨a, t, e⟩ := wfc_ne_nil (wf_cons_iff.1 (wfc_cons.1 h).1).2.2.1
    exact ⟨a, t ++ toList r, by rw [toList, e]; rfl⟩

/-- a branch child holds at least two entries: a leaf in it is followed by a further entry (the branch is not a
    single leaf), a branch in it holds two itself -/
theorem wfc_two : ∀ {ch : Node} {c : Nat} {r : Node} {Q : List Nat}, wfc (.cons c ch r) Q = true →
    2 ≤ (toList (.cons c ch r)).length
  | .nil, _, _, _, h => nomatch (wf_cons_iff.1 (wfc_cons.1 h).1).2.2.1
  | .cons c' ch' r', c, r, Q, h => by
    have := wfc_two (wf_cons_iff.1 (wfc_cons.1 h).1).2.2.1
    rw [toList, List.length_append]; omega
  | .leaf k v, c, r, Q, h => by
    obtain ⟨hw, hs⟩ := wfc_cons.1 h
    cases r with
    | nil => cases hs
    | leaf k' v' => exact nomatch (wf_cons_iff.1 hw).2.2.2
    | cons c2 ch2 r2 =>
      obtain ⟨a, t, e⟩ := wfc_ne_nil (wf_cons_iff.1 (wf_cons_iff.1 hw).2.2.2).2.2.1
      rw [toList, toList, toList, e]; simp

theorem wfc_of_wf {n : Node} {Q : List Nat} (h : n.wf Q 0 = true) (hl : 2 ≤ (toList n).length) :
    wfc n Q = true := by
  cases n with
  | leaf k v => cases h
  | nil => cases hl
  | cons c ch r =>
    refine wfc_cons.2 ⟨h, ?_⟩
    cases hs : singleLeaf (.cons c ch r) with
    | false => rfl
    | true =>
      obtain ⟨c', k, v, e⟩ := singleLeaf_inv _ hs
      rw [e] at hl; exact absurd hl (Nat.lt_irrefl 1)

/-- the first child of a chain holds a key, whose chunks follow `P ++ [c]` -/
theorem wf_cons_depth {c : Nat} {ch rest : Node} {P : List Nat} {lb : Nat}
    (h : Node.wf (.cons c ch rest) P lb = true) : P.length < 52 := by
  have h3 := (wf_cons_iff.1 h).2.2.1
  obtain ⟨kv, t, hm⟩ := wfc_ne_nil h3
  have := (wfc_keys h3 kv (by rw [hm]; exact List.mem_cons_self ..)).length_le
  rw [chunks_length, List.length_append, List.length_singleton] at this
  exact this

theorem wf_cons_key {c : Nat} {ch rest : Node} {P : List Nat} {lb : Nat}
    (h : Node.wf (.cons c ch rest) P lb = true) {key : Key} (hag : agrees key P) :
    (chunkAt key P.length < c → After key (toList (.cons c ch rest))) ∧
    (chunkAt key P.length = c → agrees key (P ++ [c]) ∧ After key (toList rest)) ∧
    (c < chunkAt key P.length → Before key (toList ch)) ∧
    (chunkAt key P.length ≠ c → ∀ kv ∈ toList ch, kv.1 ≠ key) := by
  obtain ⟨hkc, hkr⟩ := wf_cons_keys h
  have hd := wf_cons_depth h
  refine ⟨fun hx kv hkv => ?_, fun hx => ⟨agrees_snoc.2 ⟨hag, hd, hx⟩, fun kv hkv => ?_⟩,
    fun hx kv hkv => ?_, fun hx kv hkv e => hx ?_⟩
  · rcases List.mem_append.1 hkv with hm | hm
    · exact keyLt_of_chunk hag (hkc kv hm).1 hd (by rw [(hkc kv hm).2]; exact hx)
    · exact keyLt_of_chunk hag (hkr kv hm).1 hd (Nat.lt_trans hx (hkr kv hm).2)
  · exact keyLt_of_chunk hag (hkr kv hkv).1 hd (by rw [hx]; exact (hkr kv hkv).2)
  · exact keyLt_of_chunk (hkc kv hkv).1 hag hd (by rw [(hkc kv hkv).2]; exact hx)
  · rw [← e, (hkc kv hkv).2]

theorem getRec_spec {n : Node} {key : Key} {P : List Nat} {lb : Nat} (hag : agrees key P) (h : n.wf P lb = true) :
    getRec n P.length key = find (toList n) key := by
  refine (wf_rec (M := fun n P _ => agrees key P → getRec n P.length key = find (toList n) key) ?_ ?_ ?_ n P).1
    lb h hag
  · intro k v Q _ _; rfl
  · intro P lb _; rfl
  · intro c ch rest P lb h ihc ihr hag
    obtain ⟨_, heq, _, hne⟩ := wf_cons_key h hag
    rw [getRec, toList]
    split
    · next hx =>
      have := ihc (heq hx).1
      rw [List.length_append, List.length_singleton] at this
      rw [this, find_append, find_none_iff.2 (heq hx).2.ne, Option.or_none]
    · next hx => rw [ihr hag, find_append, find_none_iff.2 (hne hx), Option.none_or]

theorem wf_sorted {n : Node} {P : List Nat} {lb : Nat} (h : n.wf P lb = true) : Sorted keyLt (toList n) := by
  refine (wf_rec (M := fun n _ _ => Sorted keyLt (toList n)) ?_ ?_ ?_ n P).1 lb h
  · intro k v Q _; exact List.pairwise_singleton _ _
  · intro P lb; exact List.Pairwise.nil
  · intro c ch rest P lb h ihc ihr
    obtain ⟨hkc, hkr⟩ := wf_cons_keys h
    rw [toList, Sorted, List.pairwise_append]
    refine ⟨ihc, ihr, fun a ha b hb => ?_⟩
    exact keyLt_of_chunk (hkc a ha).1 (hkr b hb).1 (wf_cons_depth h)
      (by rw [(hkc a ha).2]; exact (hkr b hb).2)

/-- two valid keys cannot share a path of all 52 chunks: the split ends before `chunk_at` would panic -/
theorem agrees_full_eq {k1 k2 : Key} {Q : List Nat} (h1 : ValidKey k1) (h2 : ValidKey k2)
    (a1 : agrees k1 Q) (a2 : agrees k2 Q) (hl : 52 ≤ Q.length) : k1 = k2 := by
  have e : ∀ k, agrees k Q → chunks k = Q := fun k a =>
    (a.eq_of_length_le (by rw [chunks_length]; exact hl)).symm
  exact chunks_injective k1 k2 h1 h2 ((e k1 a1).trans (e k2 a2).symm)

theorem wf_cons_leaf {key : Key} {P : List Nat} {lb : Nat} {rest : Node} (v : Nat) (hag : agrees key P)
    (hd : P.length < 52) (hlb : lb ≤ chunkAt key P.length) (hr : rest.wf P (chunkAt key P.length + 1) = true) :
    Node.wf (.cons (chunkAt key P.length) (.leaf key v) rest) P lb = true :=
  wf_cons_iff.2 ⟨hlb, chunkAt_lt _ _, wfc_leaf.2 (agrees_snoc.2 ⟨hag, hd, rfl⟩), hr⟩

theorem insertRec_cons_lt {c : Nat} {ch rest : Node} {d : Nat} {key : Key} {v : Nat} (h : chunkAt key d < c) :
    insertRec (.cons c ch rest) d key v = some (.cons (chunkAt key d) (.leaf key v) (.cons c ch rest), none) := by
  rw [insertRec.eq_def]; simp only [h, if_true]

theorem insertRec_cons_gt {c : Nat} {ch rest : Node} {d : Nat} {key : Key} {v : Nat}
    (h1 : ¬ chunkAt key d < c) (h2 : ¬ chunkAt key d = c) :
    insertRec (.cons c ch rest) d key v =
      (insertRec rest d key v).map (fun r => (.cons c ch r.1, r.2)) := by
  rw [insertRec.eq_def]; simp only [h1, h2, if_false]

/-- splitting two leaves is inserting the second key into the one-entry chain the first leaf collapses from -/
theorem splitLeaves_eq_insertRec {k1 k2 : Key} (v1 v2 : Nat) {d : Nat} (hd : d < 52) (hne : k1 ≠ k2) :
    splitLeaves (numChunks - d) d k1 v1 k2 v2 =
      (insertRec (.cons (chunkAt k1 d) (.leaf k1 v1) .nil) d k2 v2).map (·.1) := by
  have e : numChunks - d = (numChunks - (d + 1)) + 1 := by rw [numChunks_eq]; omega
  rw [e, splitLeaves, insertRec]
  rcases Nat.lt_trichotomy (chunkAt k2 d) (chunkAt k1 d) with h | h | h
  · simp [h, Nat.ne_of_gt h, Nat.lt_asymm h]
  · simp [h, hne, Option.map_map, Function.comp_def]
  · simp [h, Nat.ne_of_lt h, Nat.lt_asymm h, Nat.ne_of_gt h, insertRec]

theorem insertRec_spec {n : Node} {key : Key} (v : Nat) (hk : ValidKey key) {P : List Nat} {lb : Nat}
    (hag : agrees key P) (hd : P.length < 52) (hv : ∀ kv ∈ toList n, ValidKey kv.1) (hwf : n.wf P lb = true)
    (hlb : lb ≤ chunkAt key P.length) :
    ∃ n', insertRec n P.length key v = some (n', find (toList n) key) ∧
      n'.wf P lb = true ∧ toList n' = put keyLt (toList n) key v := by
  -- along a chain by its structure; into a child by the depths left
  induction hf : 52 - P.length using Nat.strongRecOn generalizing n P lb with | _ f ih => ?_
  have down : ∀ {c : Nat}, 52 - (P ++ [c]).length < f := by
    intro c; rw [← hf, List.length_append, List.length_singleton]; omega
  induction n generalizing lb with
  | leaf k w => cases hwf
  | nil => exact ⟨_, rfl, wf_cons_leaf v hag hd hlb rfl, rfl⟩
  | cons c ch rest _ ihr =>
    obtain ⟨hlt, heq, hgt, _⟩ := wf_cons_key hwf hag
    obtain ⟨h1, h2, h3, h4⟩ := wf_cons_iff.1 hwf
    rcases Nat.lt_trichotomy (chunkAt key P.length) c with hx | hx | hx
    · -- new smallest chunk: the key goes in front of everything
      refine ⟨_, ?_, wf_cons_leaf v hag hd hlb (wf_cons_iff.2 ⟨hx, h2, h3, h4⟩),
        (put_append_left (a := []) (hlt hx)).symm⟩
      rw [insertRec_cons_lt hx, find_none_iff.2 (hlt hx).ne]
    · -- same chunk: replace the leaf, or descend; the rest of the chain lies after the key
      obtain ⟨hag', har⟩ := heq hx
      rw [toList, find_append, find_none_iff.2 har.ne, Option.or_none, put_append_left har]
      -- in each case the child `ch` is replaced by a well-formed child `sub` listing `put (toList ch)`
      have hstep : ∀ sub : Node, wfc sub (P ++ [c]) = true → toList sub = put keyLt (toList ch) key v →
          (Node.cons c sub rest).wf P lb = true ∧ toList (.cons c sub rest) = put keyLt (toList ch) key v ++ toList rest :=
        fun sub hw htl => ⟨wf_cons_iff.2 ⟨h1, h2, hw, h4⟩, by rw [← htl]; rfl⟩
      cases ch with
      | nil => cases h3
      | leaf k' v' =>
        by_cases hkk : k' = key
        · subst hkk
          refine ⟨_, ?_, hstep (.leaf k' v) (wfc_leaf.2 (wfc_leaf.1 h3)) (by simp [toList, put])⟩
          simp only [insertRec, hx, Nat.lt_irrefl, if_false, if_true, toList, find]
        · -- two valid keys differ before depth 52; insert into the chain of the one leaf
          have ha' := wfc_leaf.1 h3
          have hd' : (P ++ [c]).length < 52 := Nat.lt_of_not_le fun hl =>
            hkk (agrees_full_eq (hv _ (List.mem_append_left _ (List.mem_singleton_self _))) hk ha' hag' hl)
          obtain ⟨sub, he, hw, htl⟩ := ih _ down (n := .cons _ (.leaf k' v') .nil) hag' hd'
            (fun kv hkv => hv kv (List.mem_append_left _ (by simpa [toList] using hkv)))
            (wf_cons_leaf v' ha' hd' (Nat.zero_le _) rfl) (Nat.zero_le _) rfl
          rw [List.length_append, List.length_singleton] at he hd'
          refine ⟨_, ?_, hstep sub (wfc_of_wf hw ?_) (by rw [htl]; simp [toList])⟩
          · rw [insertRec]
            simp only [hx, Nat.lt_irrefl, if_false, if_true, hkk]
            rw [splitLeaves_eq_insertRec v' v hd' hkk, he]
            simp only [Option.map_some, toList, find, if_neg hkk, List.append_nil]
          · rw [htl]; simp only [toList, put, if_neg hkk, List.append_nil]; split <;> exact Nat.le_refl 2
      | cons c' ch' rest' =>
        have hw3 := (wfc_cons.1 h3).1
        obtain ⟨sub, he, hw, htl⟩ := ih _ down hag' (wf_cons_depth hw3)
          (fun kv hkv => hv kv (List.mem_append_left _ hkv)) hw3 (Nat.zero_le _) rfl
        rw [List.length_append, List.length_singleton] at he
        refine ⟨_, ?_, hstep sub (wfc_of_wf hw ?_) htl⟩
        · simp only [insertRec, hx, Nat.lt_irrefl, if_false, if_true, he, Option.map_some]
        · -- the child held two entries and lost none
          have := wfc_two h3
          have := length_put _ key v (wf_sorted hw3)
          rw [← htl] at this
          split at this <;> omega
    · -- larger chunk: continue along the chain; the child lies before the key
      obtain ⟨r', he, hw, htl⟩ := ihr (fun kv hkv => hv kv (List.mem_append_right _ hkv)) h4 hx
      refine ⟨.cons c ch r', ?_, wf_cons_iff.2 ⟨h1, h2, h3, hw⟩, ?_⟩
      · rw [insertRec_cons_gt (Nat.lt_asymm hx) (Nat.ne_of_gt hx), he, Option.map_some, toList,
          find_append, find_none_iff.2 (hgt hx).ne, Option.none_or]
      · rw [toList, htl, toList, put_append_right (hgt hx)]

theorem removeRec_cons_ne {c : Nat} {ch rest : Node} {d : Nat} {key : Key} (h : ¬ chunkAt key d = c) :
    removeRec (.cons c ch rest) d key = (.cons c ch (removeRec rest d key).1, (removeRec rest d key).2) := by
  rw [removeRec.eq_def]; simp only [h, if_false]

theorem collapse_toList (n : Node) : toList (collapse n) = toList n := by
  unfold collapse
  split
  · exact (List.append_nil _).symm
  · rfl

theorem collapse_of_not_single (n : Node) (h : singleLeaf n = false) : collapse n = n := by
  unfold collapse
  split
  · cases h
  · rfl

theorem wfc_collapse {sub : Node} {Q : List Nat} (h : sub.wf Q 0 = true) (hl : 1 ≤ (toList sub).length) :
    wfc (collapse sub) Q = true := by
  cases hs : singleLeaf sub with
  | true =>
    obtain ⟨c, k, v, rfl⟩ := singleLeaf_inv sub hs
    exact wfc_leaf.2 ((wf_keys _ Q).1 0 h (k, v) (List.mem_cons_self ..)).1
  | false =>
    cases sub with
    | leaf k w => cases h
    | nil => cases hl
    | cons c ch r => rw [collapse_of_not_single _ hs]; exact wfc_cons.2 ⟨h, hs⟩

theorem removeRec_spec {n : Node} {key : Key} {P : List Nat} {lb : Nat} (hag : agrees key P)
    (hwf : n.wf P lb = true) :
    ∃ n', removeRec n P.length key = (n', find (toList n) key) ∧ toList n' = del (toList n) key ∧
      n'.wf P lb = true := by
  induction n generalizing P lb with
  | leaf k w => cases hwf
  | nil => exact ⟨_, rfl, rfl, rfl⟩
  | cons c ch rest ihc ihr =>
    obtain ⟨_, heq, _, hne⟩ := wf_cons_key hwf hag
    obtain ⟨h1, h2, h3, h4⟩ := wf_cons_iff.1 hwf
    by_cases hx : chunkAt key P.length = c
    · -- the rest of the chain lies after the key; a child without the key leaves the chain as it is
      obtain ⟨hag', har⟩ := heq hx
      rw [toList, find_append, find_none_iff.2 har.ne, Option.or_none, del_append, del_of_not_mem har.ne]
      cases ch with
      | nil => cases h3
      | leaf k' v' =>
        by_cases hkk : k' = key
        · subst hkk
          exact ⟨rest, by simp [removeRec, hx, toList, find], by simp [del, toList], wf_mono h4 (by omega)⟩
        · exact ⟨_, by simp only [removeRec, hx, if_true, hkk, if_false, toList, find],
            by simp [del, toList, hkk], hwf⟩
      | cons c' ch' rest' =>
        obtain ⟨sub, e, i2, i3⟩ := ihc hag' (wfc_cons.1 h3).1
        rw [List.length_append, List.length_singleton] at e
        cases hf : find (toList (.cons c' ch' rest')) key with
        | none =>
          rw [hf] at e
          exact ⟨_, by simp only [removeRec, hx, if_true, e], by rw [del_of_not_mem (find_none_iff.1 hf)]; rfl, hwf⟩
        | some old =>
          rw [hf] at e
          refine ⟨.cons c (collapse sub) rest, by simp only [removeRec, hx, if_true, e], ?_,
            wf_cons_iff.2 ⟨h1, h2, wfc_collapse i3 ?_, h4⟩⟩
          · rw [toList, collapse_toList, i2]
          · -- the child held two entries and lost one
            have := wfc_two h3
            have := length_del _ key (wf_sorted (wfc_cons.1 h3).1)
            rw [← i2] at this
            split at this <;> omega
    · obtain ⟨r', e, i2, i3⟩ := ihr hag h4
      refine ⟨.cons c ch r', ?_, ?_, wf_cons_iff.2 ⟨h1, h2, h3, i3⟩⟩
      · rw [removeRec_cons_ne hx, e, toList, find_append, find_none_iff.2 (hne hx), Option.none_or]
      · rw [toList, toList, del_append, del_of_not_mem (hne hx), i2]

theorem append_sep {α : Type} (p : α → Bool) {A B A' B' : List α} (h : A ++ B = A' ++ B')
    (hA : ∀ x ∈ A, p x = true) (hA' : ∀ x ∈ A', p x = true)
    (hB : ∀ x ∈ B, p x = false) (hB' : ∀ x ∈ B', p x = false) : A = A' ∧ B = B' := by
  have key : ∀ A B : List α, (∀ x ∈ A, p x = true) → (∀ x ∈ B, p x = false) → (A ++ B).filter p = A :=
    fun A B hA hB => by
      rw [List.filter_append, List.filter_eq_self.2 hA, List.filter_eq_nil_iff.2 (by simpa using hB),
        List.append_nil]
  have e : A = A' := by rw [← key A B hA hB, h, key A' B' hA' hB']
  subst e
  exact ⟨rfl, List.append_cancel_left h⟩

theorem canonical_aux (n1 : Node) : ∀ (n2 : Node) (P : List Nat),
    (∀ lb1 lb2, n1.wf P lb1 = true → n2.wf P lb2 = true → toList n1 = toList n2 → n1 = n2) ∧
    (wfc n1 P = true → wfc n2 P = true → toList n1 = toList n2 → n1 = n2) := by
  induction n1 with
  | leaf k v =>
    intro n2 P
    refine ⟨fun _ _ h => (nomatch h), fun _ h2 he => ?_⟩
    cases n2 with
    | leaf k2 v2 => rw [toList, toList, List.cons.injEq, Prod.mk.injEq] at he; rw [he.1.1, he.1.2]
    | nil => cases h2
    | cons c2 ch2 r2 =>
      have := wfc_two h2
      rw [← he] at this; exact absurd this (Nat.lt_irrefl 1)
  | nil =>
    intro n2 P
    refine ⟨fun lb1 lb2 _ h2 he => ?_, fun h => (by cases h)⟩
    cases n2 with
    | leaf k2 v2 => cases h2
    | nil => rfl
    | cons c2 ch2 r2 =>
      obtain ⟨a, t, hm⟩ := wfc_ne_nil (wf_cons_iff.1 h2).2.2.1
      rw [toList, toList, hm] at he; cases he
  | cons c ch rest ihc ihr =>
    intro n2 P
    have hwf : ∀ lb1 lb2, Node.wf (.cons c ch rest) P lb1 = true → n2.wf P lb2 = true →
        toList (.cons c ch rest) = toList n2 → .cons c ch rest = n2 := by
      intro lb1 lb2 h1 h2 he
      obtain ⟨k1c, k1r⟩ := wf_cons_keys h1
      obtain ⟨_, _, h13, h14⟩ := wf_cons_iff.1 h1
      obtain ⟨a, t, hm⟩ := wfc_ne_nil h13
      cases n2 with
      | leaf k2 v2 => cases h2
      | nil => rw [toList, toList, hm] at he; cases he
      | cons c2 ch2 r2 =>
        obtain ⟨k2c, k2r⟩ := wf_cons_keys h2
        obtain ⟨_, _, h23, h24⟩ := wf_cons_iff.1 h2
        rw [toList, toList] at he
        -- the first entry fixes the chunk
        have hc : c = c2 := by
          obtain ⟨a2, t2, hm2⟩ := wfc_ne_nil h23
          have e1 := (k1c a (by rw [hm]; exact List.mem_cons_self ..)).2
          have e2 := (k2c a2 (by rw [hm2]; exact List.mem_cons_self ..)).2
          rw [hm, hm2, List.cons_append, List.cons_append, List.cons.injEq] at he
          rw [← e1, ← e2, he.1]
        subst hc
        -- and separates the child's entries from the rest's
        obtain ⟨ec, er⟩ := append_sep (fun kv : Key × Nat => decide (chunkAt kv.1 P.length = c)) he
          (fun x hx => decide_eq_true (k1c x hx).2) (fun x hx => decide_eq_true (k2c x hx).2)
          (fun x hx => decide_eq_false (Nat.ne_of_gt (k1r x hx).2))
          (fun x hx => decide_eq_false (Nat.ne_of_gt (k2r x hx).2))
        rw [(ihc ch2 (P ++ [c])).2 h13 h23 ec, (ihr r2 P).1 (c + 1) (c + 1) h14 h24 er]
    refine ⟨hwf, fun h1 h2 he => ?_⟩
    cases n2 with
    | leaf k2 v2 =>
      have := wfc_two h1
      rw [he] at this; exact absurd this (Nat.lt_irrefl 1)
    | nil => cases h2
    | cons c2 ch2 r2 => exact hwf 0 0 (wfc_cons.1 h1).1 (wfc_cons.1 h2).1 he

end AgModel.Trie
