import AgModel.Proofs.PoolBasic
/-! What one evaluation of `check_safe_to_notar` decides and what it does to `pending` / `sent`. -/
namespace AgModel.Pool

def stakeClause (e : Epoch) (st : SlotState) (h : Nat) : Bool :=
  e.isWeakest (lookupD st.sNotar h) && (e.isWeak (lookupD st.sNotar h) || e.isQuorum (lookupD st.sNotar h + st.sSkip))

/-- the node voted in the slot, but not to notarize `h` -/
def ownVotedNot (e : Epoch) (st : SlotState) (h : Nat) : Bool :=
  st.vSkip.contains e.own || (match st.vNotar.lookup e.own with | some h' => h' != h | none => false)

def S2NCond (e : Epoch) (st : SlotState) (h : Nat) : Prop :=
  stakeClause e st h = true ∧ st.parents.lookup h = some true ∧ ownVotedNot e st h = true

instance (e : Epoch) (st : SlotState) (h : Nat) : Decidable (S2NCond e st h) := by
  unfold S2NCond; infer_instance

/-- the node has not cast its initial vote in this slot -/
def ownNone (e : Epoch) (st : SlotState) : Bool := !st.vSkip.contains e.own && (st.vNotar.lookup e.own).isNone

/-- the condition cannot hold yet, but a later skip vote (stake clause) or the node's own vote (own-vote clause) alone can
    complete it; `check_safe_to_notar` then queues the block in `pending` -/
def queued (e : Epoch) (st : SlotState) (h : Nat) : Prop :=
  e.isWeakest (lookupD st.sNotar h) = true ∧
    (stakeClause e st h = false ∨ (st.parents.lookup h = some true ∧ ownNone e st = true))

instance (e : Epoch) (st : SlotState) (h : Nat) : Decidable (queued e st h) := by
  unfold queued; infer_instance

theorem weakest_of_clause {e : Epoch} {st : SlotState} {h : Nat} (c : stakeClause e st h = true) :
    e.isWeakest (lookupD st.sNotar h) = true :=
  (Bool.and_eq_true _ _ ▸ c : _ ∧ _).1

theorem checkS2N_spec (e : Epoch) (st : SlotState) (h : Nat) :
    (st.checkS2N e h).1 =
      (if S2NCond e st h then { st with pending := st.pending.erase h, sent := insertSet st.sent h }
       else if queued e st h then { st with pending := insertSet st.pending h }
       else st) ∧
    ((st.checkS2N e h).2 = .safe ↔ S2NCond e st h) := by
  unfold SlotState.checkS2N S2NCond queued stakeClause ownVotedNot ownNone
  dsimp only
  by_cases hw : e.isWeakest (lookupD st.sNotar h) = true
  · by_cases hk : (e.isWeak (lookupD st.sNotar h) || e.isQuorum (lookupD st.sNotar h + st.sSkip)) = true
    · have : (!e.isWeak (lookupD st.sNotar h) && !e.isQuorum (lookupD st.sNotar h + st.sSkip)) = false := by
        rw [← Bool.not_or, hk]; rfl
      simp only [hw, hk, this, Bool.not_true, Bool.false_eq_true, if_false, Bool.and_self, true_and]
      cases hp : st.parents.lookup h with
      | none => simp
      | some b =>
        cases b with
        | false => simp
        | true =>
          by_cases hs : e.own ∈ st.vSkip
          · simp [hs]
          · cases hl : st.vNotar.lookup e.own with
            | none => simp [hs]
            | some h' => by_cases hne : h' = h <;> simp [hs, hne]
    · have : (!e.isWeak (lookupD st.sNotar h) && !e.isQuorum (lookupD st.sNotar h + st.sSkip)) = true := by
        rw [← Bool.not_or, Bool.eq_false_iff.mpr hk]; rfl
      simp [hw, hk, this]
  · simp [hw]

theorem checkS2N_safe_iff (e : Epoch) (st : SlotState) (h : Nat) :
    ((st.checkS2N e h).2 = .safe ↔ S2NCond e st h) ∧
    ((st.checkS2N e h).2 = .safe → (st.checkS2N e h).1.sent = insertSet st.sent h) ∧
    ((st.checkS2N e h).2 ≠ .safe → (st.checkS2N e h).1.sent = st.sent) := by
  obtain ⟨hst, hiff⟩ := checkS2N_spec e st h
  refine ⟨hiff, fun hr => ?_, fun hr => ?_⟩
  · rw [hst, if_pos (hiff.mp hr)]
  · rw [hst, if_neg (fun c => hr (hiff.mpr c))]
    split <;> rfl

theorem checkS2N_writes (e : Epoch) (st : SlotState) (h : Nat) :
    ∃ p s, (st.checkS2N e h).1 = { st with pending := p, sent := s } := by
  rw [(checkS2N_spec e st h).1]
  split
  · exact ⟨_, _, rfl⟩
  · split <;> exact ⟨_, _, rfl⟩

end AgModel.Pool
