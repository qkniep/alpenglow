import AgModel.Model.Sampler
/-! Lemmas on the FA1 seats and on the decaying-acceptance replay for `Props/C17.lean` (core Lean only). -/
namespace AgModel.Sampler

theorem sum_div_le (T : Nat) (hT : 0 < T) (l : List Nat) : (l.map (· / T)).sum ≤ l.sum / T := by
  induction l with
  | nil => exact Nat.zero_le _
  | cons a l ih =>
    rw [List.map_cons, List.sum_cons, List.sum_cons, Nat.le_div_iff_mul_le hT, Nat.add_mul]
    exact Nat.add_le_add (Nat.div_mul_le_self a T) ((Nat.le_div_iff_mul_le hT).mp ih)

theorem sum_map_mul (k : Nat) (l : List Nat) : (l.map (· * k)).sum = l.sum * k := by
  induction l with
  | nil => simp
  | cons a l ih => simp [ih, Nat.add_mul]

theorem requiredFrom_length (T k i : Nat) (l : List Nat) :
    (requiredFrom T k i l).length = (l.map (seats T k)).sum := by
  induction l generalizing i with
  | nil => rfl
  | cons s l ih => simp [requiredFrom, ih]

/-- Positions past the end of `l` need no case of their own: `getD` answers stake 0, which has no seats. -/
theorem requiredFrom_count (T k i : Nat) (l : List Nat) (v : Nat) :
    (requiredFrom T k i l).count v = if i ≤ v then seats T k (l.getD (v - i) 0) else 0 := by
  induction l generalizing i with
  | nil => simp [requiredFrom, seats]
  | cons s l ih =>
    rw [requiredFrom, List.count_append, List.count_replicate, ih]
    rcases Nat.lt_trichotomy i v with h | rfl | h
    · rw [if_neg (fun e => Nat.ne_of_lt h (beq_iff_eq.mp e)), if_pos (Nat.succ_le_of_lt h),
        if_pos (Nat.le_of_lt h), Nat.zero_add, show v - i = v - (i + 1) + 1 from (Nat.succ_pred_eq_of_pos (Nat.sub_pos_of_lt h)).symm,
        List.getD_cons_succ]
    · rw [if_pos (beq_self_eq_true i), if_neg (Nat.not_succ_le_self i), if_pos (Nat.le_refl i), Nat.sub_self]
      rfl
    · rw [if_neg (fun e => Nat.ne_of_gt h (beq_iff_eq.mp e)), if_neg (Nat.not_le_of_gt (Nat.lt_succ_of_lt h)),
        if_neg (Nat.not_le_of_gt h)]

theorem required_count (stakes : List Nat) (k v : Nat) :
    (required stakes k).count v = seats (total stakes) k (stakes.getD v 0) := by
  rw [required, requiredFrom_count, if_pos (Nat.zero_le v), Nat.sub_zero]

theorem count_le_of_take_eq (c req : List Nat) (h : c.take req.length = req) (v : Nat) : req.count v ≤ c.count v := by
  have := List.Sublist.count_le v (List.take_sublist req.length c)
  rwa [h] at this

theorem floor_of_prefix (stakes : List Nat) (k : Nat) (c : List Nat)
    (hp : c.take (required stakes k).length = required stakes k) :
    floorGuarantee stakes k c = true := by
  unfold floorGuarantee
  simp only [List.all_eq_true, List.mem_range, decide_eq_true_eq]
  intro v _
  rw [← required_count]
  exact count_le_of_take_eq c _ hp v

theorem decayAccept_spec {num den : Nat} (hden : 0 < den) {counts counts' : List Nat} {v : Nat}
    (h : decayAccept num den counts v = some counts') (hv : v < counts.length) :
    counts.getD v 0 < capOf num den ∧ counts'.length = counts.length ∧
      ∀ w, counts'.getD w 0 = counts.getD w 0 + if v = w then 1 else 0 := by
  unfold decayAccept at h
  split at h
  · rename_i hlt
    injection h with h; subst h
    refine ⟨?_, List.length_set, fun w => ?_⟩
    · show counts.getD v 0 + 1 ≤ (num + den - 1) / den
      rw [Nat.le_div_iff_mul_le hden, Nat.add_mul, Nat.one_mul]
      exact Nat.le_sub_one_of_lt (Nat.add_lt_add_right hlt den)
    · simp only [List.getD_eq_getElem?_getD, List.getElem?_set]
      by_cases hvw : v = w
      · subst hvw; simp [hv]
      · simp [hvw]
  · cases h

theorem decayReplay_spec {num den : Nat} (hden : 0 < den) {c : List Nat} : ∀ {counts counts' : List Nat},
    decayReplay num den counts c = some counts' → (∀ v ∈ c, v < counts.length) →
      (∀ w, counts.getD w 0 ≤ capOf num den) →
      ∀ w, counts'.getD w 0 = counts.getD w 0 + c.count w ∧ counts'.getD w 0 ≤ capOf num den := by
  induction c with
  | nil => intro counts counts' h _ hb w; cases h; exact ⟨rfl, hb w⟩
  | cons v vs ih =>
    intro counts counts' h hlt hb w
    rw [decayReplay] at h
    cases ha : decayAccept num den counts v with
    | none => rw [ha] at h; cases h
    | some c1 =>
      rw [ha] at h
      obtain ⟨hv, hvs⟩ := List.forall_mem_cons.mp hlt
      obtain ⟨hcap, hl, hc⟩ := decayAccept_spec hden ha hv
      obtain ⟨h1, h2⟩ := ih h (fun u hu => hl ▸ hvs u hu)
        (fun u => by
          rw [hc u]; split
          · subst_vars; exact hcap
          · exact hb u) w
      refine ⟨?_, h2⟩
      rw [h1, hc w, List.count_cons, Nat.add_assoc, Nat.add_comm (vs.count w)]
      simp only [beq_iff_eq]

end AgModel.Sampler
