import AgModel.Proofs.Votor
/-!
# C05 helpers, part 2: votes are only ever cast for retained slots; the asserts

`Ext v v'`: `v'` is reached from `v` by logging items whose votes are all for slots that `v` still
retains (`firstUnpruned ≤ slot`), and `highest_final_cert_slot` did not decrease. Needs no invariant:
every vote in votor.rs is cast behind a `firstUnpruned ≤ slot` guard (filter or assert), which `Acts.emit` records.

The asserts: the slot map only has retained keys (`Keys`, kept by every act), so the pending blocks are in retained slots and
no `slot >= first_unpruned_slot()` assert can fire; `set_timeouts`' assert is the assumption `Event.wellFormed`.

Last, what the invariant `Inv` says about a vote that is in the log, for any state that has it (the statements of `Props/C05.lean`
are these at `run init es`; the cluster refinement uses them at the Votor of a node).
-/
namespace AgModel.Votor

def Ext (v v' : V) : Prop :=
  v.hfcs ≤ v'.hfcs ∧ ∃ xs, v'.log = xs ++ v.log ∧ ∀ x ∈ xs, ∀ s, x.voteSlot = some s → v.firstUnpruned ≤ s

theorem Ext.refl (v : V) : Ext v v := ⟨Nat.le_refl _, [], rfl, by simp⟩

theorem Ext.trans {a b c : V} (h1 : Ext a b) (h2 : Ext b c) : Ext a c := by
  obtain ⟨l1, xs, e1, q1⟩ := h1
  obtain ⟨l2, ys, e2, q2⟩ := h2
  refine ⟨Nat.le_trans l1 l2, ys ++ xs, by rw [e2, e1]; simp, ?_⟩
  intro x hx s hs
  rcases List.mem_append.mp hx with hx | hx
  · have := q2 x hx s hs
    have hm : a.firstUnpruned ≤ b.firstUnpruned := firstInWindow_mono l1
    omega
  · exact q1 x hx s hs

theorem Ext.logEv (v : V) (e : Event) : Ext v (v.logEv e) :=
  ⟨Nat.le_refl _, [.ev e], rfl, fun x hx s hs => by rw [List.mem_singleton.mp hx] at hs; cases hs⟩

/-- **What a sequence of effects does to the log**: it puts broadcasts in front, the votes among them for slots that were
    retained at the start; `highest_final_cert_slot` is not lowered. -/
theorem Acts.grows {P A : Prop} {v w : V} (h : Acts P A v w) :
    v.hfcs ≤ w.hfcs ∧ ∃ xs, w.log = xs ++ v.log ∧
      ∀ x ∈ xs, (∃ o, x = .out o) ∧ ∀ s, x.voteSlot = some s → v.firstUnpruned ≤ s := by
  induction h with
  | trans _ _ h1 h2 =>
    obtain ⟨l1, xs, e1, q1⟩ := h1
    obtain ⟨l2, ys, e2, q2⟩ := h2
    refine ⟨Nat.le_trans l1 l2, ys ++ xs, by rw [e2, e1, List.append_assoc], fun x hx => ?_⟩
    rcases List.mem_append.mp hx with hx | hx
    · exact ⟨(q2 x hx).1, fun s hs => Nat.le_trans (firstInWindow_mono l1) ((q2 x hx).2 s hs)⟩
    · exact q1 x hx
  | emit v o h =>
    exact ⟨Nat.le_refl _, [.out o], rfl, fun x hx => by
      rw [List.mem_singleton.mp hx]; exact ⟨⟨o, rfl⟩, fun s hs => (h s hs).1⟩⟩
  | raise v slot _ => exact ⟨Nat.le_max_left _ _, [], rfl, fun _ h => nomatch h⟩
  | _ => exact ⟨Nat.le_refl _, [], rfl, fun _ h => nomatch h⟩

theorem Acts.ext {P A : Prop} {v w : V} (h : Acts P A v w) : Ext v w :=
  let ⟨l, xs, e, q⟩ := h.grows
  ⟨l, xs, e, fun x hx => (q x hx).2⟩

theorem Acts.outs {P A : Prop} {v w : V} (h : Acts P A v w) : ∃ xs, w.log = xs ++ v.log ∧ ∀ x ∈ xs, ∃ o, x = .out o :=
  let ⟨_, xs, e, q⟩ := h.grows
  ⟨xs, e, fun x hx => (q x hx).1⟩

theorem Ext.step (v : V) (e : Event) : Ext v (step v e) :=
  step_ind (C := Ext v) v e (Ext.refl v) (Ext.logEv v e) fun hi => (Ext.logEv v e).trans (Acts.handle _ e hi (.inl trivial)).ext

theorem Ext.run (es : List Event) (v : V) : Ext v (run v es) := by
  induction es generalizing v with
  | nil => exact Ext.refl v
  | cons e es ih => exact (Ext.step v e).trans (ih _)

theorem step_log_sub (v : V) (e : Event) : ∀ x ∈ v.log, x ∈ (step v e).log :=
  let ⟨_, _, hl, _⟩ := Ext.step v e
  fun _ hx => hl ▸ List.mem_append_right _ hx

theorem run_append (es es' : List Event) (v : V) : run v (es ++ es') = run (run v es) es' := by
  induction es generalizing v with
  | nil => rfl
  | cons e es ih => exact ih (step v e)

/-! ## history predicates along the log -/

theorem Hist.mono {P P' : Item → List Item → Prop} (hpp : ∀ x past, P x past → P' x past) {l : List Item}
    (h : Hist P l) : Hist P' l := by
  induction l with
  | nil => trivial
  | cons x t ih => exact ⟨hpp _ _ h.1, ih h.2⟩

theorem Hist.prepend_outs {P : Item → List Item → Prop} (hout : ∀ o past, P (.out o) past) (xs : List Item)
    {l : List Item} (hx : ∀ x ∈ xs, ∃ o, x = .out o) (h : Hist P l) : Hist P (xs ++ l) := by
  induction xs with
  | nil => exact h
  | cons x t ih =>
    obtain ⟨o, rfl⟩ := hx _ List.mem_cons_self
    exact ⟨hout o _, ih fun y hy => hx y (List.mem_cons_of_mem _ hy)⟩

/-! ## the asserts -/

theorem Keys.init : Keys init := fun k _ _ => by simp [V.firstUnpruned, firstInWindow, Votor.init]

theorem Keys.step {v : V} (k : Keys v) (e : Event) : Keys (Votor.step v e) :=
  step_ind (C := Keys) v e k k fun hi => (Acts.handle _ e hi (.inl trivial)).keys k

theorem Keys.step_panicked {v : V} (k : Keys v) (e : Event) (hwf : e.wellFormed) :
    (Votor.step v e).panicked = v.panicked :=
  step_ind (C := fun w => w.panicked = v.panicked) v e rfl rfl fun hi =>
    (Acts.handle (v.logEv e) e hi (.inr ⟨k, hwf⟩)).panicked

theorem Keys.run_panicked (es : List Event) {v : V} (k : Keys v) (hwf : ∀ e ∈ es, e.wellFormed) :
    (run v es).panicked = v.panicked := by
  induction es generalizing v with
  | nil => rfl
  | cons e es ih =>
    show (run (Votor.step v e) es).panicked = _
    rw [ih (k.step e) (fun e' he' => hwf e' (by simp [he'])), k.step_panicked e (hwf e (by simp))]

/-! ## what the C05 invariant says about a vote in the log of a Votor, in membership form -/

theorem Hist.of_mem {P : Item → List Item → Prop} {l : List Item} (h : Hist P l) {x : Item} (hx : x ∈ l) :
    ∃ b, (∀ y ∈ b, y ∈ l) ∧ P x b := by
  obtain ⟨a, b, hab⟩ := List.append_of_mem hx
  exact ⟨b, fun y hy => hab ▸ List.mem_append_right _ (List.mem_cons_of_mem _ hy), h.split a x b hab⟩

variable {v : V} (hv : Inv none v)
include hv

theorem Inv.notar_mem {s h ps ph : Nat} (hm : .out (.notar s h ps ph) ∈ v.log) :
    .ev (.block s ⟨h, ps, ph⟩) ∈ v.log ∧
    (if s % W = 0 then .ev (.parentReady s ps ph) ∈ v.log
     else ps + 1 = s ∧ ((ps = 0 ∧ ph = 0) ∨ ∃ ps' ph', .out (.notar ps ph ps' ph') ∈ v.log)) := by
  obtain ⟨b, hsub, h1, h2⟩ := hv.hist.of_mem hm
  refine ⟨hsub _ h1, ?_⟩
  by_cases hw : s % W = 0
  · rw [if_pos hw] at h2 ⊢; exact hsub _ h2
  · rw [if_neg hw] at h2 ⊢
    exact ⟨h2.1, h2.2.imp_right fun ⟨ps', ph', hm'⟩ => ⟨ps', ph', hsub _ hm'⟩⟩

theorem Inv.final_mem {s : Nat} (hm : .out (.final s) ∈ v.log) :
    ∃ h, ((s = 0 ∧ h = 0) ∨ ∃ ps ph, .out (.notar s h ps ph) ∈ v.log) ∧
         ((s = 0 ∧ h = 0) ∨ .ev (.cert .notar s h) ∈ v.log) := by
  obtain ⟨b, hsub, h, h1, h2⟩ := hv.hist.of_mem hm
  exact ⟨h, h1.imp_right fun ⟨ps, ph, hm'⟩ => ⟨ps, ph, hsub _ hm'⟩, h2.imp_right (hsub _)⟩

theorem Inv.nf_mem {s h : Nat} (hm : .out (.notarFallback s h) ∈ v.log) : .ev (.safeToNotar s h) ∈ v.log := by
  obtain ⟨b, hsub, rest, hb⟩ := hv.hist.of_mem hm
  exact hsub _ (hb ▸ List.mem_cons_self)

theorem Inv.sf_mem {s : Nat} (hm : .out (.skipFallback s) ∈ v.log) : .ev (.safeToSkip s) ∈ v.log := by
  obtain ⟨b, hsub, rest, hb⟩ := hv.hist.of_mem hm
  exact hsub _ (hb ▸ List.mem_cons_self)

omit hv

theorem Inv.init_unique {ex : Option Nat} {v : V} (hv : Inv ex v) (s : Nat) (x y : Item) (hx : x ∈ v.log) (hy : y ∈ v.log)
    (px : x.isInit s = true) (py : y.isInit s = true) : x = y := by
  have h1 := hv.once s
  -- around an occurrence of `x` there is no room for another initial vote
  obtain ⟨a, b, hab⟩ := List.append_of_mem hx
  rw [hab] at hy h1
  rw [List.countP_append, List.countP_cons, if_pos px] at h1
  rcases List.mem_append.mp hy with hy | hy
  · exact absurd py (List.countP_eq_zero.mp (by omega : a.countP (·.isInit s) = 0) y hy)
  · rcases List.mem_cons.mp hy with rfl | hy
    · rfl
    · exact absurd py (List.countP_eq_zero.mp (by omega : b.countP (·.isInit s) = 0) y hy)

theorem Inv.no_final_bad {ex : Option Nat} {v : V} (hv : Inv ex v) (s : Nat) (hf : .out (.final s) ∈ v.log) :
    .out (.skip s) ∉ v.log ∧ .out (.skipFallback s) ∉ v.log ∧ ∀ h, .out (.notarFallback s h) ∉ v.log := by
  have hc := hv.finalClean s ⟨_, hf, by simp [Item.isFinal]⟩
  refine ⟨fun h => ?_, fun h => ?_, fun hh h => ?_⟩ <;> simpa [Item.isBad] using hc _ h

end AgModel.Votor

/-!
### a correct node never votes in the genesis slot

`Votor::new` creates slot 0 voted (`voted = true`, `voted_notar = Some(GENESIS)`) and retired. `Zero v`: as long as slot 0
is retained its state stays voted and retired, and the only vote for slot 0 the log can contain is the finalize vote
(`try_final(0, GENESIS)` is reachable through a notarization certificate for the genesis block). Needed by the cluster
refinement (C01): the derived history has no skip / fallback vote and no notarization vote of a correct node in slot 0.
-/
namespace AgModel.Votor

def Zero (v : V) : Prop :=
  (v.firstUnpruned = 0 → (v.getS 0).voted = true ∧ (v.getS 0).retired = true) ∧
  ∀ x ∈ v.log, x.voteSlot = some 0 → x = .out (.final 0)

theorem Zero.logEv {v : V} (h : Zero v) (e : Event) : Zero (v.logEv e) := by
  refine ⟨h.1, fun x hx hs => ?_⟩
  rcases List.mem_cons.mp hx with rfl | hx
  · cases hs
  · exact h.2 x hx hs

/-- The guards of `Acts` are what is needed: flags are only raised, and a vote other than the finalization vote is cast only
    for a retained slot that is unvoted or not retired, which slot 0 never is while retained. -/
theorem Acts.zero {P A : Prop} {v w : V} (h : Acts P A v w) (hz : Zero v) : Zero w := by
  induction h with
  | refl => exact hz
  | trans _ _ h1 h2 => exact h2 (h1 hz)
  | upd v s f _ hf =>
    refine ⟨fun hfu => ?_, hz.2⟩
    have h0 := hz.1 hfu
    by_cases hs : s = 0
    · subst hs; rw [getS_upd_self]; exact ⟨(hf _).1 h0.1, (hf _).2 h0.2⟩
    · rw [getS_upd_ne v s 0 f hs]; exact h0
  | panic => exact hz
  | emit v o h =>
    refine ⟨hz.1, fun x hx hs => ?_⟩
    rcases List.mem_cons.mp hx with rfl | hx
    · obtain ⟨hfu, hwhy⟩ := h 0 hs
      have h0 := hz.1 (Nat.le_zero.mp hfu)
      rcases hwhy with rfl | hv | hr
      · rfl
      · rw [h0.1] at hv; cases hv
      · rw [h0.2] at hr; cases hr
    · exact hz.2 x hx hs
  | raise v slot _ =>
    refine ⟨fun hfu => ?_, hz.2⟩
    have hfu' : firstInWindow (max v.hfcs slot) = 0 := hfu
    have hle : v.firstUnpruned ≤ firstInWindow (max v.hfcs slot) := firstInWindow_mono (Nat.le_max_left _ _)
    rw [getS_raisePrune, hfu', if_pos (Nat.le_refl 0)]; exact hz.1 (by omega)

theorem Zero.step {v : V} (h : Zero v) (e : Event) : Zero (step v e) :=
  step_ind (C := Zero) v e h (h.logEv e) fun hi => (Acts.handle _ e hi (.inl trivial)).zero (h.logEv e)

theorem Zero.init : Zero init := by
  refine ⟨fun _ => ⟨rfl, rfl⟩, ?_⟩
  intro x hx hs
  simp only [Votor.init, List.mem_singleton] at hx
  subst hx
  simp [Item.voteSlot] at hs

theorem Zero.run (es : List Event) {v : V} (h : Zero v) : Zero (run v es) := by
  induction es generalizing v with
  | nil => exact h
  | cons e es ih => exact ih (h.step e)

/-- **No vote in the genesis slot**: for every event list, the only vote for slot 0 a Votor ever casts is the finalize vote
    (after a notarization certificate for the genesis block): no notarization, skip or fallback vote for slot 0. -/
theorem no_vote_in_slot_zero (es : List Event) (x : Item) (hx : x ∈ (Votor.run Votor.init es).log)
    (hs : x.voteSlot = some 0) : x = .out (.final 0) :=
  (Zero.init.run es).2 x hx hs

end AgModel.Votor
