import AgModel.Props.C03
/-!
C01 cluster refinement, pool side: everything a pool stores is *signed*. `SigLog` abstracts "which validator has signed
which vote" (for a correct validator: what its own Votor broadcast; for a Byzantine one: anything). Relative to a
`SigLog S` that contains every vote delivered to the pool and backs every certificate delivered to it, every vote stored
in a slot state is signed (`QV`), and every certificate held by a slot state is of the kind and slot of the field that
holds it and backed (`QC`, `CertBacked`): every signer listed in it signed the vote the certificate type binds that
aggregate to, and the *distinct* stake of the listed signers meets the type's threshold (what `ValidatedCert::try_new`
checks, C09 `cert_admitted_iff`). A certificate created from stored votes (`Justified`, C03) is backed
(`CertBacked.of_justified`). The invariant along the pool operations is in `PoolSignedStep`.
-/
namespace AgModel.Pool

/-- who signed what: signer, slot, (hash) -/
structure SigLog where
  notar : Nat → Nat → Nat → Prop
  nf : Nat → Nat → Nat → Prop
  skip : Nat → Nat → Prop
  sf : Nat → Nat → Prop
  fin : Nat → Nat → Prop

structure SigLog.le (S S' : SigLog) : Prop where
  notar : ∀ j s h, S.notar j s h → S'.notar j s h
  nf : ∀ j s h, S.nf j s h → S'.nf j s h
  skip : ∀ j s, S.skip j s → S'.skip j s
  sf : ∀ j s, S.sf j s → S'.sf j s
  fin : ∀ j s, S.fin j s → S'.fin j s

variable {S S' : SigLog} {e : Epoch}

theorem SigLog.le.refl (S : SigLog) : S.le S := ⟨fun _ _ _ h => h, fun _ _ _ h => h, fun _ _ h => h, fun _ _ h => h, fun _ _ h => h⟩

theorem SigLog.le.trans {A B C : SigLog} (h1 : A.le B) (h2 : B.le C) : A.le C :=
  ⟨fun j s h x => h2.notar j s h (h1.notar j s h x), fun j s h x => h2.nf j s h (h1.nf j s h x),
   fun j s x => h2.skip j s (h1.skip j s x), fun j s x => h2.sf j s (h1.sf j s x), fun j s x => h2.fin j s (h1.fin j s x)⟩

def SigLog.holds (S : SigLog) (v : Vote) : Prop :=
  match v.kind with
  | .notar => S.notar v.signer v.slot v.hash
  | .nf => S.nf v.signer v.slot v.hash
  | .skip => S.skip v.signer v.slot
  | .sf => S.sf v.signer v.slot
  | .final => S.fin v.signer v.slot

structure QV (S : SigLog) (st : SlotState) : Prop where
  notar : ∀ j h, (j, h) ∈ st.vNotar → S.notar j st.slot h
  nf : ∀ j h, (j, h) ∈ st.vNf → S.nf j st.slot h
  skip : ∀ j, j ∈ st.vSkip → S.skip j st.slot
  sf : ∀ j, j ∈ st.vSf → S.sf j st.slot
  fin : ∀ j, j ∈ st.vFin → S.fin j st.slot

theorem QV.init (S : SigLog) (s : Nat) : QV S { slot := s } := by
  constructor <;> intros <;> simp_all

theorem QV.of_sameVotes {a b : SlotState} (h : QV S a) (s : SameVotes a b) : QV S b :=
  ⟨s.slot ▸ s.notar ▸ h.notar, s.slot ▸ s.nf ▸ h.nf, s.slot ▸ s.skip ▸ h.skip, s.slot ▸ s.sf ▸ h.sf, s.slot ▸ s.fin ▸ h.fin⟩

/-- the *distinct* stake of the validators listed in either aggregate of a certificate -/
def certStake (e : Epoch) (c : Cert) : Nat :=
  stakeOf e ((List.range e.n).filter (fun j => c.sig1.contains j || c.sig2.contains j))

/-- what the signers of the first / second aggregate signed, by certificate type -/
def sig1Of (S : SigLog) (c : Cert) (j : Nat) : Prop :=
  match c.kind with
  | .notar | .nf | .ff => S.notar j c.slot c.hash
  | .skip => S.skip j c.slot
  | .final => S.fin j c.slot

def sig2Of (S : SigLog) (c : Cert) (j : Nat) : Prop :=
  match c.kind with
  | .notar | .ff => S.notar j c.slot c.hash
  | .nf => S.nf j c.slot c.hash
  | .skip => S.sf j c.slot
  | .final => S.fin j c.slot

structure CertBacked (S : SigLog) (e : Epoch) (c : Cert) : Prop where
  thr : threshold e c.kind (certStake e c) = true
  s1 : ∀ j ∈ c.sig1, sig1Of S c j
  s2 : ∀ j ∈ c.sig2, sig2Of S c j

theorem sig1Of.mono (hl : S.le S') {c : Cert} {j : Nat} (h : sig1Of S c j) : sig1Of S' c j := by
  unfold sig1Of at *
  cases hk : c.kind <;> simp only [hk] at h ⊢
  case notar | nf | ff => exact hl.notar _ _ _ h
  case skip => exact hl.skip _ _ h
  case final => exact hl.fin _ _ h

theorem sig2Of.mono (hl : S.le S') {c : Cert} {j : Nat} (h : sig2Of S c j) : sig2Of S' c j := by
  unfold sig2Of at *
  cases hk : c.kind <;> simp only [hk] at h ⊢
  case notar | ff => exact hl.notar _ _ _ h
  case nf => exact hl.nf _ _ _ h
  case skip => exact hl.sf _ _ h
  case final => exact hl.fin _ _ h

theorem CertBacked.mono {c : Cert} (h : CertBacked S e c) (hl : S.le S') : CertBacked S' e c :=
  ⟨h.thr, fun j hj => (h.s1 j hj).mono hl, fun j hj => (h.s2 j hj).mono hl⟩

structure QC (S : SigLog) (e : Epoch) (st : SlotState) : Prop where
  notar : ∀ c, st.cNotar = some c → c.kind = .notar ∧ c.slot = st.slot ∧ CertBacked S e c
  nf : ∀ c, c ∈ st.cNf → c.kind = .nf ∧ c.slot = st.slot ∧ CertBacked S e c
  skip : ∀ c, st.cSkip = some c → c.kind = .skip ∧ c.slot = st.slot ∧ CertBacked S e c
  ff : ∀ c, st.cFf = some c → c.kind = .ff ∧ c.slot = st.slot ∧ CertBacked S e c
  fin : ∀ c, st.cFin = some c → c.kind = .final ∧ c.slot = st.slot ∧ CertBacked S e c

theorem QC.init (S : SigLog) (e : Epoch) (s : Nat) : QC S e { slot := s } := by
  constructor <;> intros <;> simp_all

theorem QC.of_eq {a b : SlotState} (h : QC S e a) (hs : b.slot = a.slot) (h1 : b.cNotar = a.cNotar)
    (h2 : b.cNf = a.cNf) (h3 : b.cSkip = a.cSkip) (h4 : b.cFf = a.cFf) (h5 : b.cFin = a.cFin) : QC S e b :=
  ⟨hs ▸ h1 ▸ h.notar, hs ▸ h2 ▸ h.nf, hs ▸ h3 ▸ h.skip, hs ▸ h4 ▸ h.ff, hs ▸ h5 ▸ h.fin⟩

theorem QC.of_coreEq {a b : SlotState} (h : QC S e a) (c : CoreEq a b) : QC S e b :=
  h.of_eq (congrArg SlotState.slot c.eq.symm : b.core.slot = a.core.slot)
    (congrArg SlotState.cNotar c.eq.symm : b.core.cNotar = a.core.cNotar)
    (congrArg SlotState.cNf c.eq.symm : b.core.cNf = a.core.cNf)
    (congrArg SlotState.cSkip c.eq.symm : b.core.cSkip = a.core.cSkip)
    (congrArg SlotState.cFf c.eq.symm : b.core.cFf = a.core.cFf)
    (congrArg SlotState.cFin c.eq.symm : b.core.cFin = a.core.cFin)

theorem QC.addCert {S : SigLog} {e : Epoch} {st : SlotState} (h : QC S e st) (c : Cert) (hs : c.slot = st.slot)
    (hb : CertBacked S e c) : QC S e (st.addCert c) := by
  unfold SlotState.addCert
  cases hk : c.kind <;> dsimp only
  · exact { h with notar := fun c' hc' => by cases hc'; exact ⟨hk, hs, hb⟩ }
  · split
    · exact h
    · refine { h with nf := fun c' hc' => ?_ }
      rcases List.mem_append.mp hc' with hc' | hc'
      · exact h.nf c' hc'
      · cases List.mem_singleton.mp hc'; exact ⟨hk, hs, hb⟩
  · exact { h with skip := fun c' hc' => by cases hc'; exact ⟨hk, hs, hb⟩ }
  · exact { h with ff := fun c' hc' => by cases hc'; exact ⟨hk, hs, hb⟩ }
  · exact { h with fin := fun c' hc' => by cases hc'; exact ⟨hk, hs, hb⟩ }

/-! ### created certificates are backed -/

theorem stakeOf_filter_or (e : Epoch) (l : List Nat) (p q : Nat → Bool) (hd : ∀ x ∈ l, ¬ (p x = true ∧ q x = true)) :
    stakeOf e (l.filter (fun x => p x || q x)) = stakeOf e (l.filter p) + stakeOf e (l.filter q) := by
  induction l with
  | nil => rfl
  | cons a t ih =>
    have ih' := ih (fun x hx => hd x (List.mem_cons_of_mem _ hx))
    have ha := hd a (by simp)
    unfold stakeOf at *
    cases hp : p a <;> cases hq : q a
    · simp [List.filter, hp, hq]; exact ih'
    · simp [List.filter, hp, hq]; omega
    · simp [List.filter, hp, hq]; omega
    · exact absurd ⟨hp, hq⟩ ha

theorem filter_contains_filter_range (n : Nat) (p : Nat → Bool) :
    (List.range n).filter (fun j => ((List.range n).filter p).contains j) = (List.range n).filter p := by
  apply List.filter_congr
  intro j hj
  rw [List.contains_eq_mem]
  by_cases hp : p j = true
  · simp [hp, List.mem_range.mp hj]
  · simp [hp]

theorem certStake_single (e : Epoch) (c : Cert) (p : Nat → Bool) (h1 : c.sig1 = (List.range e.n).filter p) (h2 : c.sig2 = []) :
    certStake e c = stakeOf e c.sig1 := by
  unfold certStake
  rw [h2]
  have : (fun j => c.sig1.contains j || ([] : List Nat).contains j) = (fun j => c.sig1.contains j) := by
    funext j; simp
  rw [this, h1, filter_contains_filter_range]

theorem certStake_double (e : Epoch) (c : Cert) (p q : Nat → Bool) (h1 : c.sig1 = (List.range e.n).filter p)
    (h2 : c.sig2 = (List.range e.n).filter q) (hd : ∀ x ∈ c.sig1, x ∉ c.sig2) :
    certStake e c = stakeOf e c.sig1 + stakeOf e c.sig2 := by
  unfold certStake
  rw [stakeOf_filter_or]
  · rw [h1, h2, filter_contains_filter_range, filter_contains_filter_range]
  · intro x _ ⟨a, b⟩
    rw [List.contains_eq_mem] at a b
    exact hd x (by simpa using a) (by simpa using b)

theorem CertBacked.of_justified {s : SlotState} {c : Cert} (hq : QV S s) (j : Justified e s c) :
    CertBacked S e c := by
  obtain ⟨hsl, j⟩ := j
  have notar : ∀ x ∈ s.notarVoters e.n c.hash, S.notar x c.slot c.hash :=
    fun x hx => hsl ▸ hq.notar x c.hash
      (mem_of_lookup_some (by simpa [SlotState.notarVoters] using (List.mem_filter.mp hx).2))
  have none : ∀ x ∈ ([] : List Nat), sig2Of S c x := fun _ hx => nomatch hx
  cases hk : c.kind <;> simp only [hk] at j
  case notar | ff =>
    obtain ⟨h1, h2, h3, h4⟩ := j
    refine ⟨?_, by rw [h1]; simpa only [sig1Of, hk] using notar, h2 ▸ none⟩
    rw [certStake_single e c _ h1 h2, ← h3]; simpa [threshold, hk] using h4
  case nf =>
    obtain ⟨h1, h2, h3, h4, h5⟩ := j
    refine ⟨?_, by rw [h1]; simpa only [sig1Of, hk] using notar, fun x hx => ?_⟩
    · rw [certStake_double e c _ _ h1 h2 h3, ← h4]; simpa [threshold, hk] using h5
    · simp only [sig2Of, hk, hsl]
      rw [h2] at hx
      exact hq.nf x c.hash (by simpa [SlotState.nfVoters] using (List.mem_filter.mp hx).2)
  case skip =>
    obtain ⟨h1, h2, h3, h4, h5⟩ := j
    refine ⟨?_, fun x hx => ?_, fun x hx => ?_⟩
    · rw [certStake_double e c _ _ h1 h2 h3, ← h4]; simpa [threshold, hk] using h5
    · rw [h1] at hx
      simp only [sig1Of, hk, hsl]
      exact hq.skip x (by simpa [SlotState.skipVoters] using (List.mem_filter.mp hx).2)
    · rw [h2] at hx
      simp only [sig2Of, hk, hsl]
      exact hq.sf x (by simpa [SlotState.sfVoters] using (List.mem_filter.mp hx).2)
  case final =>
    obtain ⟨h1, h2, h3, h4⟩ := j
    refine ⟨?_, fun x hx => ?_, h2 ▸ none⟩
    · rw [certStake_single e c _ h1 h2, ← h3]; simpa [threshold, hk] using h4
    · rw [h1] at hx
      simp only [sig1Of, hk, hsl]
      exact hq.fin x (by simpa [SlotState.finVoters] using (List.mem_filter.mp hx).2)

end AgModel.Pool
