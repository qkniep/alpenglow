import AgModel.Proofs.Trie
/-! State-level simulation lemmas for C20: `State` against the sorted association list `OrdMap`; and the iterator's
    explicit-stack loop against the in-order traversal. -/
namespace AgModel.Trie
open AgModel.OrdMap (find put del Sorted)

theorem count_eq_length (n : Node) : count n = (toList n).length := by
  induction n with
  | leaf k v => rfl
  | nil => rfl
  | cons c ch rest ihc ihr => simp [count, toList, ihc, ihr]

theorem State.wf_iff {s : State} : s.wf = true ↔ s.root.wf [] 0 = true ∧ s.len = (toList s.root).length := by
  rw [State.wf, Bool.and_eq_true, beq_iff_eq, count_eq_length]

theorem put_congr (lt1 lt2 : Key → Key → Bool) (m : OrdMap.Map) (k : Key) (v : Nat)
    (h : ∀ kv ∈ m, lt1 k kv.1 = lt2 k kv.1) : put lt1 m k v = put lt2 m k v := by
  induction m with
  | nil => rfl
  | cons x m ih =>
    obtain ⟨k', v'⟩ := x
    simp only [put]
    rw [h (k', v') (by simp), ih (fun kv hkv => h kv (by simp [hkv]))]

theorem sorted_congr (lt1 lt2 : Key → Key → Bool) (m : OrdMap.Map)
    (h : ∀ a ∈ m, ∀ b ∈ m, lt1 a.1 b.1 = lt2 a.1 b.1) (hs : Sorted lt1 m) : Sorted lt2 m := by
  unfold Sorted at *
  exact List.Pairwise.imp_of_mem (fun ha hb hab => by rw [← h _ ha _ hb]; exact hab) hs

def Inv (s : State) (m : OrdMap.Map) : Prop :=
  s.wf = true ∧ s.iter = m ∧ ∀ kv ∈ m, ValidKey kv.1

theorem inv_new : Inv {} [] := by
  refine ⟨by decide, rfl, by simp⟩

theorem inv_root {s : State} {m : OrdMap.Map} (h : Inv s m) : s.root.wf [] 0 = true ∧ s.len = m.length := by
  obtain ⟨hr, hl⟩ := State.wf_iff.1 h.1
  exact ⟨hr, by rw [hl, ← h.2.1]; rfl⟩

theorem inv_sorted_keyLt {s : State} {m : OrdMap.Map} (h : Inv s m) : Sorted keyLt m := by
  rw [← h.2.1]; exact wf_sorted (inv_root h).1

theorem inv_get {s : State} {m : OrdMap.Map} (h : Inv s m) (key : Key) : s.get key = find m key := by
  rw [← h.2.1]; exact getRec_spec (agrees_nil key) (inv_root h).1

theorem inv_insert {s : State} {m : OrdMap.Map} (h : Inv s m) (key : Key) (v : Nat) (hk : ValidKey key) :
    ∃ s', s.insert key v = .ok s' (find m key) ∧ Inv s' (put keyLt m key v) := by
  obtain ⟨hr, hlen⟩ := inv_root h
  have hit : toList s.root = m := h.2.1
  have hv : ∀ kv ∈ toList s.root, ValidKey kv.1 := by rw [hit]; exact h.2.2
  obtain ⟨n', he, hwf, htl⟩ := insertRec_spec v hk (agrees_nil key) (by decide) hv hr (Nat.zero_le _)
  simp only [List.length_nil] at he
  rw [hit] at he htl
  refine ⟨⟨n', if (find m key).isNone then s.len + 1 else s.len⟩, ?_, ?_, ?_, ?_⟩
  · simp [State.insert, he]
  · refine State.wf_iff.2 ⟨hwf, ?_⟩
    have := length_put m key v (inv_sorted_keyLt h)
    show _ = (toList n').length
    rw [htl, hlen]
    cases hf : find m key with
    | none => rw [hf] at this; exact this.symm
    | some o => rw [hf] at this; exact (Nat.succ.inj this).symm
  · exact htl
  · intro kv hkv
    have hp := (put_perm m key v (inv_sorted_keyLt h)).mem_iff.1 hkv
    simp only [del, List.mem_cons, List.mem_filter] at hp
    rcases hp with e | ⟨hm, _⟩
    · rw [e]; exact hk
    · exact h.2.2 kv hm

theorem inv_remove {s : State} {m : OrdMap.Map} (h : Inv s m) (key : Key) :
    ∃ s', s.remove key = .ok s' (find m key) ∧ Inv s' (del m key) := by
  obtain ⟨hr, hlen⟩ := inv_root h
  have hit : toList s.root = m := h.2.1
  have hg := inv_get h key
  unfold State.get at hg
  obtain ⟨r, e, r2, r3⟩ := removeRec_spec (agrees_nil key) hr
  simp only [List.length_nil] at e
  rw [hit] at e r2
  cases hf : find m key with
  | none =>
    refine ⟨s, by simp [State.remove, hg, hf], ?_⟩
    rw [del_of_not_mem (find_none_iff.1 hf)]
    exact h
  | some o =>
    have hdel : (del m key).length + 1 = m.length := by
      have := length_del m key (inv_sorted_keyLt h)
      rwa [hf] at this
    rw [hf] at e
    refine ⟨⟨r, s.len - 1⟩, ?_, ?_, r2, ?_⟩
    · have hl : s.len ≠ 0 := by omega
      simp [State.remove, hg, hf, e, hl]
    · exact State.wf_iff.2 ⟨r3, by rw [r2, hlen, ← hdel]; rfl⟩
    · intro kv hkv
      simp only [del, List.mem_filter] at hkv
      exact h.2.2 kv hkv.1

/-! `Iter::next`'s explicit-stack loop (`iterStack`) yields the in-order traversal `toList`. -/

theorem size_pos (n : Node) : 0 < size n := by cases n <;> simp [size]

theorem sum_size_children_le (n : Node) : ((chainChildren n).map size).sum + 1 ≤ size n := by
  induction n with
  | leaf k v => exact Nat.le_refl _
  | nil => exact Nat.le_refl _
  | cons c ch rest _ ihr => simp only [chainChildren, List.map_cons, List.sum_cons, size]; omega

/-- what may sit on the iterator's stack: a well-formed child, or the root chain -/
def stackOK (n : Node) : Prop := ∃ P, wfc n P = true ∨ ∃ lb, n.wf P lb = true

theorem children_ok {n : Node} {P : List Nat} {lb : Nat} (h : n.wf P lb = true) :
    (∀ ch ∈ chainChildren n, stackOK ch) ∧ (chainChildren n).flatMap toList = toList n := by
  induction n generalizing lb with
  | leaf k v => cases h
  | nil => exact ⟨fun _ h => (nomatch h), rfl⟩
  | cons c ch rest _ ihr =>
    obtain ⟨_, _, h3, h4⟩ := wf_cons_iff.1 h
    obtain ⟨i1, i2⟩ := ihr h4
    refine ⟨fun x hx => ?_, by rw [chainChildren, List.flatMap_cons, i2, toList]⟩
    rcases List.mem_cons.1 hx with rfl | hx
    · exact ⟨_, .inl h3⟩
    · exact i1 x hx

theorem iterStack_eq {fuel : Nat} {st : List Node} (hok : ∀ n ∈ st, stackOK n) (hs : (st.map size).sum ≤ fuel) :
    iterStack fuel st = st.flatMap toList := by
  induction fuel generalizing st with
  | zero =>
    cases st with
    | nil => simp [iterStack]
    | cons n st => have := size_pos n; rw [List.map_cons, List.sum_cons] at hs; omega
  | succ f ih =>
    cases st with
    | nil => simp [iterStack]
    | cons n st =>
      have hok' : ∀ m ∈ st, stackOK m := fun m hm => hok m (by simp [hm])
      rw [List.map_cons, List.sum_cons] at hs
      cases n with
      | leaf k v =>
        simp only [iterStack, List.flatMap_cons, toList, List.singleton_append, size] at hs ⊢
        rw [ih hok' (by omega)]
      | nil =>
        simp only [iterStack, chainChildren, List.nil_append, List.flatMap_cons, toList, size] at hs ⊢
        exact ih hok' (by omega)
      | cons c ch rest =>
        obtain ⟨P, lb, hwf⟩ : ∃ P lb, Node.wf (.cons c ch rest) P lb = true := by
          obtain ⟨P, h | ⟨lb, h⟩⟩ := hok _ (List.mem_cons_self ..)
          · exact ⟨P, 0, (wfc_cons.1 h).1⟩
          · exact ⟨P, lb, h⟩
        obtain ⟨c1, c2⟩ := children_ok hwf
        have hsz := sum_size_children_le (.cons c ch rest)
        simp only [iterStack]
        rw [ih (by
              intro m hm
              rcases List.mem_append.1 hm with hm | hm
              · exact c1 m hm
              · exact hok' m hm)
            (by rw [List.map_append, List.sum_append]; omega)]
        rw [List.flatMap_append, c2, List.flatMap_cons]

end AgModel.Trie
