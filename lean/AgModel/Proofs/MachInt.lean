import AgModel.Model.MachInt
/-!
The checked primitives and the functions of `Model/MachInt.lean`: for one that can panic a `Panics` statement (when
it is `none`, and that `toNat` of a result is the Nat-level function of the other models), for one that cannot an
equation. The facts about the constants that are used (all `decide`d from `AgModel.Gen.Consts`): `0 < W`,
`W64.toNat = W` (W fits u64), `W ∣ 2^64` (`last_slot_in_window` relies on it!), `E64.toNat = E`, `2 * E < 2^64`.
-/
namespace AgModel.MachInt

theorem W_pos : 0 < W := by decide
theorem W_ge_two : 2 ≤ W := by decide
theorem W64_toNat : W64.toNat = W := by decide
theorem E64_toNat : E64.toNat = E := by decide
theorem W64_ne : W64 ≠ 0 := by decide
/-- `SLOTS_PER_WINDOW` divides 2^64: the last window ends exactly at `u64::MAX`. -/
theorem W_dvd : 2 ^ 64 = W * (2 ^ 64 / W) := by decide
theorem MAX_toNat : MAX.toNat = 2 ^ 64 - 1 := by decide
theorem one_toNat : (1 : UInt64).toNat = 1 := by decide
theorem two_toNat : (2 : UInt64).toNat = 2 := by decide
theorem zero_toNat : (0 : UInt64).toNat = 0 := by decide

/-- `o` panics (`none`) exactly when `bad`, and a result satisfies `post` -/
def Panics {α : Type} (o : Option α) (bad : Prop) (post : α → Prop) : Prop :=
  (o = none ↔ bad) ∧ ∀ c, o = some c → post c

section
variable {α β : Type} {o : Option α} {bad bad' : Prop} {post post' : α → Prop}

theorem Panics.pure {x : α} (hn : ¬ bad) (hp : post x) : Panics (some x) bad post :=
  ⟨iff_of_false (fun h => nomatch h) hn, fun _ hc => by cases hc; exact hp⟩

theorem Panics.panic (h : bad) : Panics (none : Option α) bad post :=
  ⟨iff_of_true rfl h, fun _ hc => nomatch hc⟩

theorem Panics.ok (h : Panics o bad post) (hn : ¬ bad) : ∃ c, o = some c ∧ post c := by
  cases ho : o with
  | none => exact absurd (h.1.mp ho) hn
  | some c => exact ⟨c, rfl, h.2 c ho⟩

theorem Panics.imp (h : Panics o bad post) (hb : bad ↔ bad') (hp : ∀ c, post c → post' c) :
    Panics o bad' post' :=
  ⟨h.1.trans hb, fun c hc => hp c (h.2 c hc)⟩

/-- sequencing, for any `r` that is `none` when its first step `o` is (a `match` on `o` or a bind; that much is
    checked by rewriting with `o = none`): the first step's panic condition implies the whole one; the rest is
    characterised knowing the first step's result and that it did not panic -/
theorem Panics.step {r : Option β} {post' : β → Prop} (h : Panics o bad post) (hbad : bad → bad')
    (hsome : ∀ c, o = some c → post c → ¬ bad → Panics r bad' post')
    (hnone : o = none → r = none := by intro h; rw [h]) : Panics r bad' post' := by
  cases ho : o with
  | none => rw [hnone ho]; exact .panic (hbad (h.1.mp ho))
  | some c => exact hsome c ho (h.2 c ho) (fun hb => by rw [h.1.mpr hb] at ho; cases ho)

theorem Panics.bind {f : α → Option β} {post' : β → Prop} (h : Panics o bad post) (hbad : bad → bad')
    (hf : ∀ c, post c → ¬ bad → Panics (f c) bad' post') : Panics (o.bind f) bad' post' :=
  h.step hbad (fun c ho hp hn => by rw [ho]; exact hf c hp hn) (fun ho => by rw [ho]; rfl)

end

theorem cadd_spec (a b : UInt64) :
    Panics (cadd a b) (2 ^ 64 ≤ a.toNat + b.toNat) (fun c => c.toNat = a.toNat + b.toNat) := by
  unfold cadd
  split
  · next h => exact .pure (by omega) (by rw [UInt64.toNat_add, Nat.mod_eq_of_lt h])
  · next h => exact .panic (by omega)

theorem csub_spec (a b : UInt64) :
    Panics (csub a b) (a.toNat < b.toNat) (fun c => c.toNat + b.toNat = a.toNat) := by
  unfold csub
  split
  · next h =>
    refine .pure (by omega) ?_
    rw [UInt64.toNat_sub_of_le a b (UInt64.le_iff_toNat_le.mpr h)]; omega
  · next h => exact .panic (by omega)

theorem cmul_spec (a b : UInt64) :
    Panics (cmul a b) (2 ^ 64 ≤ a.toNat * b.toNat) (fun c => c.toNat = a.toNat * b.toNat) := by
  unfold cmul
  split
  · next h => exact .pure (by omega) (by rw [UInt64.toNat_mul, Nat.mod_eq_of_lt h])
  · next h => exact .panic (by omega)

theorem ofNat_toNat_of_lt {n : Nat} (h : n < 2 ^ 64) : (UInt64.ofNat n).toNat = n := by
  rw [UInt64.toNat_ofNat']; exact Nat.mod_eq_of_lt h

theorem toNat_eq_zero {r : UInt64} : r.toNat = 0 ↔ r = 0 := by rw [← zero_toNat, UInt64.toNat_inj]

theorem toNat_pos {r : UInt64} (h : r ≠ 0) : 0 < r.toNat := Nat.pos_of_ne_zero (fun h0 => h (toNat_eq_zero.mp h0))

theorem cmod_spec (a n : UInt64) :
    Panics (cmod a n) (n = 0) (fun r => r.toNat = a.toNat % n.toNat ∧ r.toNat < n.toNat) := by
  unfold cmod
  split
  · next h => exact .panic h
  · next h => exact .pure h ⟨UInt64.toNat_mod a n, by rw [UInt64.toNat_mod]; exact Nat.mod_lt _ (toNat_pos h)⟩

theorem cadd_one_spec (s : UInt64) :
    Panics (cadd s 1) (s.toNat = 2 ^ 64 - 1) (fun n => n.toNat = s.toNat + 1) := by
  have := UInt64.toNat_lt s
  exact (cadd_spec s 1).imp (by rw [one_toNat]; omega) (fun n hn => by rw [hn, one_toNat])

theorem csub_one_spec (s : UInt64) : Panics (csub s 1) (s.toNat = 0) (fun p => p.toNat + 1 = s.toNat) :=
  (csub_spec s 1).imp (by rw [one_toNat]; omega) (fun p hp => by rw [one_toNat] at hp; exact hp)

theorem cdiv_W (s : UInt64) : cdiv s W64 = some (s / W64) := by
  unfold cdiv; rw [if_neg W64_ne]

theorem div_W_toNat (s : UInt64) : (s / W64).toNat = s.toNat / W := by
  rw [UInt64.toNat_div, W64_toNat]

/-- the u128 products of `is_met` / `Fraction::cmp` cannot overflow: `(2^64-1)^2 < 2^128` -/
theorem u64_mul_lt_u128 (a b : UInt64) : a.toNat * b.toNat < 2 ^ 128 := by
  have h : (2 ^ 64 * 2 ^ 64 : Nat) = 2 ^ 128 := by decide
  rw [← h]
  exact Nat.mul_lt_mul'' (UInt64.toNat_lt a) (UInt64.toNat_lt b)

theorem u64_max_sq_lt_u128 : (2 ^ 64 - 1) * (2 ^ 64 - 1) < 2 ^ 128 := by decide

theorem mul128_eq (a b : UInt64) : mul128 a b = some (a.toNat * b.toNat) := by
  unfold mul128; rw [if_pos (u64_mul_lt_u128 a b)]

theorem nat_lt_window_end (s : Nat) : s < s / W * W + W := by
  have := Nat.lt_div_mul_add (a := s) W_pos
  omega

theorem window_start_eq {n : Nat} (h : n % W = 0) : n / W * W = n := by
  have := Nat.div_add_mod n W
  rw [h, Nat.add_zero, Nat.mul_comm] at this; exact this

theorem windowSlots_eq (n : Nat) : Votor.windowSlots n = List.range' (n / W * W) W := rfl

/-- comparisons of a multiple of `W` with 2^64 are comparisons with `2^64 / W` (`W ∣ 2^64`) -/
theorem pow64_le_mul_W (a : Nat) : 2 ^ 64 ≤ a * W ↔ 2 ^ 64 / W ≤ a := by
  conv => lhs; rw [W_dvd, Nat.mul_comm W]
  exact Nat.mul_le_mul_right_iff W_pos

theorem mul_W_le_pow64 (a : Nat) : a * W ≤ 2 ^ 64 ↔ a ≤ 2 ^ 64 / W := (Nat.le_div_iff_mul_le W_pos).symm

theorem pow64_lt_mul_W (a : Nat) : 2 ^ 64 < a * W ↔ 2 ^ 64 / W < a := by
  rw [← Nat.not_le, mul_W_le_pow64, Nat.not_le]

/-- the window of a u64 slot does not reach across 2^64: its number is below `2^64 / W` -/
theorem nat_window_end {s : Nat} (h : s < 2 ^ 64) : s / W * W + W ≤ 2 ^ 64 := by
  rw [← Nat.succ_mul, mul_W_le_pow64]
  apply Nat.div_lt_of_lt_mul
  rw [← W_dvd]; exact h

/-- a window that ends below 2^64 ends a whole window below it -/
theorem nat_next_window_end {s : Nat} (h : s / W * W + W < 2 ^ 64) : s / W * W + W + W ≤ 2 ^ 64 := by
  rw [← Nat.succ_mul, ← Nat.not_le, pow64_le_mul_W] at h
  rw [← Nat.succ_mul, ← Nat.succ_mul, mul_W_le_pow64]
  omega

theorem first_eq (s : UInt64) : first s = some (s / W64 * W64) ∧ (s / W64 * W64).toNat = s.toNat / W * W := by
  have hlt : (s / W64).toNat * W64.toNat < 2 ^ 64 := by
    rw [div_W_toNat, W64_toNat]
    exact Nat.lt_of_le_of_lt (Nat.div_mul_le_self _ _) (UInt64.toNat_lt s)
  constructor
  · simp only [first, cdiv_W, Option.bind_eq_bind, Option.bind_some]
    unfold cmul; rw [if_pos hlt]
  · rw [UInt64.toNat_mul, Nat.mod_eq_of_lt hlt, div_W_toNat, W64_toNat]

theorem W64_sub_one : ∃ k, csub W64 1 = some k ∧ k.toNat = W - 1 := by
  have hW := W_pos
  obtain ⟨k, hk, hk'⟩ := (csub_spec W64 1).ok (by rw [W64_toNat, one_toNat]; omega)
  exact ⟨k, hk, by rw [W64_toNat, one_toNat] at hk'; omega⟩

theorem last_eq (s : UInt64) : ∃ l, last s = some l ∧ l.toNat = s.toNat / W * W + (W - 1) := by
  obtain ⟨hf, hfn⟩ := first_eq s
  obtain ⟨k, hk, hkn⟩ := W64_sub_one
  have hend := nat_window_end (UInt64.toNat_lt s)
  have hW := W_pos
  obtain ⟨c, hc, hcn⟩ := (cadd_spec (s / W64 * W64) k).ok (by rw [hfn, hkn]; omega)
  refine ⟨c, ?_, by rw [hcn, hfn, hkn]⟩
  simp only [last, hf, hk, Option.bind_eq_bind, Option.bind_some, hc]

/-- the formula before cd019dd: same value as `last`, but it panics on the whole last window -/
theorem lastOld_spec (s : UInt64) :
    Panics (lastOld s) (2 ^ 64 ≤ s.toNat + W) (fun l => l.toNat = s.toNat / W * W + (W - 1)) := by
  obtain ⟨hf, hfn⟩ := first_eq s
  have hend := nat_window_end (UInt64.toNat_lt s)
  have hle := Nat.div_mul_le_self s.toNat W
  have hlt := nat_lt_window_end s.toNat
  have hW := W_pos
  simp only [lastOld, hf, Option.bind_eq_bind, Option.bind_some]
  refine (cadd_spec _ W64).bind ?_ ?_
  · -- first + W = 2^64: s is in the last window
    rw [hfn, W64_toNat]; omega
  · -- first + W < 2^64: `- 1` is fine, and s + W < 2^64 because first + W is a multiple of W
    intro n hn hno
    rw [hfn, W64_toNat] at hn hno
    have := nat_next_window_end (s := s.toNat) (by omega)
    exact (csub_one_spec n).imp (by omega) (fun p hp => by omega)

theorem beq_zero_toNat (r : UInt64) : (r == 0) = (r.toNat == 0) := by
  rw [Bool.eq_iff_iff, beq_iff_eq, beq_iff_eq, toNat_eq_zero]

theorem isStart_eq (s : UInt64) : isStart s = ParentReady.isWindowStart s.toNat := by
  unfold isStart ParentReady.isWindowStart
  rw [if_neg W64_ne, beq_zero_toNat, UInt64.toNat_mod, W64_toNat]
  rfl

theorem isStart_iff (x : UInt64) : isStart x = true ↔ x.toNat % W = 0 := by
  rw [isStart_eq]; unfold ParentReady.isWindowStart
  show (decide _ = true) ↔ _
  simp only [decide_eq_true_eq]; rfl

theorem next_spec (s : UInt64) : Panics (next s) (s.toNat = 2 ^ 64 - 1) (fun n => n.toNat = s.toNat + 1) :=
  cadd_one_spec s

theorem prev_spec (s : UInt64) : Panics (prev s) (s.toNat = 0) (fun p => p.toNat + 1 = s.toNat) :=
  csub_one_spec s

theorem rangeIncl_toNat (lo hi : UInt64) :
    (rangeIncl lo hi).map UInt64.toNat = List.range' lo.toNat (hi.toNat + 1 - lo.toNat) := by
  unfold rangeIncl
  rw [List.range'_eq_map_range, List.map_map]
  apply List.map_congr_left
  intro i hi'
  have hi2 : i < hi.toNat + 1 - lo.toNat := List.mem_range.mp hi'
  have hh := UInt64.toNat_lt hi
  have hlt : i < 2 ^ 64 := by omega
  simp only [Function.comp]
  rw [UInt64.toNat_add, UInt64.toNat_ofNat', Nat.mod_eq_of_lt hlt, Nat.mod_eq_of_lt (by omega)]

theorem slotsInWindow_eq (s : UInt64) :
    ∃ l, slotsInWindow s = some l ∧ l.map UInt64.toNat = Votor.windowSlots s.toNat := by
  obtain ⟨hf, hfn⟩ := first_eq s
  obtain ⟨k, hk, _⟩ := W64_sub_one
  obtain ⟨c, hc, hcn⟩ := last_eq s
  simp only [last, hf, hk, Option.bind_eq_bind, Option.bind_some] at hc
  have hW := W_pos
  refine ⟨rangeIncl (s / W64 * W64) c, ?_, ?_⟩
  · simp only [slotsInWindow, hf, hk, Option.bind_eq_bind, Option.bind_some, hc]
  · rw [rangeIncl_toNat, hcn, hfn]
    unfold Votor.windowSlots Votor.firstInWindow
    have : s.toNat / W * W + (W - 1) + 1 - s.toNat / W * W = W := by omega
    rw [this]; rfl

theorem rangeFromTake_spec (st : UInt64) (k : Nat) :
    Panics (rangeFromTake st k) (1 ≤ k ∧ 2 ^ 64 ≤ st.toNat + k)
      (fun l => l.map UInt64.toNat = List.range' st.toNat k) := by
  induction k generalizing st with
  | zero => exact .pure (by omega) rfl
  | succ k ih =>
    have := UInt64.toNat_lt st
    simp only [rangeFromTake, Option.bind_eq_bind]
    refine (cadd_one_spec st).bind (by omega) fun n hn _ => (ih n).bind (by omega) fun r hr _ => .pure (by omega) ?_
    rw [List.map_cons, hr, hn, List.range'_succ]

theorem isMet_eq (num den value total : UInt64) :
    isMet num den value total = some (Pool.isMet num.toNat den.toNat value.toNat total.toNat) := by
  simp only [isMet, mul128_eq, Option.bind_eq_bind, Option.bind_some, Pool.isMet]

theorem sumFrom_spec (acc : UInt64) (l : List UInt64) :
    Panics (sumFrom acc l) (2 ^ 64 ≤ acc.toNat + (l.map UInt64.toNat).sum)
      (fun t => t.toNat = acc.toNat + (l.map UInt64.toNat).sum) := by
  induction l generalizing acc with
  | nil => exact .pure (by have := UInt64.toNat_lt acc; simpa using this) (by simp)
  | cons x xs ih =>
    simp only [sumFrom, Option.bind_eq_bind, List.map_cons, List.sum_cons]
    refine (cadd_spec acc x).bind (by omega) fun a ha _ => ?_
    rw [← Nat.add_assoc, ← ha]
    exact ih a

theorem farFuture_spec (fin : UInt64) :
    Panics (farFuture fin) (2 ^ 64 ≤ fin.toNat + 2 * E) (fun ff => ff.toNat = fin.toNat + 2 * E) := by
  obtain ⟨t, ht, htn⟩ := (cmul_spec 2 E64).ok (by decide)
  rw [two_toNat, E64_toNat] at htn
  simp only [farFuture, ht, Option.bind_eq_bind, Option.bind_some]
  rw [← htn]
  exact cadd_spec fin t

theorem pruneCursor_spec (f : UInt64) (k : Nat) :
    Panics (pruneCursor f k) (2 ^ 64 ≤ f.toNat + k + 1) (fun c => c.toNat = f.toNat + k + 1) := by
  induction k with
  | zero => exact (next_spec f).imp (by have := UInt64.toNat_lt f; omega) (fun _ h => h)
  | succ k ih =>
    simp only [pruneCursor, Option.bind_eq_bind]
    refine ih.bind (fun h => Nat.le_succ_of_le h) fun c hc _ => ?_
    have := next_spec c
    rw [hc] at this
    exact this.imp (by omega) (fun _ hn => hn)

/-- a `prev()` guarded by a test that holds at slot 0 never panics -/
theorem guarded_prev_ne_none {s : UInt64} {b : Bool} (h : s = 0 → b = true) :
    (if b then some none else (prev s).map some) ≠ none := by
  cases b with
  | true => exact fun h' => nomatch h'
  | false =>
    obtain ⟨p, hp, _⟩ := (prev_spec s).ok (fun e => nomatch h (toNat_eq_zero.mp e))
    rw [hp]; exact fun h' => nomatch h'

/-- `SliceIndex::new` / `ShredIndex::new`: an accepted index is below the bound -/
theorem lt_of_index_new {K : Nat} {v : UInt64} (hK : (u K).toNat = K)
    (h : (if v ≥ u K then none else some v) = some v) : v.toNat < K := by
  split at h
  · cases h
  · next hn => rw [ge_iff_le, UInt64.le_iff_toNat_le, hK] at hn; omega

theorem indexInSlot_spec (slice shred : UInt64) :
    Panics (indexInSlot slice shred) (2 ^ 64 ≤ slice.toNat * Gen.TOTAL_SHREDS + shred.toNat)
      (fun r => r.toNat = Route.indexInSlot slice.toNat shred.toNat) := by
  have hT : (u Gen.TOTAL_SHREDS).toNat = Gen.TOTAL_SHREDS := by decide
  simp only [indexInSlot, Option.bind_eq_bind]
  refine (cmul_spec slice (u Gen.TOTAL_SHREDS)).bind ?_ fun m hm _ => (cadd_spec m shred).imp ?_ ?_
  · rw [hT]; omega
  · rw [hm, hT]
  · intro r hr; rw [hr, hm, hT]; rfl

end AgModel.MachInt
