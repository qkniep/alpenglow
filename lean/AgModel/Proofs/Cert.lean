import AgModel.Model.Cert
/-! The executable checks of `AgModel.Cert` as propositions (`Agg.verify_true_iff`, `allOpt_map_some`,
`stakeWhere_eq_stakeOf`), and what the uniqueness theorems of C09 rest on: an aggregate signature value that verifies
determines its payload and, with distinct validator keys, its signer set (core Lean only). -/
namespace AgModel.Cert

theorem verifyInd_iff (sig : Sig) (msg : Payload) (pk : Nat) :
    verifyInd sig msg pk = true ↔ sig = [⟨pk, msg⟩] := by
  unfold verifyInd
  rw [List.isPerm_iff]
  exact List.perm_singleton

theorem mem_ones_iff (bits : List Bool) (i x : Nat) : x ∈ ones i bits ↔ (true, x) ∈ bits.zipIdx i := by
  induction bits generalizing i with
  | nil => simp [ones]
  | cons b bs ih => cases b <;> simp [ones, ih, List.zipIdx_cons, eq_comm]

theorem mem_signers_iff (a : Agg) (x : Nat) : x ∈ a.signers ↔ a.isSigner x = true := by
  rw [Agg.signers, mem_ones_iff, List.mk_mem_zipIdx_iff_getElem?, Agg.isSigner, List.getD_eq_getElem?_getD]
  cases a.bits[x]? <;> simp

theorem signers_lt (a : Agg) (x : Nat) (h : x ∈ a.signers) : x < a.bits.length :=
  List.snd_lt_of_mem_zipIdx ((mem_ones_iff _ _ _).1 h)

theorem ones_pairwise (bits : List Bool) (i : Nat) : (ones i bits).Pairwise (· < ·) := by
  induction bits generalizing i with
  | nil => exact List.Pairwise.nil
  | cons b bs ih =>
    unfold ones
    split
    · exact List.pairwise_cons.2 ⟨fun x hx => List.le_snd_of_mem_zipIdx ((mem_ones_iff _ _ _).1 hx), ih (i + 1)⟩
    · exact ih (i + 1)

theorem signers_nodup (a : Agg) : a.signers.Nodup :=
  (ones_pairwise a.bits 0).imp Nat.ne_of_lt

theorem lookupKeys_of_lt (pks is : List Nat) (h : ∀ x ∈ is, x < pks.length) :
    lookupKeys pks is = some (is.map (fun i => pks.getD i 0)) := by
  induction is with
  | nil => rfl
  | cons i is ih =>
    rw [lookupKeys, ih fun x hx => h x (List.mem_cons_of_mem _ hx)]
    simp [List.getD_eq_getElem?_getD, h i List.mem_cons_self]

/-- `verify` never panics: a bitmask of the wrong length is refused, one of the right length marks valid indices only -/
theorem Agg.verify_eq (a : Agg) (msg : Payload) (pks : List Nat) :
    a.verify msg pks = some (decide (a.bits.length = pks.length) &&
      fastAggregateVerify a.sig msg (a.signers.map fun i => pks.getD i 0)) := by
  unfold Agg.verify
  by_cases hl : a.bits.length = pks.length
  · rw [if_neg fun h => h hl, lookupKeys_of_lt pks a.signers fun x hx => hl ▸ signers_lt a x hx, decide_eq_true hl]
    rfl
  · rw [if_pos hl, decide_eq_false hl]
    rfl

theorem Agg.verify_true_iff (a : Agg) (msg : Payload) (pks : List Nat) :
    a.verify msg pks = some true ↔
      a.bits.length = pks.length ∧ a.signers ≠ [] ∧
        a.sig.Perm (a.signers.map (fun i => (⟨pks.getD i 0, msg⟩ : Part))) := by
  rw [Agg.verify_eq, fastAggregateVerify]
  simp only [Option.some.injEq, Bool.and_eq_true, decide_eq_true_eq, Bool.not_eq_true', List.isEmpty_eq_false_iff,
    List.map_eq_nil_iff, List.isPerm_iff, List.map_map, ne_eq]
  rfl

/-- over checks none of which panics, `allOpt` is `all` -/
theorem allOpt_map_some {α : Type} (f : α → Option Bool) (g : α → Bool) (l : List α) (h : ∀ a ∈ l, f a = some (g a)) :
    allOpt (l.map f) = some (l.all g) := by
  induction l with
  | nil => rfl
  | cons a l ih =>
    rw [List.map_cons, h a List.mem_cons_self, allOpt, ih fun x hx => h x (List.mem_cons_of_mem _ hx)]
    rfl

theorem stakeWhere_le (f : Nat → Bool) (vs : List Validator) (i : Nat) : stakeWhere f i vs ≤ (vs.map (·.stake)).sum := by
  induction vs generalizing i with
  | nil => exact Nat.le_refl 0
  | cons v vs ih =>
    have := ih (i + 1)
    simp only [stakeWhere, List.map_cons, List.sum_cons]
    split <;> omega

theorem stakeWhere_false (vs : List Validator) (k : Nat) : stakeWhere (fun _ => false) k vs = 0 := by
  induction vs generalizing k with
  | nil => rfl
  | cons v vs ih => simp [stakeWhere, ih]

def stakeOf (e : Epoch) (s : List Nat) : Nat := (s.map (fun i => (e.vals.getD i default).stake)).sum

theorem stakeWhere_eq_filter (f : Nat → Bool) (vs : List Validator) (i : Nat) :
    stakeWhere f i vs =
      (((List.range vs.length).filter (fun j => f (i + j))).map (fun j => (vs.getD j default).stake)).sum := by
  induction vs generalizing i with
  | nil => rfl
  | cons v vs ih =>
    have hfun : (fun j => f (i + 1 + j)) = ((fun j => f (i + j)) ∘ Nat.succ) := by
      funext j; exact congrArg f (Nat.add_right_comm i 1 j)
    rw [stakeWhere, ih (i + 1), hfun]
    simp only [List.length_cons, List.range_succ_eq_map, List.filter_cons, Nat.add_zero, List.filter_map]
    cases f i <;> simp [List.map_map, Function.comp_def]

theorem stakeWhere_eq_stakeOf (e : Epoch) (f : Nat → Bool) :
    stakeWhere f 0 e.vals = stakeOf e ((List.range e.n).filter f) := by
  rw [stakeWhere_eq_filter]
  unfold stakeOf Epoch.n
  simp

theorem bitsOfWords_length (ws : List Nat) : (bitsOfWords ws).length = 64 * ws.length := by
  induction ws with
  | nil => rfl
  | cons w ws ih =>
    have : bitsOfWords (w :: ws) = bitsOfWord w ++ bitsOfWords ws := List.flatMap_cons
    rw [this, List.length_append, ih, List.length_cons, Nat.mul_succ, Nat.add_comm]
    simp [bitsOfWord]

/-- words beyond the last live bit do not matter: `truncate(num_bits)` cuts them off anyway -/
theorem bitsOfWords_take_take (ws : List Nat) (k nb : Nat) (hk : k ≤ ws.length) (h : nb ≤ 64 * k) :
    (bitsOfWords (ws.take k)).take nb = (bitsOfWords ws).take nb := by
  have hl : nb ≤ (bitsOfWords (ws.take k)).length := by rwa [bitsOfWords_length, List.length_take_of_le hk]
  rw [← List.take_append_of_le_length hl (l₂ := bitsOfWords (ws.drop k)), bitsOfWords, bitsOfWords, ← List.flatMap_append,
    List.take_append_drop]
  rfl

/-- `0` outside the validator set; only used below `e.n` -/
def Epoch.keyOf (e : Epoch) (i : Nat) : Nat := e.pks.getD i 0

theorem Epoch.pks_length (e : Epoch) : e.pks.length = e.n := by simp [Epoch.pks, Epoch.n]

theorem Epoch.vals_get (e : Epoch) (i : Nat) (h : i < e.n) :
    ∃ val, e.vals[i]? = some val ∧ val.key = e.keyOf i := by
  have h' : i < e.vals.length := h
  refine ⟨e.vals[i], by simp [h'], ?_⟩
  simp [Epoch.keyOf, Epoch.pks, List.getD_eq_getElem?_getD, h']

def Epoch.KeysDistinct (e : Epoch) : Prop := e.pks.Nodup

theorem Epoch.keyOf_inj (e : Epoch) (hk : e.KeysDistinct) (i j : Nat) (hi : i < e.n) (hj : j < e.n)
    (h : e.keyOf i = e.keyOf j) : i = j := by
  rw [← e.pks_length] at hi hj
  simp only [Epoch.keyOf, List.getD_eq_getElem?_getD, List.getElem?_eq_getElem hi, List.getElem?_eq_getElem hj,
    Option.getD_some] at h
  exact (List.getElem_inj hk).1 h

theorem mem_sig_iff {a : Agg} {p : Payload} {pks : List Nat} (h : a.verify p pks = some true) (q : Part) :
    q ∈ a.sig ↔ ∃ x ∈ a.signers, (⟨pks.getD x 0, p⟩ : Part) = q := by
  rw [((Agg.verify_true_iff a p pks).1 h).2.2.mem_iff, List.mem_map]

theorem verify_payload_unique (a a' : Agg) (p p' : Payload) (pks : List Nat) (hs : a.sig = a'.sig)
    (h : a.verify p pks = some true) (h' : a'.verify p' pks = some true) : p = p' := by
  obtain ⟨x, hx⟩ := List.exists_mem_of_ne_nil _ ((Agg.verify_true_iff a p pks).1 h).2.1
  obtain ⟨y, _, hy⟩ := (mem_sig_iff h' _).1 (hs ▸ (mem_sig_iff h _).2 ⟨x, hx, rfl⟩)
  exact (Part.mk.inj hy).2.symm

theorem verify_signers_subset (e : Epoch) (hk : e.KeysDistinct) (a a' : Agg) (p : Payload) (hs : a.sig = a'.sig)
    (h : a.verify p e.pks = some true) (h' : a'.verify p e.pks = some true) :
    ∀ x, x ∈ a.signers → x ∈ a'.signers := by
  intro x hx
  obtain ⟨y, hy, hkey⟩ := (mem_sig_iff h' _).1 (hs ▸ (mem_sig_iff h _).2 ⟨x, hx, rfl⟩)
  -- both bitmasks have the epoch's length, so `x` and `y` are validators with the same key
  have hl := ((Agg.verify_true_iff a p e.pks).1 h).1
  have hl' := ((Agg.verify_true_iff a' p e.pks).1 h').1
  rw [e.pks_length] at hl hl'
  cases e.keyOf_inj hk y x (hl' ▸ signers_lt a' y hy) (hl ▸ signers_lt a x hx) (Part.mk.inj hkey).1
  exact hy

theorem verify_bits_unique (e : Epoch) (hk : e.KeysDistinct) (a a' : Agg) (p : Payload) (hs : a.sig = a'.sig)
    (h : a.verify p e.pks = some true) (h' : a'.verify p e.pks = some true) : a.bits = a'.bits := by
  have hl := ((Agg.verify_true_iff a p e.pks).mp h).1
  have hl' := ((Agg.verify_true_iff a' p e.pks).mp h').1
  apply List.ext_getElem (hl.trans hl'.symm)
  intro i hi hi'
  -- both bitmasks have the epoch's length and mark the same validators
  have hiff : a.isSigner i = true ↔ a'.isSigner i = true := by
    rw [← mem_signers_iff, ← mem_signers_iff]
    exact ⟨verify_signers_subset e hk a a' p hs h h' i, verify_signers_subset e hk a' a p hs.symm h' h i⟩
  simp only [Agg.isSigner, List.getD_eq_getElem?_getD, List.getElem?_eq_getElem hi, List.getElem?_eq_getElem hi',
    Option.getD_some] at hiff
  exact Bool.eq_iff_iff.2 hiff

end AgModel.Cert
