import AgModel.Proofs.PoolGlue
/-! `recover_from_standstill`: contents of the bundle (helper lemmas for `Props/C18.lean` and `Proofs/BundleReplay.lean`). -/
namespace AgModel.Pool

theorem insertSorted_perm (st : SlotState) (l : List SlotState) : (insertSorted st l).Perm (st :: l) := by
  induction l with
  | nil => exact .refl _
  | cons y ys ih =>
    rw [insertSorted]
    split
    · exact .refl _
    · exact (ih.cons y).trans (.swap st y ys)

theorem sortSlots_perm (l : List SlotState) : (sortSlots l).Perm l := by
  induction l with
  | nil => exact .refl _
  | cons y ys ih => exact (insertSorted_perm y _).trans (ih.cons y)

/-- C18 `bundle_contents` -/
theorem recover_contents (p : Pool) (certs : List Cert) (votes : List Vote)
    (h : p.recover = [.standstill (p.fin.highest + 1) certs votes]) :
    (∀ c, c ∈ certs ↔ (c ∈ p.getFinalCerts p.fin.highest ∨ ∃ st ∈ p.slots, st.slot > p.fin.highest ∧ c ∈ st.certs)) ∧
    (∀ v, v ∈ votes ↔ ∃ st ∈ p.slots, st.slot > p.fin.highest ∧ v ∈ st.ownVotes p.epoch) := by
  unfold Pool.recover at h
  simp only [List.cons.injEq, Event.standstill.injEq, and_true, true_and] at h
  obtain ⟨hc, hv⟩ := h
  subst hc; subst hv
  constructor
  · intro c
    simp only [List.mem_append, List.mem_flatMap, (sortSlots_perm _).mem_iff, List.mem_filter, decide_eq_true_eq]
    constructor
    · intro h; rcases h with h | ⟨st, ⟨hm, hs⟩, hc⟩
      · exact Or.inl h
      · exact Or.inr ⟨st, hm, hs, hc⟩
    · intro h; rcases h with h | ⟨st, hm, hs, hc⟩
      · exact Or.inl h
      · exact Or.inr ⟨st, ⟨hm, hs⟩, hc⟩
  · intro v
    simp only [List.mem_flatMap, (sortSlots_perm _).mem_iff, List.mem_filter, decide_eq_true_eq]
    constructor
    · intro ⟨st, ⟨hm, hs⟩, hc⟩; exact ⟨st, hm, hs, hc⟩
    · intro ⟨st, hm, hs, hc⟩; exact ⟨st, ⟨hm, hs⟩, hc⟩

theorem getFinalCerts_held (p : Pool) (s : Nat) (c : Cert) (h : c ∈ p.getFinalCerts s) :
    ∃ st ∈ p.slots, c ∈ st.certs := by
  unfold Pool.getFinalCerts at h
  split at h
  · simp at h
  · rename_i st hg
    obtain ⟨hm, _⟩ := getSlot_mem p s st hg
    refine ⟨st, hm, ?_⟩
    rw [mem_certs]
    split at h
    · rename_i ff hff
      simp at h; subst h; exact Or.inr (Or.inl hff)
    · split at h
      · rename_i f n hf hn
        simp at h
        rcases h with h | h
        · subst h; exact Or.inl hf
        · subst h; exact Or.inr (Or.inr (Or.inl hn))
      · simp at h

theorem recover_certs_held (p : Pool) (certs : List Cert) (votes : List Vote)
    (h : p.recover = [.standstill (p.fin.highest + 1) certs votes]) : ∀ c ∈ certs, ∃ st ∈ p.slots, c ∈ st.certs := by
  intro c hc
  rcases ((recover_contents p certs votes h).1 c).mp hc with h1 | ⟨st, hm, _, hcs⟩
  · exact getFinalCerts_held p _ c h1
  · exact ⟨st, hm, hcs⟩

/-- conversely: if the slot's state holds them, `get_final_certs` returns the fast-finalization certificate, or else the
    finalization and the notarization certificate -/
theorem getFinalCerts_of_held {p : Pool} {s : Nat} {st : SlotState} (hg : p.getSlot s = some st)
    (h : (∃ c, c ∈ st.store .ff) ∨ ((∃ c, c ∈ st.store .final) ∧ ∃ c, c ∈ st.store .notar)) :
    (∃ c, p.getFinalCerts s = [c] ∧ c ∈ st.store .ff) ∨
    ∃ cf cn, p.getFinalCerts s = [cf, cn] ∧ cf ∈ st.store .final ∧ cn ∈ st.store .notar := by
  unfold Pool.getFinalCerts
  rw [hg]
  dsimp only
  unfold SlotState.store at h ⊢
  cases hff : st.cFf with
  | some c => exact Or.inl ⟨c, rfl, List.mem_singleton.mpr rfl⟩
  | none =>
    rw [hff] at h
    obtain ⟨_, h⟩ | ⟨⟨cf, hf⟩, cn, hn⟩ := h
    · cases h
    · rw [Option.mem_toList.mp hf, Option.mem_toList.mp hn]
      exact Or.inr ⟨cf, cn, rfl, List.mem_singleton.mpr rfl, List.mem_singleton.mpr rfl⟩

theorem mem_ownVotes {e : Epoch} {st : SlotState} {v : Vote} (h : v ∈ st.ownVotes e) :
    v.signer = e.own ∧ v.slot = st.slot := by
  -- each of the five parts is at most one vote of the stated form (a list of such votes, for notar-fallback)
  have one : ∀ {c : Prop} [Decidable c] {w : Vote}, v ∈ (if c then [w] else []) → v = w := fun h => by
    split at h
    · exact List.mem_singleton.mp h
    · cases h
  unfold SlotState.ownVotes at h
  simp only [List.mem_append, List.mem_map] at h
  rcases h with (((h | h) | ⟨x, _, rfl⟩) | h) | h
  · rw [one h]; exact ⟨rfl, rfl⟩
  · cases hl : st.vNotar.lookup e.own <;> rw [hl] at h
    · cases h
    · rw [List.mem_singleton.mp h]; exact ⟨rfl, rfl⟩
  · exact ⟨rfl, rfl⟩
  · rw [one h]; exact ⟨rfl, rfl⟩
  · rw [one h]; exact ⟨rfl, rfl⟩

/-- C18 `bundle_votes_own` -/
theorem recover_votes_own (p : Pool) (certs : List Cert) (votes : List Vote)
    (h : p.recover = [.standstill (p.fin.highest + 1) certs votes]) :
    ∀ v ∈ votes, v.signer = p.epoch.own ∧ v.slot > p.fin.highest := by
  intro v hv
  obtain ⟨st, _, hs, hvs⟩ := ((recover_contents p certs votes h).2 v).mp hv
  exact ⟨(mem_ownVotes hvs).1, (mem_ownVotes hvs).2 ▸ hs⟩

end AgModel.Pool
