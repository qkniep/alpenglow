import AgModel.Proofs.Finality
/-!
# Soundness of the finality tracker's reports, without any premise on the history

For abstract predicates on block ids and slots — `L` ("in the finalized log": finalized or an ancestor of a finalized
block), `G` ("gap": strictly between a block of the log and its parent), `N` / `Fc` (a notarization / finalization
certificate is known) — with the closure properties `direct` (notarized + finalization certificate ⇒ in the log) and `down`
(the registered parent of a block of the log is in the log, the slots in between are gaps): if the tracker is only given
registrations that agree with the parent function, fast-finalizations of blocks in the log, notarizations with `N`
and finalizations with `Fc`, then whenever it does not panic its reports are sound: the reported finalized and
implicitly finalized blocks are in the log (`L`), the implicitly skipped slots are gaps (`G`).

Unlike `reports_exact` (C08) this needs no `Safe` premise; it is the half of C08 that the C01 cluster refinement needs.
-/
namespace AgModel.Finality

structure FP where
  par : Nat × Nat → Nat × Nat
  L : Nat × Nat → Prop
  G : Nat → Prop
  N : Nat × Nat → Prop
  Fc : Nat → Prop
  direct : ∀ b, N b → Fc b.1 → L b
  down : ∀ x p, L x → par x = p → p.1 < x.1 → L p ∧ ∀ u, p.1 < u → u < x.1 → G u

structure FI (P : FP) (t : Tracker) : Prop where
  parents : ∀ b p, t.parents b = some p → P.par b = p ∧ p.1 < b.1
  fin : ∀ s h, t.status s = some (.finalized h) → P.L (s, h)
  impl : ∀ s h, t.status s = some (.implFinalized h) → P.L (s, h)
  notar : ∀ s h, t.status s = some (.notarized h) → P.N (s, h)
  pend : ∀ s, t.status s = some .finalPending → P.Fc s

structure EvS (P : FP) (ev : Event) : Prop where
  fin : ∀ b, ev.finalized = some b → P.L b
  impl : ∀ b, b ∈ ev.implFinalized → P.L b
  skip : ∀ u, u ∈ ev.implSkipped → P.G u

theorem EvS.empty (P : FP) : EvS P {} := ⟨fun _ h => (by cases h), fun _ h => (by cases h), fun _ h => (by cases h)⟩

/-- what justifies the entry `x` of slot `s`: the four status clauses of `FI` as one -/
def FP.Just (P : FP) (s : Nat) : Status → Prop
  | .finalized x => P.L (s, x)
  | .implFinalized x => P.L (s, x)
  | .notarized x => P.N (s, x)
  | .finalPending => P.Fc s
  | .implSkipped => True

theorem FI.just {P : FP} {t : Tracker} (h : FI P t) {s : Nat} {x : Status} (hs : t.status s = some x) :
    P.Just s x := by
  cases x with
  | finalized y => exact h.fin s y hs
  | implFinalized y => exact h.impl s y hs
  | notarized y => exact h.notar s y hs
  | finalPending => exact h.pend s hs
  | implSkipped => trivial

theorem FI.of {P : FP} {t : Tracker} (hp : ∀ b p, t.parents b = some p → P.par b = p ∧ p.1 < b.1)
    (hj : ∀ s x, t.status s = some x → P.Just s x) : FI P t :=
  ⟨hp, fun s _ hx => hj s _ hx, fun s _ hx => hj s _ hx, fun s _ hx => hj s _ hx, fun s hx => hj s _ hx⟩

theorem FI.init (P : FP) (h0 : P.N (0, 0)) : FI P Finality.init := by
  refine .of (fun _ _ h => nomatch h) (fun s x hs => ?_)
  by_cases h : s = 0
  · subst h; cases hs; exact h0
  · rw [init_status_pos h] at hs; cases hs

theorem FI.set {P : FP} {t : Tracker} (h : FI P t) (s : Nat) (v : Status) (hv : P.Just s v) :
    FI P { t with status := setSt t.status s v } := by
  refine .of h.parents (fun a x hx => ?_)
  have hx : setSt t.status s v a = some x := hx
  by_cases ha : a = s
  · subst ha; rw [setSt_self] at hx; cases hx; exact hv
  · rw [setSt_ne _ _ ha] at hx; exact h.just hx

theorem FI.prune {P : FP} {t : Tracker} (h : FI P t) : FI P (prune t) := by
  refine .of (fun b p hb => ?_) (fun s x hx => ?_)
  · rw [prune_parents] at hb
    split at hb
    · cases hb
    · exact h.parents b p hb
  · rw [prune_status] at hx
    split at hx
    · cases hx
    · exact h.just hx

theorem FI.highest {P : FP} {t : Tracker} (h : FI P t) (x : Nat) : FI P { t with highest := x } :=
  ⟨h.parents, h.fin, h.impl, h.notar, h.pend⟩

theorem walk_fi (P : FP) {t : Tracker} {src : Nat} {b : Option (Nat × Nat)} {ev : Event} {t' : Tracker} {ev' : Event}
    (h : Walk t src b ev t' ev') (hfi : FI P t) (hev : EvS P ev)
    (hL : ∀ blk, b = some blk → P.L blk ∧ ∀ u, blk.1 < u → u < src → P.G u) : FI P t' ∧ EvS P ev' := by
  -- the state and event after the skip loop
  have loop : ∀ {t : Tracker} {src : Nat} {blk : Nat × Nat} {ev : Event} {st : Nat → Option Status} {k : Nat},
      FI P t → EvS P ev → (∀ u, blk.1 < u → u < src → P.G u) → blk.1 + 1 + k ≤ src →
      Skipped t.status st (blk.1 + 1) k →
      FI P { t with status := st } ∧ EvS P { ev with implSkipped := ev.implSkipped ++ List.range' (blk.1 + 1) k } := by
    intro t src blk ev st k hfi hev hG hk s
    refine ⟨.of hfi.parents (fun a x hx => ?_), hev.fin, hev.impl, fun u hu => ?_⟩
    · have hx : st a = some x := hx
      by_cases ha : blk.1 + 1 ≤ a ∧ a < blk.1 + 1 + k
      · rw [(s.inside a ha.1 ha.2).2] at hx; cases hx; trivial
      · rw [s.outside a ha] at hx; exact hfi.just hx
    · rcases List.mem_append.mp hu with a | a
      · exact hev.skip u a
      · have := List.mem_range'_1.mp a
        exact hG u this.1 (Nat.lt_of_lt_of_le this.2 hk)
  induction h with
  | same => exact ⟨hfi, hev⟩
  | stop _ hk s => exact loop hfi hev (hL _ rfl).2 hk s
  | @mark t _ blk ev st _ _ _ _ hk s _ _ ih =>
    have hLb := (hL _ rfl).1
    have ⟨a, b⟩ := loop hfi hev (hL _ rfl).2 hk s
    refine ih (a.set blk.1 (.implFinalized blk.2) hLb) ⟨b.fin, fun c hc => ?_, b.skip⟩ ?_
    · rcases List.mem_append.mp hc with hc | hc
      · exact hev.impl c hc
      · cases List.mem_singleton.mp hc; exact hLb
    · intro p hp
      obtain ⟨e1, e2⟩ := hfi.parents blk p hp
      exact P.down blk p hLb e1 e2

theorem FI.link {P : FP} {t : Tracker} {blk par : Nat × Nat} (h : FI P t) (hp : P.par blk = par)
    (hlt : par.1 < blk.1) : FI P { t with parents := setPar t.parents blk par } := by
  refine ⟨fun b p hb => ?_, h.fin, h.impl, h.notar, h.pend⟩
  have hb' : (if b = blk then some par else t.parents b) = some p := hb
  split at hb'
  · rename_i e; cases hb'; rw [e]; exact ⟨hp, hlt⟩
  · exact h.parents b p hb'

def ResOk (P : FP) : Res → Prop
  | .ok t ev => FI P t ∧ EvS P ev
  | .panic => True

theorem handleFinalizedBlock_fi (P : FP) (t : Tracker) (blk : Nat × Nat) (h : FI P t) (hL : P.L blk) :
    ResOk P (handleFinalizedBlock t blk {}) := by
  cases hr : handleFinalizedBlock t blk {} with
  | panic => trivial
  | ok t' ev =>
    obtain ⟨m, hw, rfl⟩ := hfb_walk hr
    have ⟨a, b⟩ := walk_fi P hw (h.highest _) ⟨fun b hb => Option.some.inj hb ▸ hL, (fun _ hb => nomatch hb),
      (fun _ hb => nomatch hb)⟩ (fun p hp => by
        obtain ⟨e1, e2⟩ := h.parents blk p hp
        exact P.down blk p hL e1 e2)
    exact ⟨a.prune, b⟩

def OpF (P : FP) : Op → Prop
  | .parent b p => P.par b = p
  | .fastFinal b => P.L b
  | .notar b => P.N b
  | .final s => P.Fc s

theorem step_fi (P : FP) (t : Tracker) (op : Op) (h : FI P t) (hop : OpF P op) : ResOk P (step t op) := by
  have c := step_cases t op
  generalize step t op = r at c
  cases c with
  | idle => exact ⟨h, EvS.empty P⟩
  | conflict | badLink => trivial
  | @set s v _ hr =>
    refine ⟨h.set s v ?_, EvS.empty P⟩
    cases hr <;> exact hop
  | @fin s hh _ _ hc hr =>
    subst hr
    have hL : P.L (s, hh) := by
      generalize ho : t.status s = o at hc
      cases hc with
      | fast => exact hop
      | notar => exact P.direct _ hop (h.pend _ ho)
      | final => exact P.direct _ (h.notar _ _ ho) hop
    exact handleFinalizedBlock_fi P _ (s, hh) (h.set s (.finalized hh) hL) hL
  | @link blk par ho hlt _ _ _ =>
    subst ho
    exact ⟨h.link hop hlt, EvS.empty P⟩
  | @linkWalk blk par _ ho hlt _ _ he hr =>
    subst ho hr
    cases hr : walkPrune { t with parents := setPar t.parents blk par } blk.1 par {} with
    | panic => trivial
    | ok t' ev =>
      obtain ⟨m, hw, rfl⟩ := walkPrune_walk hr
      have hL : P.L blk := (finalHash_eq_some.mp he).elim (h.fin _ _) (h.impl _ _)
      have ⟨a, b⟩ := walk_fi P hw (h.link hop hlt) (EvS.empty P)
        (fun p hp => Option.some.inj hp ▸ P.down blk par hL hop hlt)
      exact ⟨a.prune, b⟩

end AgModel.Finality
