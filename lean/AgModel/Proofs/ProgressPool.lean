import AgModel.Proofs.ProgressSlot
import AgModel.Proofs.ProgressFin
import AgModel.Proofs.ProgressPr
import AgModel.Proofs.PoolS2NGlueSlots
import AgModel.Proofs.PoolWiring
/-!
# C02 progress, pool part: `add_valid_cert` in the timely schedule, one lemma per certificate kind

Fast-finalization and finalization share `addValidCert_fin`. Each lemma takes the results of the tracker computations as
hypotheses (equations) and describes the resulting pool through its views: `getSlot`, `fin`, `pr`, `waiting`, and the emitted events.
-/
namespace AgModel.Pool

theorem notifyWaiting_none (P : Pool) (b : Nat × Nat) (h : P.waiting.lookup b = none) :
    P.notifyWaiting b = ({ P with waiting := P.waiting.filter (·.1 ≠ b) }, []) := by
  unfold Pool.notifyWaiting
  rw [h]
  rfl

def WaitBelow (P : Pool) (s : Nat) : Prop := ∀ k ∈ P.waiting, k.1.1 < s

theorem WaitBelow.lookup {P : Pool} {s : Nat} (h : WaitBelow P s) (b : Nat × Nat) (hb : s ≤ b.1) : P.waiting.lookup b = none := by
  cases hl : P.waiting.lookup b with
  | none => rfl
  | some kids =>
    have := h _ (mem_of_lookup_some hl)
    simp only at this
    omega

theorem advance_pr (p : Pool) (t : Finality.Tracker) (pr : ParentReady.Tracker) (anns : List (Nat × (Nat × Nat)))
    (wk : List ParentReady.Wake) : (p.advance t (some (pr, anns, wk))).pr = ParentReady.prune pr t.first := rfl

theorem addCert_slot_of_get {Q : Pool} {c : Cert} {a : SlotState} (hg : Q.getSlot c.slot = some a) : (a.addCert c).slot = c.slot :=
  (addCert_slot a c).trans (getSlot_slot hg)

theorem handleFin_ok (P : Pool) (t : Finality.Tracker) (ev : Finality.Event) (pr1 : ParentReady.Tracker)
    (anns : List (Nat × (Nat × Nat))) (wk : List ParentReady.Wake)
    (h : ParentReady.handleFinalization P.pr ev = some (pr1, anns, wk)) :
    P.handleFin (.ok t ev) = (P.advance t (some (pr1, anns, wk)), prEvents anns) := by
  unfold Pool.handleFin Pool.advance
  simp only [h, Pool.applyPr]

theorem WaitBelow.advance {P : Pool} {s : Nat} (h : WaitBelow P s) (t : Finality.Tracker) (r : ParentReady.Res) :
    WaitBelow (P.advance t r) s := by
  rintro ⟨a, b⟩ hk
  rw [advance_waiting] at hk
  obtain ⟨kids, hm, _⟩ := pruneW_entry _ _ a b hk
  exact h (a, kids) hm

theorem WaitBelow.putSlot {P : Pool} {s : Nat} (h : WaitBelow P s) (st : SlotState) : WaitBelow (P.putSlot st) s := by
  intro k hk; rw [(putSlot_frame P st).waiting] at hk; exact h k hk

theorem advance_putSlot (Q : Pool) (x : SlotState) (t1 : Finality.Tracker) (r : ParentReady.Res) :
    ((Q.putSlot x).advance t1 r).epoch = Q.epoch ∧ ((Q.putSlot x).advance t1 r).fin = t1 ∧
    ∀ t, ((Q.putSlot x).advance t1 r).getSlot t =
      if t1.first ≤ t then (if t = x.slot then some x else Q.getSlot t) else none :=
  ⟨(advance_epoch _ _ _).trans (putSlot_frame Q _).epoch, advance_fin _ _ _, fun t => by rw [getSlot_advance, getSlot_putSlot]⟩

theorem addValidCert_nf {Q : Pool} {c : Cert} {a : SlotState} (hk : c.kind = .nf) (hg : Q.getSlot c.slot = some a)
    (hw : WaitBelow Q c.slot) {pr' : ParentReady.Tracker} {anns : List (Nat × (Nat × Nat))}
    {wk : List ParentReady.Wake} (hm : ParentReady.markNotarFallback Q.pr (c.slot, c.hash) = some (pr', anns, wk)) :
    ∀ R, R = (Q.addValidCert c) →
    R.2 = prEvents anns ++ [.repair c.slot c.hash, .cert c] ∧
    R.1.epoch = Q.epoch ∧ R.1.fin = Q.fin ∧ R.1.pr = pr' ∧
    (∀ t, R.1.getSlot t = if t = c.slot then some (a.addCert c) else Q.getSlot t) ∧
    WaitBelow R.1 c.slot := by
  rintro R rfl
  have hw1 : WaitBelow (Q.putSlot (a.addCert c)) c.slot := hw.putSlot _
  unfold Pool.addValidCert
  rw [slotState_of_some hg]
  simp only [hk, show (CertKind.nf == CertKind.notar) = false from rfl, Bool.false_eq_true, if_false]
  rw [notifyWaiting_none _ _ (hw1.lookup _ (Nat.le_refl _))]
  simp only [(putSlot_frame Q _).pr, hm, Pool.applyPr, List.nil_append, List.append_nil, List.append_assoc]
  refine ⟨by simp, (putSlot_frame Q _).epoch, (putSlot_frame Q _).fin, trivial, ?_, fun k hk' => hw1 k (List.mem_filter.mp hk').1⟩
  intro t
  show (Q.putSlot (a.addCert c)).getSlot t = _
  rw [getSlot_putSlot, addCert_slot_of_get hg]

theorem addValidCert_notar {Q : Pool} {c : Cert} {a : SlotState} (hk : c.kind = .notar) (hg : Q.getSlot c.slot = some a)
    (hw : WaitBelow Q c.slot) {t1 : Finality.Tracker} (hfin : Finality.markNotarized Q.fin (c.slot, c.hash) = .ok t1 {})
    {pr' : ParentReady.Tracker} {anns : List (Nat × (Nat × Nat))} {wk : List ParentReady.Wake}
    (hm : ParentReady.markNotarFallback (ParentReady.prune Q.pr t1.first) (c.slot, c.hash) = some (pr', anns, wk)) :
    ∀ R, R = (Q.addValidCert c) →
    R.2 = prEvents anns ++ [.repair c.slot c.hash, .cert c] ∧
    R.1.epoch = Q.epoch ∧ R.1.fin = t1 ∧ R.1.pr = pr' ∧
    (∀ t, R.1.getSlot t =
      if t1.first ≤ t then (if t = c.slot then some (a.addCert c) else Q.getSlot t) else none) ∧
    WaitBelow R.1 c.slot := by
  rintro R rfl
  have hfin' : (Q.putSlot (a.addCert c)).fin = Q.fin := (putSlot_frame Q _).fin
  have hw1 : WaitBelow ((Q.putSlot (a.addCert c)).advance t1 (some (Q.pr, [], []))) c.slot := (hw.putSlot _).advance _ _
  obtain ⟨w1, w2, w3⟩ := advance_putSlot Q (a.addCert c) t1 (some (Q.pr, [], []))
  rw [addCert_slot_of_get hg] at w3
  unfold Pool.addValidCert
  rw [slotState_of_some hg]
  simp only [hk, show (CertKind.notar == CertKind.notar) = true from rfl, if_true]
  rw [hfin', hfin, handleFin_ok _ t1 {} Q.pr [] [] (by rw [(putSlot_frame Q _).pr]; exact ParentReady.handleFinalization_empty _)]
  rw [notifyWaiting_none _ _ (hw1.lookup _ (Nat.le_refl _))]
  have hpr2 : ((Q.putSlot (a.addCert c)).advance t1 (some (Q.pr, [], []))).pr = ParentReady.prune Q.pr t1.first := rfl
  simp only [hpr2, hm, Pool.applyPr, prEvents, List.map_nil, List.nil_append, List.append_nil, List.append_assoc]
  exact ⟨by simp, w1, w2, trivial, w3, fun k hk' => hw1 k (List.mem_filter.mp hk').1⟩

theorem addValidCert_fin {Q : Pool} {c : Cert} {a : SlotState} {t1 : Finality.Tracker} {ev : Finality.Event}
    (hfin : (c.kind = .ff ∧ Finality.markFastFinalized Q.fin (c.slot, c.hash) = .ok t1 ev) ∨
      (c.kind = .final ∧ Finality.markFinalized Q.fin c.slot = .ok t1 ev))
    (hg : Q.getSlot c.slot = some a) (hw : WaitBelow Q c.slot)
    {pr1 : ParentReady.Tracker} {anns : List (Nat × (Nat × Nat))} {wk : List ParentReady.Wake}
    (hm : ParentReady.handleFinalization Q.pr ev = some (pr1, anns, wk)) :
    ∀ R, R = (Q.addValidCert c) →
    R.2 = prEvents anns ++ [.cert c] ∧
    R.1.epoch = Q.epoch ∧ R.1.fin = t1 ∧
    R.1.pr = ParentReady.prune pr1 t1.first ∧
    (∀ t, R.1.getSlot t =
      if t1.first ≤ t then (if t = c.slot then some (a.addCert c) else Q.getSlot t) else none) ∧
    WaitBelow R.1 c.slot := by
  rintro R rfl
  have hfin' : (Q.putSlot (a.addCert c)).fin = Q.fin := (putSlot_frame Q _).fin
  have hw1 : WaitBelow ((Q.putSlot (a.addCert c)).advance t1 (some (pr1, anns, wk))) c.slot := (hw.putSlot _).advance _ _
  obtain ⟨w1, w2, w3⟩ := advance_putSlot Q (a.addCert c) t1 (some (pr1, anns, wk))
  rw [addCert_slot_of_get hg] at w3
  unfold Pool.addValidCert
  rw [slotState_of_some hg]
  rcases hfin with ⟨hk, hfin⟩ | ⟨hk, hfin⟩ <;> simp only [hk] <;>
    rw [hfin', hfin, handleFin_ok _ t1 ev pr1 anns wk (by rw [(putSlot_frame Q _).pr]; exact hm)]
  · -- only the fast-finalization certificate wakes waiting children
    rw [notifyWaiting_none _ _ (hw1.lookup _ (Nat.le_refl _))]
    exact ⟨by simp, w1, w2, rfl, w3, fun k hk' => hw1 k (List.mem_filter.mp hk').1⟩
  · exact ⟨rfl, w1, w2, rfl, w3, hw1⟩

theorem addValidCert_skip {Q : Pool} {c : Cert} {a : SlotState} (hk : c.kind = .skip) (hg : Q.getSlot c.slot = some a)
    {pr' : ParentReady.Tracker} {anns : List (Nat × (Nat × Nat))} {wk : List ParentReady.Wake}
    (hm : ParentReady.markSkipped Q.pr c.slot = some (pr', anns, wk)) :
    ∀ R, R = (Q.addValidCert c) →
    R.2 = prEvents anns ++ [.cert c] ∧
    R.1.epoch = Q.epoch ∧ R.1.fin = Q.fin ∧ R.1.pr = pr' ∧
    (∀ t, R.1.getSlot t = if t = c.slot then some (a.addCert c) else Q.getSlot t) ∧
    R.1.waiting = Q.waiting := by
  rintro R rfl
  unfold Pool.addValidCert
  rw [slotState_of_some hg]
  simp only [hk, (putSlot_frame Q _).pr, hm, Pool.applyPr]
  refine ⟨trivial, (putSlot_frame Q _).epoch, (putSlot_frame Q _).fin, trivial, ?_, (putSlot_frame Q _).waiting⟩
  intro t
  show (Q.putSlot (a.addCert c)).getSlot t = _
  rw [getSlot_putSlot, addCert_slot_of_get hg]

end AgModel.Pool
