import AgModel.Proofs.ClusterGenesis
import AgModel.Proofs.PoolWiring
/-!
# C10 cluster composition, part 2: the ghost log of a pool in a valid cluster run is `Consistent`

`LogOk c s i L`: every certificate in the log `L` (of node `i`'s pool) is backed by the signatures known in state `s`, every
registration agrees with the global parent function and names a parent in an earlier slot. Under the hypotheses of the safety
theorems for the history derived from `s` (`Setting`, i.e. `cluster_setting`) and with `VotesGOK` (`Proofs/ClusterGenesis.lean`)
this implies **every clause** of `Finality.Safe (finOps L)` and of `Pool.Consistent L`:

| clause | from |
|---|---|
| `link_lt`, `link_fun` | the registrations agree with `parentOf`, parents in earlier slots |
| `final_fun` | `logs_one_chain` (C01) |
| `no_final_between` | `logs_one_chain` + the parent of a block is its only link |
| `notar_fun` | `notar_unique` (C01) |
| `notar_direct` | `final_excludes` (C01) |
| `fin_not_skip` | `skip_of_gap` + R2 + `finalized_not_skipped` |
| `skip_not_direct` | `finalized_not_skipped` (C01) |
| `genesis` | `GOK` |

The blocks of the history are `Blk` (all ids of slot 0 identified with genesis); the trackers work on raw ids. `GOK` closes the
gap (`raw_eq`).
-/
namespace AgModel.Cluster
open AgModel AgModel.Node AgModel.NodePanic AgModel.Pool AgModel.Spec

def LogOk (c : Cfg) (s : State) (i : ℕ) (L : List LogItem) : Prop :=
  ∀ it ∈ L, match it with
    | .cert x => CertBacked (sigOf c s) (c.epoch i) x
    | .block b p => c.parentOf b = p ∧ p.1 < b.1

theorem LogOk.append {c : Cfg} {s : State} {i : ℕ} {A B : List LogItem} (ha : LogOk c s i A) (hb : LogOk c s i B) :
    LogOk c s i (A ++ B) :=
  fun it hit => (List.mem_append.mp hit).elim (ha it) (hb it)

theorem raw_eq {c : Cfg} {b b' : ℕ × ℕ} (h : idBlk b = idBlk b') (g : GOK c b) (g' : GOK c b') : b = b' := by
  obtain ⟨s, x⟩ := b
  obtain ⟨s', x'⟩ := b'
  have hs : s = s' := (slot_idBlk c _).symm.trans ((congrArg Blk.slot h).trans (slot_idBlk c _))
  subst hs
  by_cases h0 : s = 0
  · subst h0; rw [g.slot0, g'.slot0]
  · have : x = x' := by
      have := congrArg Blk.hash h
      unfold idBlk at this
      rwa [Blk.mk'_hash _ _ h0, Blk.mk'_hash _ _ h0] at this
    rw [this]

section
variable {c : Cfg} {s : State} (hS : Setting (stakeFn c) (chainOf c) (histOf c s) (byz c)) (hvg : VotesGOK c s)
  {i : ℕ} {L : List LogItem} (hL : LogOk c s i L)

include hL

theorem LogOk.certOn {x : Cert} {k : CertKind} (hx : LogItem.cert x ∈ L) (hk : x.kind = k) :
    CertOn c (histOf c s) k x.slot x.hash :=
  hk ▸ certOn_of_backed c s i x (hL _ hx)

theorem link_ok {b p : ℕ × ℕ} (h : Finality.LinkH (finOps L) b p) : c.parentOf b = p ∧ p.1 < b.1 :=
  hL _ (mem_finOps_parent.mp h)

theorem finH_ok {t : ℕ} (h : Finality.FinH (finOps L) t) : FinalCert (stakeFn c) (histOf c s) t := by
  obtain ⟨x, hx, hk, rfl⟩ := mem_finOps_final.mp h
  exact hL.certOn hx hk

include hS hvg

theorem notarH_ok {b : ℕ × ℕ} (h : Finality.NotarH (finOps L) b) :
    NotarCert (stakeFn c) (histOf c s) (idBlk b) ∧ GOK c b := by
  rcases h with rfl | h
  · exact ⟨notarCert_genesis c s, GOK.zero c⟩
  · obtain ⟨x, hx, hk, rfl⟩ := mem_finOps_notar.mp h
    exact ⟨hL.certOn hx hk, backed_gok c s hvg hS.byz_bound i x (Or.inl hk) (hL _ hx)⟩

theorem direct_ok {b : ℕ × ℕ} (h : Finality.Direct (finOps L) b) :
    FinalizedAt (stakeFn c) (chainOf c) (histOf c s) (idBlk b) ∧ GOK c b := by
  rcases h with h | ⟨h1, h2⟩
  · obtain ⟨x, hx, hk, rfl⟩ := mem_finOps_ff.mp h
    exact ⟨Or.inl (hL.certOn hx hk), backed_gok c s hvg hS.byz_bound i x (Or.inr (Or.inr hk)) (hL _ hx)⟩
  · exact (notarH_ok hS hvg hL h2).imp_left fun a => Or.inr ⟨(slot_idBlk c b).symm ▸ finH_ok hL h1, a⟩

theorem final_ok {b : ℕ × ℕ} (h : Finality.Final (finOps L) b) :
    InLog (stakeFn c) (chainOf c) (histOf c s) (idBlk b) ∧ GOK c b := by
  induction h with
  | direct d => exact (direct_ok hS hvg hL d).imp_left fun a => ⟨_, a, Anc.refl⟩
  | @step x p _ hl ih =>
    obtain ⟨hp, hlt⟩ := link_ok hL hl
    exact ⟨(inLog_link c s ih.1 hp hlt).1, hp ▸ ih.2.parent (hp.symm ▸ hlt)⟩

theorem safe_of_logOk : Finality.Safe (finOps L) where
  link_lt := fun b p h => (link_ok hL h).2
  link_fun := fun b p p' h h' => (link_ok hL h).1.symm.trans (link_ok hL h').1
  final_fun := by
    intro b b' hb hb' hs
    obtain ⟨a, g⟩ := final_ok hS hvg hL hb
    obtain ⟨a', g'⟩ := final_ok hS hvg hL hb'
    exact raw_eq ((logs_one_chain hS _ _ a a').2 (slot_idBlk_eq c hs)) g g'
  no_final_between := by
    intro x p q hx hl hq ⟨h1, h2⟩
    obtain ⟨ax, _⟩ := final_ok hS hvg hL hx
    obtain ⟨aq, _⟩ := final_ok hS hvg hL hq
    obtain ⟨hp, hlt⟩ := link_ok hL hl
    -- `q` and `x` are on one chain: `q` is not above `x`, so it is `x`'s parent `p` or below
    rcases (logs_one_chain hS _ _ ax aq).1 with h | h
    · exact Nat.lt_irrefl _ (Nat.lt_of_lt_of_le h2 (anc_idBlk_le c h))
    · have hanc := anc_lt_parent h (by rw [slot_idBlk, slot_idBlk]; exact h2)
      rw [parent_idBlk c x p hp hlt] at hanc
      exact Nat.lt_irrefl _ (Nat.lt_of_lt_of_le h1 (anc_idBlk_le c hanc))
  notar_fun := by
    intro b b' hb hb' hs
    obtain ⟨a, g⟩ := notarH_ok hS hvg hL hb
    obtain ⟨a', g'⟩ := notarH_ok hS hvg hL hb'
    exact raw_eq (notar_unique hS (idBlk b) (idBlk b') (slot_idBlk_eq c hs) a a') g g'
  notar_direct := by
    intro b b' hb hb' hs
    obtain ⟨a, g⟩ := notarH_ok hS hvg hL hb
    obtain ⟨a', g'⟩ := direct_ok hS hvg hL hb'
    by_cases he : idBlk b = idBlk b'
    · exact raw_eq he g g'
    · exact absurd a.nfCert ((final_excludes hS (idBlk b') a').2 (idBlk b) (slot_idBlk_eq c hs) he)
  fin_not_skip := by
    intro t hf ⟨x, p, hx, hl, h1, h2⟩
    obtain ⟨hp, hlt⟩ := link_ok hL hl
    have hgap := (inLog_link c s (final_ok hS hvg hL hx).1 hp hlt).2 t h1 h2
    exact finalCert_not_skip hS t (finH_ok hL hf) (skip_of_gap hS (byzAll c s) t hgap)

theorem consistent_of_logOk : Consistent L where
  safe := safe_of_logOk hS hvg hL
  skip_not_direct := by
    intro x hx hk h hd
    exact finalized_not_skipped hS _ (direct_ok hS hvg hL hd).1 ((slot_idBlk c (x.slot, h)).symm ▸ hL.certOn hx hk)
  genesis := fun h hf => (final_ok hS hvg hL hf).2.slot0

end

end AgModel.Cluster
