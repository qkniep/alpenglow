import AgModel.Proofs.ParentReady
/-!
Exactness of the parent-ready tracker: a ghost history `Hist` of the marks the tracker accepted, and the invariant `Inv`
that at and above the root each ready list holds exactly the parents the history connects to the slot; every operation
keeps it, and with it `add_to_ready` never panics and the announcements are exactly the newly ready pairs.
Both marks end in the forward loop, which re-establishes the invariant (`fwd_step`); `mark_skipped` first collects the
parents connected to the marked slot (`collectL_connected`).
-/
namespace AgModel.ParentReady

theorem W_pos : 0 < W := by decide

theorem isWindowStart_windowFirst (s : Nat) : isWindowStart (windowFirst s) = true := by
  simp [isWindowStart, windowFirst]

/-- a multiple of `W` above `s / W * W` is above `s` -/
theorem not_ws_of_between {s r : Nat} (h1 : windowFirst s < r) (h2 : r ≤ s) : isWindowStart r = false := by
  unfold isWindowStart windowFirst at *
  rw [beq_eq_false_iff_ne]
  intro hr
  rw [← Nat.div_mul_cancel (Nat.dvd_of_mod_eq_zero hr)] at h1
  exact Nat.lt_irrefl _ (Nat.lt_of_lt_of_le (Nat.lt_of_mul_lt_mul_right h1) (Nat.div_le_div_right h2))

structure UpdAt (t t' : Tracker) (s : Nat) (v : PState) : Prop where
  root : t'.root = t.root
  top : t'.top = t.top
  same : get t' s = v
  other : ∀ x, x ≠ s → get t' x = get t x

theorem updAt_put (t : Tracker) (s : Nat) (v : PState) : UpdAt t (put t s v) s v :=
  ⟨rfl, rfl, get_put_same _ _ _, fun _ h => get_put_other _ _ h⟩

theorem fwd_total {f : Nat} {t : Tracker} {slot : Nat} {ids : List (Nat × Nat)} (hnd : ids.Nodup)
    (hdis : ∀ x, slot ≤ x → ∀ id ∈ ids, id ∉ (get t x).ready) : ∃ r, fwd f t slot ids = some r := by
  induction f generalizing t slot with
  | zero => exact ⟨_, rfl⟩
  | succ f ih =>
    obtain ⟨t1, w1, e1, hd⟩ := fwd_head (fun _ => ⟨hnd, hdis slot (Nat.le_refl _)⟩)
    simp only [fwd, e1]
    split
    · obtain ⟨⟨t2, n2, w2⟩, e2⟩ := @ih t1 (slot + 1) (fun x hx id hm => by
        rw [hd.miss x (fun h => Nat.not_succ_le_self slot (h.1 ▸ hx))]; exact hdis x (Nat.le_of_succ_le hx) id hm)
      rw [e2]; exact ⟨_, rfl⟩
    · exact ⟨_, rfl⟩

/-- `fwd_some` without the fuel bound: `top` bounds the skip marks (`htop`) and the fuel exceeds it (`hf`), so the loop
    ends by `break`; `hnd`, `hdis` are what keeps the `assert!` of `add_to_ready` from firing. -/
theorem fwd_exact {f : Nat} {t : Tracker} {slot : Nat} {ids : List (Nat × Nat)}
    (hf1 : 1 ≤ f) (hf : t.top + 2 ≤ f + slot)
    (htop : ∀ u, slot ≤ u → (get t u).skip = true → u ≤ t.top)
    (hnd : ids.Nodup) (hdis : ∀ x, slot ≤ x → ∀ id ∈ ids, id ∉ (get t x).ready) :
    ∃ t' new w, fwd f t slot ids = some (t', new, w) ∧
      Appended (fun x => isWindowStart x = true ∧ Vis t slot x) ids t t' new w := by
  obtain ⟨⟨t', new, w⟩, e⟩ := fwd_total (f := f) hnd hdis
  refine ⟨t', new, w, e, (fwd_some e).congr (fun x => ⟨fun hp => ⟨hp.1, hp.2.1⟩, fun hp => ⟨hp.1, hp.2, ?_⟩⟩)⟩
  -- `x < slot + f`.  For `x = slot` this needs `1 ≤ f` (`hf1`): `hf` does not give it when `slot` is beyond `top + 1`, where
  -- the model's fuel `top + 1 - slot + 1` truncates to 1.  For `x > slot` the slot before `x` is skip-marked, so
  -- `x - 1 ≤ top`, and `hf` gives `x ≤ top + 1 < slot + f`.
  rcases Nat.eq_or_lt_of_le hp.2.1 with e | hlt
  · rw [← e]; exact Nat.lt_add_of_pos_right hf1
  · have := htop (x - 1) (Nat.le_sub_one_of_lt hlt) (hp.2.2 (x - 1) (Nat.le_sub_one_of_lt hlt) (Nat.sub_one_lt_of_lt hlt))
    omega

/-- Ghost history of a run: the current root, the notar-fallback marks and the skip marks the tracker *accepted*
    (a mark for a slot below the root at the time of the call is ignored by the code and is not recorded),
    the slots used as prune roots (latest first) and whether the prune roots were monotone so far. -/
structure Hist where
  root : Nat := 0
  nf : List (Nat × Nat) := [(0, 0)]
  sk : List Nat := []
  roots : List Nat := []
  mono : Bool := true

def Hist.addNf (h : Hist) (b : Nat × Nat) : Hist := { h with nf := b :: h.nf }
def Hist.addSk (h : Hist) (s : Nat) : Hist := { h with sk := s :: h.sk }
def Hist.nfMark (h : Hist) (b : Nat × Nat) : Hist := if b.1 < h.root then h else h.addNf b
def Hist.skMark (h : Hist) (s : Nat) : Hist := if s < h.root then h else h.addSk s
def Hist.pruneTo (h : Hist) (r : Nat) : Hist :=
  { h with root := r, roots := r :: h.roots, mono := h.mono && decide (h.root ≤ r) }

/-- the parent-ready condition of the module comment of `parent_ready_tracker.rs`, read on the history (genesis is in
    `nf` from the start); that `s` starts a window is said separately -/
def Connected (h : Hist) (s : Nat) (b : Nat × Nat) : Prop :=
  b.1 < s ∧ b ∈ h.nf ∧ ∀ u, b.1 < u → u < s → u ∈ h.sk

-- with `u < s` as the first premise the quantifier is a bounded one, which is decidable
instance (h : Hist) (s : Nat) (b : Nat × Nat) : Decidable (Connected h s b) :=
  decidable_of_iff (b.1 < s ∧ b ∈ h.nf ∧ ∀ u, u < s → b.1 < u → u ∈ h.sk)
    ⟨fun ⟨a, c, d⟩ => ⟨a, c, fun u x y => d u y x⟩, fun ⟨a, c, d⟩ => ⟨a, c, fun u x y => d u y x⟩⟩

theorem connected_addNf {h : Hist} {b : Nat × Nat} {s : Nat} {p : Nat × Nat} :
    Connected (h.addNf b) s p ↔ Connected h s p ∨ (p = b ∧ b.1 < s ∧ ∀ u, b.1 < u → u < s → u ∈ h.sk) := by
  unfold Connected Hist.addNf
  simp only [List.mem_cons]
  constructor
  · rintro ⟨h1, (e | h2), h3⟩
    · subst e; exact Or.inr ⟨rfl, h1, h3⟩
    · exact Or.inl ⟨h1, h2, h3⟩
  · rintro (⟨h1, h2, h3⟩ | ⟨e, h1, h3⟩)
    · exact ⟨h1, Or.inr h2, h3⟩
    · subst e; exact ⟨h1, Or.inl rfl, h3⟩

theorem connected_addSk {h : Hist} {ms : Nat} {s : Nat} {p : Nat × Nat} :
    Connected (h.addSk ms) s p ↔ Connected h s p ∨
      (Connected h ms p ∧ ms < s ∧ ∀ u, ms < u → u < s → u ∈ h.sk) := by
  unfold Connected Hist.addSk
  simp only [List.mem_cons]
  constructor
  · rintro ⟨h1, h2, h3⟩
    by_cases hc : p.1 < ms ∧ ms < s
    · exact Or.inr ⟨⟨hc.1, h2, fun u a b => (h3 u a (Nat.lt_trans b hc.2)).resolve_left (Nat.ne_of_lt b)⟩, hc.2,
        fun u a b => (h3 u (Nat.lt_trans hc.1 a) b).resolve_left (Nat.ne_of_gt a)⟩
    · exact Or.inl ⟨h1, h2, fun u a b => (h3 u a b).resolve_left (fun e => hc ⟨e ▸ a, e ▸ b⟩)⟩
  · rintro (⟨h1, h2, h3⟩ | ⟨⟨h1, h4, h5⟩, h2, h6⟩)
    · exact ⟨h1, h2, fun u a b => Or.inr (h3 u a b)⟩
    · exact ⟨Nat.lt_trans h1 h2, h4, fun u a b => (Nat.lt_trichotomy u ms).elim (fun hl => Or.inr (h5 u a hl))
        (fun hh => hh.elim Or.inl (fun hg => Or.inr (h6 u hg b)))⟩

/-- the equation the backward walk of `mark_skipped` unfolds slot by slot -/
theorem connected_succ {h : Hist} {s : Nat} {p : Nat × Nat} :
    Connected h (s + 1) p ↔ (p.1 = s ∧ p ∈ h.nf) ∨ (s ∈ h.sk ∧ Connected h s p) := by
  constructor
  · rintro ⟨h1, h2, h3⟩
    rcases Nat.eq_or_lt_of_le (Nat.le_of_lt_succ h1) with e | hlt
    · exact Or.inl ⟨e, h2⟩
    · exact Or.inr ⟨h3 s hlt (Nat.lt_succ_self s), hlt, h2, fun u a b => h3 u a (Nat.lt_succ_of_lt b)⟩
  · rintro (⟨e, h2⟩ | ⟨hs, h1, h2, h3⟩)
    · exact ⟨e ▸ Nat.lt_succ_self _, h2, fun u a b => absurd (e ▸ a) (Nat.not_lt.mpr (Nat.le_of_lt_succ b))⟩
    · exact ⟨Nat.lt_succ_of_lt h1, h2, fun u a b =>
        (Nat.eq_or_lt_of_le (Nat.le_of_lt_succ b)).elim (fun e => e ▸ hs) (h3 u a)⟩

/-- The invariant.  State and history are compared at and above the root only (`prune` forgets the rest, and marks below
    the root are not recorded); `ready` is `ready_iff`; `top` is what makes the fuel of the forward loops adequate. -/
structure Inv (h : Hist) (t : Tracker) : Prop where
  root : t.root = h.root
  skip : ∀ u, h.root ≤ u → ((get t u).skip = true ↔ u ∈ h.sk)
  nfs : ∀ u x, h.root ≤ u → (x ∈ (get t u).nfs ↔ (u, x) ∈ h.nf)
  ready : ∀ s b, h.root ≤ s → (b ∈ (get t s).ready ↔ isWindowStart s = true ∧ Connected h s b)
  top : ∀ u ∈ h.sk, u ≤ t.top
  nfsNodup : ∀ u, (get t u).nfs.Nodup
  readyNodup : ∀ s, (get t s).ready.Nodup
  waiter : ∀ s, (get t s).waiter = true → (get t s).ready = []
  low : ∀ u, u < h.root → (get t u).ready = []

/-- What one (possibly composite) mark operation does to ready lists, announcements and waiters. -/
structure Step (t t' : Tracker) (ann : List (Nat × (Nat × Nat))) (w : List Wake) : Prop where
  root : t'.root = t.root
  ext : ∀ s, ∃ l, (get t' s).ready = (get t s).ready ++ l
  annNodup : ann.Nodup
  annNew : ∀ s b, (s, b) ∈ ann → t.root ≤ s ∧ b ∈ (get t' s).ready ∧ b ∉ (get t s).ready
  waiter : ∀ s, (get t' s).waiter = true ↔ (get t s).waiter = true ∧ (get t' s).ready = []
  /-- with `Inv.waiter` the list was empty in `t`, so its head in `t'` is the first parent that became ready -/
  wake : ∀ s b, (s, b) ∈ w ↔ (get t s).waiter = true ∧ (get t' s).ready.head? = some b

theorem Step.trans {a b c : Tracker} {l1 l2 : List (Nat × (Nat × Nat))} {w1 w2 : List Wake}
    (h1 : Step a b l1 w1) (h2 : Step b c l2 w2) : Step a c (l1 ++ l2) (w1 ++ w2) := by
  refine ⟨h2.root.trans h1.root, ?_, ?_, ?_, ?_, ?_⟩
  · intro s
    obtain ⟨x, hx⟩ := h1.ext s
    obtain ⟨y, hy⟩ := h2.ext s
    exact ⟨x ++ y, by rw [hy, hx, List.append_assoc]⟩
  · rw [List.nodup_append]
    refine ⟨h1.annNodup, h2.annNodup, ?_⟩
    intro x hx y hy e
    subst e
    obtain ⟨_, m1, _⟩ := h1.annNew x.1 x.2 hx
    obtain ⟨_, _, m2⟩ := h2.annNew x.1 x.2 hy
    exact m2 m1
  · intro s p hp
    obtain ⟨y, hy⟩ := h2.ext s
    obtain ⟨x, hx⟩ := h1.ext s
    rcases List.mem_append.mp hp with hp | hp
    · obtain ⟨r, m1, m2⟩ := h1.annNew s p hp
      exact ⟨r, by rw [hy]; exact List.mem_append_left _ m1, m2⟩
    · obtain ⟨r, m1, m2⟩ := h2.annNew s p hp
      exact ⟨by rw [← h1.root]; exact r, m1, fun hh => m2 (by rw [hx]; exact List.mem_append_left _ hh)⟩
  · intro s
    obtain ⟨y, hy⟩ := h2.ext s
    rw [h2.waiter, h1.waiter, and_assoc, hy]
    exact and_congr_right' (and_iff_right_of_imp fun h' => (List.append_eq_nil_iff.mp h').1)
  · intro s p
    obtain ⟨y, hy⟩ := h2.ext s
    rw [List.mem_append, h1.wake, h2.wake, h1.waiter, hy]
    -- the first parent of `c` is that of `b` if `b` has one; else the waiter is still registered in `b`
    cases (get b s).ready with
    | nil => exact ⟨fun h => h.elim (fun h => by cases h.2) (fun h => ⟨h.1.1, h.2⟩), fun h => Or.inr ⟨⟨h.1, rfl⟩, h.2⟩⟩
    | cons z zs => exact ⟨fun h => h.elim id (fun h => by cases h.1.2), Or.inl⟩

/-- the announcements of a step are complete: every pair that enters a ready list is announced (what the certificate
    paths add to `Step`; `handle_finalization` announces one pair of its batch only) -/
def AnnAll (t t' : Tracker) (ann : List (Nat × (Nat × Nat))) : Prop :=
  ∀ s p, p ∈ (get t' s).ready → p ∉ (get t s).ready → (s, p) ∈ ann

theorem Appended.step {P : Nat → Prop} {ids : List (Nat × Nat)} {t t' : Tracker} {new : List (Nat × (Nat × Nat))}
    {w : List Wake} (a : Appended P ids t t' new w) (hPr : ∀ x, P x → t.root ≤ x)
    (hwi : ∀ s, (get t s).waiter = true → (get t s).ready = []) :
    Step t t' new w ∧ AnnAll t t' new := by
  refine ⟨⟨a.root, ?_, a.annNodup, ?_, ?_, ?_⟩, ?_⟩
  · intro s
    by_cases hp : P s
    · exact ⟨ids, by rw [a.hit s hp]; rfl⟩
    · exact ⟨[], by rw [a.miss s hp]; simp⟩
  · intro s b hm
    obtain ⟨hp, hb⟩ := (a.ann s b).mp hm
    exact ⟨hPr s hp, (a.mem_ready s b).mpr (Or.inr ⟨hp, hb⟩), (a.fresh s hp).2 b hb⟩
  · intro s
    by_cases hp : P s
    · rw [a.hit s hp]; exact (addSt_wait (hwi s) ids).1
    · rw [a.miss s hp]; exact ⟨fun h => ⟨h, hwi s h⟩, And.left⟩
  · intro s b
    rw [a.wake]
    by_cases hp : P s
    · rw [a.hit s hp, ← (addSt_wait (hwi s) ids).2 b]; exact and_iff_right hp
    · rw [a.miss s hp]
      exact ⟨fun h => absurd h.1 hp, fun h => by rw [hwi s h.1] at h; cases h.2⟩
  · exact fun s p h1 h2 => (a.ann s p).mpr (((a.mem_ready s p).mp h1).resolve_left h2)

theorem Step.of_same {t t' : Tracker} (hr : t'.root = t.root) (htop : t'.top = t.top) (hg : ∀ x, get t' x = get t x)
    (hwi : ∀ s, (get t s).waiter = true → (get t s).ready = []) :
    Step t t' [] [] ∧ AnnAll t t' [] :=
  (Appended.none (P := fun _ => False) (ids := []) (fun _ h => h) hr htop hg).step (fun _ h => h.elim) hwi

theorem Step.of_eq {t0 t t' : Tracker} {ann : List (Nat × (Nat × Nat))} {w : List Wake} (h : Step t t' ann w)
    (hr : t.root = t0.root) (hrd : ∀ u, (get t u).ready = (get t0 u).ready)
    (hwt : ∀ u, (get t u).waiter = (get t0 u).waiter) : Step t0 t' ann w := by
  obtain ⟨a1, a2, a3, a4, a5, a6⟩ := h
  simp only [hr, hrd, hwt] at a1 a2 a4 a5 a6
  exact ⟨a1, a2, a3, a4, a5, a6⟩

theorem Inv.transfer {h h' : Hist} {t t' : Tracker} (inv : Inv h t) (hroot : t'.root = h'.root) (hrr : h.root ≤ h'.root)
    (hnf : ∀ x, x ∈ h'.nf ↔ x ∈ h.nf) (hsk : ∀ x, x ∈ h'.sk ↔ x ∈ h.sk) (htop : t.top ≤ t'.top)
    (hskip : ∀ u, h'.root ≤ u → (get t' u).skip = (get t u).skip)
    (hnfs : ∀ u, h'.root ≤ u → (get t' u).nfs = (get t u).nfs)
    (hrdy : ∀ u p, h'.root ≤ u → (p ∈ (get t' u).ready ↔ p ∈ (get t u).ready))
    (hnd : ∀ u, (get t' u).nfs.Nodup) (hrnd : ∀ u, (get t' u).ready.Nodup)
    (hw : ∀ u, (get t' u).waiter = true → (get t' u).ready = [])
    (hlow : ∀ u, u < h'.root → (get t' u).ready = []) : Inv h' t' := by
  have hc : ∀ s b, Connected h' s b ↔ Connected h s b := by
    intro s b; unfold Connected; rw [hnf]
    exact and_congr_right' (and_congr_right' ⟨fun c u x y => (hsk u).mp (c u x y), fun c u x y => (hsk u).mpr (c u x y)⟩)
  exact ⟨hroot, fun u hu => by rw [hskip u hu, hsk]; exact inv.skip u (Nat.le_trans hrr hu),
    fun u x hu => by rw [hnfs u hu, hnf]; exact inv.nfs u x (Nat.le_trans hrr hu),
    fun s b hs => by rw [hrdy s b hs, hc]; exact inv.ready s b (Nat.le_trans hrr hs),
    fun u hu => Nat.le_trans (inv.top u ((hsk u).mp hu)) htop, hnd, hrnd, hw, hlow⟩

theorem Inv.same_step {h h' : Hist} {t : Tracker} (inv : Inv h t) {res : Res}
    (hres : ∃ t', res = some (t', [], []) ∧ t'.root = t.root ∧ t'.top = t.top ∧ ∀ x, get t' x = get t x)
    (hroot : h'.root = h.root) (hnf : ∀ x, x ∈ h'.nf ↔ x ∈ h.nf) (hsk : ∀ x, x ∈ h'.sk ↔ x ∈ h.sk) :
    ∃ t' ann w, res = some (t', ann, w) ∧ Inv h' t' ∧ Step t t' ann w ∧
      AnnAll t t' ann := by
  obtain ⟨t', e, hr, htop, hg⟩ := hres
  exact ⟨t', [], [], e,
    inv.transfer (by rw [hr, hroot, inv.root]) (Nat.le_of_eq hroot.symm) hnf hsk (Nat.le_of_eq htop.symm)
      (fun u _ => by rw [hg]) (fun u _ => by rw [hg]) (fun u p _ => by rw [hg]) (fun u => by rw [hg]; exact inv.nfsNodup u)
      (fun u => by rw [hg]; exact inv.readyNodup u) (fun u => by rw [hg]; exact inv.waiter u)
      (fun u hu => by rw [hg]; exact inv.low u (hroot ▸ hu)),
    Step.of_same hr htop hg inv.waiter⟩

/-- The part of `Inv` that speaks of the marks alone, not of ready lists and waiters: what a mark re-establishes at
    once, before its forward loop has run. -/
structure MarksOK (h : Hist) (t : Tracker) : Prop where
  root : t.root = h.root
  skip : ∀ u, h.root ≤ u → ((get t u).skip = true ↔ u ∈ h.sk)
  nfs : ∀ u x, h.root ≤ u → (x ∈ (get t u).nfs ↔ (u, x) ∈ h.nf)
  top : ∀ u ∈ h.sk, u ≤ t.top
  nfsNodup : ∀ u, (get t u).nfs.Nodup

/-- The forward loop after a new mark at slot `m` re-establishes the invariant.  `t1` is the tracker with the mark
    applied (`mk1`; ready lists and waiters still those of `t`), `h'` the history with the mark, and `ids` are the parents
    that the mark connects to the slots behind `m`: new there, and by `hconn` exactly what `h'` connects beyond `h`. -/
theorem fwd_step {h h' : Hist} {t t1 : Tracker} (inv : Inv h t) {m : Nat} {ids : List (Nat × Nat)}
    (hm : h.root ≤ m) (hroot : h'.root = h.root) (mk1 : MarksOK h' t1)
    (hrd1 : ∀ u, (get t1 u).ready = (get t u).ready) (hwt1 : ∀ u, (get t1 u).waiter = (get t u).waiter)
    (hskm : ∀ u, m < u → (u ∈ h'.sk ↔ u ∈ h.sk))
    (hnd : ids.Nodup) (hdis : ∀ x, m < x → ∀ id ∈ ids, id ∉ (get t x).ready)
    (hconn : ∀ s p, Connected h' s p ↔ Connected h s p ∨ (p ∈ ids ∧ m < s ∧ ∀ u, m < u → u < s → u ∈ h.sk)) :
    ∃ t' ann w, fwd (t1.top + 1 - m + 1) t1 (m + 1) ids = some (t', ann, w) ∧ Inv h' t' ∧ Step t t' ann w ∧
      AnnAll t t' ann := by
  have hge : ∀ u, m < u → h.root ≤ u := fun u hu => Nat.le_trans hm (Nat.le_of_lt hu)
  have r1 : t1.root = t.root := mk1.root.trans (hroot.trans inv.root.symm)
  have hsk1 := fun u (hu : h.root ≤ u) => mk1.skip u (hroot ▸ hu)
  obtain ⟨t', ann, w, e, app0⟩ := @fwd_exact (t1.top + 1 - m + 1) t1 (m + 1) ids (by omega) (by omega)
    (fun u hu hs => mk1.top u ((hsk1 u (hge u hu)).mp hs)) hnd
    (fun x hx id hid => by rw [hrd1]; exact hdis x hx id hid)
  -- the slots reached, in terms of the history
  have app := app0.congr (Q := fun x => isWindowStart x = true ∧ m < x ∧ ∀ u, m < u → u < x → u ∈ h.sk)
    (fun x => and_congr_right' ⟨fun ⟨a, c⟩ => ⟨a, fun u hu hx => (hskm u hu).mp ((hsk1 u (hge u hu)).mp (c u hu hx))⟩,
      fun ⟨a, c⟩ => ⟨a, fun u hu hx => (hsk1 u (hge u hu)).mpr ((hskm u hu).mpr (c u hu hx))⟩⟩)
  obtain ⟨stp, hex⟩ := app.step (fun x hq => by rw [r1, inv.root]; exact hge x hq.2.1)
    (fun s hs => by rw [hrd1]; rw [hwt1] at hs; exact inv.waiter s hs)
  have stp' : Step t t' ann w := stp.of_eq r1 hrd1 hwt1
  refine ⟨t', ann, w, e, ?_, stp', fun s p h1 h2 => hex s p h1 (by rw [hrd1]; exact h2)⟩
  refine ⟨by rw [app.root, r1, inv.root, hroot], ?_, ?_, ?_, ?_, ?_, ?_, ?_, ?_⟩
  · intro u hu; rw [app.skip]; exact mk1.skip u hu
  · intro u x hu; rw [app.nfs]; exact mk1.nfs u x hu
  · intro s p hs
    rw [hroot] at hs
    rw [app.mem_ready, hrd1, inv.ready s p hs, hconn]
    constructor
    · rintro (⟨a, c⟩ | ⟨⟨a, c⟩, d⟩)
      · exact ⟨a, Or.inl c⟩
      · exact ⟨a, Or.inr ⟨d, c⟩⟩
    · rintro ⟨a, (c | ⟨d, c⟩)⟩
      · exact Or.inl ⟨a, c⟩
      · exact Or.inr ⟨⟨a, c⟩, d⟩
  · intro u hu; rw [app.top]; exact mk1.top u hu
  · intro u; rw [app.nfs]; exact mk1.nfsNodup u
  · intro s
    have := (app.grow (fun x hq => hq.1)).nodup s
    rw [hrd1] at this
    exact this (inv.readyNodup s)
  · intro s hs; exact ((stp'.waiter s).mp hs).2
  · intro u hu
    rw [hroot] at hu
    rw [app.miss u (fun hq => Nat.lt_irrefl _ (Nat.lt_of_lt_of_le (Nat.lt_trans hq.2.1 hu) hm)), hrd1]
    exact inv.low u hu

theorem nf_step {h : Hist} {t : Tracker} (inv : Inv h t) (b : Nat × Nat) :
    ∃ t' ann w, markNotarFallback t b = some (t', ann, w) ∧ Inv (h.nfMark b) t' ∧ Step t t' ann w ∧
      AnnAll t t' ann := by
  rw [Hist.nfMark]
  by_cases hlt : b.1 < h.root
  · rw [if_pos hlt]
    exact inv.same_step (markNotarFallback_same (Or.inl (inv.root ▸ hlt))) rfl (fun _ => Iff.rfl) (fun _ => Iff.rfl)
  · rw [if_neg hlt]
    have hge : h.root ≤ b.1 := Nat.le_of_not_lt hlt
    by_cases hc : (get t b.1).nfs.contains b.2 = true
    · have hb : b ∈ h.nf := (inv.nfs b.1 b.2 hge).mp (List.contains_iff_mem.mp hc)
      refine inv.same_step (markNotarFallback_same (Or.inr hc)) rfl (fun x => ?_) (fun _ => Iff.rfl)
      simp only [Hist.addNf, List.mem_cons]
      exact ⟨fun hh => hh.elim (fun e => e ▸ hb) id, Or.inr⟩
    · rw [markNotarFallback_fresh (fun hk => hk.elim (fun a => hlt (inv.root ▸ a)) hc)]
      have hnew : b.2 ∉ (get t b.1).nfs := fun hm => hc (List.contains_iff_mem.mpr hm)
      have hbn : b ∉ h.nf := fun hm => hnew ((inv.nfs b.1 b.2 hge).mpr hm)
      have g1 := get_put t b.1 { get t b.1 with nfs := (get t b.1).nfs ++ [b.2] }
      refine fwd_step inv (h' := h.addNf b) (t1 := put t b.1 { get t b.1 with nfs := (get t b.1).nfs ++ [b.2] })
        (m := b.1) hge rfl
        ⟨inv.root, fun u hu => by rw [get_put_field PState.skip u]; exact inv.skip u hu, ?nfs, inv.top, ?nfd⟩
        (fun u => get_put_field PState.ready u) (fun u => get_put_field PState.waiter u) (fun _ _ => Iff.rfl)
        (List.pairwise_singleton _ b) ?dis (fun s p => by rw [connected_addNf, List.mem_singleton])
      case dis =>
        intro x hx id hid hm
        rw [List.mem_singleton.mp hid] at hm
        exact hbn ((inv.ready x b (Nat.le_trans hge (Nat.le_of_lt hx))).mp hm).2.2.1
      case nfs =>
        intro u x hu
        rw [g1]
        show _ ↔ (u, x) ∈ b :: h.nf
        rw [List.mem_cons]
        split
        · rename_i e; subst e
          show x ∈ (get t b.1).nfs ++ [b.2] ↔ _
          rw [List.mem_append, List.mem_singleton, inv.nfs b.1 x hu, or_comm]
          exact or_congr ⟨fun e => by rw [e], fun e => congrArg Prod.snd e⟩ Iff.rfl
        · rename_i e
          rw [inv.nfs u x hu]
          exact ⟨Or.inr, fun hh => hh.resolve_left (fun e' => e (congrArg Prod.fst e'))⟩
      case nfd =>
        refine get_put_ind (Q := fun _ st => st.nfs.Nodup) ?_ inv.nfsNodup
        show ((get t b.1).nfs ++ [b.2]).Nodup
        rw [List.nodup_append]
        refine ⟨inv.nfsNodup _, List.pairwise_singleton _ _, fun x hx y hy e => ?_⟩
        rw [List.mem_singleton.mp hy] at e
        exact hnew (e ▸ hx)

/-- The premise on pruning (`SafeRun`), as seen by one step. -/
def RootOK (h : Hist) : Prop := isWindowStart h.root = true ∨ h.root ∉ h.sk

theorem accNfs_below {h : Hist} {t1 : Tracker} {ms s : Nat} {acc : List (Nat × Nat)} (mk : MarksOK (h.addSk ms) t1)
    (hsr : h.root ≤ s) (hsm : s ≠ ms) (hacc : acc.Nodup) (hlow : ∀ p ∈ acc, s + 1 ≤ p.1) :
    (∀ p, p ∈ accNfs (get t1) ms s acc ↔ p ∈ acc ∨ (p.1 = s ∧ p ∈ h.nf)) ∧ (accNfs (get t1) ms s acc).Nodup ∧
    ∀ p ∈ accNfs (get t1) ms s acc, s ≤ p.1 := by
  unfold accNfs
  rw [if_pos hsm]
  refine ⟨fun p => ?_, ?_, fun p hp => ?_⟩
  · rw [List.mem_append, List.mem_map]
    refine or_congr Iff.rfl ⟨?_, ?_⟩
    · rintro ⟨x, hx, rfl⟩; exact ⟨rfl, (mk.nfs s x hsr).mp hx⟩
    · rintro ⟨rfl, c⟩; exact ⟨p.2, (mk.nfs p.1 p.2 hsr).mpr c, rfl⟩
  · rw [List.nodup_append]
    refine ⟨hacc, (mk.nfsNodup s).map _ fun _ _ n e => n (by cases e; rfl), fun a ha b hb e => ?_⟩
    obtain ⟨_, _, rfl⟩ := List.mem_map.mp hb
    exact Nat.lt_irrefl _ (e ▸ hlow a ha)
  · rcases List.mem_append.mp hp with hp | hp
    · exact Nat.le_of_succ_le (hlow p hp)
    · obtain ⟨_, _, rfl⟩ := List.mem_map.mp hp; exact Nat.le_refl _

/-- The backward collection of `mark_skipped`: having passed the skip-marked slot `s ≤ ms` with the blocks of the slots
    from `s` on in `acc` (and the ready parents of `s` just appended), the walk ends with `acc` and exactly the parents
    connected to `s`, each once.  It ends at a slot that is not skip-marked or, by fuel, at `lo`, which starts a window if
    it is skip-marked (`hws`), so that its ready list holds the parents connected to it.  As in `fwd_step`, `t1` is the
    tracker with the new mark applied (`mk`), its ready lists still those of `t` (`hrd1`). -/
theorem collectL_connected {h : Hist} {t t1 : Tracker} {ms lo : Nat} (inv : Inv h t) (mk : MarksOK (h.addSk ms) t1)
    (hrd1 : ∀ u, (get t1 u).ready = (get t u).ready)
    (hlw : windowFirst ms ≤ lo) (hlr : h.root ≤ lo) (hws : (get t1 lo).skip = true → isWindowStart lo = true)
    {n s : Nat} {acc : List (Nat × Nat)}
    (hlo : s = n + lo) (hsm : s ≤ ms) (hss : (get t1 s).skip = true) (hacc : acc.Nodup) (hlow : ∀ p ∈ acc, s ≤ p.1) :
    (∀ p, p ∈ collectL (get t1) ms n s (acc ++ (get t1 s).ready) ↔ p ∈ acc ∨ Connected h s p) ∧
    (collectL (get t1) ms n s (acc ++ (get t1 s).ready)).Nodup := by
  have hrdy : ∀ v b, h.root ≤ v → (b ∈ (get t1 v).ready ↔ isWindowStart v = true ∧ Connected h v b) :=
    fun v b hv => by rw [hrd1]; exact inv.ready v b hv
  have hsk : ∀ v, h.root ≤ v → ((get t1 v).skip = true ↔ v = ms ∨ v ∈ h.sk) := fun v hv => (mk.skip v hv).trans List.mem_cons
  induction n generalizing s acc with
  | zero =>
    rw [Nat.zero_add] at hlo
    subst hlo
    have hready : ∀ p, p ∈ (get t1 s).ready ↔ Connected h s p := fun p =>
      (hrdy s p hlr).trans (and_iff_right (hws hss))
    show (∀ p, p ∈ acc ++ (get t1 s).ready ↔ _) ∧ (acc ++ (get t1 s).ready).Nodup
    refine ⟨fun p => by rw [List.mem_append, hready], ?_⟩
    rw [List.nodup_append]
    exact ⟨hacc, hrd1 s ▸ inv.readyNodup s, fun a ha b hb e =>
      Nat.lt_irrefl _ (Nat.lt_of_lt_of_le (e ▸ ((hready b).mp hb).1) (hlow a ha))⟩
  | succ n ih =>
    rw [Nat.add_right_comm] at hlo
    subst hlo
    generalize hu : n + lo = u at *
    have hur : h.root ≤ u := hu ▸ Nat.le_trans hlr (Nat.le_add_left lo n)
    have hne : u ≠ ms := Nat.ne_of_lt hsm
    -- strictly inside the window no slot has a ready parent
    have he : (get t1 (u + 1)).ready = [] := by
      apply List.eq_nil_iff_forall_not_mem.mpr
      intro p hp
      have := ((hrdy (u + 1) p (Nat.le_succ_of_le hur)).mp hp).1
      rw [@not_ws_of_between ms (u + 1) (Nat.lt_succ_of_le (Nat.le_trans hlw (hu ▸ Nat.le_add_left lo n))) hsm] at this
      cases this
    obtain ⟨am, an, al⟩ := accNfs_below mk hur hne hacc hlow
    rw [he, List.append_nil, collectL_succ, Nat.add_sub_cancel]
    by_cases hsu : (get t1 u).skip = true
    · rw [if_neg (not_not_intro hsu)]
      obtain ⟨im, ind⟩ := ih rfl (Nat.le_of_succ_le hsm) hsu an al
      exact ⟨fun p => by rw [im, am, or_assoc, connected_succ,
        and_iff_right (((hsk u hur).mp hsu).resolve_left hne)], ind⟩
    · rw [if_pos hsu]
      refine ⟨fun p => ?_, an⟩
      rw [am, connected_succ]
      exact or_congr_right (or_iff_left (fun c => hsu ((hsk u hur).mpr (Or.inr c.1)))).symm

/-- `potential_parents` of `mark_skipped` are exactly the parents connected to the marked slot, each once -/
theorem Inv.potential {h : Hist} {t t1 : Tracker} (inv : Inv h t) {ms : Nat} (mk : MarksOK (h.addSk ms) t1)
    (hrd1 : ∀ u, (get t1 u).ready = (get t u).ready) (hge : h.root ≤ ms) (hok : RootOK (h.addSk ms)) :
    (∀ p, p ∈ collectL (get t1) ms (ms + 1 - max (windowFirst ms) h.root) (ms + 1) [] ↔ Connected h ms p) ∧
    (collectL (get t1) ms (ms + 1 - max (windowFirst ms) h.root) (ms + 1) []).Nodup := by
  have hlm : max (windowFirst ms) h.root ≤ ms := Nat.max_le.mpr ⟨windowFirst_le ms, hge⟩
  have hle : max (windowFirst ms) h.root = windowFirst ms ∨ max (windowFirst ms) h.root = h.root :=
    (Nat.le_total (windowFirst ms) h.root).elim (fun a => Or.inr (Nat.max_eq_right a)) (fun a => Or.inl (Nat.max_eq_left a))
  have hss : (get t1 ms).skip = true := (mk.skip ms hge).mpr List.mem_cons_self
  -- the marked slot itself: its own notar-fallback blocks do not count
  rw [Nat.succ_sub hlm, collectL_succ, Nat.add_sub_cancel, if_neg (not_not_intro hss), accNfs, if_neg (not_not_intro rfl)]
  -- where the walk ends by fuel — at the first slot of the window or at the root, whichever is larger — a skip-marked
  -- slot is a window start: a root inside the window is not skip-marked (the premise on pruning)
  have hws : ∀ lo, lo = windowFirst ms ∨ lo = h.root → (get t1 lo).skip = true → isWindowStart lo = true := by
    rintro lo (rfl | rfl) hsl
    · exact isWindowStart_windowFirst ms
    · exact hok.elim id (fun a => absurd ((mk.skip _ (Nat.le_refl _)).mp hsl) a)
  obtain ⟨a1, a2⟩ := collectL_connected (acc := []) inv mk hrd1 (Nat.le_max_left _ _) (Nat.le_max_right _ _) (hws _ hle)
    (Nat.sub_add_cancel hlm).symm (Nat.le_refl _) hss List.nodup_nil (fun _ hp => nomatch hp)
  exact ⟨fun p => by rw [a1]; exact or_iff_right (fun hh => nomatch hh), a2⟩

/-- `hok` is about the history *with* this mark: the root must not become skip-marked by this very mark either. -/
theorem skip_step {h : Hist} {t : Tracker} (inv : Inv h t) (ms : Nat) (hok : RootOK (h.skMark ms)) :
    ∃ t' ann w, markSkipped t ms = some (t', ann, w) ∧ Inv (h.skMark ms) t' ∧ Step t t' ann w ∧
      AnnAll t t' ann := by
  rw [Hist.skMark] at hok ⊢
  by_cases hlt : ms < h.root
  · rw [if_pos hlt]
    exact inv.same_step (markSkipped_same (Or.inl (inv.root ▸ hlt))) rfl (fun _ => Iff.rfl) (fun _ => Iff.rfl)
  · rw [if_neg hlt] at hok ⊢
    have hge : h.root ≤ ms := Nat.le_of_not_lt hlt
    by_cases hc : (get t ms).skip = true
    · have hb : ms ∈ h.sk := (inv.skip ms hge).mp hc
      refine inv.same_step (markSkipped_same (Or.inr hc)) rfl (fun _ => Iff.rfl) (fun x => ?_)
      simp only [Hist.addSk, List.mem_cons]
      exact ⟨fun hh => hh.elim (fun e => e ▸ hb) id, Or.inr⟩
    · obtain ⟨c, e, cr, ctp, cg⟩ := markSkipped_fresh (fun hk => hk.elim (fun a => hlt (inv.root ▸ a)) hc)
      rw [e, inv.root]
      have hmsn : ms ∉ h.sk := fun hm => hc ((inv.skip ms hge).mpr hm)
      have hrd1 : ∀ u, (get c u).ready = (get t u).ready := fun u => by rw [cg, skipT1_ready]
      have hnf1 : ∀ u, (get c u).nfs = (get t u).nfs := fun u => by rw [cg, skipT1_nfs]
      have mk1 : MarksOK (h.addSk ms) c := by
        refine ⟨cr.trans inv.root, fun u hu => ?_, fun u x hu => by rw [hnf1]; exact inv.nfs u x hu, fun u hu => ?_,
          fun u => by rw [hnf1]; exact inv.nfsNodup u⟩
        · rw [cg]
          show _ ↔ u ∈ ms :: h.sk
          by_cases e : u = ms
          · subst e; rw [get_skipT1_same]; simp
          · rw [get_skipT1_other t e, inv.skip u hu]; simp [e]
        · rw [ctp]
          rcases List.mem_cons.mp hu with e | hh
          · exact e ▸ Nat.le_max_right _ _
          · exact Nat.le_trans (inv.top u hh) (Nat.le_max_left _ _)
      obtain ⟨hpot, hpnd⟩ := inv.potential mk1 hrd1 hge hok
      refine fwd_step inv (h' := h.addSk ms) (m := ms) hge rfl mk1 hrd1 (fun u => by rw [cg, skipT1_waiter]) ?skm hpnd ?dis
        (fun s p => by rw [connected_addSk, hpot])
      case skm =>
        intro u hu
        show u ∈ ms :: h.sk ↔ _
        rw [List.mem_cons]
        exact ⟨fun hh => hh.resolve_left (Nat.ne_of_gt hu), Or.inr⟩
      case dis =>
        intro x hx id hid hm
        have c1 := (hpot id).mp hid
        exact hmsn (((inv.ready x id (Nat.le_trans hge (Nat.le_of_lt hx))).mp hm).2.2.2 ms c1.1 hx)

theorem Step.sub {t t' : Tracker} {ann ann' : List (Nat × (Nat × Nat))} {w : List Wake} (h : Step t t' ann w)
    (hnd : ann'.Nodup) (hsub : ∀ a ∈ ann', a ∈ ann) : Step t t' ann' w :=
  ⟨h.root, h.ext, hnd, fun s b hm => h.annNew s b (hsub _ hm), h.waiter, h.wake⟩

theorem mem_accepted {α : Type} {p : α → Prop} [DecidablePred p] {l l0 : List α} {x : α} :
    x ∈ (l.filter fun a => p a).reverse ++ l0 ↔ x ∈ l0 ∨ (x ∈ l ∧ p x) := by
  rw [List.mem_append, List.mem_reverse, List.mem_filter, decide_eq_true_eq, or_comm]

/-- a batch of marks changes the history by the marks it submits at or above the root, and nothing else -/
theorem foldl_nfMark (bs : List (Nat × Nat)) (h : Hist) :
    bs.foldl Hist.nfMark h = { h with nf := (bs.filter fun b => h.root ≤ b.1).reverse ++ h.nf } := by
  induction bs generalizing h with
  | nil => rfl
  | cons b bs ih =>
    rw [List.foldl_cons, ih, List.filter_cons, Hist.nfMark]
    by_cases hb : b.1 < h.root
    · rw [if_pos hb, if_neg (by simpa using hb)]
    · rw [if_neg hb, if_pos (by simpa using hb), List.reverse_cons, List.append_assoc]; rfl

theorem foldl_skMark (ss : List Nat) (h : Hist) :
    ss.foldl Hist.skMark h = { h with sk := (ss.filter fun s => h.root ≤ s).reverse ++ h.sk } := by
  induction ss generalizing h with
  | nil => rfl
  | cons s ss ih =>
    rw [List.foldl_cons, ih, List.filter_cons, Hist.skMark]
    by_cases hs : s < h.root
    · rw [if_pos hs, if_neg (by simpa using hs)]
    · rw [if_neg hs, if_pos (by simpa using hs), List.reverse_cons, List.append_assoc]; rfl

theorem markAllNf_step {h : Hist} {t : Tracker} (inv : Inv h t) (bs : List (Nat × Nat)) :
    ∃ t' ann w, markAllNf t bs = some (t', ann, w) ∧ Inv (bs.foldl Hist.nfMark h) t' ∧ Step t t' ann w := by
  induction bs generalizing h t with
  | nil => exact ⟨t, [], [], rfl, inv, (Step.of_same rfl rfl (fun _ => rfl) inv.waiter).1⟩
  | cons b bs ih =>
    obtain ⟨t1, n1, w1, e1, inv1, s1, _⟩ := nf_step inv b
    obtain ⟨t2, n2, w2, e2, inv2, s2⟩ := ih inv1
    exact ⟨t2, n1 ++ n2, w1 ++ w2, by simp only [markAllNf, e1, e2], inv2, s1.trans s2⟩

theorem markAllSkipped_step {h : Hist} {t : Tracker} (inv : Inv h t) (ss : List Nat)
    (hok : RootOK (ss.foldl Hist.skMark h)) :
    ∃ t' ann w, markAllSkipped t ss = some (t', ann, w) ∧ Inv (ss.foldl Hist.skMark h) t' ∧ Step t t' ann w := by
  induction ss generalizing h t with
  | nil => exact ⟨t, [], [], rfl, inv, (Step.of_same rfl rfl (fun _ => rfl) inv.waiter).1⟩
  | cons b bs ih =>
    rw [List.foldl_cons] at hok
    -- the later marks keep the root and only add to `sk`
    have hok1 : RootOK (h.skMark b) := by
      have hok' := hok
      rw [foldl_skMark] at hok'
      exact hok'.imp_right (fun a hm => a (List.mem_append_right _ hm))
    obtain ⟨t1, n1, w1, e1, inv1, s1, _⟩ := skip_step inv b hok1
    obtain ⟨t2, n2, w2, e2, inv2, s2⟩ := ih inv1 hok
    exact ⟨t2, n1 ++ n2, w1 ++ w2, by simp only [markAllSkipped, e1, e2], inv2, s1.trans s2⟩

def Hist.finMark (h : Hist) (ev : Finality.Event) : Hist :=
  ev.implSkipped.foldl Hist.skMark ((ev.finalized.toList ++ ev.implFinalized).foldl Hist.nfMark h)

theorem finMark_eq (h : Hist) (ev : Finality.Event) :
    h.finMark ev = { h with
      nf := ((ev.finalized.toList ++ ev.implFinalized).filter fun b => h.root ≤ b.1).reverse ++ h.nf
      sk := (ev.implSkipped.filter fun s => h.root ≤ s).reverse ++ h.sk } := by
  rw [Hist.finMark, foldl_nfMark, foldl_skMark]

theorem mem_finMark (h : Hist) (ev : Finality.Event) :
    (∀ x, x ∈ (h.finMark ev).nf ↔ x ∈ h.nf ∨ (x ∈ ev.finalized.toList ++ ev.implFinalized ∧ h.root ≤ x.1)) ∧
    (∀ x, x ∈ (h.finMark ev).sk ↔ x ∈ h.sk ∨ (x ∈ ev.implSkipped ∧ h.root ≤ x)) := by
  rw [finMark_eq]
  exact ⟨fun _ => mem_accepted, fun _ => mem_accepted⟩

theorem fin_step {h : Hist} {t : Tracker} (inv : Inv h t) (ev : Finality.Event) (hok : RootOK (h.finMark ev)) :
    ∃ t' ann w, handleFinalization t ev = some (t', ann, w) ∧ Inv (h.finMark ev) t' ∧ Step t t' ann w := by
  obtain ⟨t1, n1, w1, e1, inv1, s1⟩ := markAllNf_step inv (ev.finalized.toList ++ ev.implFinalized)
  obtain ⟨t2, n2, w2, e2, inv2, s2⟩ := markAllSkipped_step inv1 ev.implSkipped hok
  refine ⟨t2, (lastMax (n1 ++ n2)).toList, w1 ++ w2, by simp only [handleFinalization, e1, e2], inv2, ?_⟩
  exact (s1.trans s2).sub (by cases lastMax (n1 ++ n2) <;> simp) (fun a ha => mem_of_mem_lastMax ha)

theorem prune_step {h : Hist} {t : Tracker} (inv : Inv h t) {r : Nat} (hr : h.root ≤ r) :
    Inv (h.pruneTo r) (prune t r) := by
  have hg : ∀ u, r ≤ u → get (prune t r) u = get t u := fun u hu => get_prune_ge t hu
  exact inv.transfer rfl hr (fun _ => Iff.rfl) (fun _ => Iff.rfl) (Nat.le_refl _) (fun u hu => by rw [hg u hu])
    (fun u hu => by rw [hg u hu]) (fun u p hu => by rw [hg u hu])
    (get_prune_ind (Q := fun _ st => st.nfs.Nodup) (fun _ => List.nodup_nil) inv.nfsNodup)
    (get_prune_ind (Q := fun _ st => st.ready.Nodup) (fun _ => List.nodup_nil) inv.readyNodup)
    (get_prune_ind (Q := fun _ st => st.waiter = true → st.ready = []) (fun _ _ => rfl) inv.waiter)
    (fun u hu => by rw [get_prune, if_pos (show u < r from hu)])

theorem Inv.of_put {h : Hist} {t : Tracker} (inv : Inv h t) (s : Nat) {v : PState} (hsk : v.skip = (get t s).skip)
    (hnf : v.nfs = (get t s).nfs) (hrd : ∀ p, p ∈ v.ready ↔ p ∈ (get t s).ready) (hnd : v.ready.Nodup)
    (hw : v.waiter = true → (get t s).ready = []) :
    Inv h (put t s v) ∧ ∀ x p, p ∈ (get (put t s v) x).ready ↔ p ∈ (get t x).ready := by
  have hmem : ∀ x p, p ∈ (get (put t s v) x).ready ↔ p ∈ (get t x).ready :=
    get_put_ind (Q := fun x st => ∀ p, p ∈ st.ready ↔ p ∈ (get t x).ready) hrd (fun _ _ => Iff.rfl)
  have hnil : ∀ u, (get t u).ready = [] → (get (put t s v) u).ready = [] := fun u hu =>
    List.eq_nil_iff_forall_not_mem.mpr (fun p hp => by rw [hmem, hu] at hp; cases hp)
  exact ⟨inv.transfer inv.root (Nat.le_refl _) (fun _ => Iff.rfl) (fun _ => Iff.rfl) (Nat.le_refl _)
    (fun u _ => get_put_field PState.skip u hsk) (fun u _ => get_put_field PState.nfs u hnf) (fun u p _ => hmem u p)
    (fun u => by rw [get_put_field PState.nfs u hnf]; exact inv.nfsNodup u)
    (get_put_ind (Q := fun _ st => st.ready.Nodup) hnd inv.readyNodup)
    (fun u hu => hnil u (get_put_ind (Q := fun x st => st.waiter = true → (get t x).ready = []) hw inv.waiter u hu))
    (fun u hu => hnil u (inv.low u hu)), hmem⟩

/-- ready lists are compared by membership because `wait_for_parent_ready` sorts the list of the slot in place -/
theorem wait_step {h : Hist} {t : Tracker} (inv : Inv h t) (s : Nat) :
    match waitForParentReady t s with
    | .ready t' _ | .waiting t' => Inv h t' ∧ (∀ x p, p ∈ (get t' x).ready ↔ p ∈ (get t x).ready) ∧
        ∀ x, (get t' x).waiter = true → x = s ∨ (get t x).waiter = true
    | .panic => (get t s).waiter = true := by
  rcases waitForParentReady_cases t s with ⟨b, rest, hs, e⟩ | ⟨hw, e⟩ | ⟨hnil, e⟩ <;> rw [e]
  · have hmem : ∀ p, p ∈ b :: rest ↔ p ∈ (get t s).ready := fun p => by rw [← hs]; exact (sortBlocks_perm _).mem_iff
    have hne : (get t s).ready ≠ [] := by
      intro e; rw [e] at hs; cases hs
    obtain ⟨inv', hrd⟩ := inv.of_put s (v := { get t s with ready := b :: rest }) rfl rfl hmem
      (hs ▸ (sortBlocks_perm _).nodup_iff.mpr (inv.readyNodup s)) (fun hw => absurd (inv.waiter s hw) hne)
    have hwt : ∀ x, (get (put t s { get t s with ready := b :: rest }) x).waiter = (get t x).waiter :=
      fun x => get_put_field PState.waiter x
    exact ⟨inv', hrd, fun x hx => Or.inr (hwt x ▸ hx)⟩
  · exact hw
  · obtain ⟨inv', hrd⟩ := inv.of_put s (v := { get t s with waiter := true }) rfl rfl (fun _ => Iff.rfl)
      (inv.readyNodup s) (fun _ => hnil)
    refine ⟨inv', hrd, fun x hx => ?_⟩
    by_cases e : x = s
    · exact Or.inl e
    · rw [get_put_other _ _ e] at hx; exact Or.inr hx

theorem inv_init : Inv {} init := by
  refine ⟨rfl, fun u _ => ?_, fun u x _ => ?_, fun s b _ => ?_, fun u hu => (by cases hu),
    get_init_ind (Q := fun _ st => st.nfs.Nodup) (List.pairwise_singleton _ 0) (fun _ _ => List.nodup_nil),
    get_init_ind (Q := fun _ st => st.ready.Nodup) List.nodup_nil (fun _ _ => List.nodup_nil),
    get_init_ind (Q := fun _ st => st.waiter = true → st.ready = []) (fun _ => rfl) (fun _ _ _ => rfl),
    fun u hu => absurd hu (Nat.not_lt_zero u)⟩
  · exact get_init_ind (Q := fun u st => st.skip = true ↔ u ∈ ([] : List Nat))
      ⟨fun h => (by cases h), fun h => (by cases h)⟩ (fun _ _ => ⟨fun h => (by cases h), fun h => (by cases h)⟩) u
  · exact get_init_ind (Q := fun u st => x ∈ st.nfs ↔ (u, x) ∈ [((0 : Nat), (0 : Nat))]) (by simp)
      (fun u hu => by simp [hu]) u
  · -- no parent is ready at the start: genesis is connected to slot 1 only, which starts no window
    rw [get_init_ind (Q := fun _ st => st.ready = []) rfl (fun _ _ => rfl) s]
    simp only [List.not_mem_nil, false_iff, not_and]
    intro hws hc
    obtain ⟨h1, h2, h3⟩ := hc
    rw [List.mem_singleton.mp h2] at h1 h3
    by_cases e : s = 1
    · subst e; revert hws; decide
    · exact absurd (h3 1 (Nat.succ_pos 0) (Nat.lt_of_le_of_ne h1 (Ne.symm e))) (by simp)

end AgModel.ParentReady
