import AgModel.Proofs.ProgressDefs
import AgModel.Proofs.VotorExt
/-!
# C02 progress, Votor part: what the voting component does in the timely schedule

`VReady s p v`: Votor `v` is *ready for slot `s` with parent `p`* — it has not voted in `s` or later, nothing is pending, the
finalized watermark is the parent's slot, below `s`, and `p` is an acceptable parent (`ParentReady(s, p)` was handled if `s`
starts a window, otherwise `p` is the block of slot `s - 1` this Votor notarized). `VAt s h …`: it has notarized `(s, h)`; the
flags say which of the events of slot `s` it has handled. `VSkipped s p …`: it has skipped the rest of the window of `s`, the
slots `s ≤ t < wEnd s`.
-/
namespace AgModel.Cluster
open AgModel.Votor AgModel.NodePanic

variable {s h : Nat} {p : Nat × Nat} {fv nr hf : Bool}

@[simp] theorem logEv_hfcs (v : V) (e : Event) : (v.logEv e).hfcs = v.hfcs := rfl
@[simp] theorem logEv_getS (v : V) (e : Event) (k : Nat) : (v.logEv e).getS k = v.getS k := rfl
@[simp] theorem logEv_panicked (v : V) (e : Event) : (v.logEv e).panicked = v.panicked := rfl
@[simp] theorem logEv_slots (v : V) (e : Event) : (v.logEv e).slots = v.slots := rfl
@[simp] theorem logEv_fu (v : V) (e : Event) : (v.logEv e).firstUnpruned = v.firstUnpruned := rfl
@[simp] theorem logEv_log (v : V) (e : Event) : (v.logEv e).log = .ev e :: v.log := rfl

theorem votesOf_cons_ev (lo j : Nat) (e : Event) (L : List Item) : votesOf lo j (.ev e :: L) = votesOf lo j L := by
  simp [votesOf, outsOf]

theorem votesOf_cons_out (lo j : Nat) (o : Out) (L : List Item) :
    votesOf lo j (.out o :: L) = votesOf lo j L ++
      (match voteOfOut j o with | some v => if lo ≤ v.slot then [v] else [] | none => []) := by
  have : outsOf (.out o :: L) = outsOf L ++ [o] := by simp [outsOf]
  simp only [votesOf, this, List.filterMap_append, List.filter_append]
  congr 1
  cases h : voteOfOut j o with
  | none => simp [h]
  | some v => by_cases hv : lo ≤ v.slot <;> simp [h, hv]

theorem votesOf_le {lo lo' : Nat} (hle : lo ≤ lo') (j : Nat) (L : List Item) :
    votesOf lo' j L = (votesOf lo j L).filter (fun v => decide (lo' ≤ v.slot)) := by
  simp only [votesOf, List.filter_filter]
  refine List.filter_congr fun v _ => ?_
  by_cases h : lo' ≤ v.slot
  · simp [h, Nat.le_trans hle h]
  · simp [h]

theorem votesOf_mono (lo lo' j : Nat) (L : List Item) (hle : lo ≤ lo') (h : votesOf lo j L = []) : votesOf lo' j L = [] := by
  rw [votesOf_le hle, h]; rfl

/-- nothing has happened in the slot (apart, possibly, from `ParentReady`) -/
def FreshS (st : SlotState) : Prop :=
  st.voted = false ∧ st.votedNotar = none ∧ st.badWindow = false ∧ st.blockNotarized = none ∧ st.pendingBlock = none ∧
    st.retired = false

theorem freshS_default : FreshS {} := ⟨rfl, rfl, rfl, rfl, rfl, rfl⟩

def NoPending (v : V) : Prop := ∀ x ∈ v.slots, x.2.pendingBlock = none

theorem NoPending.pendingSlots {v : V} (h : NoPending v) : v.pendingSlots = [] := by
  unfold V.pendingSlots
  rw [List.map_eq_nil_iff, List.filter_eq_nil_iff]
  intro x hx
  rw [h x hx]; simp

theorem mem_insertS {m : Slots} {v : SlotState} {x : Nat × SlotState} (h : x ∈ insertS m s v) : x = (s, v) ∨ x ∈ m := by
  induction m with
  | nil => simp [insertS] at h; exact Or.inl h
  | cons p t ih =>
    obtain ⟨k, w⟩ := p
    simp only [insertS] at h
    split at h
    · rcases List.mem_cons.mp h with h | h
      · exact Or.inl h
      · exact Or.inr (List.mem_cons_of_mem _ h)
    · split at h
      · rcases List.mem_cons.mp h with h | h
        · exact Or.inl h
        · exact Or.inr h
      · rcases List.mem_cons.mp h with h | h
        · exact Or.inr (by rw [h]; exact List.mem_cons_self)
        · rcases ih h with h | h
          · exact Or.inl h
          · exact Or.inr (List.mem_cons_of_mem _ h)

theorem NoPending.upd {v : V} (h : NoPending v) (s : Nat) (f : SlotState → SlotState)
    (hf : (f (v.getS s)).pendingBlock = none) : NoPending (v.upd s f) := by
  intro x hx
  rcases mem_insertS hx with rfl | hx
  · exact hf
  · exact h x hx

theorem lookup_mem {m : Slots} {k : Nat} {st : SlotState} (h : lookup m k = some st) : (k, st) ∈ m := by
  induction m with
  | nil => simp [lookup] at h
  | cons q t ih =>
    obtain ⟨k', w⟩ := q
    simp only [lookup] at h
    split at h
    · rename_i e; subst e; cases h; exact List.mem_cons_self
    · exact List.mem_cons_of_mem _ (ih h)

theorem NoPending.getS {v : V} (h : NoPending v) (k : Nat) : (v.getS k).pendingBlock = none := by
  cases hl : lookup v.slots k with
  | none => simp [V.getS, hl]
  | some st =>
    have := h _ (lookup_mem hl)
    simpa [V.getS, hl] using this

theorem NoPending.emit {v : V} (h : NoPending v) (o : Out) : NoPending (v.emit o) := h
theorem NoPending.logEv {v : V} (h : NoPending v) (e : Event) : NoPending (v.logEv e) := h

theorem NoPending.checkPending {v : V} (h : NoPending v) : v.checkPending = v := by
  unfold V.checkPending
  rw [h.pendingSlots]; rfl

theorem NoPending.prune {v : V} (h : NoPending v) : NoPending v.prune :=
  fun x hx => h x (List.mem_filter.mp hx).1

theorem getS_prune (v : V) (k : Nat) (hk : v.firstUnpruned ≤ k) : v.prune.getS k = v.getS k := by
  show ((lookup v.prune.slots k).getD {}) = (lookup v.slots k).getD {}
  unfold V.prune
  rw [lookup_filter, if_pos hk]

theorem getS_prune_fresh (v : V) (k : Nat) (h : FreshS (v.getS k)) : FreshS (v.prune.getS k) := by
  show FreshS ((lookup v.prune.slots k).getD {})
  unfold V.prune
  rw [lookup_filter]
  split
  · exact h
  · exact freshS_default

structure VReady (s : Nat) (p : Nat × Nat) (v : V) : Prop where
  alive : v.panicked = false
  hfcs : v.hfcs < s
  fresh : ∀ t, s ≤ t → FreshS (v.getS t)
  noPending : NoPending v
  parentW : s % W = 0 → (v.getS s).parentsReady.contains p = true
  parentI : s % W ≠ 0 → p.1 + 1 = s ∧ (v.getS p.1).votedNotar = some p.2
  quiet : ∀ j, votesOf s j v.log = []
  hfcsEq : v.hfcs = p.1

/-- `fv`: has seen the notarization certificate (and cast the finalization vote); `nr`: has handled
    `ParentReady(s + 1, (s, h))`; `hf`: has seen a (fast-)finalization certificate of slot `s` -/
structure VAt (s h : Nat) (fv nr hf : Bool) (v : V) : Prop where
  alive : v.panicked = false
  hfcs : if hf then v.hfcs = s else v.hfcs < s
  voted : (v.getS s).voted = true
  votedNotar : (v.getS s).votedNotar = some h
  good : (v.getS s).badWindow = false
  notarized : (v.getS s).blockNotarized = (if fv then some h else none)
  fresh : ∀ t, s < t → FreshS (v.getS t)
  noPending : NoPending v
  votes : ∀ j, votesOf s j v.log = ⟨.notar, s, h, j⟩ :: (if fv then [⟨.final, s, 0, j⟩] else [])
  next : nr = true → (v.getS (s + 1)).parentsReady.contains (s, h) = true

theorem VAt.hfcs_le {v : V} (a : VAt s h fv nr hf v) : v.hfcs ≤ s := by
  have := a.hfcs
  cases hf <;> simp at this <;> omega

theorem VAt.fu_le {v : V} (a : VAt s h fv nr hf v) : v.firstUnpruned ≤ s :=
  Nat.le_trans (fu_le_hfcs v) a.hfcs_le

theorem step_handle {v : V} {e : Event} (ha : v.panicked = false) (hi : (v.logEv e).ignores e = false) :
    Votor.step v e = (v.logEv e).handle e := by
  unfold Votor.step
  rw [if_neg (by rw [ha]; simp)]
  simp only [hi, Bool.false_eq_true, if_false]

theorem step_block {v : V} (r : VReady s p v) :
    VAt s h false false false (Votor.step v (.block s ⟨h, p.1, p.2⟩)) := by
  have hfu : v.firstUnpruned ≤ s := Nat.le_trans (fu_le_hfcs v) (Nat.le_of_lt r.hfcs)
  have hfs := r.fresh s (Nat.le_refl _)
  obtain ⟨f1, f2, f3, f4, f5, f6⟩ := hfs
  have hpok : (v.logEv (.block s ⟨h, p.1, p.2⟩)).parentOk s ⟨h, p.1, p.2⟩ = true := by
    unfold V.parentOk
    by_cases hw : s % W = 0
    · rw [if_pos hw]; exact r.parentW hw
    · rw [if_neg hw]
      obtain ⟨a, b⟩ := r.parentI hw
      simp only [Bool.and_eq_true, decide_eq_true_eq]
      exact ⟨a, b⟩
  have hst : Votor.step v (.block s ⟨h, p.1, p.2⟩) =
      ((v.logEv (.block s ⟨h, p.1, p.2⟩)).emit (.notar s h p.1 p.2)).upd s
        (fun st => { st with voted := true, votedNotar := some h, pendingBlock := none }) := by
    rw [step_handle (e := .block s ⟨h, p.1, p.2⟩) r.alive (ignores_eq_false.mpr ⟨r.hfcs, f6⟩)]
    show (if ((v.logEv _).getS s).voted = true then _ else _) = _
    have hv0 : ((v.logEv (.block s ⟨h, p.1, p.2⟩)).getS s).voted = false := f1
    rw [hv0]
    simp only [Bool.false_eq_true, if_false]
    have htn : (v.logEv (.block s ⟨h, p.1, p.2⟩)).tryNotar s ⟨h, p.1, p.2⟩ =
        ((((v.logEv (.block s ⟨h, p.1, p.2⟩)).emit (.notar s h p.1 p.2)).upd s
          (fun st => { st with voted := true, votedNotar := some h, pendingBlock := none })), true) := by
      unfold V.tryNotar
      rw [if_neg (by show ¬ s < v.firstUnpruned; exact Nat.not_lt.mpr hfu)]
      rw [hv0]
      simp only [Bool.false_eq_true, if_false]
      rw [hpok]
      simp only [if_true]
      congr 1
      unfold V.tryFinal
      rw [if_neg (by show ¬ s < v.firstUnpruned; exact Nat.not_lt.mpr hfu)]
      simp only [getS_upd_self, emit_getS]
      have : ((v.logEv (.block s ⟨h, p.1, p.2⟩)).getS s).blockNotarized = none := f4
      rw [this]
      simp
    rw [htn]
    simp only [if_true]
    apply NoPending.checkPending
    apply NoPending.upd
    · exact r.noPending
    · rfl
  rw [hst]
  refine ⟨r.alive, by simpa using r.hfcs, by simp, by simp, by simpa using f3, by simpa using f4, ?_, ?_, ?_, by simp⟩
  · intro t ht
    rw [getS_upd_ne _ _ _ _ (Nat.ne_of_lt ht)]
    exact r.fresh t (Nat.le_of_lt ht)
  · apply NoPending.upd
    · exact r.noPending
    · rfl
  · intro j
    show votesOf s j (.out (.notar s h p.1 p.2) :: .ev (.block s ⟨h, p.1, p.2⟩) :: v.log) = _
    rw [votesOf_cons_out, votesOf_cons_ev, r.quiet j]
    simp [voteOfOut]

theorem contains_insertParent (l : List (Nat × Nat)) (p : Nat × Nat) : (insertParent l p).contains p = true := by
  unfold insertParent
  split
  · assumption
  · simp

theorem step_parentReady_fresh {v : V} {w a b : Nat} (ha : v.panicked = false) (hfu : v.firstUnpruned ≤ w) (hw : w % W = 0)
    (hf : FreshS (v.getS w)) (hn : NoPending v) :
    NoPending ((v.logEv (.parentReady w a b)).upd w (fun st => { st with parentsReady := insertParent st.parentsReady (a, b) })) ∧
    Votor.step v (.parentReady w a b) =
      ((v.logEv (.parentReady w a b)).upd w
        (fun st => { st with parentsReady := insertParent st.parentsReady (a, b) })).emit (.timer w) := by
  have hnp : NoPending ((v.logEv (.parentReady w a b)).upd w
      (fun st => { st with parentsReady := insertParent st.parentsReady (a, b) })) := by
    apply NoPending.upd
    · exact hn
    · exact hf.2.2.2.2.1
  refine ⟨hnp, ?_⟩
  rw [step_handle (e := .parentReady w a b) ha (ignores_eq_false.mpr ⟨hfu, hf.2.2.2.2.2⟩)]
  show (V.checkPending _).setTimeouts w = _
  rw [hnp.checkPending]
  unfold V.setTimeouts
  rw [if_pos hw]

theorem step_parentReady {v : V} (a : VAt s h fv nr hf v) (hw : (s + 1) % W = 0) :
    VAt s h fv true hf (Votor.step v (.parentReady (s + 1) s h)) := by
  have hfs := a.fresh (s + 1) (Nat.lt_succ_self s)
  obtain ⟨hnp, hst⟩ := step_parentReady_fresh (a := s) (b := h) a.alive (Nat.le_succ_of_le a.fu_le) hw hfs a.noPending
  obtain ⟨f1, f2, f3, f4, f5, f6⟩ := hfs
  rw [hst]
  refine ⟨a.alive, by simpa using a.hfcs, ?_, ?_, ?_, ?_, ?_, ?_, ?_, ?_⟩
  · simp only [emit_getS]; rw [getS_upd_ne _ _ _ _ (Nat.succ_ne_self s)]; exact a.voted
  · simp only [emit_getS]; rw [getS_upd_ne _ _ _ _ (Nat.succ_ne_self s)]; exact a.votedNotar
  · simp only [emit_getS]; rw [getS_upd_ne _ _ _ _ (Nat.succ_ne_self s)]; exact a.good
  · simp only [emit_getS]; rw [getS_upd_ne _ _ _ _ (Nat.succ_ne_self s)]; exact a.notarized
  · intro t ht
    simp only [emit_getS]
    rw [getS_upd]
    split
    · rename_i e; subst e; exact ⟨f1, f2, f3, f4, f5, f6⟩
    · exact a.fresh t ht
  · exact hnp
  · intro j
    show votesOf s j (.out (.timer (s + 1)) :: .ev (.parentReady (s + 1) s h) :: v.log) = _
    rw [votesOf_cons_out, votesOf_cons_ev, a.votes j]
    simp [voteOfOut]
  · intro _
    simp only [emit_getS, getS_upd_self, logEv_getS]
    exact contains_insertParent _ _

theorem step_cert_nf {v : V} (a : VAt s h fv nr hf v) :
    VAt s h fv nr hf (Votor.step v (.cert .notarFallback s h)) := by
  have hfu := a.fu_le
  have hst : Votor.step v (.cert .notarFallback s h) = (v.logEv (.cert .notarFallback s h)).emit (.cert .notarFallback s h) := by
    rw [step_handle a.alive (ignores_eq_false.mpr hfu)]
    rfl
  rw [hst]
  refine ⟨a.alive, by simpa using a.hfcs, a.voted, a.votedNotar, a.good, a.notarized, a.fresh, a.noPending, ?_, a.next⟩
  intro j
  show votesOf s j (.out (.cert .notarFallback s h) :: .ev (.cert .notarFallback s h) :: v.log) = _
  rw [votesOf_cons_out, votesOf_cons_ev, a.votes j]
  simp [voteOfOut]

theorem step_cert_notar {v : V} (a : VAt s h false nr hf v) :
    VAt s h true nr hf (Votor.step v (.cert .notar s h)) := by
  have hfu := a.fu_le
  have hst : Votor.step v (.cert .notar s h) =
      (((((v.logEv (.cert .notar s h)).upd s (fun st => { st with blockNotarized := some h })).emit (.final s)).upd s
        (fun st => { st with retired := true })).emit (.cert .notar s h)) := by
    rw [step_handle a.alive (ignores_eq_false.mpr hfu)]
    show (V.tryFinal _ s h).emit _ = _
    congr 1
    unfold V.tryFinal
    rw [if_neg (by show ¬ s < v.firstUnpruned; exact Nat.not_lt.mpr hfu)]
    simp only [getS_upd_self, logEv_getS]
    rw [if_pos ⟨trivial, a.votedNotar, a.good⟩]
  rw [hst]
  refine ⟨a.alive, by simpa using a.hfcs, ?_, ?_, ?_, ?_, ?_, ?_, ?_, ?_⟩
  · simpa using a.voted
  · simpa using a.votedNotar
  · simpa using a.good
  · simp
  · intro t ht
    simp only [emit_getS]
    rw [getS_upd_ne _ _ _ _ (Nat.ne_of_lt ht)]
    simp only [emit_getS]
    rw [getS_upd_ne _ _ _ _ (Nat.ne_of_lt ht)]
    exact a.fresh t ht
  · apply NoPending.emit
    apply NoPending.upd
    · apply NoPending.emit
      apply NoPending.upd
      · exact a.noPending
      · exact a.noPending.getS s
    · simp only [emit_getS, getS_upd_self, logEv_getS]
      exact a.noPending.getS s
  · intro j
    show votesOf s j (.out (.cert .notar s h) :: .out (.final s) :: .ev (.cert .notar s h) :: v.log) = _
    rw [votesOf_cons_out, votesOf_cons_out, votesOf_cons_ev, a.votes j]
    simp [voteOfOut]
  · intro hn
    simp only [emit_getS]
    rw [getS_upd_ne _ _ _ _ (Nat.ne_of_lt (Nat.lt_succ_self s))]
    simp only [emit_getS]
    rw [getS_upd_ne _ _ _ _ (Nat.ne_of_lt (Nat.lt_succ_self s))]
    exact a.next hn

theorem step_cert_raise {v : V} {h' : Nat} (a : VAt s h fv nr hf v) (k : CertKind)
    (hk : k = .final ∨ k = .fastFinal) : VAt s h fv nr true (Votor.step v (.cert k s h')) := by
  have hfu := a.fu_le
  have hle := a.hfcs_le
  have hmax : max v.hfcs s = s := Nat.max_eq_right hle
  have hst : Votor.step v (.cert k s h') =
      (({ ((v.logEv (.cert k s h')).emit (.timer (firstInWindow s))) with hfcs := s } : V).prune).emit (.cert k s h') := by
    rw [step_handle a.alive (ignores_eq_false.mpr hfu)]
    have : (v.logEv (.cert k s h')).handle (.cert k s h') =
        (V.prune { (V.setTimeouts (v.logEv (.cert k s h')) (firstInWindow s)) with
          hfcs := max (V.setTimeouts (v.logEv (.cert k s h')) (firstInWindow s)).hfcs s }).emit (.cert k s h') := by
      rcases hk with rfl | rfl <;> rfl
    rw [this]
    unfold V.setTimeouts
    rw [if_pos (firstInWindow_mod s)]
    simp only [emit_hfcs, logEv_hfcs, hmax]
  rw [hst]
  have hfu' : ({ ((v.logEv (.cert k s h')).emit (.timer (firstInWindow s))) with hfcs := s } : V).firstUnpruned = firstInWindow s := rfl
  have hg : ∀ t, s ≤ t → (({ ((v.logEv (.cert k s h')).emit (.timer (firstInWindow s))) with hfcs := s } : V).prune).getS t = v.getS t := by
    intro t ht
    rw [getS_prune _ _ (by rw [hfu']; exact Nat.le_trans (firstInWindow_le s) ht)]
    rfl
  refine ⟨a.alive, rfl, ?_, ?_, ?_, ?_, ?_, ?_, ?_, ?_⟩
  · simp only [emit_getS]; rw [hg s (Nat.le_refl _)]; exact a.voted
  · simp only [emit_getS]; rw [hg s (Nat.le_refl _)]; exact a.votedNotar
  · simp only [emit_getS]; rw [hg s (Nat.le_refl _)]; exact a.good
  · simp only [emit_getS]; rw [hg s (Nat.le_refl _)]; exact a.notarized
  · intro t ht
    simp only [emit_getS]; rw [hg t (Nat.le_of_lt ht)]; exact a.fresh t ht
  · apply NoPending.emit
    apply NoPending.prune
    exact a.noPending
  · intro j
    show votesOf s j (.out (.cert k s h') :: .out (.timer (firstInWindow s)) :: .ev (.cert k s h') :: v.log) = _
    rw [votesOf_cons_out, votesOf_cons_out, votesOf_cons_ev, a.votes j]
    simp [voteOfOut]
  · intro hn
    simp only [emit_getS]; rw [hg (s + 1) (Nat.le_succ s)]; exact a.next hn

theorem VAt.ready_next {v : V} (a : VAt s h fv nr true v) (hn : (s + 1) % W = 0 → nr = true) :
    VReady (s + 1) (s, h) v := by
  have hh : v.hfcs = s := by simpa using a.hfcs
  refine ⟨a.alive, by rw [hh]; exact Nat.lt_succ_self s, fun t ht => a.fresh t (Nat.lt_of_succ_le ht), a.noPending, fun hw => a.next (hn hw),
    fun _ => ⟨rfl, a.votedNotar⟩, ?_, hh⟩
  intro j
  rw [votesOf_le (Nat.le_succ s), a.votes j]
  cases fv <;> simp

def wEnd (s : Nat) : Nat := Votor.firstInWindow s + Votor.W

theorem lt_wEnd (s : Nat) : s < wEnd s := by
  simp only [wEnd, firstInWindow, W, Gen.SLOTS_PER_WINDOW]; omega

theorem wEnd_mod (s : Nat) : wEnd s % W = 0 := by
  simp only [wEnd, firstInWindow, W, Gen.SLOTS_PER_WINDOW]; omega

/-- `nr`: has handled `ParentReady(wEnd s, p)` -/
structure VSkipped (s : Nat) (p : Nat × Nat) (nr : Bool) (v : V) : Prop where
  alive : v.panicked = false
  hfcs : v.hfcs < s
  voted : ∀ t, s ≤ t → t < wEnd s → (v.getS t).voted = true
  fresh : ∀ t, wEnd s ≤ t → FreshS (v.getS t)
  noPending : NoPending v
  votes : ∀ j, votesOf s j v.log = (List.range' s (wEnd s - s)).map (fun t => (⟨.skip, t, 0, j⟩ : Pool.Vote))
  next : nr = true → (v.getS (wEnd s)).parentsReady.contains p = true
  hfcsEq : v.hfcs = p.1

theorem NoPending.skipSlots : ∀ (l : List Nat) {v : V}, NoPending v → NoPending (v.skipSlots l) := by
  intro l
  induction l with
  | nil => intro v h; exact h
  | cons t rest ih =>
    intro v h
    unfold V.skipSlots
    split
    · exact ih h
    · apply ih
      apply NoPending.emit
      apply NoPending.upd h
      exact h.getS t

/-- the skip votes the loop casts, as far as `votesOf lo` sees them -/
theorem votesOf_skipSlots (lo j : Nat) (l : List Nat) (v : V) (hnd : l.Nodup)
    (hv : ∀ t ∈ l, lo ≤ t → (v.getS t).voted = false) :
    votesOf lo j (v.skipSlots l).log =
      votesOf lo j v.log ++ (l.filter (fun t => decide (lo ≤ t))).map (fun t => (⟨.skip, t, 0, j⟩ : Pool.Vote)) := by
  induction l generalizing v with
  | nil => simp [V.skipSlots]
  | cons a rest ih =>
    obtain ⟨ha, hnd⟩ := List.nodup_cons.mp hnd
    unfold V.skipSlots
    split
    · rename_i hvoted
      have hlt : ¬ lo ≤ a := fun hle => by rw [hv a List.mem_cons_self hle] at hvoted; cases hvoted
      rw [ih v hnd fun t ht => hv t (List.mem_cons_of_mem _ ht), List.filter_cons, if_neg (by simpa using hlt)]
    · rw [ih _ hnd fun t ht hle => by
        rw [emit_getS, getS_upd_ne _ _ _ _ fun e => ha (by rw [e]; exact ht)]; exact hv t (List.mem_cons_of_mem _ ht) hle]
      show votesOf lo j (.out (.skip a) :: v.log) ++ _ = _
      rw [votesOf_cons_out, List.filter_cons]
      by_cases hla : lo ≤ a <;> simp [voteOfOut, hla]

theorem filter_ge_range' (a n s : Nat) (h1 : a ≤ s) (h2 : s ≤ a + n) :
    (List.range' a n).filter (fun t => decide (s ≤ t)) = List.range' s (a + n - s) := by
  have hsplit : List.range' a n = List.range' a (s - a) ++ List.range' s (a + n - s) := by
    have := List.range'_append_1 (s := a) (m := s - a) (n := a + n - s)
    rw [show a + (s - a) = s by omega, show s - a + (a + n - s) = n by omega] at this
    exact this.symm
  rw [hsplit, List.filter_append]
  have e1 : (List.range' a (s - a)).filter (fun t => decide (s ≤ t)) = [] := by
    rw [List.filter_eq_nil_iff]
    intro x hx
    rw [List.mem_range'_1] at hx
    simp; omega
  have e2 : (List.range' s (a + n - s)).filter (fun t => decide (s ≤ t)) = List.range' s (a + n - s) := by
    rw [List.filter_eq_self]
    intro x hx
    rw [List.mem_range'_1] at hx
    simp; omega
  rw [e1, e2, List.nil_append]

theorem step_timeout {v : V} (r : VReady s p v) :
    VSkipped s p false (Votor.step v (.timeout s)) := by
  have hfu : v.firstUnpruned ≤ s := Nat.le_trans (fu_le_hfcs v) (Nat.le_of_lt r.hfcs)
  obtain ⟨f1, f2, f3, f4, f5, f6⟩ := r.fresh s (Nat.le_refl _)
  have hst : Votor.step v (.timeout s) = (v.logEv (.timeout s)).skipSlots (windowSlots s) := by
    rw [step_handle (e := .timeout s) r.alive (ignores_eq_false.mpr ⟨r.hfcs, f6⟩)]
    show (if ((v.logEv _).getS s).voted = true then _ else _) = _
    have hv0 : ((v.logEv (.timeout s)).getS s).voted = false := f1
    rw [hv0]
    simp only [Bool.false_eq_true, if_false]
    unfold V.trySkipWindow
    rw [if_neg (by show ¬ s < v.firstUnpruned; exact Nat.not_lt.mpr hfu)]
  -- as a sequence of effects the loop neither trips an assert nor moves the watermark
  have hact := Acts.skipSlots (P := False) (A := False) (windowSlots s) (v.logEv (.timeout s))
    (windowSlots_retained (Nat.not_lt.mpr hfu))
  rw [hst]
  refine ⟨hact.panicked.trans r.alive, by rw [hact.hfcs]; exact r.hfcs, ?_, ?_, ?_, ?_, (by intro h; cases h),
    by rw [hact.hfcs]; exact r.hfcsEq⟩
  · intro t h1 h2
    rw [getS_skipSlots, if_pos ⟨mem_windowSlots.mpr ⟨Nat.le_trans (firstInWindow_le s) h1, h2⟩, (r.fresh t h1).1⟩]
  · intro t ht
    rw [getS_skipSlots, if_neg fun hh => Nat.not_le.mpr (mem_windowSlots.mp hh.1).2 ht]
    exact r.fresh t (Nat.le_trans (Nat.le_of_lt (lt_wEnd s)) ht)
  · exact NoPending.skipSlots _ (r.noPending.logEv _)
  · intro j
    -- the loop runs over the whole window, from `firstInWindow s`, while a Votor ready for `s` knows only the slots `≥ s` to be
    -- unvoted: whatever happens below `s` is invisible to `votesOf s`
    rw [votesOf_skipSlots s j (windowSlots s) (v.logEv (.timeout s)) (List.nodup_range' (s := firstInWindow s) (n := W))
        fun t _ h1 => (r.fresh t h1).1,
      show windowSlots s = List.range' (firstInWindow s) W from rfl,
      filter_ge_range' _ _ _ (firstInWindow_le s) (Nat.le_of_lt (lt_wEnd s))]
    show votesOf s j (.ev (.timeout s) :: v.log) ++ _ = _
    rw [votesOf_cons_ev, r.quiet j, List.nil_append]
    rfl

theorem step_timeout_voted {v : V} {t : Nat} (a : VSkipped s p nr v) (h1 : s ≤ t) (h2 : t < wEnd s) :
    VSkipped s p nr (Votor.step v (.timeout t)) := by
  have hst : Votor.step v (.timeout t) = v.logEv (.timeout t) := by
    unfold Votor.step
    rw [if_neg (by rw [a.alive]; simp)]
    dsimp only
    split
    · rfl
    · show (if ((v.logEv _).getS t).voted = true then _ else _) = _
      have : ((v.logEv (.timeout t)).getS t).voted = true := a.voted t h1 h2
      rw [if_pos this]
  rw [hst]
  refine ⟨a.alive, a.hfcs, a.voted, a.fresh, a.noPending, ?_, a.next, a.hfcsEq⟩
  intro j
  show votesOf s j (.ev (.timeout t) :: v.log) = _
  rw [votesOf_cons_ev, a.votes j]

theorem step_cert_skip {v : V} {t h' : Nat} (a : VSkipped s p nr v) (h1 : s ≤ t) :
    VSkipped s p nr (Votor.step v (.cert .skip t h')) := by
  have hfu : v.firstUnpruned ≤ s := Nat.le_trans (fu_le_hfcs v) (Nat.le_of_lt a.hfcs)
  have hst : Votor.step v (.cert .skip t h') = (v.logEv (.cert .skip t h')).emit (.cert .skip t h') := by
    rw [step_handle a.alive (ignores_eq_false.mpr (Nat.le_trans hfu h1))]
    rfl
  rw [hst]
  refine ⟨a.alive, a.hfcs, a.voted, a.fresh, a.noPending, ?_, a.next, a.hfcsEq⟩
  intro j
  show votesOf s j (.out (.cert .skip t h') :: .ev (.cert .skip t h') :: v.log) = _
  rw [votesOf_cons_out, votesOf_cons_ev, a.votes j]
  simp [voteOfOut]

theorem step_parentReady_skipped {v : V} (a : VSkipped s p nr v) :
    VSkipped s p true (Votor.step v (.parentReady (wEnd s) p.1 p.2)) := by
  have hfs := a.fresh (wEnd s) (Nat.le_refl _)
  obtain ⟨hnp, hst⟩ := step_parentReady_fresh (a := p.1) (b := p.2) a.alive
    (Nat.le_trans (Nat.le_trans (fu_le_hfcs v) (Nat.le_of_lt a.hfcs)) (Nat.le_of_lt (lt_wEnd s))) (wEnd_mod s) hfs a.noPending
  obtain ⟨f1, f2, f3, f4, f5, f6⟩ := hfs
  rw [hst]
  refine ⟨a.alive, by simpa using a.hfcs, ?_, ?_, hnp, ?_, ?_, by simpa using a.hfcsEq⟩
  · intro t h1 h2
    simp only [emit_getS]; rw [getS_upd_ne _ _ _ _ (Nat.ne_of_gt h2)]; exact a.voted t h1 h2
  · intro t ht
    simp only [emit_getS]
    rw [getS_upd]
    split
    · rename_i e; subst e; exact ⟨f1, f2, f3, f4, f5, f6⟩
    · exact a.fresh t ht
  · intro j
    show votesOf s j (.out (.timer (wEnd s)) :: .ev (.parentReady (wEnd s) p.1 p.2) :: v.log) = _
    rw [votesOf_cons_out, votesOf_cons_ev, a.votes j]
    simp [voteOfOut]
  · intro _
    simp only [emit_getS, getS_upd_self, logEv_getS]
    exact contains_insertParent _ _

theorem VSkipped.ready_next {v : V} (a : VSkipped s p true v) : VReady (wEnd s) p v := by
  have hsE := lt_wEnd s
  refine ⟨a.alive, Nat.lt_trans a.hfcs hsE, a.fresh, a.noPending, fun _ => a.next rfl, fun h => absurd (wEnd_mod s) h, ?_, a.hfcsEq⟩
  intro j
  rw [votesOf_le (Nat.le_of_lt hsE), a.votes j, List.filter_eq_nil_iff]
  intro x hx
  obtain ⟨t, ht, rfl⟩ := List.mem_map.mp hx
  have := (List.mem_range'_1.mp ht).2
  simp only [decide_eq_true_eq]
  omega

end AgModel.Cluster
