import AgModel.Proofs.PoolS2NGlueSlots
/-! C06 at pool level: **at most once**. Over every run, no `SafeToNotar(s, h)` event is emitted
    twice for the same block and no `SafeToSkip(s)` twice for the same slot — across pruning and re-creation of slot states:
    events are only emitted for slots at or above the watermark, such slot states are never dropped, and their `sent` /
    `sentS2S` records only grow. Generic over a *channel* (which events, which record in the slot state). -/
namespace AgModel.Pool

structure Chan (κ : Type) where
  key : Event → Option (Nat × κ)
  rcd : SlotState → κ → Prop

structure ChanStep {κ : Type} (ch : Chan κ) (st st' : SlotState) (evs : List Event) : Prop where
  slot : st'.slot = st.slot
  mono : ∀ k, ch.rcd st k → ch.rcd st' k
  fresh : ∀ ev ∈ evs, ∀ s k, ch.key ev = some (s, k) → s = st.slot ∧ ¬ ch.rcd st k ∧ ch.rcd st' k
  nodup : (evs.filterMap ch.key).Nodup

structure ChanClosed {κ : Type} (e : Epoch) (ch : Chan κ) : Prop where
  init : ∀ s k, ¬ ch.rcd { slot := s } k
  vote : ∀ st v, ChanStep ch st (st.addVote e v).1 (st.addVote e v).2.2
  cert : ∀ st c k, ch.rcd st k → ch.rcd (st.addCert c) k
  known : ∀ st h k, ch.rcd st k → ch.rcd (st.notifyParentKnown h) k
  certified : ∀ st h st' evs, st.notifyParentCertified e h = some (st', evs) → ChanStep ch st st' evs
  quiet : ∀ ev, (∀ s h, ev ≠ .s2n s h) → (∀ s, ev ≠ .s2s s) → ch.key ev = none

/-- every keyed event emitted so far is for a decided (pruned) slot or is recorded in the slot state; no key twice -/
def ChanInv {κ : Type} (ch : Chan κ) (p : Pool) (E : List Event) : Prop :=
  (∀ ev ∈ E, ∀ s k, ch.key ev = some (s, k) → s < p.fin.first ∨ ∃ st, p.getSlot s = some st ∧ ch.rcd st k) ∧
  (E.filterMap ch.key).Nodup

variable {κ : Type} {ch : Chan κ}

theorem ChanInv.step {p : Pool} {E : List Event} {s : Nat} {st' : SlotState} {evs : List Event}
    (h : ChanInv ch p E) (hst : ChanStep ch (p.slotState s).2 st' evs) (hf : evs ≠ [] → p.fin.first ≤ s) :
    ChanInv ch ((p.slotState s).1.putSlot st') (E ++ evs) := by
  have hsl : st'.slot = s := hst.slot.trans (slotState_snd_slot p s)
  have hfin := (mod_frame p s st').fin
  constructor
  · intro ev hev s0 k hk
    rw [hfin, getSlot_mod p s st' hsl]
    rcases List.mem_append.mp hev with hev | hev
    · rcases h.1 ev hev s0 k hk with a | ⟨st, hg, hr⟩
      · exact Or.inl a
      · right
        by_cases he : s0 = s
        · subst he
          simp only [if_true]
          refine ⟨st', rfl, hst.mono k ?_⟩
          rw [slotState_snd_of_some hg]; exact hr
        · simp only [he, if_false]; exact ⟨st, hg, hr⟩
    · obtain ⟨a, _, c⟩ := hst.fresh ev hev s0 k hk
      right
      rw [a, slotState_snd_slot]
      simp only [if_true]
      exact ⟨st', rfl, c⟩
  · rw [List.filterMap_append, List.nodup_append]
    refine ⟨h.2, hst.nodup, ?_⟩
    intro x hx y hy hxy
    subst hxy
    obtain ⟨ev, hev, hk⟩ := List.mem_filterMap.mp hy
    obtain ⟨ev', hev', hk'⟩ := List.mem_filterMap.mp hx
    obtain ⟨s0, k⟩ := x
    obtain ⟨a, b, _⟩ := hst.fresh ev hev s0 k hk
    rw [slotState_snd_slot] at a
    subst a
    have hne : evs ≠ [] := by intro hn; rw [hn] at hev; cases hev
    -- an earlier event with the key of a new one: its slot is not below the watermark, since this step emits (`hf`),
    -- and its record is not in the slot state, since the key is fresh
    rcases h.1 ev' hev' s0 k hk' with c | ⟨st, hg, hr⟩
    · have := hf hne; omega
    · apply b; rw [slotState_snd_of_some hg]; exact hr

theorem ChanInv.keyless {p : Pool} {E : List Event} (h : ChanInv ch p E) (evs : List Event) (hq : ∀ ev ∈ evs, ch.key ev = none) :
    ChanInv ch p (E ++ evs) := by
  constructor
  · intro ev hev s0 k hk
    rcases List.mem_append.mp hev with hev | hev
    · exact h.1 ev hev s0 k hk
    · rw [hq ev hev] at hk; cases hk
  · rw [List.filterMap_append]
    have : evs.filterMap ch.key = [] := by
      rw [List.filterMap_eq_nil_iff]; exact hq
    rw [this, List.append_nil]; exact h.2

theorem ChanInv.of_views {p q : Pool} {E : List Event} (h : ChanInv ch p E) (hf : q.fin = p.fin)
    (hs : ∀ s, q.getSlot s = p.getSlot s) : ChanInv ch q E := by
  refine ⟨fun ev hev s0 k hk => ?_, h.2⟩
  rw [hf, hs]; exact h.1 ev hev s0 k hk

theorem ChanInv.advance {p : Pool} {E : List Event} (h : ChanInv ch p E) (t : Finality.Tracker) (r : ParentReady.Res)
    (hm : p.fin.first ≤ t.first) : ChanInv ch (p.advance t r) E := by
  refine ⟨fun ev hev s0 k hk => ?_, h.2⟩
  rw [advance_fin, getSlot_advance]
  rcases h.1 ev hev s0 k hk with a | ⟨st, hg, hr⟩
  · left; omega
  · by_cases hs : t.first ≤ s0
    · right; simp only [hs, if_true]; exact ⟨st, hg, hr⟩
    · left; omega

theorem ChanInv.silent {p : Pool} {E : List Event} {s : Nat} {st' : SlotState} (h : ChanInv ch p E)
    (hsl : st'.slot = (p.slotState s).2.slot) (hm : ∀ k, ch.rcd (p.slotState s).2 k → ch.rcd st' k) :
    ChanInv ch ((p.slotState s).1.putSlot st') E := by
  have hcs : ChanStep ch (p.slotState s).2 st' [] :=
    { slot := hsl, mono := hm, fresh := (by intro _ hev; cases hev), nodup := (by simp) }
  have := h.step (s := s) (st' := st') (evs := []) hcs (fun hn => absurd rfl hn)
  rw [List.append_nil] at this; exact this

theorem ChanInv.slotState {p : Pool} {E : List Event} (h : ChanInv ch p E) (s : Nat) : ChanInv ch (p.slotState s).1 E :=
  (h.silent (s := s) rfl (fun _ hk => hk)).of_views ((slotState_frame p s).fin.trans (mod_frame p s _).fin.symm)
    (fun s' => by rw [getSlot_slotState, getSlot_mod p s _ (slotState_snd_slot p s)])

theorem ChanClosed.tracker {e : Epoch} (hc : ChanClosed e ch) {ev : Event} (h : ev.tracker) : ch.key ev = none :=
  hc.quiet ev (fun _ _ he => by rw [he] at h; exact h) (fun _ he => by rw [he] at h; exact h)

theorem ChanInv.single {e : Epoch} (hc : ChanClosed e ch) {p : Pool} {E : List Event} (h : ChanInv ch p E) (ev : Event)
    (h1 : ∀ s h, ev ≠ .s2n s h) (h2 : ∀ s, ev ≠ .s2s s) : ChanInv ch p (E ++ [ev]) :=
  h.keyless [ev] (fun ev' hev' => by simp only [List.mem_singleton] at hev'; subst hev'; exact hc.quiet _ h1 h2)

theorem ChanInv.perm {p : Pool} {E E' : List Event} (h : ChanInv ch p E) (hp : E.Perm E') : ChanInv ch p E' :=
  ⟨fun ev hev => h.1 ev (hp.mem_iff.mpr hev), (hp.filterMap ch.key).nodup_iff.mp h.2⟩

theorem ChanClosed.move {e : Epoch} (hc : ChanClosed e ch) {a b : SlotState} {evs : List Event} (m : SlotMove e a b evs) :
    ChanStep ch a b evs := by
  cases m with
  | vote v _ => exact hc.vote a v
  | cert c => exact ⟨addCert_slot a c, fun k => hc.cert a c k, (fun _ hev => nomatch hev), List.nodup_nil⟩
  | known h => exact ⟨(notifyParentKnown_spec a h).1, fun k => hc.known a h k, (fun _ hev => nomatch hev), List.nodup_nil⟩
  | certified h _ _ hn => exact hc.certified a h _ _ hn

theorem ChanClosed.ctl {e : Epoch} (hc : ChanClosed e ch) {evs : List Event} (h : ∀ ev ∈ evs, ev.ctl) :
    ∀ ev ∈ evs, ch.key ev = none :=
  fun ev hev => hc.quiet ev (fun _ _ he => by have := h ev hev; rw [he] at this; exact this)
    (fun _ he => by have := h ev hev; rw [he] at this; exact this)

theorem ChanInv.prim {e : Epoch} (hc : ChanClosed e ch) {p q : Pool} {A evs : List Event} (m : Prim p q evs)
    (h : p.epoch = e ∧ ChanInv ch p A) : q.epoch = e ∧ ChanInv ch q (A ++ evs) := by
  refine ⟨m.epoch.trans h.1, ?_⟩
  have trk : ∀ (p' : Pool) r, ∀ ev ∈ (p'.applyPr r).2, ch.key ev = none :=
    fun p' r ev hev => hc.tracker (applyPr_events p' r ev hev)
  cases m with
  | ctl evs hk => exact h.2.keyless evs (hc.ctl hk)
  | create s evs hk => exact (h.2.slotState s).keyless evs (hc.ctl hk)
  | slot s st' evs m hf => exact h.2.step (hc.move (h.1 ▸ m)) hf
  | advance t r hm => exact (h.2.advance t r hm).keyless _ (trk _ r)
  | pr r => exact (h.2.of_views (applyPr_frame p r).2.1 (getSlot_applyPr p r)).keyless _ (trk p r)
  | queue par b =>
    exact (h.2.of_views (addWaiting_frame p par b).2 (getSlot_addWaiting p par b)).keyless [] (fun _ hev => nomatch hev)
  | unwait b => exact (h.2.of_views rfl (fun _ => rfl)).keyless [] (fun _ hev => nomatch hev)

theorem poolStep_chan {e : Epoch} (hc : ChanClosed e ch) (p : Pool) (op : PoolOp) (he : p.epoch = e) {A : List Event}
    (h : ChanInv ch p A) : ChanInv ch (poolStep p op).1 (A ++ (poolStep p op).2) := by
  obtain ⟨B, hm, hp⟩ := poolStep_prims p op
  exact (hm.keeps (X := fun q A => q.epoch = e ∧ ChanInv ch q A) (fun _ _ _ _ m => ChanInv.prim hc m) ⟨he, h⟩).2.perm
    (hp.append_left A)

theorem poolRun_chan {e : Epoch} (hc : ChanClosed e ch) (ops : List PoolOp) (p : Pool) (he : p.epoch = e) {A : List Event}
    (h : ChanInv ch p A) : ChanInv ch (poolRun p ops).1 (A ++ (poolRun p ops).2) :=
  (poolRun_ind (fun _ A q => q.epoch = e ∧ ChanInv ch q A)
    (fun _ _ p op h => ⟨(poolStep_fst_epoch p op).trans h.1, poolStep_chan hc p op h.1 h.2⟩) ops [] A p ⟨he, h⟩).2

def s2nKey : Event → Option (Nat × Nat)
  | .s2n s h => some (s, h)
  | _ => none

def s2sKey : Event → Option (Nat × Unit)
  | .s2s s => some (s, ())
  | _ => none

def s2nChan : Chan Nat := { key := s2nKey, rcd := fun st h => h ∈ st.sent }

def s2sChan : Chan Unit := { key := s2sKey, rcd := fun st _ => st.sentS2S = true }

/-- the keys are pairwise distinct because what they carry beside the slot is -/
theorem keys_nodup {κ : Type} {key : Event → Option (Nat × κ)} {mark : Event → Option κ}
    (hk : ∀ ev, (key ev).map Prod.snd = mark ev) (evs : List Event) (hn : (evs.filterMap mark).Nodup) :
    (evs.filterMap key).Nodup := by
  have h : (evs.filterMap key).map Prod.snd = evs.filterMap mark := by
    rw [List.map_filterMap]
    congr 1
    funext ev
    exact hk ev
  exact List.Pairwise.of_map Prod.snd (fun _ _ hne hab => hne (congrArg Prod.snd hab)) (h ▸ hn)

theorem chanStep_s2n {e : Epoch} {st st' : SlotState} {evs : List Event} (hsl : st'.slot = st.slot) (hm : Signals st st' evs)
    (hs : EvSound e st' evs) : ChanStep s2nChan st st' evs where
  slot := hsl
  mono := fun k hk => (hm.s2n.iff k).mpr (Or.inl hk)
  fresh := by
    intro ev hev s k hk
    cases ev with
    | s2n s' h' =>
      simp only [s2nChan, s2nKey, Option.some.injEq, Prod.mk.injEq] at hk
      obtain ⟨rfl, rfl⟩ := hk
      have hmem : h' ∈ evs.filterMap s2nHash := List.mem_filterMap.mpr ⟨_, hev, rfl⟩
      exact ⟨(hs _ hev).1.trans hsl, hm.s2n.fresh h' hmem, (hm.s2n.iff h').mpr (Or.inr hmem)⟩
    | _ => simp [s2nChan, s2nKey] at hk
  nodup := keys_nodup (fun ev => by cases ev <;> rfl) evs hm.s2n.nodup

theorem chanStep_s2s {e : Epoch} {st st' : SlotState} {evs : List Event} (hsl : st'.slot = st.slot) (hm : Signals st st' evs)
    (hs : EvSound e st' evs) : ChanStep s2sChan st st' evs where
  slot := hsl
  mono := fun k hk => (hm.s2s.iff k).mpr (Or.inl hk)
  fresh := by
    intro ev hev s k hk
    cases ev with
    | s2s s' =>
      simp only [s2sChan, s2sKey, Option.some.injEq, Prod.mk.injEq] at hk
      obtain ⟨rfl, _⟩ := hk
      have hmem : () ∈ evs.filterMap s2sMark := List.mem_filterMap.mpr ⟨_, hev, rfl⟩
      exact ⟨(hs _ hev).1.trans hsl, hm.s2s.fresh () hmem, (hm.s2s.iff ()).mpr (Or.inr hmem)⟩
    | _ => simp [s2sChan, s2sKey] at hk
  nodup := keys_nodup (fun ev => by cases ev <;> rfl) evs hm.s2s.nodup

theorem s2nChan_closed (e : Epoch) : ChanClosed e s2nChan where
  init := fun s k hk => by simp [s2nChan] at hk
  vote := fun st v => chanStep_s2n (addVote_slot e st v) (addVote_emit e st v).2 (addVote_emit e st v).1
  cert := fun st c k hk => by
    show k ∈ (st.addCert c).sent
    rw [addCert_sent st c]; exact hk
  known := fun st h k hk => by
    show k ∈ (st.notifyParentKnown h).sent
    rw [(notifyParentKnown_records st h).1]; exact hk
  certified := fun st h st' evs hn =>
    chanStep_s2n (notifyParentCertified_spec hn).1 (certified_emit hn).2 (certified_emit hn).1
  quiet := fun ev h1 _ => by
    cases ev with
    | s2n s h => exact absurd rfl (h1 s h)
    | _ => rfl

theorem s2sChan_closed (e : Epoch) : ChanClosed e s2sChan where
  init := fun s k hk => by simp [s2sChan] at hk
  vote := fun st v => chanStep_s2s (addVote_slot e st v) (addVote_emit e st v).2 (addVote_emit e st v).1
  cert := fun st c k hk => by
    show (st.addCert c).sentS2S = true
    rw [addCert_sentS2S st c]; exact hk
  known := fun st h k hk => by
    show (st.notifyParentKnown h).sentS2S = true
    rw [(notifyParentKnown_records st h).2]; exact hk
  certified := fun st h st' evs hn =>
    chanStep_s2s (notifyParentCertified_spec hn).1 (certified_emit hn).2 (certified_emit hn).1
  quiet := fun ev _ h2 => by
    cases ev with
    | s2s s => exact absurd rfl (h2 s)
    | _ => rfl

theorem ChanInv.init (e : Epoch) : ChanInv ch { epoch := e } [] := by
  constructor
  · intro _ hev; cases hev
  · simp

end AgModel.Pool
