import AgModel.Proofs.ProgressRound
import AgModel.Proofs.ProgressVotor
/-!
# C02 progress, node part: the operations of the timely schedule at one composed node (pool ∘ queue ∘ Votor)
-/
namespace AgModel.Cluster
open AgModel.Node AgModel.NodePanic AgModel.Pool

variable {e : Epoch} {hi s h : Nat} {p : Nat × Nat} {X F : List Nat} {fv nr hf : Bool}

theorem vEvs_filter (evs : List Pool.Event) : vEvs (evs.filter (fun e => (toVotor e).isSome)) = vEvs evs := by
  unfold vEvs
  rw [List.filterMap_filter]
  congr 1; funext e
  cases toVotor e <;> rfl

theorem enqueue_eq (n : Node) (evs : List Pool.Event) (hp : Pool.Event.panic ∉ evs) :
    enqueue n evs = { n with queue := n.queue ++ evs.filter (fun e => (toVotor e).isSome) } := by
  unfold enqueue
  have : evs.contains Pool.Event.panic = false := by
    cases hc : evs.contains Pool.Event.panic
    · rfl
    · exact absurd (List.contains_iff_mem.mp hc) hp
  rw [this]; rfl

theorem nodeStep_recvVote (n : Node) (v : Pool.Vote) (hd : n.dead = false) (hp : Pool.Event.panic ∉ (n.pool.addVote v).2.2) :
    (nodeStep n (.recvVote v)).dead = false ∧ (nodeStep n (.recvVote v)).votor = n.votor ∧
    (nodeStep n (.recvVote v)).pool = (n.pool.addVote v).1 ∧
    vEvs (nodeStep n (.recvVote v)).queue = vEvs n.queue ++ vEvs (n.pool.addVote v).2.2 := by
  simp only [nodeStep, recvVote, hd, Bool.false_eq_true, if_false]
  rw [enqueue_eq _ _ hp]
  refine ⟨rfl, rfl, rfl, ?_⟩
  show vEvs (n.queue ++ _) = _
  rw [vEvs_append, vEvs_filter]

theorem nodeStep_dup (n : Node) (v : Pool.Vote) (hd : n.dead = false) (h : n.pool.addVote v = (n.pool, .dup, [])) :
    nodeStep n (.recvVote v) = n := by
  simp only [nodeStep, recvVote, hd, Bool.false_eq_true, if_false, h]
  rw [enqueue_eq _ _ List.not_mem_nil]
  cases n
  cases hd
  simp

theorem nodeStep_poolBlock (n : Node) (b p : Nat × Nat) (hd : n.dead = false) (hp : (n.pool.addBlock b p).2 = []) :
    nodeStep n (.poolBlock b p) = { n with pool := (n.pool.addBlock b p).1 } := by
  simp only [nodeStep, poolBlock, hd, Bool.false_eq_true, if_false]
  rw [enqueue_eq _ _ (by rw [hp]; simp), hp]
  simp

theorem nodeStep_votor_ev (n : Node) (hd : n.dead = false) (ve : Votor.Event) :
    (votorStep n ve).1 = { n with votor := Votor.step n.votor ve, dead := (Votor.step n.votor ve).panicked } := by
  unfold votorStep
  rw [hd]; rfl

theorem nodeRun_pumps (n : Node) (hd : n.dead = n.votor.panicked) :
    nodeRun n (List.replicate n.queue.length .pump) =
      { pool := n.pool, votor := Votor.run n.votor (vEvs n.queue), queue := [],
        dead := (Votor.run n.votor (vEvs n.queue)).panicked } := by
  suffices ∀ (q : List Pool.Event) (n : Node), n.queue = q → n.dead = n.votor.panicked →
      nodeRun n (List.replicate q.length .pump) =
        { pool := n.pool, votor := Votor.run n.votor (vEvs q), queue := [], dead := (Votor.run n.votor (vEvs q)).panicked } from
    this n.queue n rfl hd
  intro q
  induction q with
  | nil =>
    intro n hq hd
    cases n
    simp only at hq hd
    subst hq
    simp [nodeRun, vEvs, Votor.run, hd]
  | cons ev rest ih =>
    intro n hq hd
    simp only [List.length_cons, List.replicate_succ, nodeRun]
    have hstep : nodeStep n .pump = (pump n).1 := rfl
    rw [hstep]
    unfold pump
    rw [hq]
    dsimp only
    cases hv : toVotor ev with
    | none =>
      dsimp only
      rw [ih { n with queue := rest } rfl hd]
      have : vEvs (ev :: rest) = vEvs rest := by simp [vEvs, hv]
      rw [this]
    | some ve =>
      dsimp only
      have hvv : vEvs (ev :: rest) = ve :: vEvs rest := by simp [vEvs, hv]
      rw [hvv]
      by_cases hdd : n.dead = true
      · have hpan : n.votor.panicked = true := by rw [← hd]; exact hdd
        have hs : Votor.step n.votor ve = n.votor := by unfold Votor.step; rw [if_pos hpan]
        have : (votorStep { n with queue := rest } ve).1 = { n with queue := rest } := by
          unfold votorStep; simp [hdd]
        rw [this, ih { n with queue := rest } rfl hd]
        simp only [Votor.run, hs]
      · have hdf : n.dead = false := by simpa using hdd
        rw [nodeStep_votor_ev _ (by exact hdf)]
        rw [ih _ rfl rfl]
        simp only [Votor.run]

theorem nodeRun_append (n : Node) (a b : List NodeOp) : nodeRun n (a ++ b) = nodeRun (nodeRun n a) b := by
  induction a generalizing n with
  | nil => rfl
  | cons op a ih => exact ih _

theorem nodeRun_pumps_idle (n : Node) (hq : n.queue = []) : ∀ k, nodeRun n (List.replicate k .pump) = n := by
  intro k
  induction k with
  | zero => rfl
  | succ k ih =>
    simp only [List.replicate_succ, nodeRun]
    have : nodeStep n .pump = n := by
      show (pump n).1 = n
      unfold pump; rw [hq]
    rw [this]; exact ih

theorem nodeRun_pumps_ge (n : Node) (hd : n.dead = n.votor.panicked) (m : Nat) (hm : n.queue.length ≤ m) :
    nodeRun n (List.replicate m .pump) = nodeRun n (List.replicate n.queue.length .pump) := by
  obtain ⟨d, rfl⟩ : ∃ d, m = n.queue.length + d := ⟨m - n.queue.length, by omega⟩
  rw [List.replicate_add, nodeRun_append, nodeRun_pumps n hd]
  exact nodeRun_pumps_idle _ rfl d

theorem nodeRun_senders {P : List Nat → Node → Prop} {G : Nat → Prop} (ops : Nat → List NodeOp)
    (step : ∀ X N j, P X N → j ∉ X → G j → P (X ++ [j]) (nodeRun N (ops j))) :
    ∀ (L X : List Nat) (N : Node), P X N → (X ++ L).Nodup → (∀ j ∈ L, G j) → P (X ++ L) (nodeRun N (L.flatMap ops)) := by
  intro L
  induction L with
  | nil => intro X N m _ _; simpa [nodeRun] using m
  | cons j L ih =>
    intro X N m hnd hn
    have hj : j ∉ X := fun hx => (List.nodup_append.mp hnd).2.2 j hx j List.mem_cons_self rfl
    have := ih (X ++ [j]) _ (step X N j m hj (hn j List.mem_cons_self)) (by simpa using hnd)
      (fun x hx => hn x (List.mem_cons_of_mem _ hx))
    rw [List.flatMap_cons, nodeRun_append]
    simpa using this

/-- the composed node is ready for slot `s` with parent `p` -/
structure NReady (e : Epoch) (hi s : Nat) (p : Nat × Nat) (N : Node) : Prop where
  alive : N.dead = false
  queue : N.queue = []
  epoch : N.pool.epoch = e
  trk : TReady hi s p N.pool
  noSlots : ∀ t, s ≤ t → N.pool.getSlot t = none
  waiting : WaitBelow N.pool s
  votor : VReady s p N.votor

/-- the node has registered and notarized `(s, h)`; its pool holds the notar votes of `X` and the final votes of `F`; its Votor
    has the flags `fv nr hf` (see `VAt`); Votor will see `q` when it drains the queue -/
structure NMid (e : Epoch) (hi s h : Nat) (p : Nat × Nat) (X F : List Nat) (fv nr hf : Bool) (q : List Votor.Event)
    (N : Node) : Prop where
  alive : N.dead = false
  queue : vEvs N.queue = q
  slot : ∃ a, PSlot e s a N.pool ∧ NotarSt e s h X F a
  phase : PhaseN e hi s h p X F N.pool
  votor : VAt s h fv nr hf N.votor
  plt : p.1 < s

theorem NMid.finalized {st : State} {i : Nat} {q : List Votor.Event} (m : NMid e hi s h p X F fv nr hf q (st i))
    (hd : e.isStrong (stakeOf e X) = true ∨ (e.isQuorum (stakeOf e X) = true ∧ e.isQuorum (stakeOf e F) = true)) :
    PoolFinalized st i (Blk.mk' s h) := by
  obtain ⟨a, ps, hst⟩ := m.slot
  refine ⟨a, by rw [Blk.mk'_slot]; exact ps.slot, ?_⟩
  rw [Blk.mk'_hash _ _ (Nat.ne_of_gt (Nat.lt_of_le_of_lt (Nat.zero_le _) m.plt))]
  rcases hd with hf | ⟨hq, hqF⟩
  · exact Or.inl (hst.2.cFfSome hf)
  · exact Or.inr ⟨by rw [hst.2.cFin]; exact hqF, hst.2.cNotarSome hq⟩

theorem node_block {N : Node} (hpos : 0 < e.total) (hs : s ≤ hi) (r : NReady e hi s p N) :
    NMid e hi s h p [] [] false false false []
      (nodeRun N [.poolBlock (s, h) p, .votorBlock s ⟨h, p.1, p.2⟩]) := by
  obtain ⟨st, h1, h2, h3, h4⟩ := addBlock_ready (h := h) hpos r.epoch r.trk r.noSlots r.waiting _ rfl
  simp only [nodeRun]
  rw [nodeStep_poolBlock N _ _ r.alive h1]
  have hv : nodeStep { N with pool := (N.pool.addBlock (s, h) p).1 } (.votorBlock s ⟨h, p.1, p.2⟩) =
      (votorStep { N with pool := (N.pool.addBlock (s, h) p).1 } (.block s ⟨h, p.1, p.2⟩)).1 := rfl
  rw [hv, nodeStep_votor_ev { N with pool := (N.pool.addBlock (s, h) p).1 } r.alive]
  have hva := step_block (h := h) r.votor
  refine ⟨hva.alive, ?_, ⟨st, h2, h3⟩, (PhaseN.mid_iff hpos (strong_nil e hpos)).mpr ⟨hs, by rw [quorum_nil e hpos]; exact h4⟩, hva, r.trk.plt⟩
  show vEvs N.queue = []
  rw [r.queue]; rfl

theorem node_notar_vote {N : Node} (hpos : 0 < e.total)
    (m : NMid e hi s h p X [] fv nr hf (queue1 e s h X) N) (j : Nat) (hj : j ∉ X) (hjn : j < e.n) :
    NMid e hi s h p (X ++ [j]) [] fv nr hf (queue1 e s h (X ++ [j])) (nodeStep N (.recvVote ⟨.notar, s, h, j⟩)) := by
  obtain ⟨a, ps, hst⟩ := m.slot
  obtain ⟨a', ps', hst', ph', hnp, hev⟩ := addVote_notar_step hpos ps hst m.phase j hj hjn _ rfl
  obtain ⟨d1, d2, d3, d4⟩ := nodeStep_recvVote N ⟨.notar, s, h, j⟩ m.alive hnp
  refine ⟨d1, ?_, ⟨a', by rw [d3]; exact ps', hst'⟩, by rw [d3]; exact ph', by rw [d2]; exact m.votor, m.plt⟩
  rw [d4, m.queue]; exact hev

theorem node_notar_votes (hpos : 0 < e.total)
    (L X : List Nat) (N : Node) (m : NMid e hi s h p X [] fv nr hf (queue1 e s h X) N) (hnd : (X ++ L).Nodup)
    (hn : ∀ j ∈ L, j < e.n) :
    NMid e hi s h p (X ++ L) [] fv nr hf (queue1 e s h (X ++ L))
      (nodeRun N (L.map (fun j => NodeOp.recvVote ⟨.notar, s, h, j⟩))) := by
  have := nodeRun_senders (P := fun X N => NMid e hi s h p X [] fv nr hf (queue1 e s h X) N) (G := fun j => j < e.n)
    (fun j => [NodeOp.recvVote ⟨.notar, s, h, j⟩]) (fun _ _ j m hj hjn => node_notar_vote hpos m j hj hjn) L X N m hnd hn
  rw [List.map_eq_flatMap]; exact this

theorem isWindowStart_iff (t : Nat) : ParentReady.isWindowStart t = true ↔ t % Votor.W = 0 := by
  unfold ParentReady.isWindowStart
  show (t % Votor.W == 0) = true ↔ _
  simp

theorem votor_round1 {v : Votor.V} (a : VAt s h false false false v) (X : List Nat) :
    VAt s h (e.isQuorum (stakeOf e X)) (e.isQuorum (stakeOf e X) && ParentReady.isWindowStart (s + 1))
      (e.isStrong (stakeOf e X)) (Votor.run v (queue1 e s h X)) := by
  have hfq := isStrong_isQuorum e (stakeOf e X)
  unfold queue1 quorumVEvs
  -- strong implies quorum: of the cases on (quorum, strong, window start of `s + 1`) six remain, in the order FF·, TF·, TT·
  cases hq : e.isQuorum (stakeOf e X) <;> cases hf : e.isStrong (stakeOf e X) <;>
    (try (have := hfq hf; rw [hq] at this; cases this)) <;>
    cases hw : ParentReady.isWindowStart (s + 1) <;>
    simp only [Bool.false_eq_true, if_false, if_true, List.nil_append, List.append_nil, List.cons_append, Votor.run,
      Bool.and_true, Bool.and_false]
  · exact a
  · exact a
  · exact step_cert_notar (step_cert_nf a)
  · exact step_cert_notar (step_cert_nf (step_parentReady a ((isWindowStart_iff _).mp hw)))
  · exact step_cert_raise (step_cert_notar (step_cert_nf a)) .fastFinal (Or.inr rfl)
  · exact step_cert_raise (step_cert_notar (step_cert_nf (step_parentReady a ((isWindowStart_iff _).mp hw)))) .fastFinal
      (Or.inr rfl)

theorem votor_round2 {v : Votor.V} (a : VAt s h fv nr hf v) (F : List Nat) :
    VAt s h fv nr (hf || e.isQuorum (stakeOf e F)) (Votor.run v (queue2 e s F)) := by
  unfold queue2
  cases hq : e.isQuorum (stakeOf e F)
  · simpa [Votor.run] using a
  · simp only [if_true, Votor.run, Bool.or_true]
    exact step_cert_raise a .final (Or.inl rfl)

/-- Votor drains the queue: any number of pumps that is at least the length of the queue -/
theorem node_pumps {N : Node} {fv' nr' hf' : Bool}
    {q : List Votor.Event} (m : NMid e hi s h p X F fv nr hf q N)
    (hv : VAt s h fv' nr' hf' (Votor.run N.votor q)) (k : Nat) (hk : N.queue.length ≤ k) :
    NMid e hi s h p X F fv' nr' hf' [] (nodeRun N (List.replicate k .pump)) ∧
    (nodeRun N (List.replicate k .pump)).queue = [] := by
  have hd : N.dead = N.votor.panicked := by rw [m.alive, m.votor.alive]
  rw [nodeRun_pumps_ge N hd k hk, nodeRun_pumps N hd, m.queue]
  exact ⟨⟨hv.alive, rfl, m.slot, m.phase, hv, m.plt⟩, rfl⟩

theorem node_round2_vote {N : Node}
    (hq : e.isQuorum (stakeOf e X) = true)
    (m : NMid e hi s h p X F fv nr hf (queue2 e s F) N) (j : Nat) (hjX : j ∈ X) (hj : j ∉ F) (hjn : j < e.n) :
    NMid e hi s h p X (F ++ [j]) fv nr hf (queue2 e s (F ++ [j]))
      (nodeRun N [.recvVote ⟨.notar, s, h, j⟩, .recvVote ⟨.final, s, 0, j⟩]) := by
  obtain ⟨a, ps, hst⟩ := m.slot
  simp only [nodeRun]
  -- `exchange` re-delivers every vote of the slot (`votesOf`): the notarization vote of round 1 comes again, a duplicate
  rw [nodeStep_dup N _ m.alive (addVote_notar_dup ps hst m.phase j hjX hjn)]
  obtain ⟨a', ps', hst', ph', hnp, hev⟩ := addVote_final_step ps hst hq m.phase j hj hjn _ rfl
  obtain ⟨g1, g2, g3, g4⟩ := nodeStep_recvVote N ⟨.final, s, 0, j⟩ m.alive hnp
  refine ⟨g1, ?_, ⟨a', by rw [g3]; exact ps', hst'⟩, by rw [g3]; exact ph', by rw [g2]; exact m.votor, m.plt⟩
  rw [g4, m.queue]; exact hev

theorem node_round2
    (hq : e.isQuorum (stakeOf e X) = true) :
    ∀ (L F : List Nat) (N : Node), NMid e hi s h p X F fv nr hf (queue2 e s F) N → (F ++ L).Nodup → (∀ j ∈ L, j ∈ X ∧ j < e.n) →
    NMid e hi s h p X (F ++ L) fv nr hf (queue2 e s (F ++ L))
      (nodeRun N (L.flatMap (fun j => [NodeOp.recvVote ⟨.notar, s, h, j⟩, NodeOp.recvVote ⟨.final, s, 0, j⟩]))) :=
  nodeRun_senders (P := fun F N => NMid e hi s h p X F fv nr hf (queue2 e s F) N) (G := fun j => j ∈ X ∧ j < e.n) _
    (fun _ _ j m hj hg => node_round2_vote hq m j hg.1 hj hg.2)

theorem node_done {N : Node}
    (m : NMid e hi s h p X F fv (ParentReady.isWindowStart (s + 1)) true [] N)
    (hdone : e.isStrong (stakeOf e X) = true ∨ (e.isQuorum (stakeOf e X) = true ∧ e.isQuorum (stakeOf e F) = true))
    (hq : N.queue = []) :
    NReady e hi (s + 1) (s, h) N := by
  obtain ⟨a, ps, _⟩ := m.slot
  have ph := m.phase
  unfold PhaseN at ph
  rw [if_pos hdone] at ph
  refine ⟨m.alive, hq, ps.epoch, ph.2.1, fun t ht => ps.noAbove t (by omega), fun k hk => by have := ps.waiting k hk; omega,
    m.votor.ready_next (isWindowStart_iff _).mpr⟩

end AgModel.Cluster
