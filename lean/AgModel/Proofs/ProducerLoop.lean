import AgModel.Proofs.BlockProducer
import AgModel.Model.ProducerLoop
import AgModel.Model.Votor
/-! `AgModel.BlockProducer.Loop` (the window loop of `block_production_loop`): a window that produces anything is
    `produceSlots` over `slotsOf w`, entered as `wait_for_first_slot` answered (`Entered`, `produceWindow_cases`); the
    blocks are then taken off one at a time by `produceSlots_head`. At the end the two facts about Votor's `try_notar`
    that `Props/C13ProducerLoop.lean` holds the produced blocks against. -/
namespace AgModel.BlockProducer.Loop

theorem W_eq : W = 4 := rfl

theorem produceSlots_slots (eq : Bool) (ss : List Nat) (m : Mode) (par : Nat × Nat) (bs : List BlockIn) :
    (∃ k, (produceSlots eq ss m par bs).1.map (·.slot) = ss.take k) ∧
    ((produceSlots eq ss m par bs).2 = true → (produceSlots eq ss m par bs).1.map (·.slot) = ss) := by
  fun_induction produceSlots eq ss m par bs with
  | case1 => exact ⟨⟨0, rfl⟩, fun _ => rfl⟩
  | case2 => exact ⟨⟨0, rfl⟩, nofun⟩
  | case3 s _ _ _ _ _ _ _ _ ih =>
    obtain ⟨⟨k, hk⟩, h2⟩ := ih
    exact ⟨⟨k + 1, congrArg (s :: ·) hk⟩, fun h => congrArg (s :: ·) (h2 h)⟩
  | case4 => exact ⟨⟨0, rfl⟩, nofun⟩

theorem produceSlots_head {eq : Bool} {n len : Nat} {m : Mode} {par : Nat × Nat} {bs : List BlockIn}
    {x : Produced} {rest : List Produced} (h : (produceSlots eq (List.range' n len) m par bs).1 = x :: rest) :
    ∃ b bs', bs = b :: bs' ∧ (produce ⟨m, n, par, eq⟩ b.ins).1.status = .done ∧
      x = ⟨n, b.hash, (produce ⟨m, n, par, eq⟩ b.ins).1.parent⟩ ∧
      rest = (produceSlots eq (List.range' (n + 1) (len - 1)) .ready (n, b.hash) bs').1 := by
  generalize hss : List.range' n len = ss at h
  revert h
  fun_cases produceSlots eq ss m par bs with
  | case1 | case2 | case4 => nofun
  | case3 _ _ _ _ _ _ _ hd =>
    intro h
    obtain ⟨rfl, _, rfl⟩ := List.range'_eq_cons_iff.mp hss
    obtain ⟨rfl, rfl⟩ := List.cons.inj h
    exact ⟨_, _, rfl, hd, rfl, rfl⟩

theorem produceSlots_chain {eq : Bool} (pre : List Produced) : ∀ {n len : Nat} {m : Mode} {par : Nat × Nat}
    {bs : List BlockIn} {a b : Produced} {post : List Produced},
    (produceSlots eq (List.range' n len) m par bs).1 = pre ++ a :: b :: post →
    b.slot = a.slot + 1 ∧ b.parent = (a.slot, a.hash) := by
  induction pre with
  | nil =>
    intro n len m par bs a b post h
    obtain ⟨_, _, _, _, rfl, hrest⟩ := produceSlots_head h
    obtain ⟨_, _, _, _, rfl, _⟩ := produceSlots_head hrest.symm
    exact ⟨rfl, produce_ready_parent rfl⟩
  | cons y pre ih =>
    intro n len m par bs a b post h
    obtain ⟨_, _, _, _, _, hrest⟩ := produceSlots_head h
    exact ih hrest.symm

theorem produceSlots_mem {eq : Bool} (l : List Produced) : ∀ {n len : Nat} {m : Mode} {par : Nat × Nat}
    {bs : List BlockIn}, (produceSlots eq (List.range' n len) m par bs).1 = l → ∀ x ∈ l,
    ∃ m' par' bi, bi ∈ bs ∧ (par.1 < n → par'.1 < x.slot) ∧
      (produce ⟨m', x.slot, par', eq⟩ bi.ins).1.status = .done ∧
      (produce ⟨m', x.slot, par', eq⟩ bi.ins).1.parent = x.parent := by
  induction l with
  | nil => intro _ _ _ _ _ _ x hx; cases hx
  | cons y rest ih =>
    intro n len m par bs h x hx
    obtain ⟨bi, bs', rfl, hd, rfl, hrest⟩ := produceSlots_head h
    rcases List.mem_cons.mp hx with rfl | hx
    · exact ⟨m, par, bi, List.mem_cons_self, id, hd, rfl⟩
    · obtain ⟨m', par', bj, h1, h2, h3⟩ := ih hrest.symm x hx
      exact ⟨m', par', bj, List.mem_cons_of_mem _ h1, fun _ => h2 (Nat.lt_succ_self _), h3⟩

/-- the first slot a leader produces in window `w` (slot 0, genesis, is never produced) -/
def firstSlot (w : Nat) : Nat := if w = 0 then 1 else w * W

def slotsOf (w : Nat) : List Nat := List.range' (firstSlot w) (w * W + W - firstSlot w)

theorem firstSlot_bounds (w : Nat) : 0 < firstSlot w ∧ w * W ≤ firstSlot w ∧ firstSlot w < w * W + W := by
  unfold firstSlot
  split
  · subst w; decide
  · rename_i hw
    exact ⟨Nat.mul_pos (Nat.pos_of_ne_zero hw) (by decide), Nat.le_refl _, Nat.lt_add_of_pos_right (by decide)⟩

theorem slotsOf_eq (w : Nat) : slotsOf w = if w = 0 then (windowSlots 0).drop 1 else windowSlots w := by
  unfold slotsOf firstSlot windowSlots
  split
  · subst w; rfl
  · rw [Nat.add_sub_cancel_left]

theorem mem_slotsOf {w s : Nat} (h : s ∈ slotsOf w) : w * W ≤ s ∧ s < w * W + W ∧ s ≠ 0 := by
  obtain ⟨hpos, hge, hlt⟩ := firstSlot_bounds w
  rw [slotsOf, List.mem_range'_1, Nat.add_sub_cancel' (Nat.le_of_lt hlt)] at h
  exact ⟨Nat.le_trans hge h.1, h.2, Nat.ne_of_gt (Nat.lt_of_lt_of_le hpos h.1)⟩

/-- the answer of `wait_for_first_slot` on which the loop calls the producer of mode `m` with parent `p` -/
def readyOf : Mode → Nat × Nat → SlotReady
  | .ready, p => .ready p
  | .notReady, p => .parentReadyNotSeen p

/-- window `w` is entered in mode `m` on the parent `p`: genesis in window 0, else as `wait_for_first_slot` answered -/
def Entered (w : Nat) (i : WindowIn) (m : Mode) (p : Nat × Nat) : Prop :=
  (w = 0 → m = .ready ∧ p = (0, 0)) ∧
  (w ≠ 0 → waitForFirstSlot (w * W) { i.first with genesisWindow := false } = some (readyOf m p))

theorem produceWindow_cases (leader : Nat → Nat) (me w : Nat) (i : WindowIn) :
    ((produceWindow leader me w i).blocks = [] ∧ ((produceWindow leader me w i).verdict = .notLeader ∨
      (produceWindow leader me w i).verdict = .skip ∨ (produceWindow leader me w i).verdict = .waiting)) ∨
    ∃ m p, Entered w i m p ∧ produceWindow leader me w i = fin (produceSlots i.eq (slotsOf w) m p i.blocks) := by
  have hz : w * W = 0 ↔ w = 0 := by rw [W_eq]; omega
  unfold produceWindow Entered
  rw [slotsOf_eq]
  fun_cases entry leader me w i with
  | case1 => exact Or.inl ⟨rfl, Or.inl rfl⟩
  | case2 => exact Or.inl ⟨rfl, Or.inr (Or.inr rfl)⟩
  | case3 => exact Or.inl ⟨rfl, Or.inr (Or.inl rfl)⟩
  | case4 _ p _ h0 =>
    have hw := hz.mp h0
    subst hw
    exact Or.inr ⟨.ready, (0, 0), ⟨fun _ => ⟨rfl, rfl⟩, fun h => absurd rfl h⟩, rfl⟩
  | case5 _ p hp h0 =>
    have hw := mt hz.mpr h0
    rw [decide_eq_false hw] at hp
    rw [if_neg hw]
    exact Or.inr ⟨.ready, p, ⟨fun h => absurd h hw, fun _ => hp⟩, rfl⟩
  | case6 _ p hp =>
    by_cases hw : w = 0
    · subst hw; cases hp
    · rw [decide_eq_false hw] at hp
      rw [if_neg hw]
      exact Or.inr ⟨.notReady, p, ⟨fun h => absurd h hw, fun _ => hp⟩, rfl⟩

theorem entered {leader : Nat → Nat} {me w : Nat} {i : WindowIn} (h : (produceWindow leader me w i).blocks ≠ []) :
    ∃ m p, Entered w i m p ∧
      (produceWindow leader me w i).blocks = (produceSlots i.eq (slotsOf w) m p i.blocks).1 := by
  rcases produceWindow_cases leader me w i with ⟨h0, _⟩ | ⟨m, p, he, hp⟩
  · exact absurd h0 h
  · exact ⟨m, p, he, congrArg WRes.blocks hp⟩

theorem blocks_slots_prefix (leader : Nat → Nat) (me w : Nat) (i : WindowIn) :
    ∃ k, (produceWindow leader me w i).blocks.map (·.slot) = (slotsOf w).take k := by
  by_cases h : (produceWindow leader me w i).blocks = []
  · exact ⟨0, by rw [h]; rfl⟩
  · obtain ⟨m, p, _, hb⟩ := entered h
    exact hb ▸ (produceSlots_slots _ _ _ _ _).1

theorem blocks_slot_bounds {leader : Nat → Nat} {me w : Nat} {i : WindowIn} {b : Produced}
    (hb : b ∈ (produceWindow leader me w i).blocks) : w * W ≤ b.slot ∧ b.slot < w * W + W ∧ b.slot ≠ 0 := by
  obtain ⟨k, hk⟩ := blocks_slots_prefix leader me w i
  exact mem_slotsOf (List.mem_of_mem_take (hk ▸ List.mem_map_of_mem hb))

theorem first_block_shape {leader : Nat → Nat} {me w : Nat} {i : WindowIn} {b : Produced} {rest : List Produced}
    (hb : (produceWindow leader me w i).blocks = b :: rest) :
    ∃ m p bi, Entered w i m p ∧ i.blocks.head? = some bi ∧
      b = ⟨firstSlot w, bi.hash, (produce ⟨m, firstSlot w, p, i.eq⟩ bi.ins).1.parent⟩ := by
  obtain ⟨m, p, he, hbl⟩ := entered (hb ▸ List.cons_ne_nil _ _)
  obtain ⟨bi, bs', hbs, _, hx, _⟩ := produceSlots_head (hbl ▸ hb)
  exact ⟨m, p, bi, he, hbs ▸ rfl, hx⟩

theorem waitFor_notSeen {fs : Nat} {i : FirstSlotIn} {p : Nat × Nat}
    (h : waitForFirstSlot fs i = some (.parentReadyNotSeen p)) : ∃ hh, i.prevBlock = some hh ∧ p = (fs - 1, hh) := by
  revert h
  fun_cases waitForFirstSlot fs i with
  | case1 | case2 | case3 | case5 | case6 => nofun
  | case4 _ _ _ hh hp => intro h; cases h; exact ⟨hh, hp, rfl⟩

theorem waitFor_ready {fs : Nat} {i : FirstSlotIn} {p : Nat × Nat}
    (h : waitForFirstSlot fs i = some (.ready p)) :
    i.genesisWindow = true ∨ i.already = some p ∨ i.prFirst = some p := by
  revert h
  fun_cases waitForFirstSlot fs i with
  | case1 hg => exact fun _ => Or.inl hg
  | case2 _ _ ha => intro h; cases h; exact Or.inr (Or.inl ha)
  | case3 _ _ _ hp => intro h; cases h; exact Or.inr (Or.inr hp)
  | case4 | case5 | case6 => nofun

theorem entered_parent_lt {w : Nat} {i : WindowIn} {m : Mode} {p : Nat × Nat} (he : Entered w i m p)
    (h1 : ∀ q, i.first.already = some q → q.1 < w * W) (h2 : ∀ q, i.first.prFirst = some q → q.1 < w * W) :
    p.1 < firstSlot w := by
  obtain ⟨hpos, hge, _⟩ := firstSlot_bounds w
  by_cases hw : w = 0
  · rw [(he.1 hw).2]; exact hpos
  · refine Nat.lt_of_lt_of_le ?_ hge
    have hr := he.2 hw
    cases m with
    | ready =>
      rcases waitFor_ready hr with h | h | h
      · cases h
      · exact h1 p h
      · exact h2 p h
    | notReady =>
      obtain ⟨hh, _, rfl⟩ := waitFor_notSeen hr
      exact Nat.sub_lt (Nat.mul_pos (Nat.pos_of_ne_zero hw) (by decide)) Nat.one_pos

/-- the parent of the block produced in slot `id.1` (the hash `id.2` is not compared); `(0, 0)` if there is none -/
def parentOfBlocks (bl : List Produced) (id : Nat × Nat) : Nat × Nat :=
  match bl.find? (fun b => b.slot == id.1) with
  | some b => b.parent
  | none => (0, 0)

theorem find_slot_of_nodup (bl : List Produced) (hn : (bl.map (·.slot)).Nodup) :
    ∀ b ∈ bl, bl.find? (fun x => x.slot == b.slot) = some b := by
  induction bl with
  | nil => nofun
  | cons x rest ih =>
    intro b hb
    rw [List.map_cons, List.nodup_cons] at hn
    rcases List.mem_cons.mp hb with rfl | hb
    · exact List.find?_cons_of_pos (beq_self_eq_true _)
    · have hne : x.slot ≠ b.slot := fun he => hn.1 (he ▸ List.mem_map_of_mem hb)
      rw [List.find?_cons_of_neg (by simpa using hne)]
      exact ih hn.2 b hb

/-! ### Votor's `try_notar` -/

open AgModel.Votor in
theorem parentOk_later {v : V} {slot : Nat} {b : BlockInfo} (hm : slot % AgModel.Votor.W ≠ 0)
    (h1 : b.pslot + 1 = slot) (h2 : (v.getS b.pslot).votedNotar = some b.phash) : v.parentOk slot b = true := by
  rw [V.parentOk, if_neg hm, Bool.and_eq_true]
  exact ⟨decide_eq_true h1, decide_eq_true h2⟩

theorem tryNotar_of_parentOk {v : AgModel.Votor.V} {slot : Nat} {b : AgModel.Votor.BlockInfo}
    (h1 : v.firstUnpruned ≤ slot) (h2 : (v.getS slot).voted = false) (h3 : v.parentOk slot b = true) :
    (v.tryNotar slot b).2 = true := by
  unfold AgModel.Votor.V.tryNotar
  simp [Nat.not_lt.mpr h1, h2, h3]

end AgModel.BlockProducer.Loop
