import AgModel.Model.Merkle
/-! The perfect-tree specification `specG` of `MerkleTree::new`; soundness of derivations against it (`derive_sound`:
top-down, peeling the last path element), completeness of the created proofs level by level (`proofAux_complete`). -/
namespace AgModel.Merkle

/-- Abstract specification: root of the perfect tree of height `k` over the level-`h0` nodes `l`,
    padded with empty subtrees. `specG 0 k (leaves.map H.leaf)` is the spec of `MerkleTree::new`. -/
def specG (h0 : Nat) : Nat → List H → H
  | 0, l => l.headD (emptyRoot h0)
  | k + 1, l => .node (specG h0 k (l.take (2 ^ k))) (specG h0 k (l.drop (2 ^ k)))

theorem emptyRoot_add (h0 k : Nat) : emptyRoot (h0 + (k + 1)) = .node (emptyRoot (h0 + k)) (emptyRoot (h0 + k)) := rfl

theorem specG_nil (h0 k : Nat) : specG h0 k [] = emptyRoot (h0 + k) := by
  induction k with
  | zero => simp [specG]
  | succ k ih => simp [specG, ih, emptyRoot_add]

theorem nextLevel_take (h : Nat) (l : List H) (m : Nat) :
    nextLevel h (l.take (2 * m)) = (nextLevel h l).take m := by
  induction m generalizing l with
  | zero => simp [nextLevel]
  | succ m ih =>
    match l with
    | [] => simp [nextLevel]
    | [a] => simp [nextLevel, Nat.mul_succ]
    | a :: b :: rest =>
      have : 2 * (m + 1) = (2 * m) + 1 + 1 := Nat.mul_succ 2 m
      simp only [this, List.take_succ_cons, nextLevel, ih]

theorem nextLevel_drop (h : Nat) (l : List H) (m : Nat) :
    nextLevel h (l.drop (2 * m)) = (nextLevel h l).drop m := by
  induction m generalizing l with
  | zero => simp
  | succ m ih =>
    match l with
    | [] => simp [nextLevel]
    | [a] => simp [nextLevel, Nat.mul_succ]
    | a :: b :: rest =>
      have : 2 * (m + 1) = (2 * m) + 1 + 1 := Nat.mul_succ 2 m
      simp only [this, List.drop_succ_cons, nextLevel, ih]

theorem specG_succ_eq (h0 k : Nat) (l : List H) :
    specG h0 (k + 1) l = specG (h0 + 1) k (nextLevel h0 l) := by
  induction k generalizing l with
  | zero =>
    match l with
    | [] => simp [specG, nextLevel, emptyRoot]
    | [a] => simp [specG, nextLevel]
    | a :: b :: rest => simp [specG, nextLevel]
  | succ k ih =>
    have e : (2 : Nat) ^ (k + 1) = 2 * 2 ^ k := Nat.pow_succ'
    show H.node (specG h0 (k + 1) (l.take (2 ^ (k + 1)))) (specG h0 (k + 1) (l.drop (2 ^ (k + 1)))) = _
    rw [ih, ih, e, nextLevel_take, nextLevel_drop]
    rfl

theorem buildLevelsF_eq_wf (f h : Nat) (cur : List H) (hf : cur.length ≤ f) :
    buildLevelsF f h cur = buildLevelsWF h cur := by
  fun_induction buildLevelsWF h cur generalizing f with
  | case1 h cur hlen =>
    match f with
    | 0 => rfl
    | f + 1 => simp [buildLevelsF, hlen]
  | case2 h cur hlen ih =>
    match f with
    | 0 => omega
    | f + 1 =>
      simp only [buildLevelsF, hlen, if_false]
      rw [ih f (by rw [nextLevel_length]; omega)]

theorem buildLevels_eq_wf (h : Nat) (cur : List H) : buildLevels h cur = buildLevelsWF h cur :=
  buildLevelsF_eq_wf _ h cur (Nat.le_refl _)

theorem buildLevelsWF_ne_nil (h : Nat) (cur : List H) : buildLevelsWF h cur ≠ [] := by
  unfold buildLevelsWF; split <;> simp

theorem root_cons (a : List H) (rest : List (List H)) (hr : rest ≠ []) : Tree.root ⟨a :: rest⟩ = Tree.root ⟨rest⟩ := by
  unfold Tree.root
  rw [List.getLast?_cons_of_ne_nil hr] <;> rfl

theorem length_cons_sub_one (a : List H) {rest : List (List H)} (hr : rest ≠ []) :
    (a :: rest).length - 1 = (rest.length - 1) + 1 := by
  rw [List.length_cons, Nat.add_sub_cancel]
  exact (Nat.sub_add_cancel (List.length_pos_iff.mpr hr)).symm

theorem root_eq_spec (h : Nat) (cur : List H) (hne : cur ≠ []) :
    Tree.root ⟨buildLevelsWF h cur⟩ = specG h ((buildLevelsWF h cur).length - 1) cur := by
  fun_induction buildLevelsWF h cur with
  | case1 h cur hlen =>
    match cur, hne, hlen with
    | [a], _, _ => rfl
  | case2 h cur hlen ih =>
    have hn : nextLevel h cur ≠ [] := by
      intro e
      have := nextLevel_length h cur
      rw [e] at this; simp at this; omega
    rw [root_cons _ _ (buildLevelsWF_ne_nil _ _), ih hn, length_cons_sub_one _ (buildLevelsWF_ne_nil _ _),
      specG_succ_eq]

theorem buildLevelsWF_height_le_iff (h : Nat) (cur : List H) (k : Nat) :
    (buildLevelsWF h cur).length - 1 ≤ k ↔ cur.length ≤ 2 ^ k := by
  fun_induction buildLevelsWF h cur generalizing k with
  | case1 h cur hlen =>
    exact ⟨fun _ => Nat.le_trans hlen Nat.one_le_two_pow, fun _ => Nat.zero_le _⟩
  | case2 h cur hlen ih =>
    rw [length_cons_sub_one _ (buildLevelsWF_ne_nil _ _)]
    match k with
    | 0 => exact ⟨fun h => absurd h (Nat.not_succ_le_zero _), fun h => absurd h hlen⟩
    | k + 1 => rw [Nat.add_le_add_iff_right, ih k, nextLevel_length, Nat.pow_succ]; omega

theorem deriveRootIdx_snd (x : H) (i : Nat) (π : List H) : (deriveRootIdx x i π).2 = i / 2 ^ π.length := by
  induction π generalizing x i with
  | nil => simp [deriveRootIdx]
  | cons p ps ih =>
    simp only [deriveRootIdx, ih, List.length_cons, Nat.pow_succ]
    rw [Nat.div_div_eq_div_mul, Nat.mul_comm]

theorem deriveRootIdx_append (x : H) (i : Nat) (π : List H) (p : H) :
    deriveRootIdx x i (π ++ [p]) =
      (if (deriveRootIdx x i π).2 % 2 = 0 then H.node (deriveRootIdx x i π).1 p
        else H.node p (deriveRootIdx x i π).1, (deriveRootIdx x i π).2 / 2) := by
  induction π generalizing x i with
  | nil => rfl
  | cons q qs ih => simp only [List.cons_append, deriveRootIdx]; exact ih _ _

theorem checkProof_iff (d i : Nat) (root : H) (π : List H) :
    checkProof d i root π = true ↔ π.length ≤ maxHeight ∧ deriveRootIdx (.leaf d) i π = (root, 0) := by
  unfold checkProof checkHashProof deriveRoot
  simp only [Bool.and_eq_true, decide_eq_true_eq, and_assoc, Prod.ext_iff]
  exact and_congr_right fun _ => and_comm

/-- The LEAF label: a leaf hash is never the hash of a pair. Without it an inner node could be offered as a leaf with
    a shortened path (the hypotheses `hL`, `hx` of `derive_sound`). -/
def IsLeaf : H → Prop
  | .leaf _ => True
  | _ => False

theorem specG_zero_isLeaf (l : List H) (hl : ∀ y ∈ l, IsLeaf y) : IsLeaf (specG 0 0 l) := by
  match l with
  | [] => trivial
  | a :: _ => exact hl a List.mem_cons_self

theorem list_eq_nil_or_snoc (l : List H) : l = [] ∨ ∃ l' p, l = l' ++ [p] :=
  (List.eq_nil_or_concat l).imp id fun ⟨l', p, h⟩ => ⟨l', p, h.trans List.concat_eq_append⟩

theorem getD_take {l : List H} {n j : Nat} (d : H) (h : j < n) : (l.take n).getD j d = l.getD j d := by
  simp only [List.getD_eq_getElem?_getD, List.getElem?_take_of_lt h]

theorem getD_drop (l : List H) (n j : Nat) (d : H) : (l.drop n).getD j d = l.getD (n + j) d := by
  simp only [List.getD_eq_getElem?_getD, List.getElem?_drop]

theorem getD_map_leaf (leaves : List Nat) (i : Nat) : (leaves.map H.leaf).getD i (.leaf 0) = .leaf (leaves.getD i 0) := by
  simp only [List.getD_eq_getElem?_getD, List.getElem?_map]
  cases leaves[i]? <;> rfl

/-- only empty leaves hash to the canonical empty root -/
theorem specG_eq_empty_all (k : Nat) (L : List H) (he : specG 0 k L = emptyRoot k) (j : Nat) (hj : j < 2 ^ k) :
    L.getD j (.leaf 0) = .leaf 0 := by
  induction k generalizing L j with
  | zero =>
    have : j = 0 := by simpa using hj
    subst this
    match L with
    | [] => rfl
    | a :: _ => exact he
  | succ k ih =>
    injection he with h1 h2
    by_cases hjk : j < 2 ^ k
    · rw [← getD_take _ hjk]; exact ih _ h1 j hjk
    · have := ih _ h2 (j - 2 ^ k)
        (Nat.sub_lt_left_of_lt_add (Nat.le_of_not_lt hjk) (by rwa [Nat.pow_succ, Nat.mul_two] at hj))
      rwa [getD_drop, Nat.add_sub_cancel' (Nat.le_of_not_lt hjk)] at this

/-- Core soundness. A derivation from a leaf that reaches the spec root of height `k` has length `k` and starts from
    the leaf at `i % 2^k`; if moreover every sibling it has on its right (index bit 0) is the canonical empty root of
    its height, all leaves to the right of that position are empty. The proof peels the *last* path element, which
    sits at the root of the spec tree. -/
theorem derive_sound (k : Nat) (L : List H) (hL : ∀ y ∈ L, IsLeaf y) (x : H) (hx : IsLeaf x) (i : Nat)
    (π : List H) (hd : (deriveRootIdx x i π).1 = specG 0 k L) :
    π.length = k ∧ x = L.getD (i % 2 ^ k) (.leaf 0) ∧
      ((∀ t, t < k → i / 2 ^ t % 2 = 0 → π[t]? = some (emptyRoot t)) →
        ∀ j, i % 2 ^ k < j → j < 2 ^ k → L.getD j (.leaf 0) = .leaf 0) := by
  induction k generalizing L π with
  | zero =>
    rcases list_eq_nil_or_snoc π with rfl | ⟨π', p, rfl⟩
    · refine ⟨rfl, ?_, fun _ j _ h2 => by rw [Nat.pow_zero] at h2; omega⟩
      rw [Nat.pow_zero, Nat.mod_one]
      cases L <;> exact hd
    · have hleaf := specG_zero_isLeaf L hL
      rw [← hd, deriveRootIdx_append] at hleaf
      split at hleaf <;> exact hleaf.elim
  | succ k ih =>
    rcases list_eq_nil_or_snoc π with rfl | ⟨π', p, rfl⟩
    · have : x = specG 0 (k + 1) L := hd
      rw [this] at hx; exact hx.elim
    · rw [deriveRootIdx_append, deriveRootIdx_snd] at hd
      have hlt : i % 2 ^ k < 2 ^ k := Nat.mod_lt _ (Nat.two_pow_pos k)
      have hpow : 2 ^ (k + 1) = 2 ^ k + 2 ^ k := by rw [Nat.pow_succ, Nat.mul_two]
      -- position `i % 2^(k+1)` lies in the half that bit `k` of `i` selects, at `i % 2^k`
      have hmod : i % 2 ^ (k + 1) = 2 ^ k * (i / 2 ^ k % 2) + i % 2 ^ k := by
        rw [Nat.pow_succ, Nat.mod_mul, Nat.add_comm]
      -- below the top the siblings are those of `π'`
      have below : (∀ t, t < k + 1 → i / 2 ^ t % 2 = 0 → (π' ++ [p])[t]? = some (emptyRoot t)) → π'.length = k →
          ∀ t, t < k → i / 2 ^ t % 2 = 0 → π'[t]? = some (emptyRoot t) := by
        intro hemp hlen t ht hb
        have := hemp t (Nat.lt_succ_of_lt ht) hb
        rwa [List.getElem?_append_left (hlen ▸ ht)] at this
      by_cases hpar : i / 2 ^ π'.length % 2 = 0
      · rw [if_pos hpar] at hd
        injection hd with h1 h2
        obtain ⟨hlen, hxe, hright⟩ := ih (L.take (2 ^ k)) (fun y hy => hL y (List.mem_of_mem_take hy)) π' h1
        rw [hlen] at hpar
        rw [hmod, hpar, Nat.mul_zero, Nat.zero_add]
        refine ⟨by rw [List.length_append, hlen]; rfl, by rw [hxe, getD_take _ hlt], fun hemp j hj1 hj2 => ?_⟩
        by_cases hjk : j < 2 ^ k
        · rw [← getD_take _ hjk]
          exact hright (below hemp hlen) j hj1 hjk
        · -- the top sibling is the canonical empty root: the whole right half is empty
          have hp := hemp k (Nat.lt_succ_self k) hpar
          rw [List.getElem?_append_right (Nat.le_of_eq hlen), hlen, Nat.sub_self] at hp
          have := specG_eq_empty_all k _ (h2.symm.trans (Option.some.inj hp)) (j - 2 ^ k)
            (Nat.sub_lt_left_of_lt_add (Nat.le_of_not_lt hjk) (hpow ▸ hj2))
          rwa [getD_drop, Nat.add_sub_cancel' (Nat.le_of_not_lt hjk)] at this
      · rw [if_neg hpar] at hd
        injection hd with h1 h2
        obtain ⟨hlen, hxe, hright⟩ := ih (L.drop (2 ^ k)) (fun y hy => hL y (List.mem_of_mem_drop hy)) π' h2
        rw [hlen] at hpar
        have hpar1 : i / 2 ^ k % 2 = 1 := Nat.mod_two_ne_zero.mp hpar
        rw [hmod, hpar1, Nat.mul_one]
        refine ⟨by rw [List.length_append, hlen]; rfl, by rw [hxe, getD_drop], fun hemp j hj1 hj2 => ?_⟩
        have hle : 2 ^ k ≤ j := Nat.le_of_lt (Nat.lt_of_le_of_lt (Nat.le_add_right _ _) hj1)
        have := hright (below hemp hlen) (j - 2 ^ k) (Nat.lt_sub_iff_add_lt'.mpr hj1)
          (Nat.sub_lt_left_of_lt_add hle (hpow ▸ hj2))
        rwa [getD_drop, Nat.add_sub_cancel' hle] at this

theorem derive_inj (x x' : H) (i : Nat) (π π' : List H) (hlen : π.length = π'.length)
    (hd : (deriveRootIdx x i π).1 = (deriveRootIdx x' i π').1) : x = x' ∧ π = π' := by
  induction π generalizing x x' i π' with
  | nil =>
    match π', hlen with
    | [], _ => exact ⟨hd, rfl⟩
  | cons p ps ih =>
    match π', hlen with
    | p' :: ps', hlen =>
      obtain ⟨h1, h2⟩ := ih _ _ (i / 2) ps' (Nat.succ.inj hlen) hd
      split at h1 <;> injection h1 with a b
      · exact ⟨a, by rw [b, h2]⟩
      · exact ⟨b, by rw [a, h2]⟩

/-- with the canonical empty root as default the level above is described without case distinction: beyond the end
    both sides are empty roots, and the odd last node gets the empty sibling -/
theorem nextLevel_getD (h : Nat) (l : List H) (j : Nat) :
    (nextLevel h l).getD j (emptyRoot (h + 1)) =
      .node (l.getD (2 * j) (emptyRoot h)) (l.getD (2 * j + 1) (emptyRoot h)) := by
  fun_induction nextLevel h l generalizing j with
  | case1 => rfl
  | case2 a => cases j <;> rfl
  | case3 a b rest ih =>
    cases j with
    | zero => rfl
    | succ j => exact ih j

theorem proofAux_cons_cons (h i : Nat) (lvl r0 : List H) (rs : List (List H)) :
    proofAux h i (lvl :: r0 :: rs) = lvl.getD (sib i) (emptyRoot h) :: proofAux (h + 1) (i / 2) (r0 :: rs) := by
  simp only [proofAux, List.isEmpty_cons, Bool.false_eq_true, if_false, List.cons.injEq, and_true]
  split
  · rw [List.getD_eq_getElem?_getD, List.getElem?_eq_none ‹_›]; rfl
  · rw [List.getD_eq_getElem?_getD, List.getD_eq_getElem?_getD, List.getElem?_eq_getElem (Nat.lt_of_not_le ‹_›)]; rfl

theorem proofAux_single (h i : Nat) (lvl : List H) : proofAux h i [lvl] = [] := rfl

theorem proofAux_complete (h : Nat) (cur : List H) (i : Nat) (hi : i < cur.length) :
    deriveRootIdx (cur.getD i (emptyRoot h)) i (proofAux h i (buildLevelsWF h cur))
      = (Tree.root ⟨buildLevelsWF h cur⟩, 0) := by
  fun_induction buildLevelsWF h cur generalizing i with
  | case1 h cur hlen =>
    match cur, i, hi, hlen with
    | [a], 0, _, _ => rfl
  | case2 h cur hlen ih =>
    have hne := buildLevelsWF_ne_nil (h + 1) (nextLevel h cur)
    have IH := ih (i / 2) (by rw [nextLevel_length]; omega)
    obtain ⟨r0, rs, hr⟩ := List.exists_cons_of_ne_nil hne
    rw [root_cons _ _ hne, ← IH, hr, proofAux_cons_cons, deriveRootIdx, nextLevel_getD]
    -- a node and its sibling combine to their parent in the level above
    unfold sib
    split
    · rename_i hpar
      rw [Nat.mul_div_cancel' (Nat.dvd_of_mod_eq_zero hpar)]
    · rename_i hpar
      have e : 2 * (i / 2) + 1 = i := by
        have := Nat.div_add_mod i 2
        rwa [Nat.mod_two_ne_zero.mp hpar] at this
      rw [e, Nat.eq_sub_of_add_eq e]

theorem proofAux_last_empty (h : Nat) (cur : List H) (i : Nat) (hi : i + 1 = cur.length) (t : Nat)
    (ht : t < (proofAux h i (buildLevelsWF h cur)).length) (hb : i / 2 ^ t % 2 = 0) :
    (proofAux h i (buildLevelsWF h cur))[t]? = some (emptyRoot (h + t)) := by
  fun_induction buildLevelsWF h cur generalizing i t with
  | case1 h cur hlen => exact absurd ht (Nat.not_lt_zero _)
  | case2 h cur hlen ih =>
    obtain ⟨r0, rs, hr⟩ := List.exists_cons_of_ne_nil (buildLevelsWF_ne_nil (h + 1) (nextLevel h cur))
    rw [hr, proofAux_cons_cons] at ht ⊢
    match t with
    | 0 =>
      have : sib i = cur.length := by unfold sib; rw [Nat.pow_zero, Nat.div_one] at hb; rw [if_pos hb, hi]
      rw [List.getElem?_cons_zero, List.getD_eq_getElem?_getD, List.getElem?_eq_none (Nat.le_of_eq this.symm)]; rfl
    | t + 1 =>
      rw [List.getElem?_cons_succ, ← hr, ← Nat.add_assoc, Nat.add_right_comm]
      refine ih (i / 2) (by rw [nextLevel_length, ← hi]; exact (Nat.add_div_right i (by decide)).symm) t
        (by rw [hr]; exact Nat.lt_of_succ_lt_succ ht) ?_
      rwa [Nat.div_div_eq_div_mul, Nat.mul_comm, ← Nat.pow_succ]

theorem proofAux_length (h i : Nat) (lv : List (List H)) : (proofAux h i lv).length = lv.length - 1 := by
  induction lv generalizing h i with
  | nil => rfl
  | cons lvl rest ih =>
    match rest with
    | [] => rfl
    | r0 :: rs => rw [proofAux_cons_cons, List.length_cons, ih]; rfl

/-- `derive_hash_root_last` is `derive_hash_root` together with the demand that every sibling on the right (index bit
    0) is the canonical empty root of its height -/
theorem deriveLastAux_eq_some (h : Nat) (x : H) (i : Nat) (π : List H) (r : H × Nat) :
    deriveLastAux h x i π = some r ↔
      deriveRootIdx x i π = r ∧ ∀ t, t < π.length → i / 2 ^ t % 2 = 0 → π[t]? = some (emptyRoot (h + t)) := by
  induction π generalizing h x i with
  | nil => simp [deriveLastAux, deriveRootIdx]
  | cons p ps ih =>
    have hshift : ∀ t, i / 2 ^ (t + 1) = i / 2 / 2 ^ t := fun t => by
      rw [Nat.pow_succ, Nat.mul_comm, Nat.div_div_eq_div_mul]
    have hadd : ∀ t, h + 1 + t = h + (t + 1) := fun t => by rw [Nat.add_assoc, Nat.add_comm 1]
    rw [List.length_cons, Nat.forall_lt_succ_left]
    simp only [deriveLastAux, deriveRootIdx, Nat.pow_zero, Nat.div_one,
      List.getElem?_cons_zero, List.getElem?_cons_succ, Option.some.injEq, Nat.add_zero, hshift]
    by_cases hpar : i % 2 = 0
    · by_cases hp : p = emptyRoot h
      · simp only [hpar, hp, if_true, ne_eq, not_true_eq_false, if_false, ih, hadd, true_implies, true_and]
      · simp [hpar, hp]
    · simp only [hpar, if_false, ih, hadd, false_implies, true_and]

theorem checkProofLast_iff (d i : Nat) (root : H) (π : List H) :
    checkProofLast d i root π = true ↔
      checkProof d i root π = true ∧ ∀ t, t < π.length → i / 2 ^ t % 2 = 0 → π[t]? = some (emptyRoot t) := by
  have key := deriveLastAux_eq_some 0 (.leaf d) i π (root, 0)
  simp only [Nat.zero_add] at key
  rw [checkProof_iff, and_assoc, ← key]
  unfold checkProofLast checkHashProofLast deriveRootLast
  by_cases hlen : π.length > maxHeight
  · simp only [hlen, if_true, Bool.false_eq_true, false_iff]
    exact fun h => absurd h.1 (Nat.not_le.mpr hlen)
  · rw [if_neg hlen]
    cases deriveLastAux 0 (.leaf d) i π with
    | none => simp
    | some r =>
      obtain ⟨r1, r2⟩ := r
      cases r2 <;> simp [Nat.le_of_not_lt hlen]

end AgModel.Merkle
