import AgModel.Proofs.PoolWiring
import AgModel.Proofs.PoolS2NGluePanic
/-!
# A pool whose ghost log stays consistent never emits `Event.panic` (C10 / C07 composition)

`Proofs/PoolS2NGluePanic.lean` reduces every `.panic` event of a pool operation to the events of the tracker sites
(`trackerEvents`: finality tracker, parent-ready tracker, the signer bound of `add_vote`, the slot-order assertion of
`add_block`); `Proofs/PoolWiring.lean` shows that under `Consistent` neither tracker panics (as statements about the
trackers: `Wired`, `fin_item_ok`).  This file joins the two: **if the log stays `Consistent` and the vote's signer is a
validator index, the operation emits no `.panic` event** (`poolStep_no_panic`), for every pool that is wired and satisfies
the flag invariant — in particular for every pool reachable from the empty pool (C07 `pool_never_panics`).
-/
namespace AgModel.Pool

def prOk : ParentReady.Tracker → List ParentReady.Op → Prop
  | _, [] => True
  | t, op :: rest => ∃ t' a w, ParentReady.applyOp t op = .ok (t', a, w) ∧ prOk t' rest

open ParentReady in
theorem prOk_of_foldl {ops : List Op} {st st' : RunState} (h : ops.foldl runStep (.ok st) = .ok st') : prOk st.t ops := by
  induction ops generalizing st with
  | nil => trivial
  | cons op ops ih =>
    obtain ⟨t', a, w, ha, h2⟩ := foldl_runStep_cons_ok h
    exact ⟨t', a, w, ha, ih h2⟩

theorem pr_item_ok {k : Trk} {L : List LogItem} (w : Wired k L) (it : LogItem) (hc : Consistent (L ++ [it])) :
    prOk k.pr (itemStep k.fin it).2 := by
  obtain ⟨_, _, hst, _⟩ := w.run_item it hc
  exact prOk_of_foldl hst

/-- `handle_finalization` after a finality operation that did not panic, when the finalization batch and the prune
    succeed: no `.panic` event, and the operations that follow find the parent-ready tracker they expect -/
theorem handleFin_site (q : Pool) (op : Finality.Op) (rest : List ParentReady.Op)
    (h1 : ∃ t ev, Finality.step q.fin op = .ok t ev) (h2 : prOk q.pr ((finPart q.fin op).2 ++ rest)) :
    Event.panic ∉ (q.handleFin (Finality.step q.fin op)).2 ∧ prOk (q.handleFin (Finality.step q.fin op)).1.pr rest := by
  obtain ⟨t, ev, hs⟩ := h1
  rw [finPart_ok hs] at h2
  obtain ⟨t1, a1, w1, e1, t2, a2, w2, e2, h3⟩ := h2
  simp only [ParentReady.applyOp] at e1 e2
  cases hf : ParentReady.handleFinalization q.pr ev with
  | none => rw [hf] at e1; cases e1
  | some r =>
    rw [hf] at e1
    cases e1; cases e2
    rw [hs]
    unfold Pool.handleFin Pool.applyPr
    simp only [hf]
    exact ⟨prEvents_no_panic _, h3⟩

/-- a mark (`op`, whose result in the pool is `r`) that succeeds on the pool's tracker leaves no `.panic` event -/
theorem applyPr_mark_ok (q : Pool) (op : ParentReady.Op) (r : ParentReady.Res)
    (hr : ParentReady.applyOp q.pr op = match r with | some y => .ok y | none => .error .readyAssert)
    (h : prOk q.pr [op]) : Event.panic ∉ (q.applyPr r).2 := by
  obtain ⟨_, _, _, e1, _⟩ := h
  rw [hr] at e1
  rw [applyPr_panic_iff]
  rintro rfl
  cases e1

theorem cert_no_panic (q : Pool) (L : List LogItem) (c : Cert) (w : Wired q.trk L)
    (hc : Consistent (L ++ [.cert c])) : Event.panic ∉ q.certTrackerEvents c := by
  have w' : Wired (q.stored c).trk L := (stored_frame q c).trk.symm ▸ w
  have hfin := fin_item_ok w' (.cert c) hc
  have hpr := pr_item_ok w' (.cert c) hc
  unfold Pool.certTrackerEvents
  generalize q.stored c = S at hfin hpr
  rw [trk_fin] at hfin hpr
  rw [trk_pr] at hpr
  obtain ⟨kind, s, h, _, _, _⟩ := c
  cases kind <;>
    simp only [itemStep, LogItem.finOp, LogItem.marks, finParts, List.append_nil, List.nil_append] at hfin hpr ⊢
  · -- notarization: the mark follows the finalization batch; `notify_waiting_children` in between leaves the tracker alone
    obtain ⟨a1, a2⟩ := handleFin_site S (.notar (s, h)) [.nf (s, h)] (hfin _ (List.mem_singleton.mpr rfl)) hpr
    intro hm
    rcases List.mem_append.mp hm with hm | hm
    · exact a1 hm
    · exact applyPr_mark_ok _ (.nf (s, h)) _ rfl (by rw [(notifyWaiting_frame _ _).pr]; exact a2) hm
  · exact applyPr_mark_ok _ (.nf (s, h)) _ rfl (by rw [(notifyWaiting_frame _ _).pr]; exact hpr)
  · exact applyPr_mark_ok _ (.skip s) _ rfl hpr
  · exact (handleFin_site S (.fastFinal (s, h)) [] (hfin _ (List.mem_singleton.mpr rfl)) (by rw [List.append_nil]; exact hpr)).1
  · exact (handleFin_site S (.final s) [] (hfin _ (List.mem_singleton.mpr rfl)) (by rw [List.append_nil]; exact hpr)).1

theorem certs_no_panic (cs : List Cert) (q : Pool) (L : List LogItem) (w : Wired q.trk L)
    (hc : Consistent (L ++ cs.map LogItem.cert)) : Event.panic ∉ q.certsTrackerEvents cs := by
  induction cs generalizing q L with
  | nil => exact List.not_mem_nil
  | cons c cs ih =>
    rw [List.map_cons, List.append_cons] at hc
    simp only [Pool.certsTrackerEvents, List.mem_append, not_or]
    exact ⟨cert_no_panic q L c w hc.prefix, ih _ _ (addValidCert_trk q c ▸ w.item (.cert c) hc.prefix) hc⟩

/-- `hsig` (a vote names a validator index) is what signature validation gives (C09). -/
theorem poolStep_no_panic (R : List Reg) (p : Pool) (op : PoolOp) (L : List LogItem) (hf : FlagInv R p) (w : Wired p.trk L)
    (hc : Consistent (L ++ stepItems op (poolStep p op).2)) (hsig : ∀ v, op = .vote v → v.signer < p.epoch.n) :
    Event.panic ∉ (poolStep p op).2 := by
  intro hp
  have ht := (poolStep_tracker p op).1 R hf hp
  cases op with
  | vote v =>
    rw [stepItems_vote] at hc
    simp only [trackerEvents] at ht
    rcases addVote_outcomes p v with h | ⟨hn, _⟩ | ⟨vd, h1, h2, h⟩ | ⟨_, _, h⟩
    · rw [h] at ht; cases ht
    · have := hsig v rfl
      omega
    · rw [h] at ht
      cases vd with
      | ok => exact absurd rfl h1
      | panic => exact absurd rfl h2
      | _ => cases ht
    · rw [h] at ht hc
      dsimp only at ht hc
      rw [certsOf_voted] at hc
      exact certs_no_panic ((p.slotState v.slot).2.addVote p.epoch v).2.1 (p.voted v) L
        (by rw [(voted_frame p v).trk]; exact w) hc ht
  | cert c =>
    rw [stepItems_cert] at hc
    simp only [trackerEvents] at ht
    rcases addCert_outcomes p c with h | h | h
    · rw [h] at ht; cases ht
    · rw [h] at ht; cases ht
    · rw [h] at ht hc
      dsimp only at ht hc
      rw [certsOf_addValidCert] at hc
      exact cert_no_panic (p.slotState c.slot).1 L c (by rw [(slotState_frame _ _).trk]; exact w) hc ht
  | block b par =>
    rw [stepItems_block] at hc
    have hlt := block_link_lt hc.safe
    have hfin : ∃ t ev, Finality.step p.fin (.parent b par) = .ok t ev :=
      fin_item_ok w (.block b par) hc (.parent b par) (List.mem_singleton.mpr rfl)
    have hpr : prOk p.pr ((finPart p.fin (.parent b par)).2 ++ []) := by
      have := pr_item_ok w (.block b par) hc
      simpa only [itemStep, LogItem.finOp, LogItem.marks, finParts, List.append_nil, trk_fin, trk_pr] using this
    have hev : trackerEvents p (.block b par) = (p.handleFin (Finality.addParent p.fin b par)).2 := by
      simp only [trackerEvents]
      rw [if_neg (by omega)]
      cases Finality.addParent p.fin b par <;> rfl
    rw [hev] at ht
    exact (handleFin_site p (.parent b par) [] hfin hpr).1 ht

theorem poolRun_no_panic_of_wired (ops : List PoolOp) (R : List Reg) (p : Pool) (L : List LogItem) (hf : FlagInv R p)
    (w : Wired p.trk L) (hc : Consistent (L ++ poolLog p ops))
    (hsig : ∀ v, PoolOp.vote v ∈ ops → v.signer < p.epoch.n) : Event.panic ∉ (poolRun p ops).2 := by
  induction ops generalizing R p L with
  | nil => exact List.not_mem_nil
  | cons op ops ih =>
    simp only [poolLog] at hc
    rw [← List.append_assoc] at hc
    simp only [poolRun, List.mem_append, not_or]
    refine ⟨poolStep_no_panic R p op L hf w hc.prefix (fun v hv => hsig v (hv ▸ List.mem_cons_self)), ?_⟩
    exact ih _ _ _ (poolStep_flag R p op hf) (poolStep_wired p op L w hc.prefix) hc
      (fun v hv => (poolStep_fst_epoch p op).symm ▸ hsig v (List.mem_cons_of_mem _ hv))

end AgModel.Pool
