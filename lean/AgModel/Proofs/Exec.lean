import AgModel.Model.Exec
/-! The execution engine refines the specification engine (`runFrom_refines`); the cases of the seed rule. Core Lean only. -/
namespace AgModel.Exec

/-- abstraction: fold the recorded transactions into the seed -/
def absBlocks (g : GBlocks) : Blocks := g.map (fun kv => (kv.1, kv.2.abs))

@[simp] theorem absBlocks_nil : absBlocks [] = [] := rfl

@[simp] theorem absBlocks_cons (k : Ipb) (v : GBlock) (g : GBlocks) :
    absBlocks ((k, v) :: g) = (k, v.abs) :: absBlocks g := rfl

theorem lookup_abs (g : GBlocks) (k : Ipb) :
    lookup (absBlocks g) k = (glookup g k).map GBlock.abs := by
  induction g with
  | nil => rfl
  | cons kv rest ih =>
    obtain ⟨k', v⟩ := kv
    simp only [absBlocks_cons, lookup, glookup]
    split
    · rfl
    · exact ih

theorem insertB_abs (g : GBlocks) (k : Ipb) (v : GBlock) :
    insertB (absBlocks g) k v.abs = absBlocks (ginsert g k v) := by
  induction g with
  | nil => rfl
  | cons kv rest ih =>
    obtain ⟨k', w⟩ := kv
    simp only [absBlocks_cons, insertB, ginsert]
    split
    · rfl
    · simp only [absBlocks_cons, ih]

theorem completedAs_abs (ph : Nat) (o : Option GBlock) :
    completedAs ph (o.map GBlock.abs) = (gcompletedAs ph o).map GBlock.abs := by
  cases o with
  | none => rfl
  | some x =>
    simp only [Option.map_some, completedAs, gcompletedAs, GBlock.abs]
    split
    · rfl
    · rfl

theorem seed_abs (g : GBlocks) (parent : Option BlockId) :
    seed ⟨absBlocks g⟩ parent = specSeed g parent := by
  cases parent with
  | none => rfl
  | some p =>
    obtain ⟨ps, ph⟩ := p
    simp only [seed, specSeed, lookup_abs, completedAs_abs]
    cases gcompletedAs ph (glookup g (.known ps ph)) with
    | some x => rfl
    | none =>
      cases gcompletedAs ph (glookup g (.pending ps)) with
      | some x => rfl
      | none => rfl

theorem endKey_abs (g : GBlocks) (b : BlockId) : endKey ⟨absBlocks g⟩ b = gendKey g b := by
  simp only [endKey, gendKey, lookup_abs, Option.isSome_map]

theorem filter_abs (g : GBlocks) (p : Ipb → Bool) :
    (absBlocks g).filter (fun kv => p kv.1) = absBlocks (g.filter (fun kv => p kv.1)) :=
  List.filter_map

theorem stepOp_refines (g : GBlocks) (op : Op) :
    stepOp ⟨absBlocks g⟩ op = (⟨absBlocks (gstepOp g op).1⟩, (gstepOp g op).2) := by
  cases op with
  | begin id parent =>
    simp only [stepOp, gstepOp, begin, seed_abs]
    rw [← insertB_abs]
    rfl
  | exec id txs =>
    simp only [stepOp, gstepOp, exec, lookup_abs]
    cases glookup g id with
    | none => rfl
    | some x =>
      simp only [Option.map_some]
      rw [← insertB_abs]
      simp only [GBlock.abs, GBlock.commitment, List.foldl_append, List.length_append]
  | endB b =>
    simp only [stepOp, gstepOp, endBlock, endKey_abs, lookup_abs]
    cases glookup g (gendKey g b) with
    | none => rfl
    | some x =>
      simp only [Option.map_some]
      rw [← insertB_abs]
      rfl
  | fin b =>
    simp only [stepOp, gstepOp, finalize]
    rw [filter_abs g (fun k => decide (b.1 ≤ k.slot))]

theorem runFrom_refines (g : GBlocks) (ops : List Op) :
    runFrom ⟨absBlocks g⟩ ops = (⟨absBlocks (grunFrom g ops).1⟩, (grunFrom g ops).2) := by
  induction ops generalizing g with
  | nil => rfl
  | cons op rest ih =>
    simp only [runFrom, grunFrom, stepOp_refines, ih]

theorem gcompletedAs_none (ph : Nat) (o : Option GBlock)
    (h : ∀ x, o = some x → x.completedAs ≠ some ph) : gcompletedAs ph o = none := by
  cases o with
  | none => rfl
  | some x =>
    simp only [gcompletedAs]
    rw [if_neg (h x rfl)]

theorem gcompletedAs_some (ph : Nat) (x : GBlock) (hc : x.completedAs = some ph) :
    gcompletedAs ph (some x) = some x := by
  simp only [gcompletedAs]
  rw [if_pos hc]

theorem specSeed_unknown (g : GBlocks) (ps ph : Nat)
    (h1 : ∀ x, glookup g (.known ps ph) = some x → x.completedAs ≠ some ph)
    (h2 : ∀ x, glookup g (.pending ps) = some x → x.completedAs ≠ some ph) :
    specSeed g (some (ps, ph)) = .block ph := by
  simp only [specSeed, gcompletedAs_none ph _ h1, gcompletedAs_none ph _ h2]

theorem specSeed_known (g : GBlocks) (ps ph : Nat) (x : GBlock)
    (h : glookup g (.known ps ph) = some x) (hc : x.completedAs = some ph) :
    specSeed g (some (ps, ph)) = x.commitment := by
  simp only [specSeed, h, gcompletedAs_some ph x hc]

theorem specSeed_pending (g : GBlocks) (ps ph : Nat) (x : GBlock)
    (h1 : ∀ y, glookup g (.known ps ph) = some y → y.completedAs ≠ some ph)
    (h : glookup g (.pending ps) = some x) (hc : x.completedAs = some ph) :
    specSeed g (some (ps, ph)) = x.commitment := by
  simp only [specSeed, gcompletedAs_none ph _ h1, h, gcompletedAs_some ph x hc]

theorem lookup_insertB_self (bs : Blocks) (k : Ipb) (v : BlockExec) :
    lookup (insertB bs k v) k = some v := by
  induction bs with
  | nil => simp [insertB, lookup]
  | cons kw rest ih =>
    obtain ⟨k', w⟩ := kw
    simp only [insertB]
    split
    · next hk => simp [lookup, hk]
    · next hk => simp [lookup, hk, ih]

theorem insertB_insertB_self (bs : Blocks) (k : Ipb) (v w : BlockExec) :
    insertB (insertB bs k v) k w = insertB bs k w := by
  induction bs with
  | nil => simp [insertB]
  | cons kw rest ih =>
    obtain ⟨k', u⟩ := kw
    simp only [insertB]
    split
    · next hk => simp [insertB, hk]
    · next hk => simp [insertB, hk, ih]

end AgModel.Exec
