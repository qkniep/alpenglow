import AgModel.Model.BlockProducer
/-! `AgModel.BlockProducer`: a running `step` blocks or emits exactly one slice, which fits the budget (`step_running`,
    `Emits`); what `run` guarantees of the emitted slices together (`RunSpec`); the block's parent changes at most once, at
    the first ParentReady that names another hash (`run_parent`). -/
namespace AgModel.BlockProducer

/-! The constants are those of `Gen/Consts.lean` (extracted from the sources): the two `decide`s are re-checked whenever
    the sources change them. -/

/-- an empty buffer holds a maximum-size transaction (the code's `const _` assertion omits the 49 reserved bytes) -/
theorem room_init : dataLen [] + MAX_TRANSACTION_SIZE + LEN ≤ bufferSpace := by decide
theorem budget : bufferSpace + PARENT_SOME + LEN ≤ MAX_DATA_PER_SLICE := by decide

/-- the loop only pushes a transaction while there is room for one of maximum size -/
theorem snoc_fits {acc : List Tx} {t : Tx} (h : dataLen acc + MAX_TRANSACTION_SIZE + LEN ≤ bufferSpace)
    (ht : ¬MAX_TRANSACTION_SIZE < t.len) : dataLen (acc ++ [t]) ≤ bufferSpace := by
  simp only [dataLen, List.map_append, List.sum_append, List.map_cons, List.map_nil, List.sum_cons, List.sum_nil] at h ⊢
  omega

theorem fill_room (c : Nat) (acc arr : List Tx) (h : dataLen acc + MAX_TRANSACTION_SIZE + LEN ≤ bufferSpace) :
    dataLen (fill c acc arr).txs ≤ bufferSpace ∧
    ((fill c acc arr).full = true → bufferSpace - dataLen (fill c acc arr).txs < MAX_TRANSACTION_SIZE + LEN) ∧
    ((fill c acc arr).full = false →
      (fill c acc arr).rest = [] ∧ dataLen (fill c acc arr).txs + MAX_TRANSACTION_SIZE + LEN ≤ bufferSpace) := by
  fun_induction fill c acc arr with
  | case1 => exact ⟨Nat.le_trans (Nat.le_add_right _ _) (Nat.le_of_add_right_le h), nofun, fun _ => ⟨rfl, h⟩⟩
  | case2 _ _ _ _ _ ih => exact ih h
  | case3 _ _ _ _ hok hfull => exact ⟨snoc_fits h hok, fun _ => hfull, nofun⟩
  | case4 _ _ _ _ hok hfree ih =>
    -- the loop goes on only when the `usize` subtraction leaves room for another one
    exact ih (Nat.add_assoc .. ▸ Nat.add_le_of_le_sub' (snoc_fits h hok) (Nat.le_of_not_lt hfree))

theorem fill_consumed (c : Nat) (acc arr : List Tx) (hc : c = acc.length) :
    (fill c acc arr).count = (fill c acc arr).txs.length ∧
    ∃ consumed, arr = consumed ++ (fill c acc arr).rest ∧
      (fill c acc arr).txs = acc ++ consumed.filter (fun t => decide (t.len ≤ MAX_TRANSACTION_SIZE)) := by
  fun_induction fill c acc arr with
  | case1 => exact ⟨hc, [], rfl, (List.append_nil _).symm⟩
  | case2 _ _ t _ hbig ih =>
    obtain ⟨h0, cs, h1, h2⟩ := ih hc
    exact ⟨h0, t :: cs, congrArg _ h1, by rw [h2, List.filter_cons_of_neg (by simpa using hbig)]⟩
  | case3 _ acc t _ hok =>
    exact ⟨hc ▸ (List.length_append (as := acc) (bs := [t])).symm, [t], rfl,
      by rw [List.filter_cons_of_pos (by simpa using hok)]; rfl⟩
  | case4 _ acc t _ hok _ ih =>
    obtain ⟨h0, cs, h1, h2⟩ := ih (hc ▸ (List.length_append (as := acc) (bs := [t])).symm)
    exact ⟨h0, t :: cs, congrArg _ h1,
      by rw [h2, List.filter_cons_of_pos (by simpa using hok), List.append_assoc]; rfl⟩

theorem encLen_le (p : Payload) (h : dataLen p.txs ≤ bufferSpace) : p.encLen ≤ MAX_DATA_PER_SLICE := by
  have hp : (if p.parent.isSome then PARENT_SOME else PARENT_NONE) ≤ PARENT_SOME := by
    split
    · exact Nat.le_refl _
    · decide
  exact Nat.le_trans (Nat.add_le_add (Nat.add_le_add_right hp LEN) h) (by have := budget; omega)

def SliceOk (c : Cfg) (o : SliceOut) : Prop :=
  o.slot = c.slot ∧ dataLen o.payload.txs ≤ bufferSpace ∧
  o.payload.count = o.payload.txs.length ∧ ∀ t ∈ o.payload.txs, t.len ≤ MAX_TRANSACTION_SIZE

/-- `step` from the running state `s` on `si` emitted the slice `o` and went on to `s'` -/
structure Emits (c : Cfg) (s : PState) (si : SliceIn) (s' : PState) (o : SliceOut) : Prop where
  k : s'.k = s.k + 1
  unseen : s'.seen = false → s.seen = false ∧ si.pr = none
  parent : s'.parent = newParent c s si
  done : o.isLast = true → s'.status = .done
  running : o.isLast = false → s'.status = .running
  index : o.index = s.k
  oparent : o.payload.parent = sliceParent c s si
  ok : SliceOk c o
  last : s.k + 1 = MAX_SLICES → o.isLast = true

/-- the shredder never refuses the slice (`fill_room`, `encLen_le`): the `panicked` branch of `step` is dead -/
theorem step_running (c : Cfg) (s : PState) (si : SliceIn) (hrun : s.status = .running) :
    step c s si = ({ s with status := .blocked }, []) ∨ ∃ s' o, step c s si = (s', [o]) ∧ Emits c s si s' o := by
  have hf := (fill_room 0 [] (s.queue ++ si.arrived) room_init).1
  obtain ⟨hc, cs, _, h2⟩ := fill_consumed 0 [] (s.queue ++ si.arrived) rfl
  unfold step
  rw [if_neg (fun hn => hn hrun)]
  dsimp only
  generalize fill 0 [] (s.queue ++ si.arrived) = f at hf hc h2 ⊢
  by_cases h1 : (!f.full && !si.deadline) = true
  · rw [if_pos h1]; exact Or.inl rfl
  by_cases h2' : ((decide (s.k + 1 = MAX_SLICES) || zeroAfter c s si f.full) && !(s.seen || si.pr.isSome)) = true
  · rw [if_neg h1, if_pos h2']; exact Or.inl rfl
  have henc := encLen_le ⟨sliceParent c s si, f.count, f.txs⟩ hf
  have hsz : ∀ t ∈ f.txs, t.len ≤ MAX_TRANSACTION_SIZE := fun t ht =>
    of_decide_eq_true (List.mem_filter.mp (h2 ▸ ht : t ∈ List.filter _ cs)).2
  rw [if_neg h1, if_neg h2', if_neg (Nat.not_lt.mpr henc)]
  refine Or.inr ⟨_, _, rfl, {
    k := rfl, parent := rfl, index := rfl, oparent := rfl
    ok := ⟨rfl, hf, hc, hsz⟩
    unseen := fun h => ?_
    done := fun hl => if_pos hl
    running := fun hl => if_neg (ne_true_of_eq_false hl)
    last := fun hk => by rw [decide_eq_true hk]; rfl }⟩
  rw [Bool.or_eq_false_iff] at h
  exact ⟨h.1, Option.not_isSome_iff_eq_none.mp (Bool.eq_false_iff.mp h.2)⟩

/-- `apply_parent_ready` on one slice. Either nothing changes - the slice carries the parent of its index, the block
    keeps its parent - or this is the handover: the first ParentReady the producer sees names another hash, the slice
    carries it and it becomes the block's parent. -/
theorem parent_cases (c : Cfg) (s : PState) (si : SliceIn) :
    (sliceParent c s si = baseParent c s ∧ newParent c s si = s.parent) ∨
    (s.seen = false ∧ ∃ np, si.pr = some np ∧ np.2 ≠ c.parent.2 ∧ sliceParent c s si = some np ∧
      newParent c s si = np) := by
  unfold sliceParent newParent prApplies
  cases hs : s.seen with
  | true => exact Or.inl ⟨rfl, rfl⟩
  | false =>
    cases hp : si.pr with
    | none => exact Or.inl ⟨rfl, rfl⟩
    | some np =>
      by_cases hh : np.2 = c.parent.2
      · exact Or.inl ⟨if_pos hh, if_pos hh⟩
      · exact Or.inr ⟨rfl, np, rfl, hh, if_neg hh, if_neg hh⟩

theorem run_stopped (c : Cfg) (s : PState) (ins : List SliceIn) (h : s.status ≠ .running) : run c s ins = (s, []) := by
  induction ins with
  | nil => rfl
  | cons si rest ih => simp only [run, show step c s si = (s, []) from if_pos h, ih, List.append_nil]

theorem run_cons_cases (c : Cfg) (s : PState) (si : SliceIn) (rest : List SliceIn) :
    (∃ st, (s.status = .running → st = .blocked) ∧ run c s (si :: rest) = ({ s with status := st }, [])) ∨
    ∃ s' o, Emits c s si s' o ∧ run c s (si :: rest) = ((run c s' rest).1, o :: (run c s' rest).2) := by
  by_cases hrun : s.status = .running
  · rcases step_running c s si hrun with hb | ⟨s', o, he, E⟩
    · refine Or.inl ⟨.blocked, fun _ => rfl, ?_⟩
      simp only [run, hb, run_stopped c { s with status := .blocked } rest nofun, List.append_nil]
    · refine Or.inr ⟨s', o, E, ?_⟩
      simp only [run, he, List.singleton_append]
  · exact Or.inl ⟨s.status, fun h => absurd h hrun, run_stopped c s _ hrun⟩

/-- what the block loop guarantees of its result `r` when it starts running at slice index `k` -/
structure RunSpec (c : Cfg) (k : Nat) (r : PState × List SliceOut) : Prop where
  index : r.2.map (·.index) = List.range' k r.2.length
  count : r.2.length ≤ MAX_SLICES - k
  ok : ∀ o ∈ r.2, SliceOk c o
  alive : r.1.status ≠ .panicked
  last : r.1.status = .done → ∃ pre l, r.2 = pre ++ [l] ∧ l.isLast = true ∧ ∀ o ∈ pre, o.isLast = false
  notLast : r.1.status ≠ .done → ∀ o ∈ r.2, o.isLast = false

theorem RunSpec.halt (c : Cfg) (k : Nat) (s : PState) (h1 : s.status ≠ .panicked) (h2 : s.status ≠ .done) :
    RunSpec c k (s, []) :=
  ⟨rfl, Nat.zero_le _, List.forall_mem_nil _, h1, fun h => absurd h h2, fun _ => List.forall_mem_nil _⟩

theorem run_spec (c : Cfg) (ins : List SliceIn) (s : PState) (hk : s.k < MAX_SLICES) (hrun : s.status = .running) :
    RunSpec c s.k (run c s ins) := by
  induction ins generalizing s with
  | nil => exact .halt c s.k s (hrun ▸ nofun) (hrun ▸ nofun)
  | cons si rest ih =>
    rcases run_cons_cases c s si rest with ⟨st, hst, h⟩ | ⟨s', o, E, h⟩
    · rw [h, hst hrun]
      exact .halt c s.k _ nofun nofun
    · rw [h]
      cases hl : o.isLast with
      | true =>
        have hd := E.done hl
        rw [run_stopped c s' rest (hd ▸ nofun)]
        exact {
          index := congrArg (· :: []) E.index
          count := Nat.sub_pos_of_lt hk
          ok := List.forall_mem_singleton.mpr E.ok
          alive := hd ▸ nofun
          last := fun _ => ⟨[], o, rfl, hl, List.forall_mem_nil _⟩
          notLast := fun h => absurd hd h }
      | false =>
        have hk' : s'.k < MAX_SLICES := E.k ▸ Nat.lt_of_le_of_ne hk fun h => nomatch hl.symm.trans (E.last h)
        have i := ih s' hk' (E.running hl)
        exact {
          index := by rw [List.map_cons, E.index, i.index, E.k]; rfl
          count := Nat.succ_le_of_lt (Nat.lt_of_le_of_lt (E.k ▸ i.count) (Nat.sub_succ_lt_self _ _ hk))
          ok := List.forall_mem_cons.mpr ⟨E.ok, i.ok⟩
          alive := i.alive
          last := fun hd => by
            obtain ⟨pre, l, h1, h2, h3⟩ := i.last hd
            exact ⟨o :: pre, l, congrArg (o :: ·) h1, h2, List.forall_mem_cons.mpr ⟨hl, h3⟩⟩
          notLast := fun hd => List.forall_mem_cons.mpr ⟨hl, i.notLast hd⟩ }

theorem produce_spec (c : Cfg) (ins : List SliceIn) : RunSpec c 0 (produce c ins) :=
  run_spec c ins (init c) (by decide : 0 < MAX_SLICES) rfl

theorem run_parent (c : Cfg) (ins : List SliceIn) (s : PState) :
    (run c s ins).1.parent = s.parent ∨
    (s.seen = false ∧
      ∃ si ∈ ins, si.pr = some (run c s ins).1.parent ∧ (run c s ins).1.parent.2 ≠ c.parent.2) := by
  induction ins generalizing s with
  | nil => exact Or.inl rfl
  | cons si rest ih =>
    rcases run_cons_cases c s si rest with ⟨st, _, h⟩ | ⟨s', o, E, h⟩
    · rw [h]; exact Or.inl rfl
    rw [h]
    rcases parent_cases c s si with ⟨_, h2⟩ | ⟨hs, np, hpr, hne, _, h2⟩
    · rcases ih s' with h | ⟨hs', x, hx, h⟩
      · exact Or.inl (h.trans (E.parent.trans h2))
      · exact Or.inr ⟨(E.unseen hs').1, x, List.mem_cons_of_mem _ hx, h⟩
    · -- the handover: from here on the ParentReady is seen, so the parent stays
      have hp : (run c s' rest).1.parent = np :=
        ((ih s').resolve_right fun h => nomatch hpr.symm.trans (E.unseen h.1).2).trans (E.parent.trans h2)
      exact Or.inr ⟨hs, si, List.mem_cons_self, hp ▸ ⟨hpr, hne⟩⟩

/-- `produce_block_parent_ready` never changes the parent -/
theorem produce_ready_parent {c : Cfg} {ins : List SliceIn} (hm : c.mode = .ready) :
    (produce c ins).1.parent = c.parent :=
  (run_parent c ins (init c)).resolve_right fun h => by
    have : (init c).seen = true := by rw [init, hm]; rfl
    exact Bool.eq_false_iff.mp h.1 this

theorem produce_parent_lt {c : Cfg} {ins : List SliceIn} {bound : Nat} (hp : c.parent.1 < bound)
    (hpr : ∀ si ∈ ins, ∀ np, si.pr = some np → np.1 < bound) : (produce c ins).1.parent.1 < bound := by
  rcases run_parent c ins (init c) with h | ⟨_, si, hsi, h, _⟩
  · exact h ▸ hp
  · exact hpr si hsi _ h

end AgModel.BlockProducer
