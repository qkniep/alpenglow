import AgModel.Proofs.Finality
/-!
# C02 progress, finality-tracker part: what the tracker computes in the timely schedule

Computation lemmas (no invariants, explicit premises): registering the block of slot `s`, the notarization certificate, and the
finalization of `(s, h)` when the parent `p` is finalized (or is the genesis block) and the slots strictly between are undecided.
-/
namespace AgModel.Finality

theorem addParent_fresh (t : Tracker) (b p : Nat × Nat) (hlt : p.1 < b.1) (hf : t.first ≤ b.1) (hp : t.parents b = none)
    (hs : t.status b.1 = none) : addParent t b p = .ok { t with parents := setPar t.parents b p } {} := by
  unfold addParent
  rw [if_neg (fun h => h hlt), if_neg (Nat.not_lt.mpr hf), hp]
  simp only [hs]

theorem markNotarized_fresh (t : Tracker) (b : Nat × Nat) (hf : t.first ≤ b.1) (hs : t.status b.1 = none) :
    markNotarized t b = .ok { t with status := setSt t.status b.1 (.notarized b.2) } {} := by
  unfold markNotarized
  rw [if_neg (Nat.not_lt.mpr hf)]
  simp only [hs]

theorem markFinalized_done (t : Tracker) (s h : Nat) (hf : t.first ≤ s) (hs : t.status s = some (.finalized h)) :
    markFinalized t s = .ok t {} := by
  unfold markFinalized
  rw [if_neg (Nat.not_lt.mpr hf)]
  simp only [hs]

structure FinDone (t : Tracker) (b p : Nat × Nat) (t' : Tracker) (ev : Event) : Prop where
  first_ge : t.first ≤ t'.first
  first_le : t'.first ≤ b.1
  highest : t'.highest = b.1
  status : t'.status b.1 = some (.finalized b.2)
  statusAbove : ∀ x, b.1 < x → t'.status x = t.status x
  parentsAbove : ∀ x, b.1 ≤ x.1 → t'.parents x = t.parents x
  evF : ev.finalized = some b
  evI : ev.implFinalized = [] ∨ (p = (0, 0) ∧ t.status 0 = some (.notarized 0) ∧ ev.implFinalized = [(0, 0)])
  evS : ev.implSkipped = List.range' (p.1 + 1) (b.1 - p.1 - 1)

/-- a fast-finalization or finalization certificate for the notarized block `b`: both mark slot `b.1` finalized and call
    `handle_finalized_block` -/
theorem finalize_notarized (t : Tracker) (b p : Nat × Nat) (hlt : p.1 < b.1) (hf : t.first ≤ p.1) (hh : t.highest ≤ b.1)
    (hpar : t.parents b = some p) (hsb : t.status b.1 = some (.notarized b.2))
    (hbetween : ∀ x, p.1 < x → x < b.1 → t.status x = none)
    (hp : t.status p.1 = some (.finalized p.2) ∨ (p = (0, 0) ∧ t.status 0 = some (.notarized 0) ∧ t.parents (0, 0) = none)) :
    ∃ t' ev, markFastFinalized t b = .ok t' ev ∧ markFinalized t b.1 = .ok t' ev ∧ FinDone t b p t' ev := by
  have hfs : ¬ b.1 < t.first := Nat.not_lt.mpr (Nat.le_trans hf (Nat.le_of_lt hlt))
  have hops : ∀ r, handleFinalizedBlock { t with status := setSt t.status b.1 (.finalized b.2) } b {} = r →
      markFastFinalized t b = r ∧ markFinalized t b.1 = r := by
    intro r hr
    constructor
    · unfold markFastFinalized
      rw [if_neg hfs]
      simp only [hsb, if_true]
      exact hr
    · unfold markFinalized
      rw [if_neg hfs]
      simp only [hsb]
      exact hr
  -- `s1`: the statuses with slot `b.1` marked
  have hne : ∀ x, x ≠ b.1 → setSt t.status b.1 (.finalized b.2) x = t.status x := fun x hx => setSt_ne _ _ hx
  have hsb1 : setSt t.status b.1 (.finalized b.2) b.1 = some (.finalized b.2) := if_pos rfl
  generalize setSt t.status b.1 (.finalized b.2) = s1 at hops hne hsb1
  suffices ∃ t' ev, handleFinalizedBlock { t with status := s1 } b {} = .ok t' ev ∧ FinDone t b p t' ev by
    obtain ⟨t', ev, h, fd⟩ := this
    exact ⟨t', ev, (hops _ h).1, (hops _ h).2, fd⟩
  obtain ⟨st', hloop, _, hother⟩ := skipLoop_between (st := s1) (acc := []) (lo := p.1) (hi := b.1)
    (fun x h1 h2 => Or.inl ((hne x (Nat.ne_of_lt h2)).trans (hbetween x h1 h2)))
  have hstp : st' p.1 = t.status p.1 := (hother _ (fun h => Nat.lt_irrefl _ h.1)).trans (hne _ (Nat.ne_of_lt hlt))
  have hout : ∀ x, b.1 ≤ x → st' x = s1 x := fun x hx => hother x (fun h => Nat.not_lt.mpr hx h.2)
  -- what `prune` leaves of the result of the walk, in both cases
  have hprune : ∀ (t2 : Tracker) (ev : Event), t2.first = t.first → t2.highest = b.1 → t2.parents = t.parents →
      (∀ x, p.1 < x → t2.status x = st' x) → ev.finalized = some b →
      (ev.implFinalized = [] ∨ (p = (0, 0) ∧ t.status 0 = some (.notarized 0) ∧ ev.implFinalized = [(0, 0)])) →
      ev.implSkipped = List.range' (p.1 + 1) (b.1 - p.1 - 1) → FinDone t b p (prune t2) ev := by
    intro t2 ev e1 e2 e3 e4 hF hI hS
    have hle : (prune t2).first ≤ b.1 := by
      have := prune_first_le t2
      rwa [Nat.add_sub_cancel' (by rw [e1, e2]; exact Nat.le_of_lt (Nat.lt_of_le_of_lt hf hlt)), e2] at this
    refine ⟨e1 ▸ prune_first_ge t2, hle, e2, ?_, ?_, ?_, hF, hI, hS⟩
    · rw [prune_status_ge hle, e4 b.1 hlt, hout b.1 (Nat.le_refl _), hsb1]
    · intro x hx
      rw [prune_status_ge (Nat.le_trans hle (Nat.le_of_lt hx)), e4 x (Nat.lt_trans hlt hx), hout x (Nat.le_of_lt hx),
        hne x (Nat.ne_of_gt hx)]
    · intro x hx
      rw [prune_parents_ge (Nat.le_trans hle hx), e3]
  rw [hfb_some (t := { t with status := s1 }) hpar, Nat.max_eq_left hh]
  rcases hp with hp | ⟨rfl, hp0, hpp⟩
  · have hw := walk_stop (t := { t with status := s1, highest := b.1 }) (ev := { finalized := some b }) (Nat.le_refl b.1) hlt hf
      hloop (by rw [hstp, hp]; rfl)
    exact ⟨_, _, walkPrune_eq hw,
      hprune { t with highest := b.1, status := st' } _ rfl rfl rfl (fun x _ => rfl) rfl (Or.inl rfl) rfl⟩
  · have hw := walk_last (t := { t with status := s1, highest := b.1 }) (ev := { finalized := some b }) (Nat.le_refl b.1) hlt hf
      hloop (by rw [hstp, hp0]; intro d; cases dec_some.mp d) hpp
    exact ⟨_, _, walkPrune_eq hw, hprune { t with highest := b.1, status := setSt st' 0 (.implFinalized 0) } _
      rfl rfl rfl (fun x hx => setSt_ne _ _ (Nat.ne_of_gt hx)) rfl (Or.inr ⟨rfl, hp0, rfl⟩) rfl⟩

end AgModel.Finality
