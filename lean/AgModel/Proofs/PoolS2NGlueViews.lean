import AgModel.Proofs.PoolGlue
/-! Pool-level glue for C06: the waiting map `s2n_waiting_parent_cert` — who waits under which parent
    (`kidsOf`), and what `prune`, `addWaiting` and the removal of a woken parent's entry do to it. -/
namespace AgModel.Pool

abbrev WMap := List ((Nat × Nat) × List (Nat × Nat))

theorem lookup_cons_ne {w : WMap} {k k' : Nat × Nat} {v : List (Nat × Nat)} (h : k ≠ k') :
    List.lookup k ((k', v) :: w) = w.lookup k := by
  rw [List.lookup_cons, beq_false_of_ne h]

/-- a filter that keeps the first entry of the key, if there is one, leaves the lookup as it is -/
theorem lookup_filter (P : (Nat × Nat) × List (Nat × Nat) → Bool) (w : WMap) {k : Nat × Nat}
    (hp : ∀ v, w.lookup k = some v → P (k, v) = true) : (w.filter P).lookup k = w.lookup k := by
  induction w with
  | nil => rfl
  | cons a as ih =>
    obtain ⟨k', v'⟩ := a
    by_cases hk : k = k'
    · subst hk
      rw [List.filter_cons_of_pos (hp v' List.lookup_cons_self), List.lookup_cons_self, List.lookup_cons_self]
    · rw [lookup_cons_ne hk] at hp ⊢
      rw [List.filter_cons]
      split
      · rw [lookup_cons_ne hk]; exact ih hp
      · exact ih hp

theorem kidsOf_entry {p : Pool} {par k : Nat × Nat} (h : k ∈ kidsOf p par) :
    ∃ kids, (par, kids) ∈ p.waiting ∧ k ∈ kids := by
  unfold kidsOf at h
  cases hl : p.waiting.lookup par with
  | none => rw [hl] at h; cases h
  | some kids => rw [hl] at h; exact ⟨kids, mem_of_lookup_some hl, h⟩

def pruneW (w : WMap) (f : Nat) : WMap :=
  (w.map (fun x => (x.1, x.2.filter (·.1 ≥ f)))).filter (fun x => !x.2.isEmpty)

theorem prune_waiting (p : Pool) : p.prune.waiting = pruneW p.waiting p.fin.first := rfl

theorem pruneW_entry (w : WMap) (f : Nat) (par : Nat × Nat) (kids' : List (Nat × Nat)) (h : (par, kids') ∈ pruneW w f) :
    ∃ kids, (par, kids) ∈ w ∧ ∀ k ∈ kids', k ∈ kids := by
  unfold pruneW at h
  obtain ⟨h1, _⟩ := List.mem_filter.mp h
  obtain ⟨x, hx, he⟩ := List.mem_map.mp h1
  obtain ⟨a, b⟩ := x
  simp only [Prod.mk.injEq] at he
  obtain ⟨rfl, rfl⟩ := he
  exact ⟨b, hx, fun k hk => (List.mem_filter.mp hk).1⟩

theorem pruneW_lookup (w : WMap) (f : Nat) (par b : Nat × Nat) (hb : b ∈ (w.lookup par).getD []) (hf : f ≤ b.1) :
    b ∈ ((pruneW w f).lookup par).getD [] := by
  cases hl : w.lookup par with
  | none => rw [hl] at hb; cases hb
  | some kids =>
    rw [hl] at hb
    have hmem : b ∈ kids.filter (·.1 ≥ f) := List.mem_filter.mpr ⟨hb, decide_eq_true hf⟩
    have hne : (!(kids.filter (·.1 ≥ f)).isEmpty) = true := by
      cases hv : kids.filter (·.1 ≥ f) with
      | nil => rw [hv] at hmem; cases hmem
      | cons _ _ => rfl
    have h1 := lookup_map_val (fun _ v => v.filter (·.1 ≥ f)) w par
    rw [hl, Option.map_some] at h1
    rw [pruneW, lookup_filter _ _ fun v e => Option.some.inj (h1.symm.trans e) ▸ hne, h1]
    exact hmem

theorem kidsOf_prune {p : Pool} {par b : Nat × Nat} (hb : b ∈ kidsOf p par) (hf : p.fin.first ≤ b.1) :
    b ∈ kidsOf p.prune par := by
  unfold kidsOf; rw [prune_waiting]; exact pruneW_lookup _ _ _ _ hb hf

theorem advance_waiting (p : Pool) (t : Finality.Tracker) (r : ParentReady.Res) :
    (p.advance t r).waiting = pruneW p.waiting t.first := by
  unfold Pool.advance
  rw [prune_waiting, (applyPr_frame _ r).2.1, (applyPr_frame _ r).2.2]

theorem kidsOf_advance {p : Pool} (t : Finality.Tracker) (r : ParentReady.Res) {par b : Nat × Nat}
    (hb : b ∈ kidsOf p par) (hf : t.first ≤ b.1) : b ∈ kidsOf (p.advance t r) par := by
  unfold kidsOf; rw [advance_waiting]; exact pruneW_lookup _ _ _ _ hb hf

theorem addWaiting_waiting (p : Pool) (par b : Nat × Nat) :
    (Pool.addWaiting p par b).waiting =
      if p.waiting.any (·.1 == par) then p.waiting.map (fun w => if w.1 == par then (w.1, w.2 ++ [b]) else w)
      else p.waiting ++ [(par, [b])] := by
  unfold Pool.addWaiting; split <;> rfl

theorem kidsOf_addWaiting_eq (p : Pool) (par b par' : Nat × Nat) :
    kidsOf (Pool.addWaiting p par b) par' = if par' = par then kidsOf p par ++ [b] else kidsOf p par' := by
  unfold kidsOf
  rw [addWaiting_waiting, any_key_eq_isSome]
  split
  · rename_i hs
    rw [lookup_map_snd_if _ _ _ (· ++ [b])]
    by_cases he : par' = par
    · rw [if_pos he, if_pos he, he]
      cases hl : p.waiting.lookup par with
      | none => rw [hl] at hs; cases hs
      | some v => rfl
    · rw [if_neg he, if_neg he]
  · rename_i hs
    have hn := Option.not_isSome_iff_eq_none.mp hs
    rw [lookup_after_store _ _ _ _ hn]
    by_cases he : par' = par
    · rw [if_pos he, if_pos he, hn]; rfl
    · rw [if_neg he, if_neg he]

theorem kidsOf_addWaiting (p : Pool) (par b : Nat × Nat) :
    (∀ par' k, k ∈ kidsOf p par' → k ∈ kidsOf (Pool.addWaiting p par b) par') ∧ b ∈ kidsOf (Pool.addWaiting p par b) par := by
  refine ⟨fun par' k hk => ?_, by rw [kidsOf_addWaiting_eq, if_pos rfl]; exact List.mem_append_right _ List.mem_cons_self⟩
  rw [kidsOf_addWaiting_eq]
  split
  · rename_i he; subst he; exact List.mem_append_left _ hk
  · exact hk

end AgModel.Pool
