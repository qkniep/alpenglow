import AgModel.Proofs.BlockstoreExactStep
/-! Whole deliveries on the exact invariant: events and final state as functions of the delivered
    set (core Lean only). -/
namespace AgModel.Blockstore
open HBlock

/-- the set of (slice, index) pairs occurring in a delivery -/
def delivered (ss : List Shred) : DSet := fun i j => ss.any (fun s => i == s.slice && j == s.idx)

def distinctShreds (ss : List Shred) (i : Nat) : Nat := cnt (delivered ss) i

def Enough (B : HBlock) (ss : List Shred) : Prop := ∀ i, i < B.n → DATA_SHREDS ≤ distinctShreds ss i

instance (B : HBlock) (ss : List Shred) : Decidable (Enough B ss) := by unfold Enough; infer_instance

theorem enough_iff_full (B : HBlock) (ss : List Shred) : Enough B ss ↔ Full B (delivered ss) := Iff.rfl

def daddAll (D : DSet) (ss : List Shred) : DSet := ss.foldl dadd D

theorem daddAll_eq (D : DSet) (ss : List Shred) : daddAll D ss = fun i j => D i j || delivered ss i j := by
  induction ss generalizing D with
  | nil => funext i j; simp [daddAll, delivered]
  | cons s rest ih =>
    have : daddAll D (s :: rest) = daddAll (dadd D s) rest := rfl
    rw [this, ih]
    funext i j
    simp [dadd, delivered, Bool.or_assoc]

theorem daddAll_none (ss : List Shred) : daddAll dnone ss = delivered ss := by
  rw [daddAll_eq]; funext i j; simp [dnone]

theorem delivered_append_one (pre : List Shred) (s : Shred) : delivered (pre ++ [s]) = dadd (delivered pre) s := by
  funext i j
  simp [delivered, dadd]

theorem delivered_congr (ss₁ ss₂ : List Shred) (h : ∀ s, s ∈ ss₁ ↔ s ∈ ss₂) : delivered ss₁ = delivered ss₂ := by
  funext i j
  unfold delivered
  rw [Bool.eq_iff_iff, List.any_eq_true, List.any_eq_true]
  constructor
  · rintro ⟨s, hs, hp⟩; exact ⟨s, (h s).mp hs, hp⟩
  · rintro ⟨s, hs, hp⟩; exact ⟨s, (h s).mpr hs, hp⟩

theorem delivered_append (xs ys : List Shred) :
    delivered (xs ++ ys) = fun i j => delivered xs i j || delivered ys i j := by
  funext i j
  simp [delivered, List.any_append]

/-- the set delivered by `m` consecutive shreds of slice `i` from index `c` on, in closed form: counting over it does not
    walk the delivery -/
theorem delivered_run (B : HBlock) (i c m : Nat) :
    delivered ((List.range m).map fun j => B.shred i (j + c)) =
      fun i' j' => i' == i && (decide (c ≤ j') && decide (j' < c + m)) := by
  funext i' j'
  rw [Bool.eq_iff_iff]
  simp only [delivered, List.any_map, List.any_eq_true, List.mem_range, Function.comp, HBlock.shred, Bool.and_eq_true,
    beq_iff_eq, decide_eq_true_eq]
  constructor
  · rintro ⟨j, hj, rfl, rfl⟩; exact ⟨rfl, by omega, by omega⟩
  · rintro ⟨rfl, h1, h2⟩; exact ⟨j' - c, by omega, rfl, by omega⟩

theorem delivered_first (B : HBlock) (i m : Nat) :
    delivered ((List.range m).map (B.shred i)) = fun i' j' => i' == i && (decide (0 ≤ j') && decide (j' < 0 + m)) :=
  delivered_run B i 0 m

/-- the dissemination `BlockData` of a node that was delivered exactly the set `D` of the leader's shreds -/
def canon (B : HBlock) (cap : Nat) (D : DSet) : BlockData :=
  { cap := cap, slot := B.slot,
    completed := if Full B D then some B.block else none,
    shreds := fun i => if i < B.n ∧ 0 < cnt D i then some (arrOf B D i) else none,
    slices := fun i => if ¬ Full B D ∧ i < B.n ∧ DATA_SHREDS ≤ cnt D i then some (B.rslice i) else none,
    lastSlice := if 0 < cnt D (B.n - 1) then some (B.n - 1) else none,
    tree := if Full B D then some B.roots else none,
    cache := fun i => if i < B.n ∧ 0 < cnt D i then some (B.commit i) else none }

theorem exact_canon {B : HBlock} {cap : Nat} {D : DSet} {b : BlockData} (hg : Exact B cap D D D b) :
    b = canon B cap D :=
  BlockData.ext hg.hcap hg.hslot hg.completed (funext hg.shreds) (funext hg.slices) hg.last hg.tree (funext hg.cache)

theorem canon_exact (B : HBlock) (cap : Nat) (D : DSet) : Exact B cap D D D (canon B cap D) :=
  ⟨rfl, rfl, fun _ => rfl, rfl, fun _ => rfl, fun _ => rfl, rfl, rfl⟩

/-- the state a completed block ends in does not depend on which shreds were delivered -/
def canonFull (B : HBlock) (cap : Nat) : BlockData :=
  { cap := cap, slot := B.slot, completed := some B.block,
    shreds := fun i => if i < B.n then some (B.fullArr i) else none,
    slices := fun _ => none,
    lastSlice := some (B.n - 1),
    tree := some B.roots,
    cache := fun i => if i < B.n then some (B.commit i) else none }

theorem canon_full {B : HBlock} (cap : Nat) {D : DSet} (hn : 0 < B.n) (hf : Full B D) : canon B cap D = canonFull B cap := by
  have hdp := data_shreds_pos
  have hpos : ∀ i, i < B.n → 0 < cnt D i := fun i hi => by have := hf i hi; omega
  unfold canon canonFull
  congr 1
  · rw [if_pos hf]
  · funext i
    by_cases hi : i < B.n
    · rw [if_pos ⟨hi, hpos i hi⟩, if_pos hi, arrOf_of_ge B (hf i hi)]
    · rw [if_neg (fun h => hi h.1), if_neg hi]
  · funext i
    rw [if_neg (fun h => h.1 hf)]
  · rw [if_pos (hpos (B.n - 1) (by omega))]
  · rw [if_pos hf]
  · funext i
    by_cases hi : i < B.n
    · rw [if_pos ⟨hi, hpos i hi⟩, if_pos hi]
    · rw [if_neg (fun h => hi h.1), if_neg hi]

/-- what is announced when a delivery completes the block -/
def doneEv (B : HBlock) : Event := if B.fparent.1 < B.slot then .block B.block.info else .invalidBlock

def stepEvents (B : HBlock) (D : DSet) (s : Shred) : List Event :=
  if Empty B D then [.firstShred]
  else if ¬ Full B D ∧ Full B (dadd D s) then [doneEv B] else []

theorem flagIfBad_resOf (B : HBlock) (D : DSet) (s : Shred) (hs : B.Honest s) (sd : SlotData) (hm : sd.misbehaved = false) :
    (flagIfBad sd (resOf B D s)).2 = (resOf B D s, stepEvents B D s) ∧
    ((Full B (dadd D s) → B.fparent.1 < B.slot) → (flagIfBad sd (resOf B D s)).1 = sd) ∧
    (¬ B.fparent.1 < B.slot → ¬ Full B D → Full B (dadd D s) → (flagIfBad sd (resOf B D s)).1.misbehaved = true) := by
  have hdp := data_shreds_pos
  unfold resOf stepEvents
  by_cases hdup : D s.slice s.idx = true ∨ DATA_SHREDS ≤ cnt D s.slice
  · have hne : ¬ Empty B D := by
      intro he
      have h0 := he s.slice hs.1
      rcases hdup with h | h
      · have := cnt_pos_of hs.2.1 h; omega
      · omega
    have hsame : Full B (dadd D s) → Full B D := fun h2 => by
      rcases hdup with h | h
      · rw [dadd_same h] at h2; exact h2
      · exact (full_add_of_ge B D s h).mp h2
    rw [if_pos hdup, if_neg hne, if_neg (fun h => h.1 (hsame h.2))]
    exact ⟨rfl, fun _ => rfl, fun _ h1 h2 => absurd (hsame h2) h1⟩
  · rw [if_neg hdup]
    by_cases he : Empty B D
    · rw [if_pos he, if_pos he]
      exact ⟨rfl, fun _ => rfl, fun _ _ h => absurd h (not_full_add_of_empty B D s hs.1 hs.2.1 he)⟩
    · rw [if_neg he, if_neg he]
      have hnf : ¬ Full B D := not_full_of_lt hs.1 (Nat.lt_of_not_le fun h => hdup (Or.inr h))
      by_cases hf : Full B (dadd D s)
      · rw [if_pos hf, if_pos ⟨hnf, hf⟩]
        unfold doneRes doneEv
        by_cases hok : B.fparent.1 < B.slot
        · rw [if_pos hok, if_pos hok]
          exact ⟨rfl, fun _ => rfl, fun h => absurd hok h⟩
        · rw [if_neg hok, if_neg hok]
          refine ⟨?_, fun h => absurd (h hf) hok, fun _ _ _ => ?_⟩ <;> simp [flagIfBad, isBadErr, flag, hm]
      · rw [if_neg hf, if_neg (fun h => hf h.2)]
        exact ⟨rfl, fun _ => rfl, fun _ _ h => absurd h hf⟩

theorem addDissem_exact {B : HBlock} {env : Nat → Content} {cap : Nat} (hwf : B.Cut env cap)
    {D : DSet} {sd : SlotData} {s : Shred} (hm : sd.misbehaved = false) (hg : Exact B cap D D D sd.dis)
    (hs : B.Honest s) :
    (addDissem env sd s).2 = (resOf B D s, stepEvents B D s) ∧
    ((Full B (dadd D s) → B.fparent.1 < B.slot) →
      (addDissem env sd s).1.misbehaved = false ∧ (addDissem env sd s).1.rep = sd.rep ∧
      Exact B cap (dadd D s) (dadd D s) (dadd D s) (addDissem env sd s).1.dis) ∧
    (¬ B.fparent.1 < B.slot → ¬ Full B D → Full B (dadd D s) → (addDissem env sd s).1.misbehaved = true) := by
  obtain ⟨hx, hr⟩ := addShred_exact hwf hg hs
  rw [addDissem_of_ty env sd s hm hs.ty, hr]
  obtain ⟨e1, e2, e3⟩ := flagIfBad_resOf B D s hs { sd with dis := (addShredCore env sd.dis s).1 } hm
  exact ⟨e1, fun h => by rw [e2 h]; exact ⟨hm, rfl, hx h⟩, e3⟩

theorem runDissem_append (env : Nat → Content) (sd : SlotData) (xs ys : List Shred) :
    runDissem env sd (xs ++ ys) =
      ((runDissem env (runDissem env sd xs).1 ys).1, (runDissem env sd xs).2 ++ (runDissem env (runDissem env sd xs).1 ys).2) := by
  induction xs generalizing sd with
  | nil => simp [runDissem]
  | cons x rest ih =>
    simp only [List.cons_append, runDissem]
    rw [ih]
    simp [List.append_assoc]

theorem full_daddAll (B : HBlock) (E : DSet) (l : List Shred) (h : Full B E) : Full B (daddAll E l) := by
  induction l generalizing E with
  | nil => exact h
  | cons x l ih => exact ih (dadd E x) (full_mono B E x h)

/-- **Exact run.** Events and state of a whole delivery of the leader's shreds, from the state of the delivered set `D`:
    `FirstShred` if the delivery is the first, and when it completes the block, `Block` or - the parent not being in an
    earlier slot - `InvalidBlock`; unless that happens the store ends in the state of the set delivered. -/
theorem runDissem_exact (B : HBlock) (env : Nat → Content) (cap : Nat) (hwf : B.Cut env cap)
    (ss : List Shred) (hss : ∀ s ∈ ss, B.Honest s)
    (D : DSet) (sd : SlotData) (hm : sd.misbehaved = false) (hg : Exact B cap D D D sd.dis)
    (hD : Full B D → B.fparent.1 < B.slot) :
    ((Full B (daddAll D ss) → B.fparent.1 < B.slot) →
      (runDissem env sd ss).1.misbehaved = false ∧ (runDissem env sd ss).1.rep = sd.rep ∧
      Exact B cap (daddAll D ss) (daddAll D ss) (daddAll D ss) (runDissem env sd ss).1.dis) ∧
      (runDissem env sd ss).2 =
        (if Empty B D ∧ ss ≠ [] then [.firstShred] else []) ++
        (if ¬ Full B D ∧ Full B (daddAll D ss) then [doneEv B] else []) := by
  induction ss generalizing D sd with
  | nil =>
    refine ⟨fun _ => ⟨hm, rfl, hg⟩, ?_⟩
    have : ¬ (¬ Full B D ∧ Full B (daddAll D [])) := fun h => h.1 h.2
    simp [runDissem, this]
  | cons s rest ih =>
    have hs := hss s List.mem_cons_self
    obtain ⟨h5, hgood, hbad⟩ := addDissem_exact (env := env) hwf hm hg hs
    have hda : daddAll D (s :: rest) = daddAll (dadd D s) rest := rfl
    have hne : ¬ Empty B (dadd D s) := not_empty_add B D s hs.1 hs.2.1
    have h5' := congrArg Prod.snd h5
    simp only [runDissem]
    rw [hda]
    by_cases hA : Full B (dadd D s) → B.fparent.1 < B.slot
    · obtain ⟨h1, h2, h3⟩ := hgood hA
      obtain ⟨i1, i4⟩ := ih (fun x hx => hss x (List.mem_cons_of_mem _ hx)) (dadd D s) (addDissem env sd s).1 h1 h3 hA
      refine ⟨fun hps => ?_, ?_⟩
      · obtain ⟨j1, j2, j3⟩ := i1 hps
        exact ⟨j1, by rw [j2, h2], j3⟩
      rw [i4, h5']
      -- the events telescope: `FirstShred` comes from the head step iff `D` was empty (the rest then starts non-empty),
      -- the done-event from the one step, here or in the rest, at which `Full` turns true
      by_cases he : Empty B D
      · have hnf1 := not_full_of_empty hwf.npos he
        have hnf2 : ¬ Full B (dadd D s) := not_full_add_of_empty B D s hs.1 hs.2.1 he
        simp [stepEvents, he, hne, hnf1, hnf2]
      · by_cases hf0 : Full B D
        · have hf1 := full_mono B D s hf0
          simp [stepEvents, he, hne, hf0, hf1]
        · by_cases hf1 : Full B (dadd D s)
          · have hf2 := full_daddAll B _ rest hf1
            simp [stepEvents, he, hne, hf0, hf1, hf2]
          · simp [stepEvents, he, hne, hf0, hf1]
    · -- this step completes a block whose parent is not in an earlier slot: flagged, the rest is refused
      obtain ⟨hf1, hnok⟩ := Decidable.not_imp_iff_and_not.mp hA
      have hnf : ¬ Full B D := fun h => hnok (hD h)
      have hf2 := full_daddAll B _ rest hf1
      have he : ¬ Empty B D := fun he => not_full_add_of_empty B D s hs.1 hs.2.1 he hf1
      rw [runDissem_flagged env _ rest (hbad hnok hnf hf1), h5']
      exact ⟨fun hps => absurd (hps hf2) hnok, by simp [stepEvents, he, hnf, hf1, hf2]⟩

/-- **Exact run from a fresh slot**: `FirstShred` unless nothing was delivered, then the done-event once every slice has
    enough; unless that rejects the block, the slot is unflagged, without repair data, and its store the function of the
    delivered set -/
theorem runDissem_fresh (B : HBlock) (env : Nat → Content) (cap : Nat) (hwf : B.Cut env cap)
    (ss : List Shred) (hss : ∀ s ∈ ss, B.Honest s) :
    ((Enough B ss → B.fparent.1 < B.slot) →
      (runDissem env (SlotData.new cap B.slot) ss).1 = ⟨canon B cap (delivered ss), [], false⟩) ∧
    (runDissem env (SlotData.new cap B.slot) ss).2 =
      (if ss = [] then [] else [.firstShred]) ++ (if Enough B ss then [doneEv B] else []) := by
  have hnf := not_full_dnone B hwf.npos
  obtain ⟨h0, h4⟩ := runDissem_exact B env cap hwf ss hss dnone (SlotData.new cap B.slot) rfl
    (exact_new B cap hwf.npos) fun h => absurd h hnf
  rw [daddAll_none] at h0 h4
  refine ⟨fun hok => ?_, ?_⟩
  · obtain ⟨h1, h2, h3⟩ := h0 hok
    cases hsd : (runDissem env (SlotData.new cap B.slot) ss).1 with
    | mk dis rep mis =>
      rw [hsd] at h1 h2 h3
      cases h1; cases h2; cases exact_canon h3
      rfl
  · rw [h4]
    congr 1
    · by_cases hnil : ss = []
      · rw [if_neg (fun h => h.2 hnil), if_pos hnil]
      · rw [if_pos ⟨empty_dnone B, hnil⟩, if_neg hnil]
    · exact ite_iff ⟨fun h => h.2, fun h => ⟨hnf, h⟩⟩ _ _

theorem not_enough_nil (B : HBlock) (hn : 0 < B.n) : ¬ Enough B [] := not_full_dnone B hn

theorem empty_delivered_iff (B : HBlock) (ss : List Shred) (hss : ∀ s ∈ ss, B.Honest s) :
    Empty B (delivered ss) ↔ ss = [] := by
  constructor
  · intro he
    cases ss with
    | nil => rfl
    | cons s rest =>
      have hs := hss s List.mem_cons_self
      have h0 := he s.slice hs.1
      have := cnt_pos_of hs.2.1 (show delivered (s :: rest) s.slice s.idx = true by simp [delivered])
      omega
  · rintro rfl; exact empty_dnone B

end AgModel.Blockstore
