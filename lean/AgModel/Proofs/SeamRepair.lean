import AgModel.Model.RepairAbs
import AgModel.Props.C12
import AgModel.Props.C14
/-! Refinement between the fine repair requester (`Seam.Repair.fHandle`: raw responses, code order of
    `handle_response`) and the coarse repair model (`Repair.handleResponse` on `absResp`). Both handlers are a chain of
    checks ending in `ingest`; each side gets one lemma for "every check passed" (`Repair.Valid` / `Accepts`) and one
    for "some check failed", and the two predicates agree when the root tables do (`valid_abs_iff`). -/
namespace AgModel.Seam.Repair
open AgModel.Shred (Env VShred validate)
open AgModel.Blockstore (Content)
open AgModel.Repair (Bid Req Resp RepairSt Store)
open AgModel.Merkle (H)

def RootsAgree (rid : RootId) (σ : FSys) : Prop :=
  σ.st.sliceRoots = σ.froots.map (fun kv => (kv.1, rid kv.2))

theorem rootGet_map (rid : RootId) (m : FRoots) (k : Bid × Nat) :
    AgModel.Repair.rootGet (m.map (fun kv => (kv.1, rid kv.2))) k = (frootGet m k).map rid := by
  induction m with
  | nil => rfl
  | cons kv rest ih =>
    simp only [List.map_cons, AgModel.Repair.rootGet, frootGet]
    split
    · rfl
    · exact ih

theorem rootSet_map (rid : RootId) (m : FRoots) (k : Bid × Nat) (v : H) :
    AgModel.Repair.rootSet (m.map (fun kv => (kv.1, rid kv.2))) k (rid v) =
      (frootSet m k v).map (fun kv => (kv.1, rid kv.2)) := by
  induction m with
  | nil => rfl
  | cons kv rest ih =>
    simp only [List.map_cons, AgModel.Repair.rootSet, frootSet]
    split
    · rfl
    · simp only [List.map_cons, ih]

theorem handleResponse_shred_nosig (cenv : Nat → Content) (cap : Nat) (st : RepairSt) (store : Store)
    (b : Bid) (i j : Nat) (slot : Nat) (s : Blockstore.Shred) (root : Nat)
    (h2 : AgModel.Repair.rootGet st.sliceRoots (b, i) = some root) :
    AgModel.Repair.handleResponse cenv cap st store (.shred (.shred b i j) slot s false) = (st, store, {}) :=
  AgModel.Repair.handle_shred_invalid h2 fun hv => Bool.noConfusion hv.sig

/-- the fine counterpart of `Repair.Valid` for a shred response to `Shred(b, i, j)`: the checks of `fHandle` on the raw
    shred, `try_new(_, None, leader(b.slot))` last, which yields `v` -/
structure Accepts (env : Env) (pk : Nat → Nat) (σ : FSys) (b : Bid) (i j : Nat) (raw : Shred.Shred) (v : VShred) : Prop where
  slot : raw.header.slot = b.slot
  slice : raw.header.sliceIdx = i
  idx : raw.index = j
  root : frootGet σ.froots (b, i) = some (raw.sliceRoot env)
  last : raw.header.isLast = decide (AgModel.Repair.lastGet σ.st.lastSlices b = some i)
  ty : raw.typeOk = true
  valid : validate env raw none (pk b.slot) = .ok v

section
variable {env : Env} {cenv : Nat → Content} {rid : RootId} {pk : Nat → Nat} {cap : Nat} {σ : FSys} {resp : FResp}
  {b : Bid} {i j : Nat} {raw : Shred.Shred} {v : VShred}

theorem fHandle_unsolicited (h : resp.req ∉ σ.st.outstanding) : fHandle env cenv rid pk cap σ resp = (σ, {}) := by
  unfold fHandle; rw [if_pos h]

theorem fHandle_accepts (hout : Req.shred b i j ∈ σ.st.outstanding) (ha : Accepts env pk σ b i j raw v) :
    fHandle env cenv rid pk cap σ (.shred (.shred b i j) raw) =
      ({ σ with st := (ingest cenv cap (AgModel.Repair.done σ.st (.shred b i j)) σ.store b (absShred rid v)).1,
                store := (ingest cenv cap (AgModel.Repair.done σ.st (.shred b i j)) σ.store b (absShred rid v)).2.1 },
        (ingest cenv cap (AgModel.Repair.done σ.st (.shred b i j)) σ.store b (absShred rid v)).2.2) := by
  obtain ⟨h1, h2, h3, hr, hl, hty, hv⟩ := ha
  unfold fHandle
  simp only [FResp.req, hout, h1, h2, h3, hr, hl, hty, hv, not_true_eq_false, ne_eq, or_self, if_false, Bool.not_true,
    Bool.false_eq_true]

theorem fHandle_rejects {R : H} (hr : frootGet σ.froots (b, i) = some R) (hv : ∀ v, ¬ Accepts env pk σ b i j raw v) :
    fHandle env cenv rid pk cap σ (.shred (.shred b i j) raw) = (σ, {}) := by
  unfold fHandle
  simp only [FResp.req, hr]
  refine ite_eq_left_iff.mpr fun _ => ite_eq_left_iff.mpr fun h1 => ite_eq_left_iff.mpr fun h3 =>
    ite_eq_left_iff.mpr fun h4 => ite_eq_left_iff.mpr fun h5 => ?_
  simp only [not_or, Decidable.not_not, ne_eq, Bool.not_eq_true', Bool.not_eq_false] at h1 h3 h4 h5
  cases hok : validate env raw none (pk b.slot) with
  | error _ => rfl
  | ok v => exact absurd ⟨h1.1, h1.2.1, h1.2.2, by rw [hr, h3], h4, h5, hok⟩ (hv v)

/-- a shred request is only ever outstanding with its slice root proven; if not, `unreachable!` -/
theorem fHandle_noroot (hout : Req.shred b i j ∈ σ.st.outstanding) (hr : frootGet σ.froots (b, i) = none) :
    fHandle env cenv rid pk cap σ (.shred (.shred b i j) raw) =
      (σ, if raw.header.slot ≠ b.slot ∨ raw.header.sliceIdx ≠ i ∨ raw.index ≠ j then {} else { panic := true }) := by
  unfold fHandle
  simp only [FResp.req, hout, hr, not_true_eq_false, if_false]
  split <;> rfl

/-- under agreeing root tables the coarse checks on the abstraction of a raw shred response are the fine checks on
    the response: the root comparison on interned ids is the comparison of hashes (`hinj`), and `sigOk` is `try_new` -/
theorem valid_abs_iff (hinj : ∀ a b, rid a = rid b → a = b) (hR : RootsAgree rid σ) :
    AgModel.Repair.Valid σ.st (absResp env rid pk (.shred (.shred b i j) raw)) ↔ ∃ v, Accepts env pk σ b i j raw v := by
  have hR : σ.st.sliceRoots = _ := hR
  simp only [AgModel.Repair.Valid, absResp, absRaw, hR, rootGet_map, Option.map_eq_some_iff, sigOkOf]
  constructor
  · rintro ⟨h1, h2, h3, ⟨R, hr, hid⟩, hl, hty, hs⟩
    rw [h1] at hs
    cases hok : validate env raw none (pk b.slot) with
    | error _ => rw [hok] at hs; cases hs
    | ok v => exact ⟨v, h1, h2, h3, by rw [hr, hinj _ _ hid], hl, hty, hok⟩
  · rintro ⟨v, h1, h2, h3, hr, hl, hty, hok⟩
    exact ⟨h1, h2, h3, ⟨_, hr, rfl⟩, hl, hty, by rw [h1, hok]⟩

/-- a solicited response other than a shred for a shred request: the two handlers are the same program, the root
    tables are updated together, and neither the blockstore is touched nor an event sent -/
theorem fHandle_other (hout : resp.req ∈ σ.st.outstanding) (hs : ¬ ∃ b i j raw, resp = .shred (.shred b i j) raw) :
    (RootsAgree rid σ → RootsAgree rid (fHandle env cenv rid pk cap σ resp).1) ∧
    ((fHandle env cenv rid pk cap σ resp).1.st, (fHandle env cenv rid pk cap σ resp).1.store,
      (fHandle env cenv rid pk cap σ resp).2) =
      AgModel.Repair.handleResponse cenv cap σ.st σ.store (absResp env rid pk resp) ∧
    (fHandle env cenv rid pk cap σ resp).1.store = σ.store ∧ (fHandle env cenv rid pk cap σ resp).2.events = [] := by
  have hout' : (absResp env rid pk resp).req ∈ σ.st.outstanding := by cases resp <;> exact hout
  unfold fHandle AgModel.Repair.handleResponse
  rw [if_neg (not_not_intro hout), if_neg (not_not_intro hout')]
  have hset : ∀ (st : RepairSt) k root rs, st.sliceRoots = AgModel.Repair.rootSet σ.st.sliceRoots k (rid root) →
      RootsAgree rid σ → (AgModel.Repair.sendAll st rs).sliceRoots = (frootSet σ.froots k root).map (fun kv => (kv.1, rid kv.2)) := by
    intro st k root rs h hR
    rw [AgModel.Repair.sendAll_roots, h, hR, rootSet_map]
  cases resp with
  | nack r => exact ⟨id, rfl, rfl, rfl⟩
  | lastRoot r l root π =>
    cases r with
    | last b =>
      simp only [absResp]
      split
      · exact ⟨id, rfl, rfl, rfl⟩
      · exact ⟨hset _ _ _ _ rfl, rfl, rfl, rfl⟩
    | _ => exact ⟨id, rfl, rfl, rfl⟩
  | sliceRoot r root π =>
    cases r with
    | root b i =>
      simp only [absResp]
      -- as a variable, so that `rfl` below does not unfold the 64 requests
      generalize (List.range Blockstore.TOTAL_SHREDS).map (fun j => Req.shred b i j) = reqs
      split
      · exact ⟨id, rfl, rfl, rfl⟩
      · exact ⟨hset _ _ _ _ rfl, rfl, rfl, rfl⟩
    | _ => exact ⟨id, rfl, rfl, rfl⟩
  | shred r raw =>
    cases r with
    | shred b i j => exact absurd ⟨b, i, j, raw, rfl⟩ hs
    | _ => exact ⟨id, rfl, rfl, rfl⟩

end

theorem fHandle_refines (env : Env) (cenv : Nat → Content) (rid : RootId) (hinj : ∀ a b, rid a = rid b → a = b)
    (pk : Nat → Nat) (cap : Nat) (σ : FSys) (hR : RootsAgree rid σ) (resp : FResp) :
    RootsAgree rid (fHandle env cenv rid pk cap σ resp).1 ∧
    ((fHandle env cenv rid pk cap σ resp).1.st, (fHandle env cenv rid pk cap σ resp).1.store,
      (fHandle env cenv rid pk cap σ resp).2) =
      AgModel.Repair.handleResponse cenv cap σ.st σ.store (absResp env rid pk resp) := by
  by_cases hout : resp.req ∈ σ.st.outstanding
  case neg =>
    rw [fHandle_unsolicited hout,
      AgModel.Repair.unsolicited_ignored cenv cap σ.st σ.store _ (by cases resp <;> exact hout)]
    exact ⟨hR, rfl⟩
  by_cases hs : ∃ b i j raw, resp = .shred (.shred b i j) raw
  case neg =>
    exact ⟨(fHandle_other hout hs).1 hR, (fHandle_other hout hs).2.1⟩
  obtain ⟨b, i, j, raw, rfl⟩ := hs
  have hg : AgModel.Repair.rootGet σ.st.sliceRoots (b, i) = (frootGet σ.froots (b, i)).map rid := by
    rw [hR, rootGet_map]
  cases hfr : frootGet σ.froots (b, i) with
  | none =>
    rw [hfr] at hg
    rw [fHandle_noroot hout hfr]
    simp only [absResp]
    rw [AgModel.Repair.handle_shred_noroot hout hg]
    exact ⟨hR, rfl⟩
  | some R =>
    rw [hfr] at hg
    by_cases hv : AgModel.Repair.Valid σ.st (absResp env rid pk (.shred (.shred b i j) raw))
    · obtain ⟨v, ha⟩ := (valid_abs_iff hinj hR).mp hv
      -- `try_new(_, None, pk)` accepts only with the re-derived root, so `absShred rid v` is `absRaw env rid raw`
      obtain rfl := ((Shred.accept_none_iff env raw _ v).mp ha.valid).2.2
      rw [fHandle_accepts hout ha]
      simp only [absResp] at hv ⊢
      rw [AgModel.Repair.handle_shred_valid hout hv]
      -- both sides are `ingest`; opened because `RootsAgree` reads the requester state it returns
      simp only [AgModel.Repair.ingest_eq]
      exact ⟨hR, rfl⟩
    · rw [fHandle_rejects hfr fun v ha => hv ((valid_abs_iff hinj hR).mpr ⟨v, ha⟩)]
      simp only [absResp] at hv ⊢
      rw [AgModel.Repair.handle_shred_invalid hg hv]
      exact ⟨hR, rfl⟩

/-- the blockstore is written, and events are sent to Votor, only by a shred response to an outstanding shred
    request whose raw shred passes every check, `try_new(_, None, leader)` last (then see `fHandle_accepts`) -/
theorem fHandle_cases (env : Env) (cenv : Nat → Content) (rid : RootId) (pk : Nat → Nat) (cap : Nat) (σ : FSys)
    (resp : FResp) :
    ((fHandle env cenv rid pk cap σ resp).1.store = σ.store ∧ (fHandle env cenv rid pk cap σ resp).2.events = []) ∨
    ∃ b i j raw v, resp = .shred (.shred b i j) raw ∧ Req.shred b i j ∈ σ.st.outstanding ∧
      Accepts env pk σ b i j raw v := by
  by_cases hout : resp.req ∈ σ.st.outstanding
  case neg => rw [fHandle_unsolicited hout]; exact .inl ⟨rfl, rfl⟩
  by_cases hs : ∃ b i j raw, resp = .shred (.shred b i j) raw
  case neg => exact .inl (fHandle_other hout hs).2.2
  obtain ⟨b, i, j, raw, rfl⟩ := hs
  by_cases ha : ∃ v, Accepts env pk σ b i j raw v
  · obtain ⟨v, ha⟩ := ha
    exact .inr ⟨b, i, j, raw, v, rfl, hout, ha⟩
  · left
    cases hfr : frootGet σ.froots (b, i) with
    | none => rw [fHandle_noroot hout hfr]; exact ⟨rfl, by split <;> rfl⟩
    | some R => rw [fHandle_rejects hfr fun v h => ha ⟨v, h⟩]; exact ⟨rfl, rfl⟩

end AgModel.Seam.Repair
