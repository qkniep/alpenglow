import AgModel.Proofs.PoolSignedStep
import AgModel.Proofs.NodeFallback
/-!
# C01 cluster refinement, node part: the composed node only ever shows justified events to its Votor

`NInv S e par n` for a node `n = Pool ∘ queue ∘ Votor` (`Model/Node.lean`), relative to a signature log `S`, is the lifted
invariant (`Proofs/NodeRun.lean`) whose parts are: the pool satisfies `SgInv`, every queued pool event is justified (`GoodP`),
and every event in Votor's log is justified (`GoodV`):
a certificate event comes from a backed certificate, safe-to-notar / safe-to-skip from a slot state witnessing the stake
clause over signed votes (and a certified registered parent), a block event agrees with the global parent function.
`nodeRun_ninv`: kept by every run of node operations that deliver only signed votes, backed certificates and blocks that
agree with `par` (`NodeOk`). `S` is a parameter here; the cluster (`Proofs/ClusterRun.lean`) instantiates it with what the
correct nodes' Votors have broadcast by the end of the run: what was signed when an operation happened is still signed then
(`NodeOk.mono`), so the invariant itself is never moved from one signature log to a larger one.
-/
namespace AgModel.NodePanic
open AgModel AgModel.Node AgModel.Pool

variable {S S' : SigLog} {e : Epoch} {par : Nat × Nat → Nat × Nat}

def GoodV (S : SigLog) (e : Epoch) (par : Nat × Nat → Nat × Nat) : Votor.Event → Prop
  | .cert k s h => ∃ c, certKind c.kind = k ∧ c.slot = s ∧ c.hash = h ∧ CertBacked S e c
  | .safeToNotar s h => GoodP S e par (.s2n s h)
  | .safeToSkip s => GoodP S e par (.s2s s)
  | .block s b => par (s, b.hash) = (b.pslot, b.phash)
  | _ => True

theorem goodV_of_goodP {qe : Pool.Event} {ve : Votor.Event}
    (hg : GoodP S e par qe) (hv : toVotor qe = some ve) : GoodV S e par ve := by
  cases qe with
  | cert c => cases hv; exact ⟨c, rfl, rfl, rfl, hg⟩
  | s2n s h => cases hv; exact hg
  | s2s s => cases hv; exact hg
  | _ => cases hv <;> trivial

def NodeOk (S : SigLog) (e : Epoch) (par : Nat × Nat → Nat × Nat) : NodeOp → Prop
  | .recvVote v => S.holds v
  | .recvCert c => CertBacked S e c
  | .poolBlock b p => par b = p
  | .votorBlock s b => par (s, b.hash) = (b.pslot, b.phash)
  | _ => True

theorem NodeOk.mono {op : NodeOp} (h : NodeOk S e par op) (hl : S.le S') : NodeOk S' e par op := by
  cases op with
  | recvVote v =>
    have h' : S.holds v := h
    show S'.holds v
    unfold SigLog.holds at h' ⊢
    cases hk : v.kind <;> simp only [hk] at h' ⊢
    · exact hl.notar _ _ _ h'
    · exact hl.nf _ _ _ h'
    · exact hl.skip _ _ h'
    · exact hl.sf _ _ h'
    · exact hl.fin _ _ h'
  | recvCert x => exact CertBacked.mono h hl
  | _ => exact h

theorem liftSigned :
    Lift (fun _ => SgInv S e par) (fun _ => GoodP S e par) (fun ve _ => GoodV S e par ve)
      (fun v => ∀ ve, Votor.Item.ev ve ∈ v.log → GoodV S e par ve) (fun _ _ => OpOk S e par) where
  mono _ := ⟨fun _ h => h, fun _ h => h⟩
  pool hop i := (poolStep_sginv _ _ i hop).imp_right fun h ev hev _ => h ev hev
  toV := goodV_of_goodP
  votor he i x hx := (Votor.step_ev_mem hx).elim (fun h => h ▸ he) (i x)

abbrev NInv (S : SigLog) (e : Epoch) (par : Nat × Nat → Nat × Nat) : Node → Prop :=
  (liftSigned (S := S) (e := e) (par := par)).Inv

theorem NInv.init (S : SigLog) (e : Epoch) (par : Nat × Nat → Nat × Nat) : NInv S e par ({ pool := { epoch := e } } : Node) :=
  ⟨SgInv.init S e par, (by intro ev h; cases h), (by
    intro ve h
    simp only [Votor.init, List.mem_singleton] at h
    cases h)⟩

theorem nodeRun_ninv (ops : List NodeOp) (n : Node) (i : NInv S e par n)
    (hok : ∀ op ∈ ops, NodeOk S e par op) : NInv S e par (nodeRun n ops) :=
  liftSigned.run ops n i fun op hop _ _ => by
    have := hok op hop
    cases op <;> first | exact this | trivial

end AgModel.NodePanic
