import AgModel.Proofs.PoolPrim
/-! Pool-level glue: the per-slot invariant holds for every slot state of every pool reachable by
    `Pool.addVote / addCert / addBlock` (certificates created inside `add_vote` are added one by one by
    `add_valid_cert`, interleaved with pruning and child notifications). -/
namespace AgModel.Pool

/-- intermediate per-slot invariant while the certificates `cs` created by a vote are still to be added -/
structure Mid (e : Epoch) (cs : List Cert) (st : SlotState) : Prop where
  v : InvV e st
  held : HeldOk e st
  pend : Pending e st cs

theorem SlotOk.mid {e : Epoch} {st : SlotState} (h : SlotOk e st) (cs : List Cert) : Mid e cs st :=
  ⟨h.1.1, h.2, pending_iff.mpr fun c d => Or.inl (invT_iff.mp h.1.2 c d)⟩

theorem Mid.ok {e : Epoch} {st : SlotState} (h : Mid e [] st) : SlotOk e st :=
  ⟨⟨h.v, invT_iff.mpr fun c d => (pending_iff.mp h.pend c d).resolve_right fun ⟨_, hm, _⟩ => absurd hm List.not_mem_nil⟩, h.held⟩

/-- `Pending` only reads core fields -/
theorem Pending.of_coreEq {e : Epoch} {a b : SlotState} {cs : List Cert} (h : CoreEq a b) (p : Pending e a cs) : Pending e b cs := by
  have hc : Pending e a.core cs := ⟨p.tNotar, p.tFf, p.tNf, p.tSkip, p.tFin⟩
  rw [h.eq] at hc
  exact ⟨hc.tNotar, hc.tFf, hc.tNf, hc.tSkip, hc.tFin⟩

theorem Mid.of_coreEq {e : Epoch} {a b : SlotState} {cs : List Cert} (h : CoreEq a b) (m : Mid e cs a) : Mid e cs b :=
  ⟨m.v.of_coreEq h, m.held.of_coreEq h, m.pend.of_coreEq h⟩

/-- when `c` is stored, a demand met by a pending certificate is met by `c` or by one that is still pending -/
theorem Pending.addCert {e : Epoch} {c : Cert} {cs' cs : List Cert} {st : SlotState} (p : Pending e st cs')
    (hsub : ∀ c' ∈ cs', c' = c ∨ c' ∈ cs) : Pending e (st.addCert c) cs :=
  pending_iff.mpr fun x d => by
    rw [certDup_addCert_iff, or_assoc]
    rcases pending_iff.mp p x (due_addCert.mp d) with h | ⟨c', hm, hk⟩
    · exact Or.inl h
    · rcases hsub c' hm with rfl | hm'
      · exact Or.inr (Or.inl hk)
      · exact Or.inr (Or.inr ⟨c', hm', hk⟩)

theorem Mid.addCert {e : Epoch} {c : Cert} {cs : List Cert} {st : SlotState} (m : Mid e (c :: cs) st) (hc : CertOk e c) :
    Mid e cs (st.addCert c) :=
  ⟨InvV_addCert e st c m.v, HeldOk_addCert e st c m.held hc, m.pend.addCert (fun _ h => List.mem_cons.mp h)⟩

theorem Mid.addOther {e : Epoch} {c : Cert} {cs : List Cert} {st : SlotState} (m : Mid e cs st) (hc : CertOk e c) :
    Mid e cs (st.addCert c) :=
  ⟨InvV_addCert e st c m.v, HeldOk_addCert e st c m.held hc, m.pend.addCert (fun _ h => Or.inr h)⟩

/-- pool invariant with one distinguished slot `s` whose created certificates `cs` are still to be added -/
structure PoolMid (p : Pool) (s : Nat) (cs : List Cert) : Prop where
  pos : 0 < p.epoch.total
  others : ∀ st ∈ p.slots, st.slot ≠ s → SlotOk p.epoch st
  this : ∀ st ∈ p.slots, st.slot = s → Mid p.epoch cs st

/-- the pool invariant: every retained slot state satisfies the per-slot invariant -/
def PoolOk (p : Pool) : Prop := 0 < p.epoch.total ∧ ∀ st ∈ p.slots, SlotOk p.epoch st

theorem PoolOk.mid {p : Pool} (h : PoolOk p) (s : Nat) (cs : List Cert) : PoolMid p s cs :=
  ⟨h.1, fun st hm _ => h.2 st hm, fun st hm _ => (h.2 st hm).mid cs⟩

theorem PoolMid.ok {p : Pool} {s : Nat} (h : PoolMid p s []) : PoolOk p :=
  ⟨h.pos, fun st hm => by
    by_cases hs : st.slot = s
    · exact (h.this st hm hs).ok
    · exact h.others st hm hs⟩

def AllSlots (p : Pool) (P : SlotState → Prop) : Prop := ∀ st ∈ p.slots, P st

theorem slotState_spec (p : Pool) (s : Nat) (P : SlotState → Prop) (hall : AllSlots p P) (hnew : P { slot := s }) :
    AllSlots (p.slotState s).1 P ∧ P (p.slotState s).2 ∧ (p.slotState s).2.slot = s := by
  refine ⟨?_, ?_, slotState_snd_slot p s⟩ <;> unfold Pool.slotState <;> split
  · exact hall
  · intro st hm
    rcases List.mem_append.mp hm with h | h
    · exact hall st h
    · rw [List.mem_singleton.mp h]; exact hnew
  · rename_i st hg; exact hall st (getSlot_mem p s st hg).1
  · exact hnew

theorem allSlots_putSlot (p : Pool) (st : SlotState) (Q : SlotState → Prop)
    (hoth : ∀ x ∈ p.slots, x.slot ≠ st.slot → Q x) (hst : Q st) : AllSlots (p.putSlot st) Q := by
  unfold Pool.putSlot
  split
  · intro x hx
    obtain ⟨y, hy, rfl⟩ := List.mem_map.mp hx
    split
    · exact hst
    · rename_i hne
      exact hoth y hy (by simpa using hne)
  · rename_i hany
    intro x hx
    rcases List.mem_append.mp hx with h | h
    · refine hoth x h (fun he => hany ?_)
      exact List.any_eq_true.mpr ⟨x, h, by simp [he]⟩
    · rw [List.mem_singleton.mp h]; exact hst

theorem putSlot_spec (p : Pool) (st : SlotState) (P : SlotState → Prop) (hall : AllSlots p P) (hst : P st) :
    AllSlots (p.putSlot st) P :=
  allSlots_putSlot p st P (fun x hx _ => hall x hx) hst

theorem prune_spec (p : Pool) (P : SlotState → Prop) (hall : AllSlots p P) : AllSlots p.prune P :=
  fun st hm => hall st (List.mem_filter.mp hm).1

theorem applyPr_spec (p : Pool) (r : ParentReady.Res) (P : SlotState → Prop) (hall : AllSlots p P) :
    AllSlots (p.applyPr r).1 P := by
  unfold Pool.applyPr
  split <;> exact hall

theorem AllSlots.advance {p : Pool} {P : SlotState → Prop} (hall : AllSlots p P) (t : Finality.Tracker) (r : ParentReady.Res) :
    AllSlots (p.advance t r) P :=
  prune_spec _ P (applyPr_spec { p with fin := t } r P hall)

theorem addWaiting_spec (p : Pool) (par b : Nat × Nat) : (Pool.addWaiting p par b).slots = p.slots := by
  unfold Pool.addWaiting; split <;> rfl

theorem SlotOk.of_coreEq {e : Epoch} {a b : SlotState} (h : CoreEq a b) (i : SlotOk e a) : SlotOk e b :=
  ⟨⟨i.1.1.of_coreEq h, i.1.2.of_coreEq h⟩, i.2.of_coreEq h⟩

theorem coreEq_slot {a b : SlotState} (h : CoreEq a b) : a.slot = b.slot :=
  (congrArg SlotState.slot h.eq : a.core.slot = b.core.slot)

/-- `notify_waiting_children` only touches what a predicate of the core state does not read -/
theorem notifyWaiting_spec (p : Pool) (b : Nat × Nat) (P : SlotState → Prop)
    (hall : AllSlots p P) (hnew : ∀ x, P { slot := x }) (hce : ∀ a b, CoreEq a b → P a → P b) :
    AllSlots (p.notifyWaiting b).1 P := by
  refine notifyWaiting_ind (fun _ q _ => AllSlots q P) (fun _ _ _ _ _ h => h) ?_ ?_ p b hall
  · intro k _ q _ _ _ h; exact (slotState_spec q k.1 P h (hnew _)).1
  · intro k _ q _ st' evs _ hn h
    obtain ⟨h1, h2, _⟩ := slotState_spec q k.1 P h (hnew _)
    exact putSlot_spec _ st' P h1 (hce _ _ (notifyParentCertified_core _ _ _ st' evs hn) h2)

/-- `add_valid_cert` keeps a per-slot predicate of the core state if storing `c` does (`hst`): what follows the store only
    prunes, creates empty slot states and changes non-core fields -/
theorem addValidCert_tail (p : Pool) (c : Cert) (P : SlotState → Prop)
    (hnew : ∀ x, P { slot := x }) (hce : ∀ a b, CoreEq a b → P a → P b)
    (hQ : ∀ x ∈ (p.slotState c.slot).1.slots, x.slot ≠ c.slot → P x)
    (hst : P ((p.slotState c.slot).2.addCert c)) :
    AllSlots (p.addValidCert c).1 P ∧ (p.addValidCert c).1.epoch = p.epoch := by
  refine ⟨?_, addValidCert_epoch p c⟩
  apply addValidCert_ind c p (AllSlots · P) (AllSlots · P)
  · have hslot : ((p.slotState c.slot).2.addCert c).slot = c.slot :=
      (SameVotes.addCert _ c).slot.symm.trans (slotState_snd_slot p c.slot)
    exact allSlots_putSlot _ _ P (fun x hx hne => hQ x hx (hslot ▸ hne)) hst
  · intro q t r _ h; exact h.advance t r
  · intro q r h; exact applyPr_spec q r P h
  · intro _ q h; exact notifyWaiting_spec q _ P h hnew hce
  · intro _ q h; exact h

theorem allSlots_modify (P : SlotState → Prop) (hnew : ∀ x, P { slot := x }) (p : Pool) (s : Nat) {st' : SlotState} (hall : AllSlots p P)
    (h : P (p.slotState s).2 → (p.slotState s).2.slot = s → P st') : AllSlots ((p.slotState s).1.putSlot st') P :=
  have h0 := slotState_spec p s P hall (hnew s)
  putSlot_spec _ _ P h0.1 (h h0.2.1 h0.2.2)

theorem allSlots_addBlock (P : SlotState → Prop) (hnew : ∀ x, P { slot := x }) (hce : ∀ a b, CoreEq a b → P a → P b)
    (p : Pool) (b par : Nat × Nat) (hall : AllSlots p P)
    (hpk : ∀ st, P st → P (st.notifyParentKnown b.2)) : AllSlots (p.addBlock b par).1 P := by
  refine addBlock_ind (AllSlots · P) p b par (fun _ => hall) (fun _ t r _ => ⟨fun _ e0 => ?_, fun _ => hall.advance t r⟩)
  have hk : AllSlots ((p.advance t r).known b) P := allSlots_modify P hnew _ b.1 (hall.advance t r) (fun h _ => hpk _ h)
  exact addBlockTail_ind (fun q _ => AllSlots q P) _ b par e0 _
    (fun q h => by rw [AllSlots, addWaiting_spec q par b]; exact h)
    (fun _ _ => (slotState_spec _ b.1 P hk (hnew b.1)).1)
    (fun _ st' evs hn => allSlots_modify P hnew _ b.1 hk
      (fun h _ => hce _ _ (notifyParentCertified_core _ _ b.2 st' evs hn) h))
    hk

theorem PoolOk.of_slots {p q : Pool} (hok : PoolOk p) (he : q.epoch = p.epoch) (hs : AllSlots q (SlotOk p.epoch)) : PoolOk q :=
  ⟨he ▸ hok.1, he ▸ hs⟩

theorem PoolOk.slotState_slots {p : Pool} (hok : PoolOk p) (s : Nat) : AllSlots (p.slotState s).1 (SlotOk p.epoch) :=
  (slotState_spec p s _ hok.2 (SlotOk.init p.epoch s hok.1)).1

theorem PoolOk.slotState {p : Pool} (hok : PoolOk p) (s : Nat) : PoolOk (p.slotState s).1 :=
  hok.of_slots (slotState_frame p s).epoch (hok.slotState_slots s)

theorem PoolOk.mod {p : Pool} (hok : PoolOk p) (s : Nat) {st' : SlotState} (hst : SlotOk p.epoch st') :
    PoolOk ((p.slotState s).1.putSlot st') :=
  hok.of_slots (mod_frame p s st').epoch
    (putSlot_spec _ st' _ (hok.slotState_slots s) hst)

theorem PoolOk.slotState_snd {p : Pool} (hok : PoolOk p) (s : Nat) : SlotOk p.epoch (p.slotState s).2 :=
  (slotState_spec p s _ hok.2 (SlotOk.init p.epoch s hok.1)).2.1

theorem SlotOk.addCert {e : Epoch} {st : SlotState} {c : Cert} (h : SlotOk e st) (hc : CertOk e c) : SlotOk e (st.addCert c) :=
  ⟨⟨InvV_addCert e st c h.1.1, InvT_addCert e st c h.1.2⟩, HeldOk_addCert e st c h.2 hc⟩

theorem addValidCert_ok (p : Pool) (c : Cert) (hok : PoolOk p) (hc : CertOk p.epoch c) : PoolOk (p.addValidCert c).1 := by
  have := addValidCert_tail p c (SlotOk p.epoch) (fun x => SlotOk.init p.epoch x hok.1) (fun a b h m => m.of_coreEq h)
    (fun x hx _ => hok.slotState_slots c.slot x hx) ((hok.slotState_snd c.slot).addCert hc)
  exact hok.of_slots this.2 this.1

/-- per-slot predicate of `PoolMid`, as a single predicate on slot states -/
def MidP (e : Epoch) (s : Nat) (cs : List Cert) (st : SlotState) : Prop :=
  (st.slot = s → Mid e cs st) ∧ (st.slot ≠ s → SlotOk e st)

theorem MidP.of_ok {e : Epoch} {s : Nat} {cs : List Cert} {st : SlotState} (h : SlotOk e st) : MidP e s cs st :=
  ⟨fun _ => h.mid cs, fun _ => h⟩

theorem MidP.nil_ok {e : Epoch} {s : Nat} {st : SlotState} (h : MidP e s [] st) : SlotOk e st := by
  by_cases hs : st.slot = s
  · exact (h.1 hs).ok
  · exact h.2 hs

theorem MidP.of_coreEq {e : Epoch} {s : Nat} {cs : List Cert} {a b : SlotState} (h : CoreEq a b) (m : MidP e s cs a) :
    MidP e s cs b :=
  ⟨fun hs => (m.1 ((coreEq_slot h).trans hs)).of_coreEq h, fun hs => (m.2 (fun e' => hs ((coreEq_slot h).symm.trans e'))).of_coreEq h⟩

theorem addValidCert_mid (e : Epoch) (p : Pool) (s : Nat) (c : Cert) (cs : List Cert) (he : p.epoch = e) (hpos : 0 < e.total)
    (hall : AllSlots p (MidP e s (c :: cs))) (hc : CertOk e c) (hs : c.slot = s) :
    AllSlots (p.addValidCert c).1 (MidP e s cs) ∧ (p.addValidCert c).1.epoch = e := by
  subst he
  have hinit : ∀ cs' x, MidP p.epoch s cs' { slot := x } := fun _ x => MidP.of_ok (SlotOk.init p.epoch x hpos)
  obtain ⟨h1, h2, h3⟩ := slotState_spec p c.slot _ hall (hinit _ _)
  apply addValidCert_tail p c (MidP p.epoch s cs) (hinit cs) (fun a b h m => m.of_coreEq h)
  · intro x hx hne
    exact ⟨fun he => absurd (he.trans hs.symm) hne, (h1 x hx).2⟩
  · have hsl : ((p.slotState c.slot).2.addCert c).slot = s :=
      (SameVotes.addCert _ c).slot.symm.trans (h3.trans hs)
    exact ⟨fun _ => (h2.1 (h3.trans hs)).addCert hc, fun hne => absurd hsl hne⟩

theorem addValidCerts_mid (e : Epoch) (p : Pool) (s : Nat) (cs : List Cert) (acc : List Event) (he : p.epoch = e)
    (hpos : 0 < e.total) (hall : AllSlots p (MidP e s cs)) (hc : ∀ c ∈ cs, CertOk e c ∧ c.slot = s) :
    AllSlots (p.addValidCerts cs acc).1 (MidP e s []) ∧ (p.addValidCerts cs acc).1.epoch = e := by
  induction cs generalizing p acc with
  | nil => exact ⟨hall, he⟩
  | cons c cs ih =>
    rw [addValidCerts_step]
    have h1 := addValidCert_mid e p s c cs he hpos hall (hc c List.mem_cons_self).1 (hc c List.mem_cons_self).2
    exact ih _ _ h1.2 h1.1 (fun x hx => hc x (List.mem_cons_of_mem c hx))

theorem Mid.voted {e : Epoch} {st : SlotState} {v : Vote} (hst : SlotOk e st) (ha : Adm st v) :
    Mid e (st.addVote e v).2.1 (st.addVote e v).1 := by
  rw [addVote_certs]
  exact (⟨stored_InvV e _ v hst.1.1 ha, fun c hc => hst.2 c ((stored_same e st v).certs ▸ hc), pending_stored e _ v hst.1.2⟩ :
    Mid e _ (st.stored e v)).of_coreEq (addVote_core e st v)

theorem addVote_certs_ok {e : Epoch} {st : SlotState} {v : Vote} (hst : SlotOk e st) (ha : Adm st v) :
    ∀ c ∈ (st.addVote e v).2.1, CertOk e c ∧ c.slot = st.slot := by
  intro c hc
  rw [addVote_certs] at hc
  have j := newCerts_justified e _ v (stored_InvV e _ v hst.1.1 ha) c hc
  exact ⟨CertOk.of_justified j, j.1.trans (stored_same e st v).slot⟩

theorem addVote_ok (p : Pool) (v : Vote) (hok : PoolOk p) : PoolOk (p.addVote v).1 := by
  rcases addVote_outcomes p v with h | ⟨_, h⟩ | ⟨vd, _, _, h⟩ | ⟨_, ha, h⟩ <;> rw [h] <;> dsimp only
  · exact hok
  · exact hok
  · exact hok.slotState _
  · have hst := hok.slotState_snd v.slot
    have hsl : (p.slotState v.slot).2.slot = v.slot := slotState_snd_slot p v.slot
    have hslot : ((p.slotState v.slot).2.addVote p.epoch v).1.slot = v.slot := by
      rw [← coreEq_slot (addVote_core _ _ v), (stored_same _ _ v).slot]; exact hsl
    have hput : AllSlots (p.voted v) (MidP p.epoch v.slot ((p.slotState v.slot).2.addVote p.epoch v).2.1) :=
      allSlots_putSlot _ _ _ (fun x hx _ => MidP.of_ok (hok.slotState_slots v.slot x hx))
        ⟨fun _ => Mid.voted hst ha, fun hne => absurd hslot hne⟩
    have := addValidCerts_mid p.epoch (p.voted v) v.slot _ [] (mod_frame p v.slot _).epoch hok.1 hput
      (fun c hc => hsl ▸ addVote_certs_ok hst ha c hc)
    exact hok.of_slots this.2 (fun st hm => (this.1 st hm).nil_ok)

/-- `hc`: the certificate passed `ValidatedCert::try_new` -/
theorem addCert_ok (p : Pool) (c : Cert) (hok : PoolOk p) (hc : CertOk p.epoch c) : PoolOk (p.addCert c).1 :=
  (addCert_ind (fun q => PoolOk q ∧ q.epoch = p.epoch) p c
    (fun s h => ⟨h.1.slotState s, (slotState_frame p s).epoch⟩)
    (fun _ q h => ⟨addValidCert_ok q c h.1 (h.2 ▸ hc), (addValidCert_epoch q c).trans h.2⟩) ⟨hok, rfl⟩).1

theorem addBlock_ok (p : Pool) (b par : Nat × Nat) (hok : PoolOk p) : PoolOk (p.addBlock b par).1 :=
  hok.of_slots (poolStep_fst_epoch p (.block b par))
    (allSlots_addBlock _ (fun x => SlotOk.init p.epoch x hok.1) (fun _ _ h m => m.of_coreEq h) p b par hok.2
      (fun st h => slotStep_ok _ st (.parentKnown b.2) h (fun c h => by cases h)))

theorem PoolOk.init (e : Epoch) (hpos : 0 < e.total) : PoolOk { epoch := e } :=
  ⟨hpos, fun st hm => by simp at hm⟩

theorem poolStep_ok (p : Pool) (op : PoolOp) (hok : PoolOk p) (hrecv : ∀ c, op = .cert c → CertOk p.epoch c) :
    PoolOk (poolStep p op).1 := by
  cases op with
  | vote v => exact addVote_ok p v hok
  | cert c => exact addCert_ok p c hok (hrecv c rfl)
  | block b par => exact addBlock_ok p b par hok

/-- **Every reachable pool satisfies the pool invariant**: it is kept by any sequence of votes, certificates
    (validated: `CertOk`) and block registrations; the empty pool has it (`PoolOk.init`). -/
theorem poolRun_ok (ops : List PoolOp) (p : Pool) (hok : PoolOk p)
    (hrecv : ∀ c, PoolOp.cert c ∈ ops → CertOk p.epoch c) :
    PoolOk (poolRun p ops).1 ∧ (poolRun p ops).1.epoch = p.epoch := by
  induction ops generalizing p with
  | nil => exact ⟨hok, rfl⟩
  | cons op ops ih =>
    have h1 := poolStep_ok p op hok (fun c hc => hrecv c (by simp [hc]))
    have h2 := poolStep_fst_epoch p op
    have := ih (poolStep p op).1 h1 (by rw [h2]; exact fun c hc => hrecv c (by simp [hc]))
    simp only [poolRun]
    exact ⟨this.1, this.2.trans h2⟩

end AgModel.Pool
