import AgModel.Spec.Cluster
/-!
# C02 — the timely (lock-step) schedule of the cluster of executable model nodes: definitions

Once the network is timely, every message a correct node broadcasts reaches every correct node before any timeout for the
slot fires. At the level of the cluster model (`Spec/Cluster.lean`) such a run is, up to the order of independent
deliveries, the *lock-step* schedule defined here as executable functions on cluster states:

* `deliverBlock c b`: the block `b = (slot, hash)` with its parent `c.parentOf b` reaches pool and Votor of every correct node;
* `pumpAll c st`: every correct node's Votor drains its queue of pool events;
* `exchange c lo st`: every vote for a slot `≥ lo` (the slot being decided; older slots are settled) that the Votor of a
  correct node has broadcast so far is delivered to the pool of every correct node — also to the sender's own pool, as
  `All2All::broadcast` does (cf. the delivery loop of `harness/src/bin/cluster.rs`); re-deliveries are duplicates for the pool;
* `deliverTimeouts c ts`: the timeouts of the slots `ts` fire at every correct node.

Only the nodes of correct validators with an index `< n` take part (`correctIds`); Byzantine validators are silent in the
schedule itself (with their messages mixed in, only the order-independence and monotonicity statements of Stage C of
`Props/C02Cluster.lean` are proved).
-/
namespace AgModel.Cluster
open AgModel AgModel.Node AgModel.NodePanic AgModel.Pool

def correctIds (c : Cfg) : List Nat := (List.range c.n).filter c.correct

def correctStake (c : Cfg) : Nat := stakeOf (c.epoch 0) (correctIds c)

def voteOfOut (j : Nat) : Votor.Out → Option Pool.Vote
  | .notar s h _ _ => some ⟨.notar, s, h, j⟩
  | .skip s => some ⟨.skip, s, 0, j⟩
  | .final s => some ⟨.final, s, 0, j⟩
  | .notarFallback s h => some ⟨.nf, s, h, j⟩
  | .skipFallback s => some ⟨.sf, s, 0, j⟩
  | _ => none

/-- oldest first (`outsOf` reverses the log) -/
def votesOf (lo j : Nat) (log : List Votor.Item) : List Pool.Vote :=
  ((outsOf log).filterMap (voteOfOut j)).filter (fun v => decide (lo ≤ v.slot))

def inbox (c : Cfg) (lo : Nat) (st : State) : List NodeOp :=
  (correctIds c).flatMap (fun j => (votesOf lo j (st j).votor.log).map NodeOp.recvVote)

def at_ (i : Nat) (ops : List NodeOp) : List Ev := ops.map (fun op => (i, op))

def allNodes (c : Cfg) (ops : Nat → List NodeOp) : List Ev := (correctIds c).flatMap (fun i => at_ i (ops i))

def blockOps (c : Cfg) (b : Nat × Nat) : List NodeOp :=
  [.poolBlock b (c.parentOf b), .votorBlock b.1 ⟨b.2, (c.parentOf b).1, (c.parentOf b).2⟩]

def deliverBlock (c : Cfg) (b : Nat × Nat) : List Ev := allNodes c (fun _ => blockOps c b)

def pumpAll (c : Cfg) (st : State) : List Ev := allNodes c (fun i => List.replicate (st i).queue.length NodeOp.pump)

def exchange (c : Cfg) (lo : Nat) (st : State) : List Ev := allNodes c (fun _ => inbox c lo st)

def deliverTimeouts (c : Cfg) (ts : List Nat) : List Ev := allNodes c (fun _ => ts.map NodeOp.timeout)

def round (c : Cfg) (lo : Nat) (st : State) : List Ev :=
  exchange c lo st ++ pumpAll c (run st (exchange c lo st))

def fastSched (c : Cfg) (b : Nat × Nat) (st : State) : List Ev :=
  let d := deliverBlock c b
  let p := pumpAll c (run st d)
  d ++ p ++ round c b.1 (run st (d ++ p))

/-- the round of `fastSched` carries the notarization votes, the second one the finalization votes -/
def slotSched (c : Cfg) (b : Nat × Nat) (st : State) : List Ev :=
  let f := fastSched c b st
  f ++ round c b.1 (run st f)

def windowSched (c : Cfg) : List (Nat × Nat) → State → List Ev
  | [], _ => []
  | b :: bs, st => slotSched c b st ++ windowSched c bs (run st (slotSched c b st))

/-- a silent leader: timeouts instead of a block; the round carries the skip votes -/
def skipSched (c : Cfg) (lo : Nat) (ts : List Nat) (st : State) : List Ev :=
  let d := deliverTimeouts c ts
  d ++ round c lo (run st d)

end AgModel.Cluster
