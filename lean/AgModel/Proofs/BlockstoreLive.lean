import AgModel.Proofs.BlockstoreHonest
/-!
Liveness of reconstruction for a correct leader's block: on top of `Good` (everything held is the leader's)
the invariant `Extra` says that an incomplete block still misses something — so once every shred of every
slice is stored the block *is* completed. Used by `Proofs/RepairRun.lean` for `repair_completes` (C14,
`Props/C14Live.lean`).
-/
namespace AgModel.Blockstore
open HBlock

theorem total_shreds_eq : TOTAL_SHREDS = 64 := rfl
theorem data_shreds_eq : DATA_SHREDS = 32 := rfl

def Stored (b : BlockData) (i j : Nat) : Prop := ∃ arr, b.shreds i = some arr ∧ (arr j).isSome

theorem present_short_missing (arr : ShredArr) (h : (present arr).length < DATA_SHREDS) :
    ∃ j, j < TOTAL_SHREDS ∧ arr j = none := by
  rcases Decidable.em (∃ j, j < TOTAL_SHREDS ∧ arr j = none) with hex | hno
  · exact hex
  · exfalso
    have hall : ∀ j, j < TOTAL_SHREDS → (arr j).isSome := by
      intro j hj
      cases harr : arr j with
      | none => exact absurd ⟨j, hj, harr⟩ hno
      | some x => rfl
    have : (present arr).length = TOTAL_SHREDS := by
      unfold present
      rw [List.length_filterMap_eq_countP]
      exact mapLen_eq_of_all arr TOTAL_SHREDS hall
    rw [this, total_shreds_eq, data_shreds_eq] at h
    omega

/-- what an incomplete block of a correct leader still misses -/
structure Extra (B : HBlock) (b : BlockData) : Prop where
  miss : b.completed = none → ∀ i arr, i < B.n → b.slices i = none → b.shreds i = some arr →
    ∃ j, j < TOTAL_SHREDS ∧ arr j = none
  open_ : b.completed = none → ∃ i, i < B.n ∧ b.slices i = none
  /-- the last slice is only reconstructed after the last-slice marker was seen -/
  sl : (b.slices (B.n - 1)).isSome → b.lastSlice.isSome

structure Live (B : HBlock) (cap : Nat) (b : BlockData) : Prop where
  good : Good B cap b
  extra : Extra B b

theorem extra_new (B : HBlock) (cap : Nat) (hn : 0 < B.n) : Extra B (BlockData.new cap B.slot) := by
  constructor
  · intro _ i arr _ _ h; simp [BlockData.new] at h
  · intro _; exact ⟨0, hn, rfl⟩
  · intro h; simp [BlockData.new] at h

theorem live_new (B : HBlock) (cap : Nat) (hn : 0 < B.n) : Live B cap (BlockData.new cap B.slot) :=
  ⟨good_new B cap, extra_new B cap hn⟩

/-- stages 1 and 2 keep what an incomplete block misses: the marker goes on the block's last slice, so nothing of the
    block is dropped -/
theorem extra_staged {B : HBlock} {b : BlockData} {s : Shred} (hs : B.Honest s) (he : Extra B b) :
    Extra B (B.staged b s) ∧ (s.isLast = true → (B.staged b s).lastSlice.isSome) ∧
      ∀ i, i < B.n → (B.staged b s).shreds i = b.shreds i := by
  unfold HBlock.staged
  split
  · rename_i hc
    have hret : ∀ {α : Type} (f : Nat → Option α) i, i < B.n → retainLe f s.slice i = f i :=
      fun f i hi => retainLe_of_le f (by omega)
    refine ⟨⟨fun hc i arr hi hsl hsh => ?_, fun hc => ?_, fun _ => rfl⟩, fun _ => rfl, fun i hi => hret _ i hi⟩
    · exact he.miss hc i arr hi ((hret _ i hi).symm.trans hsl) ((hret _ i hi).symm.trans hsh)
    · obtain ⟨i, hi, hsl⟩ := he.open_ hc
      exact ⟨i, hi, (hret _ i hi).trans hsl⟩
  · rename_i hc
    refine ⟨⟨he.miss, he.open_, he.sl⟩, fun hl => ?_, fun _ _ => rfl⟩
    have hn : s.slice + 1 = B.n := of_decide_eq_true ((congrArg Shred.isLast hs.2.2).symm.trans hl)
    exact Option.isSome_iff_ne_none.mpr fun h => hc ⟨hn, h⟩

/-- after a shred was stored only its own slice needs a new reason for being incomplete -/
theorem extra_insertShred {B : HBlock} {b : BlockData} {s : Shred} (he : Extra B b)
    (hr : b.completed = none → b.slices s.slice = none →
      ∃ j, j < TOTAL_SHREDS ∧ upd ((b.shreds s.slice).getD arrEmpty) s.idx (some s) j = none) :
    Extra B (insertShred b s) := by
  refine ⟨fun hc i arr hi hsl hsh => ?_, he.open_, he.sl⟩
  by_cases hii : i = s.slice
  · subst hii
    cases (insertShred_same b s).symm.trans hsh
    exact hr hc hsl
  · exact he.miss hc i arr hi hsl ((insertShred_other b s hii).symm.trans hsh)

theorem reconstruct_extra {B : HBlock} {env : Nat → Content} {cap : Nat} (hwf : B.WF env cap)
    {b : BlockData} {s : Shred} (hg : Good B cap b) (hs : B.Honest s) (he : Extra B b)
    (hlast : s.isLast = true → b.lastSlice.isSome) :
    Extra B (reconstruct env (insertShred b s) s.slice).1 ∧
      ∀ i j, Stored (insertShred b s) i j → Stored (reconstruct env (insertShred b s) s.slice).1 i j := by
  have hnpos := hwf.npos
  have hi := hs.1
  have hg1 := insertShred_good hg hs
  have harr := insertShred_same b s
  rw [reconstruct_own hwf.cut hg hs]
  split
  · -- nothing happens: an open, undecoded slice is still short of shreds
    rename_i h
    exact ⟨extra_insertShred he fun hc hsl => present_short_missing _
      ((h.resolve_left (by rw [hc]; nofun)).resolve_left (by rw [hsl]; nofun)), fun _ _ h => h⟩
  · rename_i h
    have hc : b.completed = none := by simpa using fun h' => h (Or.inl h')
    -- the slice is decoded and refilled; `try_reconstruct_block` runs on this state
    have hg2 := good_decoded hg1 hi
    have hst : ∀ i j, Stored (insertShred b s) i j → Stored (B.decoded (insertShred b s) s.slice) i j := by
      rintro i j ⟨a, ha, hj⟩
      by_cases hii : i = s.slice
      · cases hii; cases harr.symm.trans ha
        refine ⟨_, upd_same, ?_⟩
        obtain ⟨x, haj⟩ := Option.isSome_iff_exists.mp hj
        unfold fullArr; rw [if_pos ((hg1.shreds _ _ harr).2 j x haj).1]; rfl
      · exact ⟨a, (upd_other hii).trans ha, hj⟩
    have hsl2 : ((B.decoded (insertShred b s) s.slice).slices (B.n - 1)).isSome → b.lastSlice.isSome := by
      intro h
      change (upd b.slices s.slice _ (B.n - 1)).isSome at h
      by_cases hii : B.n - 1 = s.slice
      · exact hlast (by rw [congrArg Shred.isLast hs.2.2]; exact decide_eq_true (by omega))
      · rw [upd_other hii] at h; exact he.sl h
    rcases tryReconstructBlock_good hwf.cut hg2 with ⟨e, hwhy⟩ | ⟨hl, _, e⟩ <;> rw [e]
    · refine ⟨⟨fun h i a hi' hsl' hsh' => ?_, fun _ => ?_, hsl2⟩, hst⟩
      · by_cases hii : i = s.slice
        · rw [hii] at hsl'; exact nomatch (upd_same (f := b.slices) (k := s.slice)).symm.trans hsl'
        · exact he.miss h i a hi' ((upd_other hii).symm.trans hsl')
            ((insertShred_other b s hii).symm.trans ((upd_other hii).symm.trans hsh'))
      · -- the block stays open for want of a slice; without the marker the last slice is not reconstructed
        rcases hwhy with h | h | h
        · rw [show (B.decoded (insertShred b s) s.slice).completed = none from hc] at h; cases h
        · refine ⟨B.n - 1, by omega, Option.not_isSome_iff_eq_none.mp fun h' => ?_⟩
          have := hsl2 h'
          rw [show b.lastSlice = none from h] at this; cases this
        · exact h
    · rw [if_pos hwf.pslot]
      exact ⟨⟨nofun, nofun, fun _ => congrArg Option.isSome hl⟩, hst⟩

theorem storeStep_extra {B : HBlock} {env : Nat → Content} {cap : Nat} (hwf : B.WF env cap)
    {b : BlockData} {s : Shred} (hg : Good B cap b) (hs : B.Honest s) (he : Extra B b)
    (hlast : s.isLast = true → b.lastSlice.isSome) :
    Extra B (storeStep env b s).1 ∧ (∀ i j, Stored b i j → Stored (storeStep env b s).1 i j) ∧
      Stored (storeStep env b s).1 s.slice s.idx := by
  have hgrow : ∀ i j, Stored b i j → Stored (insertShred b s) i j := by
    rintro i j ⟨a, ha, hj⟩
    by_cases hii : i = s.slice
    · cases hii
      refine ⟨_, insertShred_same b s, ?_⟩
      rw [ha, Option.getD_some]
      by_cases hjs : j = s.idx
      · rw [hjs, upd_same]; rfl
      · rw [upd_other hjs]; exact hj
    · exact ⟨a, (insertShred_other b s hii).trans ha, hj⟩
  have hnew : Stored (insertShred b s) s.slice s.idx := ⟨_, insertShred_same b s, by rw [upd_same]; rfl⟩
  rcases storeStep_cases env b s with ⟨e, arr, h1, h2⟩ | ⟨_, ⟨hfirst, e⟩ | ⟨_, e⟩⟩ <;> rw [e]
  · exact ⟨he, fun _ _ h => h, arr, h1, h2⟩
  · -- the very first shred of the block: its slice misses another position
    have hnone : b.shreds s.slice = none :=
      (mapEmpty_iff _ _).mp hfirst s.slice (by have := hwf.ncap; have := hg.hcap; have := hs.1; omega)
    refine ⟨extra_insertShred he fun _ _ => ?_, hgrow, hnew⟩
    rw [hnone]
    by_cases h0 : s.idx = 0
    · exact ⟨1, by rw [total_shreds_eq]; omega, by rw [upd_other (by omega)]; rfl⟩
    · exact ⟨0, by rw [total_shreds_eq]; omega, by rw [upd_other (fun h => h0 h.symm)]; rfl⟩
  · have hR := reconstruct_extra hwf hg hs he hlast
    exact ⟨hR.1, fun i j hst => hR.2 i j (hgrow i j hst), hR.2 _ _ hnew⟩

/-- **The liveness invariant is preserved by every shred of the leader**, stored shreds stay stored and
    the new one is stored. -/
theorem addShred_live (B : HBlock) (env : Nat → Content) (cap : Nat) (hwf : B.WF env cap)
    (b : BlockData) (s : Shred) (hl : Live B cap b) (hs : B.Honest s) :
    Live B cap (addShredCore env b s).1 ∧ (∀ i j, Stored b i j → Stored (addShredCore env b s).1 i j) ∧
      Stored (addShredCore env b s).1 s.slice s.idx := by
  obtain ⟨hg, he⟩ := hl
  obtain ⟨he2, hlast, hsh2⟩ := extra_staged hs he
  have hg2 := good_staged hg hs
  have h3 := storeStep_extra hwf hg2 hs he2 hlast
  rw [addShredCore_own hg hs]
  refine ⟨⟨(storeStep_good hwf hg2 hs).1, h3.1⟩, fun i j hst => h3.2.1 i j ?_, h3.2.2⟩
  obtain ⟨a, ha, hj⟩ := hst
  exact ⟨a, (hsh2 i (hg.shreds i a ha).1).trans ha, hj⟩

/-- **Reconstruction is live**: a leader's block of which every shred is stored is completed. -/
theorem live_all_stored_completed (B : HBlock) (cap : Nat) (b : BlockData) (hl : Live B cap b)
    (hall : ∀ i j, i < B.n → j < TOTAL_SHREDS → Stored b i j) : b.completed = some B.block := by
  cases hc : b.completed with
  | some blk => rw [hl.good.completed blk hc]
  | none =>
    exfalso
    obtain ⟨i, hi, hsl⟩ := hl.extra.open_ hc
    obtain ⟨arr, harr, _⟩ := hall i 0 hi (by rw [total_shreds_eq]; omega)
    obtain ⟨j, hj, hnone⟩ := hl.extra.miss hc i arr hi hsl harr
    obtain ⟨arr', harr', hsome⟩ := hall i j hi hj
    rw [harr] at harr'; simp at harr'; subst harr'
    simp [hnone] at hsome

end AgModel.Blockstore
