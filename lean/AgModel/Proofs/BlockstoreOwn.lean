import AgModel.Proofs.BlockstoreExactRun
/-! The leader's fast path `add_own_slice`, computed directly: after the slices `0..k-1` the store is `ownState k`, and
    the last slice assembles the block into the state a follower ends in (core Lean only). -/
namespace AgModel.Blockstore

/-- the leader's store after it wrote its slices `0..k-1`, the last one not among them -/
def ownState (B : HBlock) (cap k : Nat) : BlockData :=
  { cap := cap, slot := B.slot, completed := none,
    shreds := fun i => if i < k then some (B.fullArr i) else none,
    slices := fun i => if i < k then some (B.rslice i) else none,
    lastSlice := none, tree := none,
    cache := fun i => if i < k then some (B.commit i) else none }

theorem upd_lt {α : Type} (g : Nat → α) (k : Nat) :
    upd (fun i => if i < k then some (g i) else none) k (some (g k)) = fun i => if i < k + 1 then some (g i) else none := by
  funext i
  by_cases hi : i = k
  · rw [hi, upd_same, if_pos (Nat.lt_succ_self k)]
  · rw [upd_other hi]
    exact ite_iff ⟨fun h => by omega, fun h => by omega⟩ _ _

theorem retainLe_lt {α : Type} (g : Nat → α) (k : Nat) :
    retainLe (fun i => if i < k then some (g i) else none) k = fun i => if i < k then some (g i) else none := by
  funext i
  by_cases hi : i ≤ k
  · exact retainLe_of_le _ hi
  · rw [retainLe_of_lt _ (by omega), if_neg (by omega)]

theorem addOwnSlice_ownState {B : HBlock} {env : Nat → Content} {cap : Nat} (hwf : B.WF env cap) {k : Nat} (hk : k < B.n) :
    addOwnSlice (ownState B cap k) (B.commit k) (B.sz k) (B.parent k) (some (B.txs k)) =
      (if k + 1 = B.n then canonFull B cap else ownState B cap (k + 1),
       some (decide (k = 0), if k + 1 = B.n then some B.block.info else none)) := by
  have hfirst : mapEmpty cap (ownState B cap k).shreds = decide (k = 0) := by
    rw [Bool.eq_iff_iff, mapEmpty_iff, decide_eq_true_eq]
    constructor
    · intro h
      have h0 : (if 0 < k then some (B.fullArr 0) else none) = none := h 0 (by have := hwf.ncap; omega)
      by_cases hk0 : k = 0
      · exact hk0
      · rw [if_pos (by omega)] at h0; cases h0
    · intro h i _
      exact if_neg (by omega)
  rw [addOwnSlice_eq, if_neg (by nofun)]
  by_cases hkn : k + 1 = B.n
  · -- the last slice: marker, then the block is assembled
    have hk1 : k = B.n - 1 := by omega
    have hcom : (B.commit k).isLast = true := decide_eq_true hkn
    have hS : ownInsert (ownState B cap k) (B.commit k) (B.sz k) (B.parent k) (some (B.txs k)) =
        { ownState B cap B.n with lastSlice := some (B.n - 1) } := by
      unfold ownInsert
      rw [if_pos hcom]
      exact BlockData.ext rfl rfl rfl
        ((congrArg (upd · k _) (retainLe_lt B.fullArr k)).trans ((upd_lt B.fullArr k).trans (by rw [hkn]; rfl)))
        ((congrArg (upd · k _) (retainLe_lt B.rslice k)).trans ((upd_lt B.rslice k).trans (by rw [hkn]; rfl)))
        (congrArg some hk1) rfl ((upd_lt B.commit k).trans (by rw [hkn]; rfl))
    rw [hS, if_pos hkn, if_pos hkn,
      tryReconstructBlock_own hwf.cut hwf.ncap rfl rfl rfl (fun i hi => if_pos hi) (fun i hi => if_neg (by omega)),
      if_pos hwf.pslot]
    refine Prod.ext (BlockData.ext rfl rfl rfl rfl ?_ rfl rfl rfl) (by rw [← hfirst]; rfl)
    funext i
    change (if i ≤ B.n - 1 then none else if i < B.n then some (B.rslice i) else none) = none
    split
    · rfl
    · exact if_neg (by omega)
  · have e : ownInsert (ownState B cap k) (B.commit k) (B.sz k) (B.parent k) (some (B.txs k)) = ownState B cap (k + 1) := by
      unfold ownInsert
      rw [if_neg (show ¬ (B.commit k).isLast = true from fun h => hkn (of_decide_eq_true h))]
      exact BlockData.ext rfl rfl rfl (upd_lt B.fullArr k) (upd_lt B.rslice k) rfl rfl (upd_lt B.commit k)
    rw [e, if_neg hkn, if_neg hkn]
    rcases tryReconstructBlock_cases (ownState B cap (k + 1)) with ⟨e', _⟩ | ⟨_, _, hl, _⟩
    · rw [e', ← hfirst]; rfl
    · cases hl

def ownStep (B : HBlock) (sd : SlotData) (i : Nat) : SlotData × Option (Option BlockInfo) × List Event :=
  addOwn sd (B.commit i) (B.sz i) (B.parent i) (some (B.txs i))

/-- the leader's fast path over a list of slice indices: final state, "no panic", events in order -/
def ownRun (B : HBlock) : SlotData → List Nat → SlotData × Bool × List Event
  | sd, [] => (sd, true, [])
  | sd, i :: rest =>
    let r := ownStep B sd i
    let r' := ownRun B r.1 rest
    (r'.1, r.2.1.isSome && r'.2.1, r.2.2 ++ r'.2.2)

theorem ownStep_ownState {B : HBlock} {env : Nat → Content} {cap : Nat} (hwf : B.WF env cap) (k : Nat) (hk : k < B.n) :
    ownStep B ⟨ownState B cap k, [], false⟩ k =
      (⟨if k + 1 = B.n then canonFull B cap else ownState B cap (k + 1), [], false⟩,
       some (if k + 1 = B.n then some B.block.info else none),
       (if k = 0 then [.firstShred] else []) ++ (if k + 1 = B.n then [.block B.block.info] else [])) := by
  unfold ownStep addOwn
  rw [addOwnSlice_ownState hwf hk]
  by_cases hkn : k + 1 = B.n <;> simp only [hkn, if_true, if_false] <;> simp

/-- **The leader's fast path** (all `n` slices through `add_own_slice`, in order, into a fresh slot):
    never panics, announces `[FirstShred, Block]`, and ends in the canonical completed state. -/
theorem ownRun_fresh {B : HBlock} {env : Nat → Content} {cap : Nat} (hwf : B.WF env cap) :
    ownRun B (SlotData.new cap B.slot) (List.range B.n) =
      (⟨canonFull B cap, [], false⟩, true, [.firstShred, .block B.block.info]) := by
  -- the slices `k..n-1` on top of the slices `0..k-1`
  have hrun : ∀ m k, k + m = B.n → 0 < m →
      ownRun B ⟨ownState B cap k, [], false⟩ (List.range' k m) =
        (⟨canonFull B cap, [], false⟩, true, (if k = 0 then [.firstShred] else []) ++ [.block B.block.info]) := by
    intro m
    induction m with
    | zero => intro k _ h; cases h
    | succ m ih =>
      intro k hkm _
      rw [show List.range' k (m + 1) = k :: List.range' (k + 1) m from rfl, ownRun,
        ownStep_ownState hwf k (by omega)]
      by_cases hm : m = 0
      · subst hm
        rw [if_pos hkm, if_pos hkm, if_pos hkm]
        simp [ownRun]
      · have hkn : ¬ k + 1 = B.n := by omega
        rw [if_neg hkn, if_neg hkn, if_neg hkn, ih (k + 1) (by omega) (by omega), if_neg (Nat.succ_ne_zero k)]
        simp
  have h0 : SlotData.new cap B.slot = ⟨ownState B cap 0, [], false⟩ := rfl
  rw [h0, List.range_eq_range', hrun B.n 0 (by omega) hwf.npos]
  rfl

end AgModel.Blockstore
