import AgModel.Proofs.ClusterLog
import AgModel.Props.C07
import AgModel.Props.C10
/-!
# C10 cluster composition, part 3: no node of a valid cluster run ever dies

* `poolOps`, `logOf`, `poolOf`: the pool operations among the operations of node `i`, the run of an empty pool over them and
  its ghost log;
* `Admitted`: the two facts about the inputs of a pool that are established *before* the pool is called, outside the
  cluster model — a vote names a validator index (signature validation, C09: `add_vote` indexes the validator table with
  it), a registered block has its parent in an earlier slot (the blockstore, C13 `announced_block_wellformed`:
  `add_block`'s `assert!(block_id.0 > parent_id.0)`);
* `logOk_of_valid`: every item of the ghost log is backed by what has been signed by the end of the run / agrees with
  `parentOf` (`LogOk`) — a fact of the pool run and the final signatures, no induction along the cluster run; hence the ghost
  log is `Consistent` (`consistent_of_logOk`, with the safety theorems for the run) and the run of the pool over the
  operations delivered to the node emits no `.panic` event (`cluster_quiet`: C07 `pool_never_panics`);
* `nodeRun_alive`: a node none of whose pool operations emits `.panic` and whose Votor never panics (`votor_never_panics`)
  stays alive, and no operation is skipped: its pool is that run. `cluster_alive` is this for the projection of the cluster
  run to the node.
-/
namespace AgModel.Cluster
open AgModel AgModel.Node AgModel.NodePanic AgModel.Pool AgModel.Spec

/-- the pool operation a node operation performs -/
def poolOpOf : NodeOp → Option PoolOp
  | .recvVote v => some (.vote v)
  | .recvCert x => some (.cert x)
  | .poolBlock b p => some (.block b p)
  | _ => none

def poolOps (ops : List NodeOp) : List PoolOp := ops.filterMap poolOpOf

def poolOf (c : Cfg) (i : ℕ) (evs : List Ev) : Pool × List Pool.Event :=
  poolRun { epoch := c.epoch i } (poolOps (proj i evs))

/-- the ghost log of node `i`'s pool: block registrations and `CertCreated` events, in order -/
def logOf (c : Cfg) (i : ℕ) (evs : List Ev) : List LogItem :=
  poolLog { epoch := c.epoch i } (poolOps (proj i evs))

/-- what is established about an input before the pool is called (outside the cluster model): a vote names a validator
    index (signature validation), a registered block has its parent in an earlier slot (blockstore) -/
def WireOk (c : Cfg) (ev : Ev) : Prop :=
  match ev.2 with
  | .recvVote v => v.signer < c.n
  | .poolBlock b p => p.1 < b.1
  | _ => True

instance (c : Cfg) (ev : Ev) : Decidable (WireOk c ev) := by
  unfold WireOk
  cases ev.2 <;> infer_instance

def Admitted (c : Cfg) (evs : List Ev) : Prop := ∀ ev ∈ evs, WireOk c ev

instance (c : Cfg) (evs : List Ev) : Decidable (Admitted c evs) := by unfold Admitted; infer_instance

theorem WireOk.poolOp {c : Cfg} {k : ℕ} {op : NodeOp} {pop : PoolOp} (h : WireOk c (k, op)) (hop : poolOpOf op = some pop) :
    match pop with
    | .vote v => v.signer < c.n
    | .block b p => p.1 < b.1
    | .cert _ => True := by
  cases op <;> cases hop <;> exact h

theorem opOk_of_nodeOk {S : SigLog} {e : Epoch} {par : Nat × Nat → Nat × Nat} {op : NodeOp} {pop : PoolOp}
    (hop : poolOpOf op = some pop) (hok : NodeOk S e par op) : OpOk S e par pop := by
  cases op <;> cases hop <;> exact hok

theorem enqueue_pool (n : Node) (evs : List Pool.Event) : (enqueue n evs).pool = n.pool := by
  unfold enqueue; split <;> rfl

theorem nodeStep_votor (n : Node) (op : NodeOp) (hop : poolOpOf op = none) (h : n.dead = false) :
    (nodeStep n op).pool = n.pool ∧ ((nodeStep n op).votor.panicked = false → (nodeStep n op).dead = false) := by
  have hv : ∀ (m : Node) ve, m.pool = n.pool → m.dead = false →
      (votorStep m ve).1.pool = n.pool ∧ ((votorStep m ve).1.votor.panicked = false → (votorStep m ve).1.dead = false) := by
    intro m ve hp hd
    unfold votorStep
    rw [hd]
    exact ⟨hp, id⟩
  cases op with
  | recvVote _ | recvCert _ | poolBlock _ _ => cases hop
  | pump =>
    exact pump_ind (C := fun r => r.1.pool = n.pool ∧ (r.1.votor.panicked = false → r.1.dead = false)) n ⟨rfl, fun _ => h⟩
      fun _ _ _ => ⟨⟨rfl, fun _ => h⟩, fun ve _ => hv _ ve rfl h⟩
  | _ => exact hv n _ rfl h

theorem nodeStep_pool (n : Node) (op : NodeOp) (pop : PoolOp) (hop : poolOpOf op = some pop) (h : n.dead = false) :
    (nodeStep n op).pool = (poolStep n.pool pop).1 ∧
    (Pool.Event.panic ∉ (poolStep n.pool pop).2 → (nodeStep n op).dead = false) := by
  have e : nodeStep n op = poolNode n pop := by
    cases op <;> cases hop
    exacts [nodeStep_recvVote n _, nodeStep_recvCert n _, nodeStep_poolBlock n _ _]
  rw [e, poolNode, if_neg (by rw [h]; exact Bool.false_ne_true)]
  refine ⟨enqueue_pool _ _, fun hp => ?_⟩
  unfold enqueue
  rw [if_neg fun hc => hp (List.contains_iff_mem.mp hc)]
  exact h

/-- Votor of a cluster node never panics (C10 `votor_never_panics` on the projection of the run) -/
theorem cluster_votor_ok (c : Cfg) (evs : List Ev) (i : ℕ) : (run (init c) evs i).votor.panicked = false := by
  rw [run_proj]
  exact votor_never_panics (c.epoch i) (proj i evs)

theorem poolLog_logOk {c : Cfg} {s : State} {i : ℕ} (ops : List PoolOp) (p : Pool)
    (h : SgInv (sigOf c s) (c.epoch i) c.parentOf p)
    (hok : ∀ op ∈ ops, OpOk (sigOf c s) (c.epoch i) c.parentOf op ∧ ∀ b q, op = .block b q → q.1 < b.1) :
    LogOk c s i (poolLog p ops) := by
  induction ops generalizing p with
  | nil => exact fun _ h => nomatch h
  | cons op ops ih =>
    obtain ⟨hop, hw⟩ := hok op List.mem_cons_self
    refine LogOk.append (fun it hit => ?_)
      (ih _ (poolStep_sginv p op h hop).1 fun x hx => hok x (List.mem_cons_of_mem _ hx))
    rcases List.mem_append.mp hit with h' | h'
    · cases op <;> simp only [List.mem_singleton, List.not_mem_nil] at h'
      subst h'
      exact ⟨hop, hw _ _ rfl⟩
    · obtain ⟨e, he, hs'⟩ := List.mem_filterMap.mp h'
      cases e with
      | cert x => cases hs'; exact poolStep_certs p op h.slots hop x he
      | _ => cases hs'

/-- **The ghost log of every pool of a valid admitted run is backed** by what has been signed by the end: its operations are
    still admissible then (`valid_final`). -/
theorem logOk_of_valid (c : Cfg) (evs : List Ev) (hv : Valid c (init c) evs) (hw : Admitted c evs) (i : ℕ) :
    LogOk c (run (init c) evs) i (logOf c i evs) := by
  refine poolLog_logOk _ _ (SgInv.init _ _ _) fun pop hpop => ?_
  obtain ⟨op, hm, hop⟩ := List.mem_filterMap.mp hpop
  have hm := mem_proj hm
  exact ⟨opOk_of_nodeOk hop (valid_final c hv _ hm), fun b q e => (hw _ hm).poolOp (e ▸ hop)⟩

/-- **The ghost log of every pool of a valid admitted run is `Consistent`**: it is backed, and the history of the run is safe. -/
theorem consistent_of_valid (c : Cfg) (evs : List Ev) (hv : Valid c (init c) evs) (hw : Admitted c evs)
    (hbz : 5 * w (stakeFn c) (byz c) < total (stakeFn c)) (i : ℕ) : Consistent (logOf c i evs) :=
  consistent_of_logOk (cluster_setting c evs hv hbz) (votes_gok_run c evs hv hbz) (logOk_of_valid c evs hv hw i)

theorem cluster_quiet (c : Cfg) (evs : List Ev) (hv : Valid c (init c) evs) (hw : Admitted c evs)
    (hbz : 5 * w (stakeFn c) (byz c) < total (stakeFn c)) (i : ℕ) : Pool.Event.panic ∉ (poolOf c i evs).2 :=
  pool_never_panics (c.epoch i) _ (consistent_of_valid c evs hv hw hbz i) fun v hm => by
    obtain ⟨op, hm, hop⟩ := List.mem_filterMap.mp hm
    exact (hw _ (mem_proj hm)).poolOp hop

theorem nodeRun_alive (ops : List NodeOp) (n : Node) (hd : n.dead = false)
    (hv : ∀ ops, (nodeRun n ops).votor.panicked = false)
    (hq : Pool.Event.panic ∉ (poolRun n.pool (poolOps ops)).2) :
    (nodeRun n ops).dead = false ∧ (nodeRun n ops).pool = (poolRun n.pool (poolOps ops)).1 := by
  induction ops generalizing n with
  | nil => exact ⟨hd, rfl⟩
  | cons op ops ih =>
    have hv' : ∀ ops, (nodeRun (nodeStep n op) ops).votor.panicked = false := fun ops => hv (op :: ops)
    cases hop : poolOpOf op with
    | none =>
      obtain ⟨hp, hd'⟩ := nodeStep_votor n op hop hd
      rw [poolOps, List.filterMap_cons_none hop, ← hp] at hq ⊢
      exact ih _ (hd' (hv' [])) hv' hq
    | some pop =>
      obtain ⟨hp, hd'⟩ := nodeStep_pool n op pop hop hd
      rw [poolOps, List.filterMap_cons_some hop, poolRun, ← hp] at hq ⊢
      exact ih _ (hd' fun h => hq (List.mem_append_left _ h)) hv' fun h => hq (List.mem_append_right _ h)

theorem cluster_alive (c : Cfg) (evs : List Ev) (hv : Valid c (init c) evs) (hw : Admitted c evs)
    (hbz : 5 * w (stakeFn c) (byz c) < total (stakeFn c)) (i : ℕ) :
    (run (init c) evs i).dead = false ∧ (run (init c) evs i).pool = (poolOf c i evs).1 := by
  rw [run_proj]
  exact nodeRun_alive _ _ rfl (votor_never_panics (c.epoch i)) (cluster_quiet c evs hv hw hbz i)

end AgModel.Cluster
