import AgModel.Proofs.PoolS2NGlueFlag
/-! C06 at pool level: **every `.panic` event of a run comes from the finality tracker, the parent-ready tracker, the signer
    bound of `add_vote` or the slot-order assertion of `add_block`** — never from the `parent not known` panic of
    `notify_parent_certified`: by flag completeness (`FlagInv`) every block that is notified has its entry in `parents`.
    `trackerEvents` lists, per operation, the events produced at those other sites only (everything
    `notify_waiting_children`, `SlotState::add_vote` and `add_block`'s own `notify_parent_certified` emit is left out); they
    are among the real events and contain every panic (`poolRun_tracker`). -/
namespace AgModel.Pool

theorem s2sCheck_no_panic (e : Epoch) (st : SlotState) : Event.panic ∉ (st.s2sCheck e).2 := by
  unfold SlotState.s2sCheck; split <;> simp

theorem addVote_no_panic (e : Epoch) (st : SlotState) (v : Vote) : Event.panic ∉ (st.addVote e v).2.2 :=
  (checks_induction (e := e) (R := fun _ _ evs => Event.panic ∉ evs) (fun _ => List.not_mem_nil)
    (fun h1 h2 => List.not_mem_append h1 h2) (fun _ _ _ => s2nOut_no_panic _ _ _) (s2sCheck_no_panic e)).2.2.2 st v

/-! ### the events of the other panic sites, per operation -/

/-- the events `add_valid_cert(c)` gets from `handle_finalization` and from the parent-ready tracker -/
def Pool.certTrackerEvents (p : Pool) (c : Cert) : List Event :=
  match c.kind with
  | .notar =>
    ((p.stored c).handleFin (Finality.markNotarized (p.stored c).fin (c.slot, c.hash))).2 ++
    ((((p.stored c).handleFin (Finality.markNotarized (p.stored c).fin (c.slot, c.hash))).1.notifyWaiting (c.slot, c.hash)).1.applyPr
      (ParentReady.markNotarFallback
        (((p.stored c).handleFin (Finality.markNotarized (p.stored c).fin (c.slot, c.hash))).1.notifyWaiting (c.slot, c.hash)).1.pr
        (c.slot, c.hash))).2
  | .nf =>
    (((p.stored c).notifyWaiting (c.slot, c.hash)).1.applyPr
      (ParentReady.markNotarFallback ((p.stored c).notifyWaiting (c.slot, c.hash)).1.pr (c.slot, c.hash))).2
  | .skip => ((p.stored c).applyPr (ParentReady.markSkipped (p.stored c).pr c.slot)).2
  | .ff => ((p.stored c).handleFin (Finality.markFastFinalized (p.stored c).fin (c.slot, c.hash))).2
  | .final => ((p.stored c).handleFin (Finality.markFinalized (p.stored c).fin c.slot)).2

def Pool.certsTrackerEvents (p : Pool) : List Cert → List Event
  | [] => []
  | c :: cs => p.certTrackerEvents c ++ Pool.certsTrackerEvents (p.addValidCert c).1 cs

def trackerEvents (p : Pool) : PoolOp → List Event
  | .vote v =>
    match (p.addVote v).2.1 with
    | .ok => Pool.certsTrackerEvents ((p.slotState v.slot).1.putSlot ((p.slotState v.slot).2.addVote p.epoch v).1)
               ((p.slotState v.slot).2.addVote p.epoch v).2.1
    | .panic => [.panic]
    | _ => []
  | .cert c =>
    match (p.addCert c).2.1 with
    | .ok => (p.slotState c.slot).1.certTrackerEvents c
    | _ => []
  | .block b par =>
    if ¬ (b.1 > par.1) then [.panic]
    else match Finality.addParent p.fin b par with
      | .panic => [.panic]
      | .ok t ev => (({ p with fin := t } : Pool).applyPr (ParentReady.handleFinalization p.pr ev)).2

def trackerRun (p : Pool) : List PoolOp → List Event
  | [] => []
  | op :: ops => trackerEvents p op ++ trackerRun (poolStep p op).1 ops

/-- the pool on which `add_valid_cert(c)` calls `notify_waiting_children` -/
def Pool.beforeWake (p : Pool) (c : Cert) : Pool :=
  match c.kind with
  | .notar => ((p.stored c).handleFin (Finality.markNotarized (p.stored c).fin (c.slot, c.hash))).1
  | .ff => ((p.stored c).handleFin (Finality.markFastFinalized (p.stored c).fin (c.slot, c.hash))).1
  | _ => p.stored c

theorem FlagInv.beforeWake {R : List Reg} {p : Pool} (h : FlagInv R p) (c : Cert) : FlagMid R c (p.beforeWake c) := by
  have hfin : ∀ op, FlagMid R c ((p.stored c).handleFin (Finality.step (p.stored c).fin op)).1 :=
    fun op => handleFin_ind _ op (h.stored c) fun t r hm => (h.stored c).advance t r hm
  unfold Pool.beforeWake
  split
  · exact hfin (.notar (c.slot, c.hash))
  · exact hfin (.fastFinal (c.slot, c.hash))
  · exact h.stored c

theorem mem_addValidCert_events (p : Pool) (c : Cert) (ev : Event) :
    ev ∈ (p.addValidCert c).2 ↔
      ev ∈ p.certTrackerEvents c ∨ (c.strong ∧ ev ∈ ((p.beforeWake c).notifyWaiting (c.slot, c.hash)).2) ∨
      ((c.kind = .notar ∨ c.kind = .nf) ∧ ev = .repair c.slot c.hash) ∨ ev = .cert c := by
  unfold Pool.certTrackerEvents Pool.beforeWake Pool.stored Pool.addValidCert Cert.strong
  dsimp only
  generalize ((p.slotState c.slot).1.putSlot ((p.slotState c.slot).2.addCert c)) = p1
  cases hk : c.kind <;>
    simp only [List.mem_append, List.mem_singleton, List.not_mem_nil, reduceCtorEq, beq_self_eq_true, if_true, if_false,
      or_false, false_or, or_true, false_and, true_and, Bool.false_eq_true, show (CertKind.nf == CertKind.notar) = false from rfl]
  -- `simp` closes skip and final; for notar, nf, ff the two sides differ only in the order of the disjuncts
  · constructor
    · rintro ((((a | a) | a) | a) | a)
      · exact Or.inl (Or.inl a)
      · exact Or.inr (Or.inl a)
      · exact Or.inl (Or.inr a)
      · exact Or.inr (Or.inr (Or.inl a))
      · exact Or.inr (Or.inr (Or.inr a))
    · rintro ((a | a) | a | a | a)
      · exact Or.inl (Or.inl (Or.inl (Or.inl a)))
      · exact Or.inl (Or.inl (Or.inr a))
      · exact Or.inl (Or.inl (Or.inl (Or.inr a)))
      · exact Or.inl (Or.inr a)
      · exact Or.inr a
  · constructor
    · rintro (((a | a) | a) | a)
      · exact Or.inr (Or.inl a)
      · exact Or.inl a
      · exact Or.inr (Or.inr (Or.inl a))
      · exact Or.inr (Or.inr (Or.inr a))
    · rintro (a | a | a | a)
      · exact Or.inl (Or.inl (Or.inr a))
      · exact Or.inl (Or.inl (Or.inl a))
      · exact Or.inl (Or.inr a)
      · exact Or.inr a
  · constructor
    · rintro ((a | a) | a)
      · exact Or.inl a
      · exact Or.inr (Or.inl a)
      · exact Or.inr (Or.inr a)
    · rintro (a | a | a)
      · exact Or.inl (Or.inl a)
      · exact Or.inl (Or.inr a)
      · exact Or.inr a

theorem addValidCert_panic_source (R : List Reg) (p : Pool) (c : Cert) (h : FlagInv R p)
    (hp : Event.panic ∈ (p.addValidCert c).2) : Event.panic ∈ p.certTrackerEvents c := by
  rcases (mem_addValidCert_events p c _).mp hp with a | ⟨hs, a⟩ | ⟨_, a⟩ | a
  · exact a
  · exact absurd a ((h.beforeWake c).wake hs).2
  · cases a
  · cases a

theorem certTrackerEvents_sub (p : Pool) (c : Cert) : ∀ ev ∈ p.certTrackerEvents c, ev ∈ (p.addValidCert c).2 :=
  fun ev hev => (mem_addValidCert_events p c ev).mpr (Or.inl hev)

theorem addValidCerts_out (cs : List Cert) (p : Pool) (acc : List Event) :
    ∃ new, (p.addValidCerts cs acc).2 = acc ++ new ∧
      (∀ R, FlagInv R p → Event.panic ∈ new → Event.panic ∈ p.certsTrackerEvents cs) ∧
      (∀ ev ∈ p.certsTrackerEvents cs, ev ∈ new) := by
  induction cs generalizing p acc with
  | nil =>
    refine ⟨[], by simp [Pool.addValidCerts], ?_, ?_⟩
    · intro _ _ h; cases h
    · intro ev h; simp [Pool.certsTrackerEvents] at h
  | cons c cs ih =>
    obtain ⟨new, h1, h2, h3⟩ := ih (p.addValidCert c).1 (acc ++ (p.addValidCert c).2)
    refine ⟨(p.addValidCert c).2 ++ new, by rw [addValidCerts_step, h1, List.append_assoc], ?_, ?_⟩
    · intro R hR hp
      simp only [Pool.certsTrackerEvents, List.mem_append]
      rcases List.mem_append.mp hp with hp | hp
      · exact Or.inl (addValidCert_panic_source R p c hR hp)
      · exact Or.inr (h2 R (addValidCert_flag R c p hR) hp)
    · intro ev hev
      simp only [Pool.certsTrackerEvents, List.mem_append] at hev
      rcases hev with hev | hev
      · exact List.mem_append_left _ (certTrackerEvents_sub p c ev hev)
      · exact List.mem_append_right _ (h3 ev hev)

theorem applyPr_events_eq (p q : Pool) (r : ParentReady.Res) : (p.applyPr r).2 = (q.applyPr r).2 := by
  unfold Pool.applyPr; split <;> rfl

theorem trackerEvents_rejected {p : Pool} {b par : Nat × Nat} (h : ¬ accepted p b par) :
    trackerEvents p (.block b par) = [.panic] := by
  simp only [trackerEvents]
  split
  · rfl
  · rename_i hgt
    split
    · rfl
    · rename_i t ev hst
      exact absurd ⟨Decidable.of_not_not hgt, t, ev, hst⟩ h

theorem trackerEvents_accepted {p : Pool} {b par : Nat × Nat} {t : Finality.Tracker} {ev : Finality.Event} (hgt : b.1 > par.1)
    (hst : Finality.addParent p.fin b par = .ok t ev) :
    trackerEvents p (.block b par) = (({ p with fin := t } : Pool).applyPr (ParentReady.handleFinalization p.pr ev)).2 := by
  simp only [trackerEvents, hgt, not_true_eq_false, if_false, hst]

theorem poolStep_tracker (p : Pool) (op : PoolOp) :
    (∀ R, FlagInv R p → Event.panic ∈ (poolStep p op).2 → Event.panic ∈ trackerEvents p op) ∧
    ∀ ev ∈ trackerEvents p op, ev ∈ (poolStep p op).2 := by
  cases op with
  | vote v =>
    simp only [poolStep, trackerEvents]
    rcases addVote_outcomes p v with h1 | ⟨_, h1⟩ | ⟨vd, hv1, hv2, h1⟩ | ⟨_, _, h1⟩ <;> rw [h1] <;> dsimp only
    · exact ⟨fun _ _ hp => hp, fun _ hev => hev⟩
    · exact ⟨fun _ _ hp => hp, fun _ hev => hev⟩
    · refine ⟨fun _ _ hp => (nomatch hp), fun ev hev => ?_⟩
      split at hev
      · exact absurd rfl hv1
      · exact absurd rfl hv2
      · exact hev
    · obtain ⟨new, e1, e2, e3⟩ := addValidCerts_out ((p.slotState v.slot).2.addVote p.epoch v).2.1 (p.voted v) []
      rw [e1, List.nil_append]
      refine ⟨fun R h hp => ?_, fun ev hev => List.mem_append_left _ (e3 ev hev)⟩
      rcases List.mem_append.mp hp with hp | hp
      · exact e2 R (h.voted v) hp
      · exact absurd hp (addVote_no_panic _ _ v)
  | cert c =>
    simp only [poolStep, trackerEvents]
    rcases addCert_outcomes p c with h1 | h1 | h1 <;> rw [h1] <;> dsimp only
    · exact ⟨fun _ _ hp => hp, fun _ hev => hev⟩
    · exact ⟨fun _ _ hp => hp, fun _ hev => hev⟩
    · exact ⟨fun R h hp => addValidCert_panic_source R _ c (h.slotState _) hp, certTrackerEvents_sub _ c⟩
  | block b par =>
    simp only [poolStep]
    rcases addBlock_outcomes p b par with ⟨hn, h1⟩ | ⟨t, ev', hgt, hst, _, h1⟩ <;> rw [h1]
    · rw [trackerEvents_rejected hn]; exact ⟨fun _ _ hp => hp, fun _ hev => hev⟩
    · rw [trackerEvents_accepted hgt hst]
      split
      · exact ⟨fun _ _ hp => hp, fun _ hev => hev⟩
      · exact ⟨fun _ _ hp => Decidable.byContradiction fun h0 => addBlockTail_no_panic _ b par _ _ (known_known _ b) h0 hp,
          fun ev hev => addBlockTail_ind (fun _ A => ev ∈ A) _ b par _ _ (fun _ h => h) (fun _ _ => List.mem_append_left _ hev)
            (fun _ _ _ _ => List.mem_append_left _ hev) hev⟩

theorem poolRun_tracker (ops : List PoolOp) (p : Pool) :
    (∀ R, FlagInv R p → Event.panic ∈ (poolRun p ops).2 → Event.panic ∈ trackerRun p ops) ∧
    ∀ ev ∈ trackerRun p ops, ev ∈ (poolRun p ops).2 := by
  induction ops generalizing p with
  | nil => exact ⟨fun _ _ => id, fun _ => id⟩
  | cons op ops ih =>
    obtain ⟨s1, s2⟩ := poolStep_tracker p op
    obtain ⟨i1, i2⟩ := ih (poolStep p op).1
    simp only [poolRun, trackerRun, List.mem_append]
    exact ⟨fun R h hp => hp.imp (s1 R h) (i1 _ (poolStep_flag R p op h)), fun ev hev => hev.imp (s2 ev) (i2 ev)⟩

end AgModel.Pool
