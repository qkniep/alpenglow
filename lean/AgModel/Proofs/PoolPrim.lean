import AgModel.Proofs.PoolOps
/-! The primitive changes of the pool. Whatever `poolStep` does is a sequence of seven kinds of change (`Prim`), each with
    the events it emits: an invariant that holds between any two primitive changes is one lemma by cases on `Prim`
    (`Prims.keeps` along `poolStep_prims`). An invariant that holds only at the boundaries of an operation, or that looks at
    the operation's whole event list, uses the per-entry-point principles of `Proofs/PoolOps.lean` with their phase
    predicates. -/
namespace AgModel.Pool

/-- the events the pool code emits itself: they are not handed up from a slot state or from `applyPr` -/
def Event.ctl : Event → Prop
  | .panic | .repair _ _ | .cert _ => True
  | _ => False

/-- the three calls of the parent-ready tracker -/
def PrSite (p : Pool) (r : ParentReady.Res) : Prop :=
  (∃ ev, r = ParentReady.handleFinalization p.pr ev) ∨ (∃ b, r = ParentReady.markNotarFallback p.pr b) ∨
  ∃ s, r = ParentReady.markSkipped p.pr s

inductive Prim : Pool → Pool → List Event → Prop
  | ctl (p) (evs) : (∀ ev ∈ evs, ev.ctl) → Prim p p evs
  /-- `slot_state(s)` may create the slot state; `evs` is `[.panic]` when a `notify_parent_certified` on it fails, else `[]` -/
  | create (p) (s : Nat) (evs) : (∀ ev ∈ evs, ev.ctl) → Prim p (p.slotState s).1 evs
  /-- one slot state is replaced; only slots at or above the watermark emit events -/
  | slot (p) (s : Nat) (st' evs) : SlotMove p.epoch (p.slotState s).2 st' evs → (evs ≠ [] → p.fin.first ≤ s) →
      Prim p ((p.slotState s).1.putSlot st') evs
  | advance (p) (t : Finality.Tracker) (r : ParentReady.Res) : p.fin.first ≤ t.first → PrSite p r →
      Prim p (p.advance t r) (({ p with fin := t } : Pool).applyPr r).2
  | pr (p) (r : ParentReady.Res) : PrSite p r → Prim p (p.applyPr r).1 (p.applyPr r).2
  | queue (p) (par b : Nat × Nat) : Prim p (Pool.addWaiting p par b) []
  /-- the entry of a certified block leaves the waiting map -/
  | unwait (p) (b : Nat × Nat) : Prim p { p with waiting := p.waiting.filter (·.1 ≠ b) } []

theorem Prim.epoch {p q : Pool} {evs : List Event} (m : Prim p q evs) : q.epoch = p.epoch := by
  cases m with
  | ctl | unwait => rfl
  | create s => exact (slotState_frame p s).epoch
  | slot s st' => exact (mod_frame p s st').epoch
  | advance t r => exact advance_epoch p t r
  | pr r => exact (applyPr_frame p r).1
  | queue par b => exact (addWaiting_frame p par b).1

inductive Prims : Pool → Pool → List Event → Prop
  | nil (p) : Prims p p []
  | snoc {a b c A evs} : Prims a b A → Prim b c evs → Prims a c (A ++ evs)

theorem Prims.quiet {a b c : Pool} {A : List Event} (h : Prims a b A) (m : Prim b c []) : Prims a c A :=
  List.append_nil A ▸ h.snoc m

theorem Prims.emit {a b : Pool} {A : List Event} (h : Prims a b A) {ev : Event} (hev : ev.ctl) : Prims a b (A ++ [ev]) :=
  h.snoc (.ctl b [ev] (List.forall_mem_singleton.mpr hev))

theorem Prims.keeps {X : Pool → List Event → Prop} (hprim : ∀ p q A evs, Prim p q evs → X p A → X q (A ++ evs))
    {a b : Pool} {A B : List Event} (h : Prims a b B) (ha : X a A) : X b (A ++ B) := by
  induction h with
  | nil => rw [List.append_nil]; exact ha
  | snoc _ m ih => rw [← List.append_assoc]; exact hprim _ _ _ _ m ih

variable {a : Pool}

theorem Prims.handleFin {A : List Event} {q : Pool} (fop : Finality.Op) (h : Prims a q A) :
    Prims a (q.handleFin (Finality.step q.fin fop)).1 (A ++ (q.handleFin (Finality.step q.fin fop)).2) := by
  unfold Pool.handleFin
  split
  · exact h.emit (ev := .panic) trivial
  · rename_i t ev hst; exact h.snoc (.advance q t _ (fin_first_mono hst) (Or.inl ⟨ev, rfl⟩))

theorem Prims.notifyWaiting {A : List Event} {q : Pool} (b : Nat × Nat) (h : Prims a q A) :
    Prims a (q.notifyWaiting b).1 (A ++ (q.notifyWaiting b).2) :=
  notifyWaiting_ind (fun _ r B => Prims a r (A ++ B)) (fun _ _ _ _ _ hr => hr)
    (fun k _ r B _ _ hr =>
      List.append_assoc A B _ ▸ hr.snoc (.create r k.1 [.panic] (List.forall_mem_singleton.mpr trivial)))
    (fun k _ r B st' evs hge hn hr =>
      List.append_assoc A B evs ▸ hr.snoc (.slot r k.1 st' evs (.certified _ k.2 st' evs hn) fun _ => hge))
    q b
    (by rw [List.append_nil]; exact h.quiet (.unwait q b))

theorem Prims.addValidCert {A : List Event} {p : Pool} (c : Cert) (h : Prims a p A) :
    Prims a (p.addValidCert c).1 (A ++ (p.addValidCert c).2) := by
  obtain ⟨E, hE, he⟩ := addValidCert_indE c p (Prims a) (Prims a) A
    (h.quiet (.slot p c.slot _ [] (.cert _ c) fun hn => absurd rfl hn))
    (fun q E fop _ hq => hq.handleFin fop) (fun _ q E hq => hq.notifyWaiting _) (fun _ q E hq => hq)
    (fun _ q E hq => (hq.snoc (.pr q _ (Or.inr (Or.inl ⟨_, rfl⟩)))).emit trivial)
    (fun _ q E hq => hq.snoc (.pr q _ (Or.inr (Or.inr ⟨_, rfl⟩))))
  rw [he]
  exact hE.emit trivial

/-- **Every pool operation is a sequence of primitive changes**; their events are the operation's events, up to the order
    in which `add_vote` reports those of the slot-level `add_vote` (which happens first) and those of the certificates it
    created. -/
theorem poolStep_prims (p : Pool) (op : PoolOp) : ∃ A, Prims p (poolStep p op).1 A ∧ A.Perm (poolStep p op).2 := by
  have h0 : Prims p p [] := .nil p
  cases op with
  | vote v =>
    simp only [poolStep]
    rcases addVote_outcomes p v with h | ⟨_, h⟩ | ⟨vd, _, _, h⟩ | ⟨hf, ha, h⟩ <;> rw [h] <;> dsimp only
    · exact ⟨_, h0, .refl _⟩
    · exact ⟨_, h0.emit (ev := .panic) trivial, .refl _⟩
    · exact ⟨_, h0.quiet (.create p v.slot [] fun _ hx => nomatch hx), .refl _⟩
    · have := addValidCerts_indE (fun q B => Prims p q (((p.slotState v.slot).2.addVote p.epoch v).2.2 ++ B))
        ((p.slotState v.slot).2.addVote p.epoch v).2.1 (p.voted v) []
        (fun c _ q B hq => List.append_assoc _ B _ ▸ hq.addValidCert c)
        (by rw [List.append_nil]; exact h0.snoc (.slot p v.slot _ _ (.vote _ v ha) fun _ => hf))
      exact ⟨_, this, List.perm_append_comm⟩
  | cert c =>
    simp only [poolStep]
    refine ⟨_, ?_, .refl _⟩
    rcases addCert_outcomes p c with h | h | h <;> rw [h] <;> dsimp only
    · exact h0
    · exact h0.quiet (.create p c.slot [] fun _ hx => nomatch hx)
    · exact (h0.quiet (.create p c.slot [] fun _ hx => nomatch hx)).addValidCert c
  | block b par =>
    simp only [poolStep]
    refine ⟨_, ?_, .refl _⟩
    rcases addBlock_outcomes p b par with ⟨_, h⟩ | ⟨t, ev, _, hst, hm, h⟩ <;> rw [h]
    · exact h0.emit (ev := .panic) trivial
    · have h1 := h0.snoc (.advance p t (ParentReady.handleFinalization p.pr ev) hm (Or.inl ⟨ev, rfl⟩))
      rw [List.nil_append] at h1
      split
      · exact h1
      · rename_i hge
        have hf : ((p.advance t (ParentReady.handleFinalization p.pr ev)).known b).fin.first ≤ b.1 := by
          rw [(known_frame _ b).fin, advance_fin]; exact Nat.le_of_not_lt hge
        have hk := h1.quiet (.slot _ b.1 _ [] (.known _ b.2) fun hn => absurd rfl hn)
        exact addBlockTail_ind (fun q B => Prims p q B) _ b par _ _ (fun q hq => hq.quiet (.queue q par b))
          (fun _ _ => hk.snoc (.create _ b.1 [.panic] (List.forall_mem_singleton.mpr trivial)))
          (fun _ st' evs hn => hk.snoc (.slot _ b.1 st' evs (.certified _ b.2 st' evs hn) fun _ => hf)) hk

theorem poolStep_fst_epoch (p : Pool) (op : PoolOp) : (poolStep p op).1.epoch = p.epoch := by
  obtain ⟨B, hm, _⟩ := poolStep_prims p op
  exact hm.keeps (X := fun q _ => q.epoch = p.epoch) (fun _ _ _ _ m h => m.epoch.trans h) (A := []) rfl

theorem poolRun_fst_epoch (ops : List PoolOp) (p : Pool) : (poolRun p ops).1.epoch = p.epoch := by
  induction ops generalizing p with
  | nil => rfl
  | cons op ops ih => exact (ih _).trans (poolStep_fst_epoch p op)

end AgModel.Pool
