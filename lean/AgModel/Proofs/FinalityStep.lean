import AgModel.Proofs.FinalityExact
import AgModel.Proofs.FinalityEvents
/-!
# Every operation of the tracker keeps `Rel` and does not panic under the safety premise
-/
namespace AgModel.Finality

theorem rel_prune {H : List Op} {t : Tracker} (r : Rel H t) : Rel H (prune t) := by
  have hge := prune_first_ge t
  refine ⟨?_, ?_, ?_, ?_⟩
  · intro s hs
    rw [prune_status_ge hs]; exact r.slot s (Nat.le_trans hge hs)
  · intro c p hc
    rw [prune_parents_ge hc]; exact r.par c p (Nat.le_trans hge hc)
  · intro c p h1 h2 h3 _
    rw [prune_parents_ge h2] at h1
    rw [prune_status_ge h2] at h3
    have o := r.closed c p h1 (Nat.le_trans hge h2) h3 (fun x => x)
    constructor
    · intro s a b c'
      rw [prune_status_ge c']; exact o.1 s a b (Nat.le_trans hge c')
    · intro a
      rw [prune_status_ge a]; exact o.2 (Nat.le_trans hge a)
  · intro h1
    rw [prune_status_ge (Nat.le_refl _)]
    by_cases h : t.first < (prune t).first
    · exact prune_only_decided t _ h (Nat.le_refl _)
    · have : (prune t).first = t.first := Nat.le_antisymm (Nat.not_lt.mp h) hge
      rw [this] at h1 ⊢; exact r.wdec h1

/-- an operation whose only effect is on the history -/
theorem rel_snoc_same {H : List Op} {t : Tracker} {op : Op} (r : Rel H t)
    (hslot : ∀ s, t.first ≤ s → op.certSlot = some s → SlotOK (H ++ [op]) s (t.status s))
    (hlink : ∀ c p, t.first ≤ c.1 → op = .parent c p → LinkH H c p) : Rel (H ++ [op]) t := by
  refine ⟨?_, ?_, r.closed, r.wdec⟩
  · intro s hs
    by_cases h : op.certSlot = some s
    · exact hslot s hs h
    · exact slotOK_snoc_other (r.slot s hs) h
  · intro c p hc
    rw [r.par c p hc, linkH_snoc]
    exact ⟨Or.inl, fun h => h.elim id (hlink c p hc)⟩

theorem Rel.par_cert {H : List Op} {t : Tracker} {op : Op} {s : Nat} (r : Rel H t) (hop : op.certSlot = some s)
    (c p : Nat × Nat) (hc : t.first ≤ c.1) : t.parents c = some p ↔ LinkH (H ++ [op]) c p := by
  rw [r.par c p hc, linkH_snoc]
  exact ⟨Or.inl, fun h => h.elim id (fun e => by subst e; cases hop)⟩

theorem Rewrites.slotOK {H : List Op} {op : Op} {s : Nat} {o : Option Status} {v : Status}
    (h : Rewrites op s o v) (ok : SlotOK H s o) : SlotOK (H ++ [op]) s (some v) := by
  cases h with
  | fast h => exact Or.inl (fastH_snoc.mpr (Or.inr rfl))
  | @notar b _ h =>
    have hN : NotarH (H ++ [.notar b]) (b.1, b.2) := notarH_snoc.mpr (Or.inr rfl)
    rcases h with rfl | rfl
    · exact ⟨hN, not_mem_snoc ok.1 (fun e => nomatch e), fun x => not_mem_snoc (ok.2.2 x) (fun e => nomatch e)⟩
    · exact ⟨hN, not_mem_snoc ok.2.1 (fun e => nomatch e), fun x => not_mem_snoc (ok.2.2 x) (fun e => nomatch e)⟩
  | @final s _ h =>
    have hF : FinH (H ++ [.final s]) s := finH_snoc.mpr (Or.inr rfl)
    rcases h with rfl | rfl <;>
      exact ⟨hF, fun x a => (notarH_snoc.mp a).elim (ok.2.1 x) (fun e => nomatch e),
        fun x => not_mem_snoc (ok.2.2 x) (fun e => nomatch e)⟩

/-- overwriting the status of one slot by one that means the same for finality: a change of the status map in which
    nothing becomes decided -/
theorem rel_set {H : List Op} {t : Tracker} {op : Op} {s : Nat} {v : Status} (r : Rel H t) (hf : t.first ≤ s)
    (hr : Rewrites op s (t.status s) v) : Rel (H ++ [op]) { t with status := setSt t.status s v } := by
  have hop : op.certSlot = some s := by cases hr <;> rfl
  have hok := hr.slotOK (r.slot _ hf)
  refine (after_changes (t := t) (t' := { t with status := setSt t.status s v }) rfl rfl (fun x hx e => ?_)
    (r.par_cert hop) r.wdec r.closed
    (Changes.set (fun _ => Or.inl rfl) (fun d => ⟨dec_some.mpr (hr.same.1 d).1, (hr.same.1 d).2⟩) (fun _ => hok))
    (fun _ _ h => h.elim) (fun c _ _ nd e => ?_)).rel
  · -- a slot whose status is the same afterwards: possibly `s` itself
    by_cases hxs : x = s
    · subst hxs
      have e : setSt t.status x v x = t.status x := e
      rw [← e, setSt_self]; exact hok
    · exact slotOK_snoc_other (r.slot x hx) (fun c => hxs (Option.some.inj (hop.symm.trans c)).symm)
  · -- no block becomes finalized
    have e : finalHash (setSt t.status s v c.1) = some c.2 := e
    by_cases hcs : c.1 = s
    · rw [hcs, setSt_self] at e
      exact nd (hcs ▸ hr.same.2 (dec_some.mp (dec_of_finalHash e)))
    · rw [setSt_ne _ _ hcs] at e; exact nd (dec_of_finalHash e)

def EvSound (H : List Op) (ev : Event) : Prop :=
  (∀ b, b ∈ evF ev → Final H b) ∧ (∀ s, s ∈ ev.implSkipped → Skip H s)

theorem evSound_empty (H : List Op) : EvSound H {} :=
  ⟨(fun _ h => by cases h), (fun _ h => by cases h)⟩

theorem walk_evsound {H' : List Op} {t : Tracker} {src : Nat} {b : Option (Nat × Nat)} {ev : Event}
    {t' : Tracker} {ev' : Event} (h : Walk t src b ev t' ev') (r : Rel H' t') (h0 : EvSound H' ev) :
    EvSound H' ev' := by
  obtain ⟨F, S, e1, e2, sp⟩ := walk_evspec h
  have w := walk_spec h
  have hge : ∀ x, Dec (t'.status x) → ¬ Dec (t.status x) → t'.first ≤ x := fun x d n =>
    Nat.le_of_not_lt fun hx => n (w.evolves.below (w.first ▸ hx) ▸ d)
  constructor
  · rw [e1]
    refine List.forall_mem_append.mpr ⟨h0.1, fun b hb => ?_⟩
    have ⟨n, e⟩ := sp.fin b hb
    exact slotOK_final (r.slot b.1 (hge _ (dec_of_finalHash e) n)) e
  · rw [e2]
    refine List.forall_mem_append.mpr ⟨h0.2, fun x hx => ?_⟩
    have ⟨n, e⟩ := sp.skip x hx
    exact slotOK_skip (r.slot x (hge _ (e ▸ dec_skipped) n)) e

/-! ### what the cases of `step_cases` mean for the history -/

theorem Completes.direct {H : List Op} {op : Op} {s : Nat} {o : Option Status} {h : Nat}
    (c : Completes op s o h) (ok : SlotOK H s o) : Direct (H ++ [op]) (s, h) := by
  cases c with
  | fast => exact Or.inl (fastH_snoc.mpr (Or.inr rfl))
  | notar => exact Or.inr ⟨ok.1.mono (sub_append_left _ _), notarH_snoc.mpr (Or.inr rfl)⟩
  | final => exact Or.inr ⟨finH_snoc.mpr (Or.inr rfl), ok.1.mono (sub_append_left _ _)⟩

/-- the state with the new link `blk → par`: justified by the extended history and closed, except for the new
    link itself if `blk` is finalized -/
theorem rel_link {H : List Op} {t : Tracker} {blk par : Nat × Nat} (r : Rel H t) (hp : t.parents blk = none)
    (pend : Nat × Nat → Prop) (hpend : finalHash (t.status blk.1) = some blk.2 → pend blk) :
    RelP (H ++ [.parent blk par]) { t with parents := setPar t.parents blk par } pend := by
  have hsp : ∀ c, setPar t.parents blk par c = if c = blk then some par else t.parents c := fun c => rfl
  refine ⟨fun s a => slotOK_snoc_other (r.slot s a) (fun e => nomatch e), ?_, ?_, r.wdec⟩
  · intro c p hc
    show setPar t.parents blk par c = some p ↔ _
    rw [hsp, linkH_snoc]
    by_cases hcb : c = blk
    · subst hcb
      rw [if_pos rfl]
      constructor
      · intro e; cases e; exact Or.inr rfl
      · rintro (h | h)
        · rw [(r.par c p hc).mpr h] at hp; cases hp
        · cases h; rfl
    · rw [if_neg hcb, r.par c p hc]
      exact ⟨Or.inl, fun h => h.elim id (fun h => by cases h; exact absurd rfl hcb)⟩
  · intro c p h1 h2 h3 h4
    have h1' : setPar t.parents blk par c = some p := h1
    rw [hsp] at h1'
    by_cases hcb : c = blk
    · subst hcb
      exact absurd (hpend h3) h4
    · rw [if_neg hcb] at h1'
      exact r.closed c p h1' h2 h3 (fun x => x)

/-- each assertion of the `mark_*` functions is one clause of the safety premise -/
theorem Conflict.elim {H : List Op} {op : Op} {s : Nat} {o : Option Status} (c : Conflict op s o)
    (sf : Safe (H ++ [op])) (ok : SlotOK H s o) : False := by
  have hs := sub_append_left H op
  have hop : op ∈ H ++ [op] := List.mem_append_right _ (List.mem_singleton.mpr rfl)
  cases c with
  | @fastFinal b _ h e ne =>
    exact ne (congrArg Prod.snd (sf.final_fun (b.1, h) b ((slotOK_final ok e).mono hs) (.direct (Or.inl hop)) rfl))
  | @fastNotar b h ne => exact ne (congrArg Prod.snd (sf.notar_direct (b.1, h) b (ok.1.mono hs) (Or.inl hop) rfl))
  | @fastSkipped b => exact sf.final_not_skip (b := b) (.direct (Or.inl hop)) (Skip.mono hs ok)
  | @notarNotar b h ne => exact ne (congrArg Prod.snd (sf.notar_fun (b.1, h) b (ok.1.mono hs) (Or.inr hop) rfl))
  | @notarFinal b h ne =>
    exact ne (congrArg Prod.snd (sf.notar_direct b (b.1, h) (Or.inr hop) (Direct.mono hs ok) rfl)).symm
  | finalSkipped => exact sf.fin_not_skip _ hop (Skip.mono hs ok)

theorem walkPrune_rel {H H' : List Op} (sf : Safe H') (hs : Sub H H') {t : Tracker} {src hc : Nat} {p : Nat × Nat}
    {ev : Event} (w : WalkHyp H H' t src hc p) (h0 : EvSound H' ev) :
    ∃ t' ev', walkPrune t src p ev = .ok t' ev' ∧ Rel H' t' ∧ EvSound H' ev' := by
  obtain ⟨t2, ev2, hw2, rel2⟩ := walk_rel sf hs src t src hc p ev w (Nat.le_refl _)
  exact ⟨_, _, walkPrune_eq hw2, rel_prune rel2, walk_evsound (Walk.of_walk hw2) rel2 h0⟩

theorem hfb_rel {H : List Op} {op : Op} (sf : Safe (H ++ [op])) {t : Tracker} (r : Rel H t)
    {blk : Nat × Nat} (hop : op.certSlot = some blk.1) (hw : t.first ≤ blk.1)
    (hnd : ¬ Dec (t.status blk.1)) (hdir : Direct (H ++ [op]) blk) :
    ∃ t' ev, handleFinalizedBlock { t with status := setSt t.status blk.1 (.finalized blk.2) } blk {} = .ok t' ev ∧
      Rel (H ++ [op]) t' ∧ EvSound (H ++ [op]) ev := by
  have hs : Sub H (H ++ [op]) := sub_append_left H op
  have hdec : Dec (setSt t.status blk.1 (.finalized blk.2) blk.1) := setSt_self .. ▸ dec_some.mpr rfl
  -- the state after the insert: what is open are the links of `blk`, the one new finalized block
  have ins := fun (pend' : Nat × Nat → Prop) (hpend : ∀ q, t.parents blk = some q → pend' blk) =>
    after_changes (H' := H ++ [op]) (t := t) (pend' := pend')
      (t' := { t with status := setSt t.status blk.1 (.finalized blk.2), highest := max blk.1 t.highest })
      rfl rfl
      (fun s h e => slotOK_snoc_other (r.slot s h) (fun c => by
        cases Option.some.inj (hop.symm.trans c)
        have e' : setSt t.status blk.1 (.finalized blk.2) blk.1 = t.status blk.1 := e
        exact hnd (e' ▸ hdec)))
      (r.par_cert hop) r.wdec r.closed
      (Changes.set (fun _ => Or.inl rfl) (fun d => absurd d hnd) (fun _ => hdir))
      (fun _ _ h => h.elim)
      (fun c q h1 nd e => by
        have e : finalHash (setSt t.status blk.1 (.finalized blk.2) c.1) = some c.2 := e
        by_cases hcb : c.1 = blk.1
        · rw [hcb, setSt_self] at e
          have : c = blk := Prod.ext hcb (Option.some.inj e).symm
          subst this
          exact hpend q h1
        · rw [setSt_ne _ _ hcb] at e; exact absurd (dec_of_finalHash e) nd)
  have snd0 : EvSound (H ++ [op]) { finalized := some blk } :=
    ⟨fun b hb => by cases List.mem_singleton.mp hb; exact .direct hdir, fun _ hx => nomatch hx⟩
  cases hp : t.parents blk with
  | some p =>
    have wh : WalkHyp H (H ++ [op])
        { t with status := setSt t.status blk.1 (.finalized blk.2), highest := max blk.1 t.highest } blk.1 blk.2 p := by
      refine .ofRelP (ins (fun x => x = (blk.1, blk.2)) (fun _ _ => rfl)) hw (congrArg finalHash (setSt_self ..)) hp ?_ ?_ ?_
      · intro s a b
        show SlotOK H s (setSt t.status blk.1 (.finalized blk.2) s)
        rw [setSt_ne _ _ (Nat.ne_of_lt b)]; exact r.slot s a
      · intro b hb a c
        show finalHash (setSt t.status blk.1 (.finalized blk.2) b.1) = _
        rw [setSt_ne _ _ (Nat.ne_of_lt c)]; exact r.final_complete (sf.sub hs) hb a
      · intro ⟨hfin, _⟩
        exact hnd (dec_of_finalHash (r.final_complete (sf.sub hs) hfin hw))
    rw [hfb_some (t := { t with status := setSt t.status blk.1 (.finalized blk.2) }) hp]
    exact walkPrune_rel sf hs wh snd0
  | none =>
    exact ⟨_, _, hfb_none (t := { t with status := setSt t.status blk.1 (.finalized blk.2) }) (ev := {}) hp,
      rel_prune (ins (fun _ => False) (fun q h => nomatch hp.symm.trans h)).rel, snd0⟩

theorem step_rel {H : List Op} {op : Op} (sf : Safe (H ++ [op])) {t : Tracker} (r : Rel H t) :
    ∃ t' ev, step t op = .ok t' ev ∧ Rel (H ++ [op]) t' ∧ EvSound (H ++ [op]) ev := by
  have hs : Sub H (H ++ [op]) := sub_append_left H op
  have c := step_cases t op
  generalize step t op = res at c ⊢
  cases c with
  | idle h =>
    refine ⟨_, _, rfl, ?_, evSound_empty _⟩
    cases h with
    | low hs hl =>
      exact rel_snoc_same r (fun s a e => by rw [hs] at e; cases e; exact absurd hl (Nat.not_lt.mpr a))
        (fun c p _ e => by subst e; cases hs)
    | decided hs hd =>
      exact rel_snoc_same r
        (fun _ a e => by rw [hs] at e; cases e; exact slotOK_mono_dec (sub_append_left H op) (r.slot _ a) hd)
        (fun c p _ e => by subst e; cases hs)
    | linkLow hl =>
      exact rel_snoc_same r (fun s _ e => nomatch e) (fun c p a e => by cases e; exact absurd hl (Nat.not_lt.mpr a))
    | linkKnown hf hp =>
      exact rel_snoc_same r (fun s _ e => nomatch e) (fun c p _ e => by cases e; exact (r.par _ _ hf).mp hp)
  | set hf hr =>
    exact ⟨_, _, rfl, rel_set r hf hr, evSound_empty _⟩
  | fin hf hc hr =>
    subst hr
    exact hfb_rel sf r hc.slot hf hc.not_dec (hc.direct (r.slot _ hf))
  | conflict hf hc => exact (hc.elim sf (r.slot _ hf)).elim
  | @badLink blk par ho h =>
    subst ho
    have hL : LinkH (H ++ [.parent blk par]) blk par := linkH_snoc.mpr (Or.inr rfl)
    rcases h with h | ⟨hf, p, hp, ne⟩
    · exact absurd (sf.link_lt _ _ hL) h
    · exact absurd (sf.link_fun blk p par (((r.par blk p hf).mp hp).mono hs) hL) ne
  | @link blk par ho hlt hf hp hn =>
    subst ho
    exact ⟨_, _, rfl, (rel_link (par := par) r hp (fun _ => False) hn).rel, evSound_empty _⟩
  | @linkWalk blk par _ ho hlt hf hp he hr =>
    subst ho hr
    have wh : WalkHyp H (H ++ [Op.parent blk par]) { t with parents := setPar t.parents blk par }
        blk.1 blk.2 par := by
      refine .ofRelP (rel_link (par := par) r hp (fun x => x = (blk.1, blk.2)) (fun _ => rfl)) hf he (if_pos rfl)
        (fun s a _ => r.slot s a) (fun b hb a _ => r.final_complete (sf.sub hs) hb a) ?_
      intro ⟨_, hl⟩
      rw [(r.par blk par hf).mpr hl] at hp; cases hp
    exact walkPrune_rel sf hs wh (evSound_empty _)

theorem rel_init : Rel [] init := by
  refine ⟨fun s _ => ?_, fun c p _ => ⟨(fun h => nomatch h), (fun h => nomatch h)⟩, (fun c p h => nomatch h),
    fun h => absurd h (Nat.not_succ_le_zero 0)⟩
  by_cases h : s = 0
  · subst h; exact ⟨Or.inl rfl, (fun h => nomatch h), (fun _ a => nomatch a)⟩
  · rw [init_status_pos h]
    exact ⟨(fun a => nomatch a), fun _ a => a.elim (fun e => h (congrArg Prod.fst e)) (fun a => nomatch a),
      (fun _ a => nomatch a)⟩

end AgModel.Finality
