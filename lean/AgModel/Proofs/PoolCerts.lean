import AgModel.Proofs.PoolStep
/-! Certificates created by `SlotState.addVote`, the slot-local transition system, and the full
    invariant (`Inv = InvV ∧ InvT`) over arbitrary histories. -/
namespace AgModel.Pool

def notarCertOf (e : Epoch) (s : SlotState) (h : Nat) : Cert :=
  { kind := .notar, slot := s.slot, hash := h, sig1 := s.notarVoters e.n h, sig2 := [], stake := stakeOf e (s.notarVoters e.n h) }
def ffCertOf (e : Epoch) (s : SlotState) (h : Nat) : Cert :=
  { kind := .ff, slot := s.slot, hash := h, sig1 := s.notarVoters e.n h, sig2 := [], stake := stakeOf e (s.notarVoters e.n h) }
def skipCertOf (e : Epoch) (s : SlotState) : Cert :=
  { kind := .skip, slot := s.slot, hash := 0, sig1 := s.skipVoters e.n, sig2 := s.sfVoters e.n,
    stake := stakeOf e (s.skipVoters e.n) + stakeOf e (s.sfVoters e.n) }
def finCertOf (e : Epoch) (s : SlotState) : Cert :=
  { kind := .final, slot := s.slot, hash := 0, sig1 := s.finVoters e.n, sig2 := [], stake := stakeOf e (s.finVoters e.n) }

def notarCertsOn (e : Epoch) (s : SlotState) (h : Nat) : List Cert :=
  (if e.isQuorum (lookupD s.sNf h + lookupD s.sNotar h) && !s.isNf h then [mkNfCert e s h] else []) ++
  (if e.isQuorum (lookupD s.sNotar h) && s.cNotar.isNone then [notarCertOf e s h] else []) ++
  (if e.isStrong (lookupD s.sNotar h) && s.cFf.isNone then [ffCertOf e s h] else [])

def notarCertsOnWith (e : Epoch) (s : SlotState) (h notarStake : Nat) : List Cert :=
  (if e.isQuorum (lookupD s.sNf h + notarStake) && !s.isNf h then [mkNfCert e s h] else []) ++
  (if e.isQuorum notarStake && s.cNotar.isNone then [notarCertOf e s h] else []) ++
  (if e.isStrong notarStake && s.cFf.isNone then [ffCertOf e s h] else [])

theorem notarCertsOnWith_core (e : Epoch) (s : SlotState) (h n : Nat) :
    notarCertsOnWith e s h n = notarCertsOnWith e s.core h n := rfl

/-- `count_notar_stake` reads the notar stake before its checks run and the rest after them; the checks leave the core alone -/
theorem countNotar_certs (e : Epoch) (st : SlotState) (h stake : Nat) :
    (SlotState.countNotar e st h stake).2.1 =
      notarCertsOn e { st with sNotar := addTo st.sNotar h stake, sNotarOrSkip := st.sNotarOrSkip + stake,
                               sTopNotar := max (lookupD (addTo st.sNotar h stake) h) st.sTopNotar } h := by
  have hc := congrArg Prod.fst (countNotar_tail e st h stake)
  dsimp only at hc
  show notarCertsOnWith e (SlotState.countNotar e st h stake).1 h (lookupD (addTo st.sNotar h stake) h) = _
  rw [notarCertsOnWith_core, hc, (checks_core e).2.1]
  rfl

def nfCertsOn (e : Epoch) (s : SlotState) (h : Nat) : List Cert :=
  if e.isQuorum (lookupD s.sNf h + lookupD s.sNotar h) && !s.isNf h then [mkNfCert e s h] else []

def skipCertsOn (e : Epoch) (s : SlotState) : List Cert :=
  if e.isQuorum (s.sSkip + s.sSf) && s.cSkip.isNone then [skipCertOf e s] else []

theorem skipCertsOn_core (e : Epoch) (s : SlotState) : skipCertsOn e s = skipCertsOn e s.core := rfl

theorem countSkip_certs (e : Epoch) (st : SlotState) (stake : Nat) (fb : Bool) :
    (SlotState.countSkip e st stake fb).2.1 =
      skipCertsOn e (if fb then { st with sSf := st.sSf + stake } else { st with sSkip := st.sSkip + stake }) := by
  show skipCertsOn e (SlotState.recheckPending e _ _ []).1 = _
  rw [skipCertsOn_core, (checks_core e).1, ← skipCertsOn_core]

def finCertsOn (e : Epoch) (s : SlotState) : List Cert :=
  if e.isQuorum s.sFin && s.cFin.isNone then [finCertOf e s] else []

/-- the certificates `addVote` creates, as a function of the state *after* the vote was stored and counted -/
def SlotState.newCerts (e : Epoch) (s : SlotState) (v : Vote) : List Cert :=
  match v.kind with
  | .notar => notarCertsOn e s v.hash
  | .nf => nfCertsOn e s v.hash
  | .skip => skipCertsOn e s
  | .sf => skipCertsOn e s
  | .final => finCertsOn e s

theorem countOf_certs (e : Epoch) (st : SlotState) (v : Vote) : (countOf e st v).2.1 = (st.stored e v).newCerts e v := by
  unfold countOf SlotState.newCerts SlotState.stored
  cases v.kind
  · exact countNotar_certs e _ v.hash (e.stake v.signer)
  · rfl
  · exact countSkip_certs e _ (e.stake v.signer) false
  · exact countSkip_certs e _ (e.stake v.signer) true
  · rfl

theorem addVote_certs (e : Epoch) (st : SlotState) (v : Vote) :
    (st.addVote e v).2.1 = (st.stored e v).newCerts e v := by
  rw [addVote_eq, ← countOf_certs]
  unfold ownWrap
  split <;> rfl

/-! ### the certificate kinds as one table

A certificate `c` also stands for the demand "a certificate of `c`'s kind (for `c`'s block, where the kind is per block)":
`counted st c` is the stake counted towards it, `due e st c` says the count has reached the kind's threshold,
`certDup st c` that the demand is met, `certKey c` which demands `c` meets. `feeds` lists, per vote kind, the kinds whose
count the vote adds to; they are the kinds it can create. -/

def threshold (e : Epoch) (k : CertKind) (s : Nat) : Bool :=
  match k with
  | .ff => e.isStrong s
  | _ => e.isQuorum s

def certDup (st : SlotState) (c : Cert) : Bool :=
  match c.kind with
  | .notar => st.cNotar.isSome
  | .nf => st.isNf c.hash
  | .skip => st.cSkip.isSome
  | .ff => st.cFf.isSome
  | .final => st.cFin.isSome

/-- the "type" of a certificate for the at-most-once statement -/
def certKey (c : Cert) : CertKind × Nat := (c.kind, if c.kind = .nf then c.hash else 0)

/-- in the order `add_vote` creates them -/
def feeds : VoteKind → List CertKind
  | .notar => [.nf, .notar, .ff]
  | .nf => [.nf]
  | .skip | .sf => [.skip]
  | .final => [.final]

def SlotState.counted (st : SlotState) (c : Cert) : Nat :=
  match c.kind with
  | .notar | .ff => lookupD st.sNotar c.hash
  | .nf => lookupD st.sNf c.hash + lookupD st.sNotar c.hash
  | .skip => st.sSkip + st.sSf
  | .final => st.sFin

def due (e : Epoch) (st : SlotState) (c : Cert) : Prop := threshold e c.kind (st.counted c) = true

/-- the certificate of kind `k` for block `h` as `add_vote` builds it from the stored votes -/
def certOf (e : Epoch) (s : SlotState) (h : Nat) : CertKind → Cert
  | .notar => notarCertOf e s h
  | .nf => mkNfCert e s h
  | .skip => skipCertOf e s
  | .ff => ffCertOf e s h
  | .final => finCertOf e s

def created (e : Epoch) (s : SlotState) (h : Nat) (k : CertKind) : List Cert :=
  if threshold e k (s.counted (certOf e s h k)) && !certDup s (certOf e s h k) then [certOf e s h k] else []

theorem newCerts_eq (e : Epoch) (s : SlotState) (v : Vote) :
    s.newCerts e v = (feeds v.kind).flatMap (created e s v.hash) := by
  unfold SlotState.newCerts feeds
  cases v.kind <;> simp only [List.flatMap_cons, List.flatMap_nil, List.append_nil]
  · unfold notarCertsOn
    rw [← List.append_assoc, ← Option.not_isSome, ← Option.not_isSome]
    rfl
  · rfl
  · unfold skipCertsOn; rw [← Option.not_isSome]; rfl
  · unfold skipCertsOn; rw [← Option.not_isSome]; rfl
  · unfold finCertsOn; rw [← Option.not_isSome]; rfl

theorem mem_newCerts_iff {e : Epoch} {s : SlotState} {v : Vote} {c : Cert} :
    c ∈ s.newCerts e v ↔ ∃ k ∈ feeds v.kind, c = certOf e s v.hash k ∧ due e s c ∧ certDup s c = false := by
  rw [newCerts_eq, List.mem_flatMap]
  refine exists_congr fun k => and_congr_right fun _ => ?_
  unfold created
  have hk : (certOf e s v.hash k).kind = k := by cases k <;> rfl
  constructor
  · intro h
    split at h
    · rename_i hb
      rw [Bool.and_eq_true, Bool.not_eq_true'] at hb
      cases List.mem_singleton.mp h
      exact ⟨rfl, by unfold due; rw [hk]; exact hb.1, hb.2⟩
    · cases h
  · rintro ⟨rfl, hd, hn⟩
    unfold due at hd
    rw [hk] at hd
    rw [hd, hn]
    exact List.mem_singleton.mpr rfl

inductive SlotOp where
  | vote (v : Vote)
  | cert (c : Cert)
  | parentKnown (h : Nat)
  | parentCertified (h : Nat)
deriving Repr

/-- What the pool does to the state of one slot: an admitted vote is stored and counted and the
    certificates it creates are added; a received (validated) certificate is added unless one of its
    type is held; the two parent notifications. Outputs: created certificates, events. -/
def slotStep (e : Epoch) (st : SlotState) : SlotOp → SlotState × List Cert × List Event
  | .vote v =>
    if (st.checkSlashable v).isSome || st.shouldIgnore v then (st, [], [])
    else ((st.addVote e v).2.1.foldl SlotState.addCert (st.addVote e v).1, (st.addVote e v).2.1, (st.addVote e v).2.2)
  | .cert c => if certDup st c then (st, [], []) else (st.addCert c, [], [])
  | .parentKnown h => (st.notifyParentKnown h, [], [])
  | .parentCertified h =>
    match st.notifyParentCertified e h with
    | none => (st, [], [.panic])
    | some (s, evs) => (s, [], evs)

def slotRun (e : Epoch) : SlotState → List SlotOp → SlotState × List Cert × List Event
  | st, [] => (st, [], [])
  | st, op :: ops =>
    let r := slotStep e st op
    let r' := slotRun e r.1 ops
    (r'.1, r.2.1 ++ r'.2.1, r.2.2 ++ r'.2.2)

theorem adm_of_not_refused (st : SlotState) (v : Vote)
    (h : ¬ ((st.checkSlashable v).isSome || st.shouldIgnore v) = true) : Adm st v := by
  rw [Bool.or_eq_true, not_or] at h
  exact ⟨Option.not_isSome_iff_eq_none.mp h.1, Bool.eq_false_iff.mpr h.2⟩

/-- the parent of block `h` marked certified: the state on which `notify_parent_certified` runs its check -/
def SlotState.certify (st : SlotState) (h : Nat) : SlotState :=
  { st with parents := st.parents.map (fun p => if p.1 == h then (p.1, true) else p) }

/-- The cases of `slotStep`, to prove `P (slotStep e st op)`: nothing happens (refused vote, duplicate
    certificate, parent already known); an admitted vote; a new certificate; a new parent; the panic
    `parent not known`; a parent certified, with the block already signalled or `check_safe_to_notar` evaluated. -/
theorem slotStep_cases (e : Epoch) (st : SlotState) (op : SlotOp) (P : SlotState × List Cert × List Event → Prop)
    (same : P (st, [], []))
    (vote : ∀ v, Adm st v →
      P ((st.addVote e v).2.1.foldl SlotState.addCert (st.addVote e v).1, (st.addVote e v).2.1, (st.addVote e v).2.2))
    (cert : ∀ c, op = .cert c → P (st.addCert c, [], []))
    (known : ∀ h, st.parents.lookup h = none → P ({ st with parents := st.parents ++ [(h, false)] }, [], []))
    (unknown : P (st, [], [.panic]))
    (certified : ∀ h, (h ∈ st.sent → P (st.certify h, [], [])) ∧
      (h ∉ st.sent → P (((st.certify h).checkS2N e h).1, [],
        s2nOut ((st.certify h).checkS2N e h).1.slot h ((st.certify h).checkS2N e h).2))) :
    P (slotStep e st op) := by
  cases op with
  | vote v =>
    simp only [slotStep]
    split
    · exact same
    · rename_i hr; exact vote v (adm_of_not_refused st v hr)
  | cert c =>
    simp only [slotStep]
    split
    · exact same
    · exact cert c rfl
  | parentKnown h =>
    simp only [slotStep, SlotState.notifyParentKnown]
    split
    · exact same
    · rename_i hn; exact known h (Option.not_isSome_iff_eq_none.mp hn)
  | parentCertified h =>
    simp only [slotStep]
    split
    · exact unknown
    · rename_i s evs hn
      unfold SlotState.notifyParentCertified at hn
      split at hn
      · cases hn
      · dsimp only at hn
        split at hn <;> cases hn
        · rename_i hg; exact (certified h).1 (by simpa [List.contains_eq_mem] using hg)
        · rename_i hg; exact (certified h).2 (by simpa [List.contains_eq_mem] using hg)

theorem addCert_core (st : SlotState) (c : Cert) : (st.addCert c).core = (st.core.addCert c).core := by
  unfold SlotState.addCert
  cases c.kind <;> dsimp only
  · rfl
  · show (if st.isNf c.hash = true then st else _).core = (if st.isNf c.hash = true then st.core else _).core
    split <;> rfl
  all_goals rfl

theorem addCerts_coreEq (cs : List Cert) (a b : SlotState) (h : CoreEq a b) :
    CoreEq (cs.foldl SlotState.addCert a) (cs.foldl SlotState.addCert b) := by
  induction cs generalizing a b with
  | nil => exact h
  | cons c cs ih =>
    apply ih
    constructor
    rw [addCert_core a, addCert_core b, h.eq]

/-- For a property of the new state and the created certificates that reads the core only, the parent
    notifications are the case where nothing happens, and an admitted vote is stored and counted, then the
    certificates it makes due are added. -/
theorem slotStep_core_cases (e : Epoch) (st : SlotState) (op : SlotOp) (P : SlotState → List Cert → Prop)
    (core : ∀ {a b cs}, CoreEq a b → P a cs → P b cs) (same : P st [])
    (vote : ∀ v, Adm st v →
      P (((st.stored e v).newCerts e v).foldl SlotState.addCert (st.stored e v)) ((st.stored e v).newCerts e v))
    (cert : ∀ c, op = .cert c → P (st.addCert c) []) : P (slotStep e st op).1 (slotStep e st op).2.1 := by
  refine slotStep_cases e st op (fun r => P r.1 r.2.1) same (fun v ha => ?_) cert (fun h _ => core (a := st) ⟨rfl⟩ same) same
    (fun h => ?_)
  · rw [addVote_certs]
    exact core (addCerts_coreEq _ _ _ (addVote_core e st v)) (vote v ha)
  · have hc : CoreEq st (st.certify h) := ⟨rfl⟩
    exact ⟨fun _ => core hc same, fun _ => core (hc.trans ⟨(checkS2N_core e _ h).symm⟩) same⟩

theorem addCert_writes (st : SlotState) (c : Cert) : ∃ cn cnf cs cff cfi,
    st.addCert c = { st with cNotar := cn, cNf := cnf, cSkip := cs, cFf := cff, cFin := cfi } := by
  unfold SlotState.addCert
  cases c.kind <;> dsimp only
  case nf => split <;> exact ⟨_, _, _, _, _, rfl⟩
  all_goals exact ⟨_, _, _, _, _, rfl⟩

theorem InvV_addCert (e : Epoch) (st : SlotState) (c : Cert) (i : InvV e st) : InvV e (st.addCert c) := by
  obtain ⟨_, _, _, _, _, h⟩ := addCert_writes st c
  rw [h]
  exact { i with }

theorem addCerts_keeps {Q : SlotState → Prop} (h : ∀ st c, Q st → Q (st.addCert c)) (cs : List Cert) (st : SlotState) (i : Q st) :
    Q (cs.foldl SlotState.addCert st) := by
  induction cs generalizing st with
  | nil => exact i
  | cons c cs ih => exact ih _ (h st c i)

structure TView where
  notar : Bool
  ff : Bool
  skip : Bool
  fin : Bool
  nf : Nat → Bool

def SlotState.held (st : SlotState) : Bool × Bool × Bool × Bool :=
  (st.cNotar.isSome, st.cFf.isSome, st.cSkip.isSome, st.cFin.isSome)

theorem addCert_held (st : SlotState) (c : Cert) :
    (st.addCert c).cNotar.isSome = (st.cNotar.isSome || c.kind == .notar) ∧
    (st.addCert c).cFf.isSome = (st.cFf.isSome || c.kind == .ff) ∧
    (st.addCert c).cSkip.isSome = (st.cSkip.isSome || c.kind == .skip) ∧
    (st.addCert c).cFin.isSome = (st.cFin.isSome || c.kind == .final) := by
  unfold SlotState.addCert
  cases hk : c.kind <;> simp
  split <;> simp

theorem addCert_isNf (st : SlotState) (c : Cert) (h : Nat) :
    (st.addCert c).isNf h = (st.isNf h || (c.kind == .nf && c.hash == h)) := by
  unfold SlotState.addCert
  cases hk : c.kind <;> dsimp only
  case nf =>
    rw [beq_self_eq_true, Bool.true_and]
    split
    · rename_i hh
      by_cases he : c.hash = h
      · rw [← he, hh]; rfl
      · rw [beq_eq_false_iff_ne.mpr he, Bool.or_false]
    · unfold SlotState.isNf
      dsimp only
      rw [List.any_append, List.any_cons, List.any_nil, Bool.or_false]
  all_goals exact (Bool.or_false _).symm

theorem certKey_eq_iff {c x : Cert} : certKey c = certKey x ↔ c.kind = x.kind ∧ (x.kind = .nf → c.hash = x.hash) := by
  unfold certKey
  rw [Prod.mk.injEq]
  refine and_congr_right fun hk => ?_
  rw [hk]
  split
  · rename_i h; exact ⟨fun hh _ => hh, fun hh => hh h⟩
  · rename_i h; exact ⟨fun _ hh => absurd hh h, fun _ => rfl⟩

theorem certDup_key (st : SlotState) (c c' : Cert) (h : certKey c = certKey c') : certDup st c = certDup st c' := by
  obtain ⟨hk, hh⟩ := certKey_eq_iff.mp h
  unfold certDup
  rw [hk]
  cases hkk : c'.kind <;> simp only []
  rw [hh hkk]

theorem certDup_addCert_iff (st : SlotState) (c x : Cert) :
    certDup (st.addCert c) x = true ↔ certDup st x = true ∨ certKey c = certKey x := by
  rw [certKey_eq_iff]
  unfold certDup
  cases hk : x.kind <;>
    simp only [(addCert_held _ _).1, (addCert_held _ _).2.1, (addCert_held _ _).2.2.1, (addCert_held _ _).2.2.2, addCert_isNf, Bool.or_eq_true, Bool.and_eq_true,
      beq_iff_eq, reduceCtorEq, false_implies, and_true, forall_const]

theorem certDup_addCerts_iff (cs : List Cert) (st : SlotState) (x : Cert) :
    certDup (cs.foldl SlotState.addCert st) x = true ↔ certDup st x = true ∨ ∃ c ∈ cs, certKey c = certKey x := by
  induction cs generalizing st with
  | nil => exact ⟨Or.inl, fun h => h.resolve_right (fun ⟨_, hc, _⟩ => absurd hc List.not_mem_nil)⟩
  | cons c cs ih =>
    rw [List.foldl_cons, ih, certDup_addCert_iff, or_assoc]
    refine or_congr_right ⟨fun h => h.elim (fun h => ⟨c, List.mem_cons_self, h⟩) (fun ⟨x, hx, h⟩ => ⟨x, List.mem_cons_of_mem _ hx, h⟩),
      fun ⟨x, hx, h⟩ => (List.mem_cons.mp hx).elim (fun hx => Or.inl (hx ▸ h)) (fun hx => Or.inr ⟨x, hx, h⟩)⟩

theorem counted_addCert (st : SlotState) (c x : Cert) : (st.addCert c).counted x = st.counted x := by
  obtain ⟨_, _, _, _, _, h⟩ := addCert_writes st c
  rw [h]; rfl

/-- the certificates of kind `k` held by a slot state (`SlotCertificates`: one option per kind, a list for
    notar-fallback) -/
def SlotState.store (st : SlotState) : CertKind → List Cert
  | .notar => st.cNotar.toList
  | .nf => st.cNf
  | .skip => st.cSkip.toList
  | .ff => st.cFf.toList
  | .final => st.cFin.toList

theorem mem_certs_store {st : SlotState} {c : Cert} : c ∈ st.certs ↔ ∃ k, c ∈ st.store k := by
  unfold SlotState.certs
  simp only [List.mem_append]
  constructor
  · rintro ((((h | h) | h) | h) | h)
    · exact ⟨.final, h⟩
    · exact ⟨.ff, h⟩
    · exact ⟨.notar, h⟩
    · exact ⟨.nf, h⟩
    · exact ⟨.skip, h⟩
  · rintro ⟨k, h⟩
    cases k
    · exact Or.inl (Or.inl (Or.inr h))
    · exact Or.inl (Or.inr h)
    · exact Or.inr h
    · exact Or.inl (Or.inl (Or.inl (Or.inr h)))
    · exact Or.inl (Or.inl (Or.inl (Or.inl h)))

theorem store_addCert_ne (st : SlotState) (c : Cert) {k : CertKind} (hk : k ≠ c.kind) :
    (st.addCert c).store k = st.store k := by
  unfold SlotState.addCert
  -- every branch of `add_cert` writes the field of its own kind only
  cases hc : c.kind <;> rw [hc] at hk <;> dsimp only <;> (try split) <;> cases k <;> first | rfl | exact absurd rfl hk

theorem store_addCert_self (st : SlotState) (c : Cert) :
    (st.addCert c).store c.kind =
      if c.kind = .nf then (if st.isNf c.hash then st.store .nf else st.store .nf ++ [c]) else [c] := by
  unfold SlotState.addCert
  cases c.kind <;> dsimp only
  · rfl
  · cases st.isNf c.hash <;> rfl
  · rfl
  · rfl
  · rfl

theorem store_addCert_sub {st : SlotState} {c x : Cert} {k : CertKind} (hx : x ∈ (st.addCert c).store k) :
    x ∈ st.store k ∨ (x = c ∧ k = c.kind) := by
  by_cases hk : k = c.kind
  · subst hk
    rw [store_addCert_self] at hx
    split at hx
    · rename_i hnf
      rw [hnf]
      split at hx
      · exact Or.inl hx
      · exact (List.mem_append.mp hx).imp id (fun h => ⟨List.mem_singleton.mp h, rfl⟩)
    · exact Or.inr ⟨List.mem_singleton.mp hx, rfl⟩
  · rw [store_addCert_ne st c hk] at hx; exact Or.inl hx

theorem certDup_iff_store {st : SlotState} {c : Cert} :
    certDup st c = true ↔ ∃ c' ∈ st.store c.kind, (c.kind = .nf → c'.hash = c.hash) := by
  unfold certDup SlotState.isNf
  cases c.kind <;> simp only [SlotState.store, Option.mem_toList, Option.isSome_iff_exists, List.any_eq_true, beq_iff_eq,
    reduceCtorEq, forall_const, false_implies, and_true]

/-- a weaker, per-threshold form of `InvT` used while certificates are being added -/
structure Pending (e : Epoch) (st : SlotState) (cs : List Cert) : Prop where
  tNotar : ∀ h, e.isQuorum (lookupD st.sNotar h) = true → st.cNotar.isSome = true ∨ cs.any (·.kind == .notar) = true
  tFf : ∀ h, e.isStrong (lookupD st.sNotar h) = true → st.cFf.isSome = true ∨ cs.any (·.kind == .ff) = true
  tNf : ∀ h, e.isQuorum (lookupD st.sNf h + lookupD st.sNotar h) = true →
    st.isNf h = true ∨ cs.any (fun c => c.kind == .nf && c.hash == h) = true
  tSkip : e.isQuorum (st.sSkip + st.sSf) = true → st.cSkip.isSome = true ∨ cs.any (·.kind == .skip) = true
  tFin : e.isQuorum st.sFin = true → st.cFin.isSome = true ∨ cs.any (·.kind == .final) = true

/-- the demand of kind `k` for block `h` -/
def demand (k : CertKind) (h : Nat) : Cert := { kind := k, slot := 0, hash := h, sig1 := [], sig2 := [], stake := 0 }

theorem invT_iff {e : Epoch} {st : SlotState} : InvT e st ↔ ∀ c, due e st c → certDup st c = true := by
  constructor
  · intro i c d
    unfold due SlotState.counted threshold at d
    unfold certDup
    cases hk : c.kind <;> simp only [hk] at d ⊢
    · exact i.tNotar _ d
    · exact i.tNf _ d
    · exact i.tSkip d
    · exact i.tFf _ d
    · exact i.tFin d
  · intro H
    exact ⟨fun h d => H (demand .notar h) d, fun h d => H (demand .ff h) d, fun h d => H (demand .nf h) d,
      fun d => H (demand .skip 0) d, fun d => H (demand .final 0) d⟩

/-- `c` meets the demand `x` (`certKey c = certKey x` as a test) -/
def meets (x c : Cert) : Bool :=
  match x.kind with
  | .nf => c.kind == .nf && c.hash == x.hash
  | k => c.kind == k

theorem any_meets {cs : List Cert} {x : Cert} : cs.any (meets x) = true ↔ ∃ c ∈ cs, certKey c = certKey x := by
  rw [List.any_eq_true]
  refine exists_congr fun c => and_congr_right fun _ => ?_
  rw [certKey_eq_iff]
  unfold meets
  cases hk : x.kind <;> simp only [Bool.and_eq_true, beq_iff_eq, reduceCtorEq, false_implies, and_true, forall_const]

theorem pending_iff {e : Epoch} {st : SlotState} {cs : List Cert} :
    Pending e st cs ↔ ∀ c, due e st c → certDup st c = true ∨ ∃ c' ∈ cs, certKey c' = certKey c := by
  constructor
  · intro p c d
    rw [← any_meets]
    unfold due SlotState.counted threshold at d
    unfold certDup meets
    cases hk : c.kind <;> simp only [hk] at d ⊢
    · exact p.tNotar _ d
    · exact p.tNf _ d
    · exact p.tSkip d
    · exact p.tFf _ d
    · exact p.tFin d
  · intro H
    have K : ∀ c, due e st c → certDup st c = true ∨ cs.any (meets c) = true := fun c d => (H c d).imp_right any_meets.mpr
    exact ⟨fun h d => K (demand .notar h) d, fun h d => K (demand .ff h) d, fun h d => K (demand .nf h) d,
      fun d => K (demand .skip 0) d, fun d => K (demand .final 0) d⟩

theorem due_addCert {e : Epoch} {st : SlotState} {c x : Cert} : due e (st.addCert c) x ↔ due e st x := by
  unfold due; rw [counted_addCert]

theorem due_addCerts {e : Epoch} {cs : List Cert} {st : SlotState} {x : Cert} :
    due e (cs.foldl SlotState.addCert st) x ↔ due e st x :=
  addCerts_keeps (Q := fun s => due e s x ↔ due e st x) (fun _ _ h => due_addCert.trans h) cs st Iff.rfl

theorem InvT_of_pending (e : Epoch) (cs : List Cert) (st : SlotState) (p : Pending e st cs) :
    InvT e (cs.foldl SlotState.addCert st) :=
  invT_iff.mpr fun c d => (certDup_addCerts_iff cs st c).mpr (pending_iff.mp p c (due_addCerts.mp d))

theorem InvT_addCert (e : Epoch) (st : SlotState) (c : Cert) (i : InvT e st) : InvT e (st.addCert c) :=
  invT_iff.mpr fun x d => (certDup_addCert_iff st c x).mpr (Or.inl (invT_iff.mp i x (due_addCert.mp d)))

/-- `b` has the slot number, the certificates and the safe-to-notar bookkeeping of `a`: it differs in the vote stores
    and the stake counters at most -/
structure SameHeld (a b : SlotState) : Prop where
  slot : b.slot = a.slot
  cNotar : b.cNotar = a.cNotar
  cNf : b.cNf = a.cNf
  cSkip : b.cSkip = a.cSkip
  cFf : b.cFf = a.cFf
  cFin : b.cFin = a.cFin
  parents : b.parents = a.parents
  pending : b.pending = a.pending
  sent : b.sent = a.sent
  sentS2S : b.sentS2S = a.sentS2S

theorem SameHeld.certs {a b : SlotState} (h : SameHeld a b) : b.certs = a.certs := by
  unfold SlotState.certs; rw [h.cFin, h.cFf, h.cNotar, h.cNf, h.cSkip]

theorem stored_same (e : Epoch) (st : SlotState) (v : Vote) : SameHeld st (st.stored e v) := by
  unfold SlotState.stored; cases v.kind <;> exact ⟨rfl, rfl, rfl, rfl, rfl, rfl, rfl, rfl, rfl, rfl⟩

theorem certDup_stored (e : Epoch) (st : SlotState) (v : Vote) (x : Cert) : certDup (st.stored e v) x = certDup st x := by
  unfold SlotState.stored; cases v.kind <;> rfl

/-- a stored vote adds its stake to exactly the counts it feeds (for its block, where the count is per block) -/
theorem counted_stored (e : Epoch) (st : SlotState) (v : Vote) (c : Cert) :
    (st.stored e v).counted c = st.counted c +
      if c.kind ∈ feeds v.kind ∧ (c.kind = .skip ∨ c.kind = .final ∨ c.hash = v.hash) then e.stake v.signer else 0 := by
  unfold SlotState.stored SlotState.counted feeds
  cases hv : v.kind <;> cases hc : c.kind <;>
    simp [lookupD_addTo, Nat.add_assoc, Nat.add_comm, Nat.add_left_comm] <;> split <;> omega

/-- the certificate a vote for `h` would create of `c`'s kind meets the demand `c` if `c` is about block `h` -/
theorem certOf_meets (e : Epoch) (s : SlotState) (h : Nat) {c : Cert} (hc : c.kind = .skip ∨ c.kind = .final ∨ c.hash = h) :
    certKey (certOf e s h c.kind) = certKey c ∧ s.counted (certOf e s h c.kind) = s.counted c := by
  have hk : ∀ k, (certOf e s h k).kind = k := fun k => by cases k <;> rfl
  refine ⟨certKey_eq_iff.mpr ⟨hk _, fun hn => ?_⟩, ?_⟩
  · rw [hn] at hc ⊢
    exact ((hc.resolve_left nofun).resolve_left nofun).symm
  · unfold SlotState.counted
    rw [hk]
    -- per block (notar, nf, ff): `c` is about block `h`; per slot (skip, final): nothing to show
    cases hkk : c.kind <;> rw [hkk] at hc <;> dsimp only <;> rw [← (hc.resolve_left nofun).resolve_left nofun] <;> rfl

/-- After the vote is stored and counted: a threshold that is reached and whose certificate is not held was crossed by
    this vote, and the certificate is among those the vote creates. -/
theorem pending_stored (e : Epoch) (st : SlotState) (v : Vote) (i : InvT e st) :
    Pending e (st.stored e v) ((st.stored e v).newCerts e v) :=
  pending_iff.mpr fun c d => by
    by_cases hf : c.kind ∈ feeds v.kind ∧ (c.kind = .skip ∨ c.kind = .final ∨ c.hash = v.hash)
    · -- a demand the vote adds to: met already, or by the certificate the vote creates of this kind
      obtain ⟨hkey, hcnt⟩ := certOf_meets e (st.stored e v) v.hash hf.2
      cases hd : certDup (st.stored e v) c
      · refine Or.inr ⟨_, mem_newCerts_iff.mpr ⟨c.kind, hf.1, rfl, ?_, (certDup_key _ _ _ hkey).trans hd⟩, hkey⟩
        unfold due at d ⊢
        rw [hcnt, (certKey_eq_iff.mp hkey).1]
        exact d
      · exact Or.inl rfl
    · unfold due at d
      rw [counted_stored, if_neg hf, Nat.add_zero] at d
      exact Or.inl ((certDup_stored e st v c).trans (invT_iff.mp i c d))

theorem notifyParentCertified_core (e : Epoch) (st : SlotState) (h : Nat) (s : SlotState) (evs : List Event)
    (hn : st.notifyParentCertified e h = some (s, evs)) : CoreEq st s := by
  unfold SlotState.notifyParentCertified at hn
  split at hn
  · cases hn
  · dsimp only at hn
    split at hn
    · cases hn; exact ⟨rfl⟩
    · cases hn
      constructor
      rw [checkS2N_core]
      rfl

theorem notifyParentKnown_core (st : SlotState) (h : Nat) : CoreEq st (st.notifyParentKnown h) := by
  unfold SlotState.notifyParentKnown
  split <;> exact ⟨rfl⟩

theorem slotStep_InvV (e : Epoch) (st : SlotState) (op : SlotOp) (i : InvV e st) : InvV e (slotStep e st op).1 :=
  slotStep_core_cases e st op (fun b _ => InvV e b) (fun h i => i.of_coreEq h) i
    (fun v ha => addCerts_keeps (InvV_addCert e) _ _ (stored_InvV e st v i ha)) (fun c _ => InvV_addCert e st c i)

theorem slotStep_InvT (e : Epoch) (st : SlotState) (op : SlotOp) (i : InvT e st) : InvT e (slotStep e st op).1 :=
  slotStep_core_cases e st op (fun b _ => InvT e b) (fun h i => i.of_coreEq h) i
    (fun v _ => InvT_of_pending e _ _ (pending_stored e st v i)) (fun c _ => InvT_addCert e st c i)

theorem slotStep_Inv (e : Epoch) (st : SlotState) (op : SlotOp) (i : Inv e st) : Inv e (slotStep e st op).1 :=
  ⟨slotStep_InvV e st op i.1, slotStep_InvT e st op i.2⟩

theorem slotRun_invariant {e : Epoch} {P : SlotState → Prop} (step : ∀ st op, P st → P (slotStep e st op).1)
    (ops : List SlotOp) (st : SlotState) (i : P st) : P (slotRun e st ops).1 := by
  induction ops generalizing st with
  | nil => exact i
  | cons op ops ih => exact ih _ (step st op i)

theorem slotRun_Inv (e : Epoch) (ops : List SlotOp) (st : SlotState) (i : Inv e st) : Inv e (slotRun e st ops).1 :=
  slotRun_invariant (slotStep_Inv e) ops st i

/-- What is ever done to a slot state: an admitted vote, a certificate added, a new parent entry, a parent marked certified
    (followed by `check_safe_to_notar` unless the block was signalled). A predicate kept by the four is kept by `slotStep`
    and along `slotRun`. (`Inv` is not one: between `add_vote` and the `add_cert`s that follow, `InvT` can fail.) -/
structure SlotMoves (e : Epoch) (Q : SlotState → Prop) : Prop where
  vote : ∀ st v, Adm st v → Q st → Q (st.addVote e v).1
  cert : ∀ st c, Q st → Q (st.addCert c)
  known : ∀ st h, st.parents.lookup h = none → Q st → Q { st with parents := st.parents ++ [(h, false)] }
  certified : ∀ st h, Q st → (h ∈ st.sent → Q (st.certify h)) ∧ (h ∉ st.sent → Q ((st.certify h).checkS2N e h).1)

namespace SlotMoves
variable {e : Epoch} {Q : SlotState → Prop} (m : SlotMoves e Q)
include m

theorem step (st : SlotState) (op : SlotOp) (i : Q st) : Q (slotStep e st op).1 :=
  slotStep_cases e st op (fun r => Q r.1) i (fun v ha => addCerts_keeps m.cert _ _ (m.vote st v ha i)) (fun c _ => m.cert st c i)
    (fun h hn => m.known st h hn i) i (fun h => m.certified st h i)

theorem run (ops : List SlotOp) (st : SlotState) (i : Q st) : Q (slotRun e st ops).1 :=
  slotRun_invariant m.step ops st i

end SlotMoves

/-- The same four as a relation, with the events: what the pool applies to a slot state (an admitted vote — the certificates
    it creates are added by separate moves —, a certificate added, `notify_parent_known`, a successful
    `notify_parent_certified`). -/
inductive SlotMove (e : Epoch) : SlotState → SlotState → List Event → Prop
  | vote (st) (v : Vote) : Adm st v → SlotMove e st (st.addVote e v).1 (st.addVote e v).2.2
  | cert (st) (c : Cert) : SlotMove e st (st.addCert c) []
  | known (st) (h : Nat) : SlotMove e st (st.notifyParentKnown h) []
  | certified (st) (h : Nat) (st' evs) : st.notifyParentCertified e h = some (st', evs) → SlotMove e st st' evs

theorem SlotMoves.move {e : Epoch} {Q : SlotState → Prop} (m : SlotMoves e Q) {a b : SlotState} {evs : List Event}
    (s : SlotMove e a b evs) (i : Q a) : Q b := by
  cases s with
  | vote v ha => exact m.vote a v ha i
  | cert c => exact m.cert a c i
  | known h => exact m.step a (.parentKnown h) i
  | certified h st' evs hn => simpa only [slotStep, hn] using m.step a (.parentCertified h) i

end AgModel.Pool
