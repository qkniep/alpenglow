import AgModel.Proofs.PoolS2NGlueSlots
/-!
The call structure of `poolStep` (slot step, created certificates, finality, parent-ready, waiting children) walked once for
any per-slot predicate `Q` and event predicate `G` (`EvGen`): `G` holds for every safe-to event that is justified (`EvSound`,
C06 `s2n_s2s_sound`) in a slot state satisfying `Q`, and for all other events. Unlike for `SlotClosed`, `Q` need not be kept
by every vote and certificate, only by those of the operation at hand (`OpKeeps`): in both instances a log has to vouch
for them — "every stored own vote is logged" (`QO`, C05, `Proofs/NodeFallback.lean`) and "every stored vote is signed"
(`QS`, C01 cluster refinement, `Proofs/PoolSignedStep.lean`). Both read the core of a slot state only, so `G` is not chosen
either: every safe-to event comes with the slot state that emitted it (`EvGen.of_core`, `Witnessed`).
-/
namespace AgModel.Pool

structure EvGen (e : Epoch) (Q : SlotState → Prop) (G : Event → Prop) : Prop where
  init : ∀ s, Q { slot := s }
  kid : ∀ k, KidSite e Q k
  known : ∀ st h, Q st → Q (st.notifyParentKnown h)
  sound : ∀ st evs, Q st → EvSound e st evs → ∀ ev ∈ evs, G ev
  pr : ∀ s a b, G (.parentReady s a b)
  panic : G .panic
  repair : ∀ a b, G (.repair a b)
  cert : ∀ c, G (.cert c)

def PInv (e : Epoch) (Q : SlotState → Prop) (p : Pool) : Prop := p.epoch = e ∧ SlotsSat p Q

variable {e : Epoch} {Q : SlotState → Prop} {G : Event → Prop}

theorem PInv.init (g : EvGen e Q G) : PInv e Q { epoch := e } := ⟨rfl, SlotsSat.init e _⟩

theorem PInv.slotState (g : EvGen e Q G) {p : Pool} (h : PInv e Q p) (s : Nat) : PInv e Q (p.slotState s).1 :=
  ⟨(slotState_frame p s).epoch.trans h.1, h.2.slotState s (g.init s)⟩

theorem PInv.advance {p : Pool} (h : PInv e Q p) (t : Finality.Tracker) (r : ParentReady.Res) : PInv e Q (p.advance t r) :=
  ⟨(advance_epoch p t r).trans h.1, h.2.advance t r⟩

theorem PInv.mod (g : EvGen e Q G) {p : Pool} (h : PInv e Q p) (s : Nat) {st' : SlotState} (hq : Q st') :
    PInv e Q ((p.slotState s).1.putSlot st') :=
  ⟨(mod_frame p s st').epoch.trans h.1, h.2.mod s st' (g.init s) hq⟩

theorem PInv.stored (g : EvGen e Q G) {p : Pool} (h : PInv e Q p) (c : Cert)
    (hc : ∀ st, st.slot = c.slot → Q st → Q (st.addCert c)) : PInv e Q (p.stored c) :=
  h.mod g c.slot (hc _ (slotState_snd_slot p c.slot) (h.2.slotState_snd c.slot (g.init _)))

theorem EvGen.tracker (g : EvGen e Q G) {ev : Event} (h : ev.tracker) : G ev := by
  cases ev <;> first | exact g.panic | exact g.pr _ _ _ | cases h

/-- a safe-to event comes with a slot state that satisfies `Q` and the event's condition -/
def Witnessed (e : Epoch) (Q : SlotState → Prop) : Event → Prop
  | .s2n s h => ∃ st, st.slot = s ∧ Q st ∧ S2NCond e st h
  | .s2s s => ∃ st, st.slot = s ∧ Q st ∧ S2SCond e st
  | _ => True

/-- A per-slot predicate that holds of a fresh slot state and reads the core of a slot state only is an instance; the event
    predicate need not be chosen: the emitting slot state is the witness, whatever else is wanted of a safe-to event follows
    from `Q` of it. -/
theorem EvGen.of_core (init : ∀ s, Q { slot := s }) (core : ∀ a b, CoreEq a b → Q a → Q b) : EvGen e Q (Witnessed e Q) where
  init := init
  kid k st st' evs _ hn := core _ _ (notifyParentCertified_core e st k.2 st' evs hn)
  known st h := core _ _ (notifyParentKnown_core st h)
  sound st evs hq hs ev hev := by
    have := hs ev hev
    cases ev with
    | s2n s h => exact ⟨st, this.1.symm, hq, this.2⟩
    | s2s s => exact ⟨st, this.1.symm, hq, this.2⟩
    | _ => trivial
  pr _ _ _ := trivial
  panic := trivial
  repair _ _ := trivial
  cert _ := trivial

def PG (e : Epoch) (Q : SlotState → Prop) (G : Event → Prop) (q : Pool) (A : List Event) : Prop :=
  PInv e Q q ∧ ∀ ev ∈ A, G ev

theorem PG.emit {q q' : Pool} {A B : List Event} (h : PG e Q G q A) (hq : PInv e Q q') (hB : ∀ ev ∈ B, G ev) :
    PG e Q G q' (A ++ B) :=
  ⟨hq, List.forall_mem_append.mpr ⟨h.2, hB⟩⟩

theorem PG.emit1 {q : Pool} {A : List Event} {ev : Event} (h : PG e Q G q A) (hev : G ev) : PG e Q G q (A ++ [ev]) :=
  h.emit h.1 (List.forall_mem_singleton.mpr hev)

theorem PG.certified (g : EvGen e Q G) {q : Pool} {A : List Event} (h : PG e Q G q A) {k : Nat × Nat} {st' : SlotState}
    {evs : List Event} (hn : (q.slotState k.1).2.notifyParentCertified q.epoch k.2 = some (st', evs)) :
    PG e Q G ((q.slotState k.1).1.putSlot st') (A ++ evs) := by
  rw [h.1.1] at hn
  have hq := g.kid k _ st' evs (slotState_snd_slot q k.1) hn (h.1.2.slotState_snd k.1 (g.init _))
  exact h.emit (h.1.mod g k.1 hq) (g.sound _ _ hq (certified_emit hn).1)

theorem PG.notifyWaiting (g : EvGen e Q G) {q : Pool} {A : List Event} (h : PG e Q G q A) (par0 : Nat × Nat) :
    PG e Q G (q.notifyWaiting par0).1 (A ++ (q.notifyWaiting par0).2) := by
  have := notifyWaiting_ind (fun _ r B => PG e Q G r B) (fun _ _ _ _ _ hr => hr)
    (fun k _ r B _ _ hr => PG.emit1 ⟨hr.1.slotState g k.1, hr.2⟩ g.panic) (fun _ _ _ _ _ _ _ hn hr => hr.certified g hn)
    q par0
    ⟨⟨h.1.1, fun s st hg => h.1.2 s st hg⟩, fun _ hx => nomatch hx⟩
  exact h.emit this.1 this.2

theorem PG.applyPr {q : Pool} {A : List Event} (g : EvGen e Q G) (h : PG e Q G q A) (r : ParentReady.Res) :
    PG e Q G (q.applyPr r).1 (A ++ (q.applyPr r).2) :=
  h.emit ⟨(applyPr_frame q r).1.trans h.1.1, h.1.2.applyPr r⟩ fun ev hev => g.tracker (applyPr_events q r ev hev)

theorem PG.addValidCert (g : EvGen e Q G) {p : Pool} {A : List Event} (h : PG e Q G p A) (c : Cert)
    (hc : ∀ st, st.slot = c.slot → Q st → Q (st.addCert c)) :
    PG e Q G (p.addValidCert c).1 (A ++ (p.addValidCert c).2) := by
  have hfin : ∀ (q : Pool) (E : List Event) (op : Finality.Op), PG e Q G q E →
      PG e Q G (q.handleFin (Finality.step q.fin op)).1 (E ++ (q.handleFin (Finality.step q.fin op)).2) := by
    intro q E op hq
    exact hq.emit (handleFin_ind _ op hq.1 fun t r _ => hq.1.advance t r) fun ev hev =>
      g.tracker (handleFin_events q _ ev hev)
  obtain ⟨E, hE, heq⟩ := addValidCert_indE c p (PG e Q G) (PG e Q G) A ⟨h.1.stored g c hc, h.2⟩
    (fun q E op _ hq => hfin q E op hq) (fun _ q E hq => hq.notifyWaiting g _) (fun _ q E hq => hq)
    (fun _ q E hq => (hq.applyPr g _).emit1 (g.repair _ _)) (fun _ q E hq => hq.applyPr g _)
  rw [heq]; exact hE.emit1 (g.cert c)

def OpKeeps (e : Epoch) (Q : SlotState → Prop) : PoolOp → Prop
  | .vote v => ∀ st, st.slot = v.slot → Adm st v → Q st →
      Q (st.addVote e v).1 ∧ ∀ c ∈ (st.addVote e v).2.1, ∀ st', st'.slot = c.slot → Q st' → Q (st'.addCert c)
  | .cert c => ∀ st, st.slot = c.slot → Q st → Q (st.addCert c)
  | .block _ _ => True

theorem poolStep_pg (g : EvGen e Q G) (p : Pool) (op : PoolOp) (h : PInv e Q p) (hop : OpKeeps e Q op) :
    PG e Q G (poolStep p op).1 (poolStep p op).2 := by
  have he := h.1
  subst he
  have h0 : PG _ Q G p [] := ⟨h, fun _ hx => nomatch hx⟩
  cases op with
  | vote v =>
    simp only [poolStep]
    rcases addVote_outcomes p v with h3 | ⟨_, h3⟩ | ⟨vd, _, _, h3⟩ | ⟨_, ha, h3⟩ <;> rw [h3] <;> dsimp only
    · exact h0
    · exact h0.emit1 g.panic
    · exact ⟨h.slotState g _, h0.2⟩
    · obtain ⟨k1, k2⟩ := hop _ (slotState_snd_slot p v.slot) ha (h.2.slotState_snd v.slot (g.init _))
      have hv : PG _ Q G (p.voted v) [] := ⟨h.mod g v.slot k1, fun _ hx => nomatch hx⟩
      have := addValidCerts_indE (PG _ Q G) _ _ [] (fun c hc q A hq => hq.addValidCert g c (k2 c hc)) hv
      exact ⟨this.1, List.forall_mem_append.mpr ⟨this.2, g.sound _ _ k1 (addVote_emit p.epoch _ v).1⟩⟩
  | cert c =>
    simp only [poolStep]
    have hs : PG _ Q G (p.slotState c.slot).1 [] := ⟨h.slotState g _, h0.2⟩
    rcases addCert_outcomes p c with h3 | h3 | h3 <;> rw [h3]
    · exact h0
    · exact hs
    · exact hs.addValidCert g c hop
  | block b par =>
    simp only [poolStep]
    rcases addBlock_outcomes p b par with ⟨_, h1⟩ | ⟨t, ev', _, _, _, h1⟩ <;> rw [h1]
    · exact h0.emit1 g.panic
    · have hq := h.advance t (ParentReady.handleFinalization p.pr ev')
      have ht : ∀ ev ∈ (({ p with fin := t } : Pool).applyPr (ParentReady.handleFinalization p.pr ev')).2, G ev :=
        fun ev hev => g.tracker (applyPr_events _ _ ev hev)
      split
      · exact ⟨hq, ht⟩
      · have hk : PInv _ Q ((p.advance t (ParentReady.handleFinalization p.pr ev')).known b) :=
          hq.mod g b.1 (g.known _ b.2 (hq.2.slotState_snd b.1 (g.init _)))
        exact addBlockTail_ind (PG _ Q G) _ b par _ _
          (fun q hr => ⟨⟨(addWaiting_frame q par b).1.trans hr.1.1, hr.1.2.addWaiting par b⟩, hr.2⟩)
          (fun _ _ => PG.emit1 ⟨hk.slotState g b.1, ht⟩ g.panic) (fun _ _ _ hn => PG.certified g ⟨hk, ht⟩ hn) ⟨hk, ht⟩

end AgModel.Pool
