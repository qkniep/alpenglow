import AgModel.Proofs.PoolWiring
import AgModel.Proofs.ParentReadySound
import AgModel.Proofs.FinalitySound
/-!
# C01 cluster refinement, pool part 3: every `ParentReady` event a pool emits is justified

The pool feeds its two trackers (`Model/Finality.lean`, `Model/ParentReady.lean`) from the certificates it stores and the
blocks registered with it. For abstract predicates (`TP`): `F : Finality.FP` (in the finalized log / gap / notarization
certificate / finalization certificate, with their closure properties), `CP` (block certified), `SP` (slot skip-certified)
with `L ⊆ CP` and `G ⊆ SP` — if every certificate passing through `add_valid_cert` satisfies the predicate of its type
(`CertT`) and every registration agrees with the parent function, then (`poolStep_ti`) the tracker invariants
(`Finality.FI`, `ParentReady.PRI`) are kept and every `ParentReady(w, p)` event emitted satisfies
`ReadyP CP SP w p`: `p` is in an earlier slot and certified, every slot in between is skip-certified.
No premise on the safety of the history is needed (soundness only; contrast `pool_ready_iff`, C07).
-/
namespace AgModel.Pool

structure TP where
  F : Finality.FP
  CP : Nat × Nat → Prop
  SP : Nat → Prop
  cpL : ∀ b, F.L b → CP b
  spG : ∀ u, F.G u → SP u

def TI (T : TP) (p : Pool) : Prop := Finality.FI T.F p.fin ∧ ParentReady.PRI T.CP T.SP p.pr

theorem TI.of_trk {T : TP} {p q : Pool} (h : TI T p) (e : q.trk = p.trk) : TI T q := by
  have e1 : q.fin = p.fin := congrArg Trk.fin e
  have e2 : q.pr = p.pr := congrArg Trk.pr e
  unfold TI; rw [e1, e2]; exact h

theorem TI.init (T : TP) (e : Epoch) (hN : T.F.N (0, 0)) (hC : T.CP (0, 0)) : TI T { epoch := e } :=
  ⟨Finality.FI.init T.F hN, ParentReady.PRI.init hC⟩

def CertT (T : TP) (c : Cert) : Prop :=
  match c.kind with
  | .notar => T.F.N (c.slot, c.hash) ∧ T.CP (c.slot, c.hash)
  | .nf => T.CP (c.slot, c.hash)
  | .skip => T.SP c.slot
  | .ff => T.F.L (c.slot, c.hash)
  | .final => T.F.Fc c.slot

def ReadyEv (T : TP) : Event → Prop
  | .parentReady w a b => ParentReady.ReadyP T.CP T.SP w (a, b)
  | _ => True

theorem readyEv_quiet (T : TP) {evs : List Event} (h : Quiet evs) : ∀ ev ∈ evs, ReadyEv T ev := by
  intro ev hev
  have := h ev hev
  cases ev <;> first | trivial | cases this

theorem readyEv_panic (T : TP) : ∀ ev ∈ [Event.panic], ReadyEv T ev := List.forall_mem_singleton.mpr trivial

theorem TI.step {T : TP} {E : List Event} {r : Pool × List Event} (hE : ∀ ev ∈ E, ReadyEv T ev)
    (a : TI T r.1 ∧ ∀ ev ∈ r.2, ReadyEv T ev) : TI T r.1 ∧ ∀ ev ∈ E ++ r.2, ReadyEv T ev :=
  ⟨a.1, List.forall_mem_append.mpr ⟨hE, a.2⟩⟩

theorem applyPr_ti (T : TP) (p : Pool) (r : ParentReady.Res) (h : TI T p)
    (hr : ∀ pr' anns wk, r = some (pr', anns, wk) →
      ParentReady.PRI T.CP T.SP pr' ∧ ∀ a ∈ anns, ParentReady.ReadyP T.CP T.SP a.1 a.2) :
    TI T (p.applyPr r).1 ∧ ∀ ev ∈ (p.applyPr r).2, ReadyEv T ev := by
  unfold Pool.applyPr
  split
  · exact ⟨h, readyEv_panic T⟩
  · rename_i pr anns wk
    obtain ⟨a, b⟩ := hr pr anns wk rfl
    refine ⟨⟨h.1, a⟩, ?_⟩
    intro ev hev
    unfold prEvents at hev
    obtain ⟨x, hx, rfl⟩ := List.mem_map.mp hev
    exact b x hx

theorem TI.prune {T : TP} {p : Pool} (h : TI T p) : TI T p.prune :=
  ⟨h.1, h.2.prune _⟩

theorem handleFin_ti (T : TP) (p : Pool) (r : Finality.Res) (h : TI T p) (hr : Finality.ResOk T.F r) :
    TI T (p.handleFin r).1 ∧ ∀ ev ∈ (p.handleFin r).2, ReadyEv T ev := by
  unfold Pool.handleFin
  split
  · exact ⟨h, readyEv_panic T⟩
  · rename_i t ev
    obtain ⟨hfi, hev⟩ := hr
    have h1 : TI T ({ p with fin := t } : Pool) := ⟨hfi, h.2⟩
    have := applyPr_ti T ({ p with fin := t } : Pool) (ParentReady.handleFinalization p.pr ev) h1 (by
      intro pr' anns wk he
      apply ParentReady.handleFinalization_pri h.2 ev ?_ ?_ he
      · intro b hb
        rcases List.mem_append.mp hb with hb | hb
        · exact T.cpL b (hev.fin b (by simpa using hb))
        · exact T.cpL b (hev.impl b hb)
      · intro s hs; exact T.spG s (hev.skip s hs))
    exact ⟨this.1.prune, this.2⟩

/-- `h` has the shape in which `addValidCert_indE` presents a call of the finality tracker -/
theorem CertT.opF {T : TP} {c : Cert} (hc : CertT T c) {op : Finality.Op}
    (h : c.kind = .notar ∧ op = .notar (c.slot, c.hash) ∨ c.kind = .ff ∧ op = .fastFinal (c.slot, c.hash) ∨
      c.kind = .final ∧ op = .final c.slot) : Finality.OpF T.F op := by
  unfold CertT at hc
  rcases h with ⟨hk, rfl⟩ | ⟨hk, rfl⟩ | ⟨hk, rfl⟩ <;> rw [hk] at hc
  · exact hc.1
  · exact hc
  · exact hc

theorem CertT.cp {T : TP} {c : Cert} (hc : CertT T c) (h : c.kind = .notar ∨ c.kind = .nf) : T.CP (c.slot, c.hash) := by
  unfold CertT at hc
  rcases h with hk | hk <;> rw [hk] at hc
  · exact hc.2
  · exact hc

theorem CertT.sp {T : TP} {c : Cert} (hc : CertT T c) (h : c.kind = .skip) : T.SP c.slot := by
  unfold CertT at hc; rw [h] at hc; exact hc

theorem addValidCert_ti (T : TP) (c : Cert) (p : Pool) (h : TI T p) (hc : CertT T c) :
    TI T (p.addValidCert c).1 ∧ ∀ ev ∈ (p.addValidCert c).2, ReadyEv T ev := by
  obtain ⟨E, hE, he⟩ := addValidCert_indE c p (fun q E => TI T q ∧ ∀ ev ∈ E, ReadyEv T ev)
    (fun q E => TI T q ∧ ∀ ev ∈ E, ReadyEv T ev) [] ⟨h.of_trk (stored_frame p c).trk, fun _ hx => nomatch hx⟩
    (fun q E op hop a => TI.step a.2 (handleFin_ti T q _ a.1 (Finality.step_fi T.F q.fin op a.1.1 (hc.opF hop))))
    (fun _ q E a => TI.step a.2 ⟨a.1.of_trk (notifyWaiting_trk q _), readyEv_quiet T (notifyWaiting_quiet q _)⟩)
    (fun _ _ _ a => a)
    (fun hk q E a => by
      have b := TI.step a.2 (applyPr_ti T q _ a.1 (fun pr' anns wk he =>
        ParentReady.markNotarFallback_pri a.1.2 _ (hc.cp hk) he))
      exact ⟨b.1, List.forall_mem_append.mpr ⟨b.2, List.forall_mem_singleton.mpr trivial⟩⟩)
    (fun hk q E a => TI.step a.2 (applyPr_ti T q _ a.1 (fun pr' anns wk he =>
      ParentReady.markSkipped_pri a.1.2 _ (hc.sp hk) he)))
  rw [show (p.addValidCert c).2 = E ++ [.cert c] from he]
  exact ⟨hE.1, List.forall_mem_append.mpr ⟨hE.2, List.forall_mem_singleton.mpr trivial⟩⟩

theorem addValidCerts_ti (T : TP) (cs : List Cert) (p : Pool) (acc : List Event) (h : TI T p) (hc : ∀ c ∈ cs, CertT T c)
    (hacc : ∀ ev ∈ acc, ReadyEv T ev) :
    TI T (p.addValidCerts cs acc).1 ∧ ∀ ev ∈ (p.addValidCerts cs acc).2, ReadyEv T ev :=
  addValidCerts_indE (fun q E => TI T q ∧ ∀ ev ∈ E, ReadyEv T ev) cs p acc
    (fun c hcm q _ a => TI.step a.2 (addValidCert_ti T c q a.1 (hc c hcm))) ⟨h, hacc⟩

theorem addBlockTail_ready (T : TP) (r : Pool) (b par : Nat × Nat) (e0 : List Event) (cert : Bool)
    (h0 : ∀ ev ∈ e0, ReadyEv T ev) : ∀ ev ∈ (Pool.addBlockTail r b par e0 cert).2, ReadyEv T ev :=
  addBlockTail_ind (fun _ E => ∀ ev ∈ E, ReadyEv T ev) r b par e0 cert (fun _ h => h)
    (fun _ _ => List.forall_mem_append.mpr ⟨h0, readyEv_panic T⟩)
    (fun _ _ _ hn => List.forall_mem_append.mpr ⟨h0, readyEv_quiet T (notifyParentCertified_quiet _ _ _ _ _ hn)⟩) h0

theorem addBlock_ti (T : TP) (p : Pool) (b par : Nat × Nat) (h : TI T p) (hp : T.F.par b = par) :
    TI T (p.addBlock b par).1 ∧ ∀ ev ∈ (p.addBlock b par).2, ReadyEv T ev := by
  have a := handleFin_ti T p (Finality.addParent p.fin b par) h (Finality.step_fi T.F p.fin (.parent b par) h.1 hp)
  rcases addBlock_handleFin p b par with ⟨_, e⟩ | e | ⟨cert, e⟩ <;> rw [e]
  · exact ⟨h, readyEv_panic T⟩
  · exact a
  · exact ⟨a.1.of_trk (by rw [addBlockTail_trk, (mod_frame _ _ _).trk]), addBlockTail_ready T _ b par _ _ a.2⟩

/-- the certificates an operation announces (`Event.cert`) are exactly those that went through `add_valid_cert`, so `hc`
    covers every call of a tracker -/
theorem poolStep_ti (T : TP) (p : Pool) (op : PoolOp) (h : TI T p)
    (hc : ∀ c, Event.cert c ∈ (poolStep p op).2 → CertT T c) (hb : ∀ b par, op = .block b par → T.F.par b = par) :
    TI T (poolStep p op).1 ∧ ∀ ev ∈ (poolStep p op).2, ReadyEv T ev := by
  cases op with
  | vote v =>
    have hc : ∀ c, Event.cert c ∈ (p.addVote v).2.2 → CertT T c := hc
    show TI T (p.addVote v).1 ∧ ∀ ev ∈ (p.addVote v).2.2, ReadyEv T ev
    rcases addVote_outcomes p v with e | ⟨_, e⟩ | ⟨vd, _, _, e⟩ | ⟨_, _, e⟩ <;> rw [e] at hc ⊢
    · exact ⟨h, readyEv_quiet T Quiet.nil⟩
    · exact ⟨h, readyEv_panic T⟩
    · exact ⟨h.of_trk (slotState_frame _ _).trk, readyEv_quiet T Quiet.nil⟩
    · dsimp only at hc ⊢
      have a := addValidCerts_ti T ((p.slotState v.slot).2.addVote p.epoch v).2.1 (p.voted v) []
        (h.of_trk (voted_frame p v).trk)
        (fun c hcm => hc c (List.mem_append_left _ ((addValidCerts_events _ _ _).2 c hcm))) (fun _ hx => nomatch hx)
      exact ⟨a.1, fun ev hev => (List.mem_append.mp hev).elim (a.2 ev) (readyEv_quiet T (slot_addVote_quiet _ _ _) ev)⟩
  | cert c =>
    have hc : ∀ c', Event.cert c' ∈ (p.addCert c).2.2 → CertT T c' := hc
    show TI T (p.addCert c).1 ∧ ∀ ev ∈ (p.addCert c).2.2, ReadyEv T ev
    rcases addCert_outcomes p c with e | e | e <;> rw [e] at hc ⊢
    · exact ⟨h, readyEv_quiet T Quiet.nil⟩
    · exact ⟨h.of_trk (slotState_frame _ _).trk, readyEv_quiet T Quiet.nil⟩
    · exact addValidCert_ti T c (p.slotState c.slot).1 (h.of_trk (slotState_frame _ _).trk)
        (hc c (addValidCert_event (p.slotState c.slot).1 c))
  | block b par => exact addBlock_ti T p b par h (hb b par rfl)

end AgModel.Pool
