import AgModel.Proofs.ParentReady
/-!
# Soundness of the parent-ready tracker, without any premise on the history

For arbitrary predicates `CP` ("block is certified") and `SP` ("slot is skip-certified"): if every notar-fallback /
finalization mark the tracker is given satisfies `CP` and every skip mark satisfies `SP`, then every pair `(s, p)` the
tracker ever puts into a ready list — in particular every pair it announces — satisfies

    ReadyP s p :  p.1 < s  ∧  CP p  ∧  ∀ u, p.1 < u → u < s → SP u.

Unlike `ready_iff` (C07, exactness) this direction needs no premise on pruning or on the safety of the history: a pruned
state just forgets. Used by the C01 cluster refinement (rule R5 for the first slot of a leader window).
-/
namespace AgModel.ParentReady

variable {CP : Nat × Nat → Prop} {SP : Nat → Prop}

def ReadyP (CP : Nat × Nat → Prop) (SP : Nat → Prop) (s : Nat) (p : Nat × Nat) : Prop :=
  p.1 < s ∧ CP p ∧ ∀ u, p.1 < u → u < s → SP u

structure PRI (CP : Nat × Nat → Prop) (SP : Nat → Prop) (t : Tracker) : Prop where
  ready : ∀ s p, p ∈ (get t s).ready → ReadyP CP SP s p
  nfs : ∀ s h, h ∈ (get t s).nfs → CP (s, h)
  skip : ∀ s, (get t s).skip = true → SP s

theorem PRI.init (h0 : CP (0, 0)) : PRI CP SP ParentReady.init :=
  ⟨get_init_ind (Q := fun x st => ∀ p ∈ st.ready, ReadyP CP SP x p) (fun _ hp => (by cases hp)) (fun _ _ _ hp => (by cases hp)),
    get_init_ind (Q := fun x st => ∀ y ∈ st.nfs, CP (x, y)) (fun y hy => (by rw [List.mem_singleton.mp hy]; exact h0))
      (fun _ _ _ hy => (by cases hy)),
    get_init_ind (Q := fun x st => st.skip = true → SP x) (fun hs => (by cases hs)) (fun _ _ hs => (by cases hs))⟩

theorem PRI.put {t : Tracker} (h : PRI CP SP t) (s : Nat) (v : PState)
    (h1 : ∀ p ∈ v.ready, ReadyP CP SP s p) (h2 : ∀ x ∈ v.nfs, CP (s, x)) (h3 : v.skip = true → SP s) : PRI CP SP (put t s v) :=
  ⟨get_put_ind (Q := fun x st => ∀ p ∈ st.ready, ReadyP CP SP x p) h1 h.ready,
    get_put_ind (Q := fun x st => ∀ y ∈ st.nfs, CP (x, y)) h2 h.nfs,
    get_put_ind (Q := fun x st => st.skip = true → SP x) h3 h.skip⟩

theorem PRI.of_get {t t' : Tracker} (h : PRI CP SP t) (hg : ∀ x, get t' x = get t x) : PRI CP SP t' :=
  ⟨fun x p hp => h.ready x p (hg x ▸ hp), fun x y hy => h.nfs x y (hg x ▸ hy), fun x hx => h.skip x (hg x ▸ hx)⟩

theorem PRI.prune {t : Tracker} (h : PRI CP SP t) (r : Nat) : PRI CP SP (prune t r) :=
  ⟨get_prune_ind (Q := fun x st => ∀ p ∈ st.ready, ReadyP CP SP x p) (fun _ _ hp => by cases hp) h.ready,
    get_prune_ind (Q := fun x st => ∀ y ∈ st.nfs, CP (x, y)) (fun _ _ hy => by cases hy) h.nfs,
    get_prune_ind (Q := fun x st => st.skip = true → SP x) (fun _ hs => by cases hs) h.skip⟩

theorem ReadyP.extend {a x : Nat} {p : Nat × Nat} (h : ReadyP CP SP a p) (hax : a ≤ x)
    (hsk : ∀ u, a ≤ u → u < x → SP u) : ReadyP CP SP x p :=
  ⟨Nat.lt_of_lt_of_le h.1 hax, h.2.1, fun u hu1 hu2 =>
    if hua : u < a then h.2.2 u hu1 hua else hsk u (Nat.le_of_not_lt hua) hu2⟩

theorem fwd_pri {f : Nat} {t : Tracker} {slot : Nat} {ids : List (Nat × Nat)} (h : PRI CP SP t)
    (hids : ∀ id ∈ ids, ReadyP CP SP slot id)
    {t' : Tracker} {new : List (Nat × (Nat × Nat))} {w : List Wake} (hr : fwd f t slot ids = some (t', new, w)) :
    PRI CP SP t' ∧ ∀ a ∈ new, ReadyP CP SP a.1 a.2 := by
  have app := fwd_some hr
  have key : ∀ x, isWindowStart x = true ∧ Vis t slot x ∧ x < slot + f → ∀ id ∈ ids, ReadyP CP SP x id :=
    fun x hp id hid => (hids id hid).extend hp.2.1.1 (fun u hu1 hu2 => h.skip u (hp.2.1.2 u hu1 hu2))
  refine ⟨⟨fun s p hp => ((app.mem_ready s p).mp hp).elim (h.ready s p) (fun hq => key s hq.1 p hq.2),
    fun s x hx => h.nfs s x (app.nfs s ▸ hx), fun s hs => h.skip s (app.skip s ▸ hs)⟩, fun a ha => ?_⟩
  obtain ⟨hp, hb⟩ := (app.ann a.1 a.2).mp ha
  exact key a.1 hp a.2 hb

/-- a certified block of slot `s` may be announced at `s + 1` … -/
theorem ReadyP.here {s x : Nat} (c : CP (s, x)) : ReadyP CP SP (s + 1) (s, x) :=
  ⟨Nat.lt_succ_self _, c, fun _ a b => absurd a (Nat.not_lt.mpr (Nat.le_of_lt_succ b))⟩

/-- … and what may be announced at a skip-certified slot `s` may be announced at `s + 1` -/
theorem ReadyP.next {s : Nat} {p : Nat × Nat} (hs : SP s) (r : ReadyP CP SP s p) : ReadyP CP SP (s + 1) p :=
  r.extend (Nat.le_succ s) (fun _ a b => Nat.le_antisymm (Nat.le_of_lt_succ b) a ▸ hs)

theorem markNotarFallback_pri {t : Tracker} (h : PRI CP SP t) (id : Nat × Nat) (hid : CP id)
    {t' : Tracker} {new : List (Nat × (Nat × Nat))} {w : List Wake} (hr : markNotarFallback t id = some (t', new, w)) :
    PRI CP SP t' ∧ ∀ a ∈ new, ReadyP CP SP a.1 a.2 := by
  by_cases hk : id.1 < t.root ∨ (get t id.1).nfs.contains id.2 = true
  · obtain ⟨t1, e, _, _, g⟩ := markNotarFallback_same hk
    rw [e] at hr; cases hr
    exact ⟨h.of_get g, fun a ha => by cases ha⟩
  · rw [markNotarFallback_fresh hk] at hr
    refine fwd_pri (?_ : PRI CP SP _) (fun x hx => ?_) hr
    · refine h.put _ _ (h.ready id.1) (fun x hx => ?_) (h.skip id.1)
      rcases List.mem_append.mp hx with hx | hx
      · exact h.nfs id.1 x hx
      · rw [List.mem_singleton.mp hx]; exact hid
    · rw [List.mem_singleton.mp hx]
      exact ReadyP.here (s := id.1) (x := id.2) hid

theorem collectL_readyP {g : Nat → PState} (hr : ∀ s p, p ∈ (g s).ready → ReadyP CP SP s p)
    (hn : ∀ s x, x ∈ (g s).nfs → CP (s, x)) (hs : ∀ s, (g s).skip = true → SP s)
    {m n s1 : Nat} {acc : List (Nat × Nat)} {p : Nat × Nat} (hn1 : n ≤ s1) (hp : p ∈ collectL g m n s1 acc) :
    p ∈ acc ∨ ReadyP CP SP s1 p := by
  induction n generalizing s1 acc with
  | zero => exact Or.inl hp
  | succ n ih =>
    obtain ⟨s, rfl⟩ : ∃ s, s1 = s + 1 := ⟨s1 - 1, (Nat.succ_pred_eq_of_pos (Nat.lt_of_lt_of_le (Nat.succ_pos n) hn1)).symm⟩
    rw [collectL_succ, Nat.add_sub_cancel] at hp
    have here : ∀ q, q ∈ accNfs g m s acc → q ∈ acc ∨ ReadyP CP SP (s + 1) q := by
      intro q hq
      unfold accNfs at hq
      split at hq
      · rcases List.mem_append.mp hq with hq | hq
        · exact Or.inl hq
        · obtain ⟨x, hx, rfl⟩ := List.mem_map.mp hq
          exact Or.inr (.here (hn s x hx))
      · exact Or.inl hq
    by_cases hsk : (g s).skip = true
    · rw [if_neg (not_not_intro hsk)] at hp
      rcases ih (Nat.le_of_succ_le_succ hn1) hp with hq | hq
      · rcases List.mem_append.mp hq with hq | hq
        · exact here p hq
        · exact Or.inr (.next (hs s hsk) (hr s p hq))
      · exact Or.inr (.next (hs s hsk) hq)
    · rw [if_pos hsk] at hp
      exact here p hp

theorem markSkipped_pri {t : Tracker} (h : PRI CP SP t) (ms : Nat) (hms : SP ms)
    {t' : Tracker} {new : List (Nat × (Nat × Nat))} {w : List Wake} (hr : markSkipped t ms = some (t', new, w)) :
    PRI CP SP t' ∧ ∀ a ∈ new, ReadyP CP SP a.1 a.2 := by
  by_cases hk : ms < t.root ∨ (get t ms).skip = true
  · obtain ⟨t1, e, _, _, g⟩ := markSkipped_same hk
    rw [e] at hr; cases hr
    exact ⟨h.of_get g, fun a ha => by cases ha⟩
  · obtain ⟨c, e, _, _, cg⟩ := markSkipped_fresh hk
    rw [e] at hr
    have h1 : PRI CP SP c := (h.put ms { get t ms with skip := true } (h.ready ms) (h.nfs ms) (fun _ => hms)).of_get cg
    exact fwd_pri h1
      (fun id hid => (collectL_readyP h1.ready h1.nfs h1.skip (Nat.sub_le _ _) hid).resolve_left (fun hh => by cases hh)) hr

theorem handleFinalization_pri {t : Tracker} (h : PRI CP SP t) (ev : Finality.Event)
    (hF : ∀ b ∈ ev.finalized.toList ++ ev.implFinalized, CP b) (hS : ∀ s ∈ ev.implSkipped, SP s)
    {t' : Tracker} {new : List (Nat × (Nat × Nat))} {w : List Wake} (hr : handleFinalization t ev = some (t', new, w)) :
    PRI CP SP t' ∧ ∀ a ∈ new, ReadyP CP SP a.1 a.2 :=
  handleFinalization_rel (R := fun t t' l => PRI CP SP t → PRI CP SP t' ∧ ∀ a ∈ l, ReadyP CP SP a.1 a.2)
    (fun _ h => ⟨h, fun _ ha => nomatch ha⟩)
    (fun r1 r2 h => ⟨(r2 (r1 h).1).1, fun x hx => (List.mem_append.mp hx).elim ((r1 h).2 x) ((r2 (r1 h).1).2 x)⟩)
    (fun r hs h => ⟨(r h).1, fun x hx => (r h).2 x (hs x hx)⟩)
    (fun b hb hr h => markNotarFallback_pri h b (hF b hb) hr) (fun s hs hr h => markSkipped_pri h s (hS s hs) hr) hr h

end AgModel.ParentReady
