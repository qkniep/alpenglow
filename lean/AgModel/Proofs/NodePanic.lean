import AgModel.Proofs.PoolWiring
import AgModel.Proofs.PoolS2NGluePanic
/-!
Cross-component panic-freedom (C10), pool half: every `ParentReady` event a pool operation emits is for the first slot of a
window (`PROk`, `poolStep_prOk`). That is the premise `Event.wellFormed` under which Votor's assertions are unreachable
(`Proofs/VotorExt.lean`); the two are put together in `Proofs/NodeRun.lean` (`VInv`) and `Props/C10.lean`.
-/
namespace AgModel.NodePanic
open AgModel AgModel.ParentReady

def AnnOk (anns : List (Nat × (Nat × Nat))) : Prop := ∀ a ∈ anns, isWindowStart a.1 = true

theorem AnnOk.append {a b : List (Nat × (Nat × Nat))} (h1 : AnnOk a) (h2 : AnnOk b) : AnnOk (a ++ b) :=
  fun x hx => (List.mem_append.mp hx).elim (h1 x) (h2 x)

/-- `MarkOk` (C07, `Proofs/ParentReady.lean`) says of every update of the parent-ready tracker that it announces window starts only -/
theorem AnnOk.of_markOk {t t' : Tracker} {anns : List (Nat × (Nat × Nat))} (h : MarkOk t t' anns) : AnnOk anns :=
  fun a ha => (h.2 a ha).1

open AgModel.Pool

def PROk (evs : List Pool.Event) : Prop := ∀ s ps ph, Pool.Event.parentReady s ps ph ∈ evs → ParentReady.isWindowStart s = true

theorem PROk.append {a b : List Pool.Event} (h1 : PROk a) (h2 : PROk b) : PROk (a ++ b) :=
  fun s ps ph hm => (List.mem_append.mp hm).elim (h1 s ps ph) (h2 s ps ph)

theorem PROk.nil : PROk [] := by intro s ps ph h; simp at h

def NoPR (evs : List Pool.Event) : Prop := ∀ s ps ph, Pool.Event.parentReady s ps ph ∉ evs

theorem NoPR.append {a b : List Pool.Event} (h1 : NoPR a) (h2 : NoPR b) : NoPR (a ++ b) :=
  fun s ps ph hm => (List.mem_append.mp hm).elim (h1 s ps ph) (h2 s ps ph)

theorem PROk.of_quiet {evs : List Pool.Event} (h : Quiet evs) : PROk evs :=
  fun _ _ _ hm => absurd (h _ hm) Bool.false_ne_true

theorem PROk.one {ev : Pool.Event} (h : ∀ s ps ph, ev ≠ .parentReady s ps ph) : PROk [ev] :=
  fun s ps ph hm => absurd (List.mem_singleton.mp hm).symm (h s ps ph)

theorem applyPr_ok (p : Pool.Pool) (r : ParentReady.Res) (hr : ∀ x, r = some x → AnnOk x.2.1) : PROk (p.applyPr r).2 := by
  unfold Pool.applyPr
  split
  · exact .one nofun
  · rename_i pr anns wk
    intro s ps ph hm
    obtain ⟨a, ha, he⟩ := List.mem_map.mp hm
    cases he
    exact hr (pr, anns, wk) rfl a ha

theorem SlotMove.quiet {e : Pool.Epoch} {a b : Pool.SlotState} {evs : List Pool.Event} (m : Pool.SlotMove e a b evs) :
    Pool.Quiet evs := by
  cases m with
  | vote v _ => exact Pool.slot_addVote_quiet e a v
  | cert c => exact .nil
  | known h => exact .nil
  | certified h _ _ hn => exact Pool.notifyParentCertified_quiet _ _ _ _ _ hn

theorem PrSite.ok {p : Pool.Pool} {r : ParentReady.Res} (h : Pool.PrSite p r) : PROk (p.applyPr r).2 :=
  applyPr_ok p r fun _ hx => by
    rcases h with ⟨ev, rfl⟩ | ⟨b, rfl⟩ | ⟨s, rfl⟩
    · exact .of_markOk (ParentReady.handleFinalization_ok hx)
    · exact .of_markOk (ParentReady.markNotarFallback_ok hx)
    · exact .of_markOk (ParentReady.markSkipped_ok hx)

theorem PROk.prim {p q : Pool.Pool} {evs : List Pool.Event} (m : Pool.Prim p q evs) : PROk evs := by
  cases m with
  | ctl evs h => exact fun s ps ph hm => (h _ hm).elim
  | create s evs h => exact fun s ps ph hm => (h _ hm).elim
  | slot s st' evs m _ => exact .of_quiet (SlotMove.quiet m)
  -- the events of the step are those of `applyPr` on the pool before the slot states advanced
  | advance t r _ hs => exact Pool.applyPr_events_eq p _ r ▸ PrSite.ok hs
  | pr r hs => exact PrSite.ok hs
  | queue | unwait => exact .nil

/-- The events of a pool operation are, up to order, those of the primitive changes it consists of (`poolStep_prims`), and
    each primitive change emits `PROk` events only. -/
theorem poolStep_prOk (p : Pool.Pool) (op : Pool.PoolOp) : PROk (Pool.poolStep p op).2 := by
  obtain ⟨B, hm, hp⟩ := Pool.poolStep_prims p op
  have := hm.keeps (X := fun _ A => PROk A) (fun _ _ _ _ m h => h.append (PROk.prim m)) (A := []) PROk.nil
  exact fun s ps ph hm => this s ps ph (hp.mem_iff.mpr hm)

end AgModel.NodePanic
