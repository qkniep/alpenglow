import AgModel.Model.Pool
/-! Association lists (`lookup`, `addTo`), list lemmas, thresholds and stake recounts over `List.range n` (core Lean only). -/
namespace AgModel.Pool

theorem lookup_eq_none_iff_not_mem_keys {β : Type} (l : List (Nat × β)) (k : Nat) :
    l.lookup k = none ↔ k ∉ l.map Prod.fst := by
  rw [List.lookup_eq_none_iff, List.mem_map]
  constructor
  · intro h ⟨p, hp, hk⟩
    have := h p hp
    rw [hk, bne_self_eq_false] at this; cases this
  · intro h p hp
    rw [bne_iff_ne]
    exact fun hk => h ⟨p, hp, hk.symm⟩

theorem lookup_none_of_not_mem_keys (l : List (Nat × Nat)) (k : Nat) (h : k ∉ l.map Prod.fst) : l.lookup k = none :=
  (lookup_eq_none_iff_not_mem_keys l k).mpr h

theorem mem_of_lookup_some {α β : Type} [BEq α] [LawfulBEq α] {l : List (α × β)} {k : α} {x : β}
    (h : l.lookup k = some x) : (k, x) ∈ l := by
  obtain ⟨l₁, l₂, rfl, _⟩ := List.lookup_eq_some_iff.mp h
  exact List.mem_append_right _ List.mem_cons_self

theorem any_key_eq_isSome {α β : Type} [BEq α] [LawfulBEq α] (l : List (α × β)) (k : α) :
    l.any (·.1 == k) = (l.lookup k).isSome := by
  rw [Bool.eq_iff_iff, List.any_eq_true, List.lookup_isSome_iff]
  exact exists_congr fun _ => and_congr_right fun _ => by rw [beq_iff_eq, beq_iff_eq, eq_comm]

theorem lookup_map_val {α β : Type} [BEq α] [LawfulBEq α] (g : α → β → β) (l : List (α × β)) (k : α) :
    (l.map fun x => (x.1, g x.1 x.2)).lookup k = (l.lookup k).map (g k) := by
  induction l with
  | nil => rfl
  | cons a as ih =>
    obtain ⟨k', v⟩ := a
    rw [List.map_cons, List.lookup_cons, List.lookup_cons]
    cases hk : k == k'
    · exact ih
    · rw [beq_iff_eq.mp hk]; rfl

theorem lookup_after_store {α β : Type} [BEq α] [LawfulBEq α] [DecidableEq α] (l : List (α × β)) (s : α) (h : β) (x : α)
    (hs : l.lookup s = none) : (l ++ [(s, h)]).lookup x = if x = s then some h else l.lookup x := by
  rw [List.lookup_append]
  by_cases hx : x = s
  · subst hx; rw [hs, if_pos rfl]; simp [List.lookup]
  · rw [if_neg hx, (by simp [List.lookup, beq_eq_false_iff_ne.mpr hx] : List.lookup x [(s, h)] = none), Option.or_none]

theorem lookup_map_snd_if {α β : Type} [BEq α] [LawfulBEq α] [DecidableEq α] (l : List (α × β)) (k x : α) (g : β → β) :
    (l.map (fun p => if p.1 == k then (p.1, g p.2) else p)).lookup x =
      if x = k then (l.lookup x).map g else l.lookup x := by
  rw [List.map_congr_left (g := fun p => (p.1, if p.1 == k then g p.2 else p.2)) fun p _ => by split <;> rfl,
    lookup_map_val fun a b => if a == k then g b else b]
  by_cases h : x = k
  · rw [if_pos h, h, beq_self_eq_true]; rfl
  · rw [if_neg h, beq_false_of_ne h]; cases l.lookup x <;> rfl
theorem lookupD_addTo (l : List (Nat × Nat)) (k v k' : Nat) :
    lookupD (addTo l k v) k' = lookupD l k' + (if k' = k then v else 0) := by
  unfold addTo lookupD
  split
  · rename_i hany
    rw [lookup_map_snd_if l k k' (· + v)]
    split
    · rename_i hk; subst hk
      cases hl : l.lookup k' with
      | some x => rfl
      | none => rw [any_key_eq_isSome, hl] at hany; cases hany
    · rfl
  · rename_i hany
    have hn := Option.not_isSome_iff_eq_none.mp (any_key_eq_isSome l k ▸ hany)
    rw [lookup_after_store l k v k' hn]
    by_cases hk : k' = k
    · rw [if_pos hk, if_pos hk, hk, hn]
      exact (Nat.zero_add v).symm
    · rw [if_neg hk, if_neg hk]
      rfl

theorem lookup_map_certified (l : List (Nat × Bool)) (h x : Nat) :
    (l.map (fun p => if p.1 == h then (p.1, true) else p)).lookup x =
      if x = h then (l.lookup x).map (fun _ => true) else l.lookup x :=
  lookup_map_snd_if l h x (fun _ => true)

theorem contains_append_single (l : List Nat) (s x : Nat) : (l ++ [s]).contains x = (l.contains x || x == s) := by
  rw [List.contains_append, List.contains_cons, List.contains_nil, Bool.or_false]

theorem contains_append_self (l : List Nat) (s : Nat) : (l ++ [s]).contains s = true := by
  rw [contains_append_single, beq_self_eq_true, Bool.or_true]

theorem contains_pair_append_single (l : List (Nat × Nat)) (s h x h' : Nat) :
    (l ++ [(s, h)]).contains (x, h') = (l.contains (x, h') || (x == s && h' == h)) := by
  rw [List.contains_append, List.contains_cons, List.contains_nil, Bool.or_false]; rfl

theorem mem_append_single {α : Type} {l : List α} {s x : α} : x ∈ l ++ [s] ↔ x ∈ l ∨ x = s := by
  rw [List.mem_append, List.mem_singleton]

theorem nodup_append_single {α : Type} (l : List α) (s : α) (hl : l.Nodup) (hs : s ∉ l) : (l ++ [s]).Nodup := by
  rw [List.nodup_append]
  refine ⟨hl, List.pairwise_singleton _ _, fun a ha b hb hab => ?_⟩
  rw [List.mem_singleton.mp hb] at hab
  exact hs (hab ▸ ha)

theorem ite_sublist {α : Type} (c : Prop) [Decidable c] (x : α) : List.Sublist (if c then [x] else []) [x] := by
  split
  · exact List.Sublist.refl _
  · exact List.nil_sublist _

theorem mem_insertSet (l : List Nat) (k x : Nat) : x ∈ insertSet l k ↔ x ∈ l ∨ x = k := by
  induction l with
  | nil => simp [insertSet]
  | cons y ys ih =>
    unfold insertSet
    split
    · rw [List.mem_cons, Or.comm]
    · split
      · rename_i hk
        exact ⟨Or.inl, fun h => h.elim id (fun h => by rw [h, hk]; exact List.mem_cons_self)⟩
      · rw [List.mem_cons, ih, List.mem_cons, or_assoc]

theorem filter_false_sum (l : List Nat) (f : Nat → Nat) : ((l.filter (fun _ => false)).map f).sum = 0 := by
  induction l with
  | nil => rfl
  | cons a as ih => simpa [List.filter_cons] using ih

theorem isMet_no_stake {num den total : Nat} (hpos : 0 < total) (hn : 0 < num) : isMet num den 0 total = false := by
  unfold isMet
  rw [Nat.zero_mul]
  exact decide_eq_false (Nat.not_le.mpr (Nat.mul_pos hpos hn))

theorem isMet_mono {num den a b total : Nat} (hab : a ≤ b) (h : isMet num den a total = true) : isMet num den b total = true := by
  unfold isMet at *
  simp only [decide_eq_true_eq] at *
  exact Nat.le_trans h (Nat.mul_le_mul_right den hab)

theorem isStrong_isQuorum (e : Epoch) (x : Nat) (h : e.isStrong x = true) : e.isQuorum x = true := by
  -- the strong threshold is above the quorum threshold (same denominator)
  unfold Epoch.isStrong Epoch.isQuorum isMet at *
  simp only [decide_eq_true_eq] at *
  exact Nat.le_trans (Nat.mul_le_mul_left _ (by decide)) h

theorem stake_of_ge_n (e : Epoch) (v : Nat) (h : ¬ v < e.n) : e.stake v = 0 := by
  unfold Epoch.stake Epoch.n at *
  simp [List.getD_eq_getElem?_getD, List.getElem?_eq_none (by omega : e.stakes.length ≤ v)]

theorem sum_filter_insert (l : List Nat) (hl : l.Nodup) (f : Nat → Nat) (p q : Nat → Bool) (v : Nat)
    (hq : ∀ x, q x = (p x || x == v)) (hp : p v = false) :
    ((l.filter q).map f).sum = ((l.filter p).map f).sum + (if v ∈ l then f v else 0) := by
  induction l with
  | nil => rfl
  | cons a as ih =>
    have hnd := List.nodup_cons.mp hl
    have IH := ih hnd.2
    by_cases hav : a = v
    · subst hav
      have hq' : q a = true := by rw [hq]; simp
      rw [List.filter_cons_of_pos hq', List.filter_cons_of_neg (by simp [hp]), List.map_cons, List.sum_cons, IH,
        if_neg hnd.1, if_pos List.mem_cons_self]
      omega
    · have hqa : q a = p a := by rw [hq]; simp [hav]
      have hmem : (v ∈ a :: as) = (v ∈ as) := by simp [List.mem_cons, Ne.symm hav]
      simp only [List.filter_cons, hqa, hmem]
      split
      · rw [List.map_cons, List.sum_cons, List.map_cons, List.sum_cons, IH]; omega
      · exact IH

/-- one new voter `v` in a vote store adds exactly `stake v` to the recount (0 if `v` is no validator) -/
theorem stakeOf_filter_insert (e : Epoch) (p q : Nat → Bool) (v : Nat)
    (hq : ∀ x, q x = (p x || x == v)) (hp : p v = false) :
    stakeOf e ((List.range e.n).filter q) = stakeOf e ((List.range e.n).filter p) + e.stake v := by
  unfold stakeOf
  rw [sum_filter_insert _ List.nodup_range e.stake p q v hq hp]
  split
  · rfl
  · rename_i hv; rw [stake_of_ge_n e v (by simpa using hv)]

end AgModel.Pool
