import AgModel.Proofs.ProgressCluster
/-!
# C02 progress, Stage D: a window whose leader is silent is skipped

The layers of a slot with a block (pool, node, cluster) again, for the slots `s ≤ t < E` of the rest of a window, `E = wEnd s`
the first slot of the next one. The skip votes arrive sender by sender and, of one sender, in slot order; so the slots reach
their quorums in slot order, the skip certificates are added in slot order (`k` is the first slot without one), and the
parent-ready tracker sees a run of skipped slots that grows at its end (`SkipRun`) until it reaches `E` and announces
`ParentReady(E, p)`.
-/
namespace AgModel.Pool
open AgModel.ParentReady (get isWindowStart SkipRun)
open AgModel.Node (certKind)

variable {e : Epoch} {hi s k E : Nat} {p : Nat × Nat}

/-- the trackers of a pool in whose current window skip certificates for the slots `s ≤ y < k` have been added -/
structure TSkip (hi s k : Nat) (p : Nat × Nat) (P : Pool) : Prop where
  first_le : P.fin.first ≤ p.1
  high_le : P.fin.highest ≤ p.1
  bound : hi < P.fin.highest + 2 * Gen.SLOTS_PER_EPOCH
  statusNone : ∀ t, p.1 < t → P.fin.status t = none
  parentsNone : ∀ b, p.1 < b.1 → P.fin.parents b = none
  parentOk : P.fin.status p.1 = some (.finalized p.2) ∨
    (p = (0, 0) ∧ P.fin.status 0 = some (.notarized 0) ∧ P.fin.parents (0, 0) = none ∧ (get P.pr 0).nfs = [0])
  between : ∀ t, p.1 < t → t < s → (get P.pr t).skip = true
  run : SkipRun s k p P.pr
  highEq : P.fin.highest = p.1

theorem TReady.toSkip {P : Pool} (t : TReady hi s p P) : TSkip hi s s p P := by
  refine ⟨t.first_le, t.high_le, t.bound, t.statusNone, t.parentsNone, t.parentOk, t.between, ?_, t.highEq⟩
  refine ⟨t.plt, t.root_le, fun y h1 h2 => by omega, ?_, ?_, t.atS.2.2, fun y hy => (t.above y hy).2.2, t.prParent⟩
  · intro y hy
    by_cases h : y = s
    · subst h; exact t.atS.1
    · exact (t.above y (by omega)).1
  · intro y hy
    by_cases h : y = s
    · subst h; exact t.atS.2.1
    · exact (t.above y (by omega)).2.1

theorem TSkip.of_trk {Q Q' : Pool} (t : TSkip hi s k p Q) (ht : Q'.trk = Q.trk) :
    TSkip hi s k p Q' := by
  have e1 : Q'.fin = Q.fin := congrArg Trk.fin ht
  have e2 : Q'.pr = Q.pr := congrArg Trk.pr ht
  obtain ⟨a1, a2, a3, a4, a5, a6, a7, a8, a9⟩ := t
  refine ⟨?_, ?_, ?_, ?_, ?_, ?_, ?_, ?_, ?_⟩ <;> (first | rw [e1, e2] | rw [e1] | rw [e2]) <;> assumption

theorem cert_skip {a : SlotState} {Q : Pool} (hg : Q.getSlot k = some a)
    (ts : TSkip hi s k p Q) (hsk : s ≤ k) (hkE : k < Cluster.wEnd s) {c : Cert} (kc : IsCert .skip k 0 c) :
    ∀ R, R = (Q.addValidCert c) →
    R.1.epoch = Q.epoch ∧ R.1.waiting = Q.waiting ∧
    (∀ t, R.1.getSlot t = if t = k then some (a.addCert c) else Q.getSlot t) ∧
    R.2 =
      prEvents (if k + 1 = Cluster.wEnd s then [(k + 1, p)] else []) ++ [.cert c] ∧
    (k + 1 < Cluster.wEnd s → TSkip hi s (k + 1) p R.1) ∧
    (k + 1 = Cluster.wEnd s → TReady hi (k + 1) p R.1) := by
  rintro R rfl
  obtain ⟨hk, rfl, _⟩ := kc
  obtain ⟨f1, f2, f3, f4, f5, f6, f7, r, f9⟩ := ts
  obtain ⟨pr', wk, hm, hr, g1, g2, g3⟩ := ParentReady.markSkipped_run s c.slot p Q.pr r hsk hkE
  obtain ⟨v1, v2, v3, v4, v5, v6⟩ := addValidCert_skip hk hg hm _ rfl
  have hpk : p.1 < c.slot := Nat.lt_of_lt_of_le r.plt hsk
  have h0k : 0 ≠ c.slot := Nat.ne_of_lt (Nat.lt_of_le_of_lt (Nat.zero_le _) hpk)
  -- the finality tracker is untouched: its clauses carry over
  rw [← v3] at f1 f2 f3 f4 f5 f6 f9
  refine ⟨v2, v6, v5, v1, ?_, ?_⟩
  · intro hlt
    -- marking slot `k` inside the window only sets its skip flag
    have g : ∀ y, y ≠ c.slot → get pr' y = get Q.pr y := fun y hy => g3 y hy (Or.inr (Nat.ne_of_lt hlt))
    have gf : ∀ y, (get pr' y).nfs = (get Q.pr y).nfs ∧ (get pr' y).ready = (get Q.pr y).ready := fun y => by
      by_cases hy : y = c.slot
      · rw [hy, g1]; exact ⟨rfl, rfl⟩
      · rw [g y hy]; exact ⟨rfl, rfl⟩
    refine ⟨f1, f2, f3, f4, f5, by rw [v4]; exact parentOk_congr f6 rfl rfl (fun _ => g 0 h0k), ?_, ?_, f9⟩
    · intro t h1 h2
      rw [v4, g t (Nat.ne_of_lt (Nat.lt_of_lt_of_le h2 hsk))]; exact f7 t h1 h2
    · rw [v4]
      refine ⟨r.plt, by rw [hr]; exact r.root_le, ?_, ?_, fun y h1 => (gf y).1.trans (r.noNfs y h1), (gf s).2.trans r.readyS,
        fun y h1 => (gf y).2.trans (r.readyAbove y h1), ?_⟩
      · intro y h1 h2
        by_cases hy : y = c.slot
        · rw [hy, g1]
        · rw [g y hy]; exact r.marked y h1 (Nat.lt_of_le_of_ne (Nat.le_of_lt_succ h2) hy)
      · intro y h1
        rw [g y (Nat.ne_of_gt h1)]; exact r.unmarked y (Nat.le_of_lt h1)
      · intro hw
        rw [g p.1 (Nat.ne_of_lt hpk)]
        exact r.parent hw
  · intro hE
    have hws : isWindowStart (c.slot + 1) = true := by rw [hE]; exact (Cluster.isWindowStart_iff _).mpr (Cluster.wEnd_mod s)
    have g : ∀ y, y ≠ c.slot → y ≠ c.slot + 1 → get pr' y = get Q.pr y := fun y hy hy' => g3 y hy (Or.inl hy')
    refine ⟨Nat.lt_succ_of_lt hpk, f1, f2, f3, f4, f5,
      by rw [v4]; exact parentOk_congr f6 rfl rfl (fun _ => g 0 h0k (Nat.succ_ne_zero _).symm), by rw [v4, hr]; exact r.root_le, ?_, ?_, ?_,
      fun hw => (by rw [hws] at hw; cases hw), f9⟩
    · intro t h1 h2
      rw [v4]
      by_cases hy : t = c.slot
      · subst hy; rw [g1]
      · have hlt : t < c.slot := Nat.lt_of_le_of_ne (Nat.le_of_lt_succ h2) hy
        rw [g t hy (Nat.ne_of_lt h2)]
        by_cases hts : t < s
        · exact f7 t h1 hts
        · exact r.marked t (Nat.le_of_not_lt hts) hlt
    · rw [v4, g2 hE, hws]
      exact ⟨r.unmarked _ (Nat.le_succ _), r.noNfs _ (Nat.le_succ_of_le hsk), by simp⟩
    · intro t ht
      have hkt : c.slot < t := Nat.lt_of_succ_lt ht
      rw [v4, g t (Nat.ne_of_gt hkt) (Nat.ne_of_gt ht)]
      exact ⟨r.unmarked t (Nat.le_of_lt hkt), r.noNfs t (Nat.le_trans hsk (Nat.le_of_lt hkt)),
        r.readyAbove t (Nat.lt_of_le_of_lt hsk hkt)⟩

theorem slotState_snd_congr {Q P : Pool} {x : Nat} (h : P.getSlot x = Q.getSlot x) : (P.slotState x).2 = (Q.slotState x).2 := by
  unfold Pool.slotState
  rw [h]
  cases Q.getSlot x <;> rfl

/-- `voters t` have voted skip in slot `t` of the window `s ≤ t < E`; the slots below `k` are those with a quorum, and their
    skip certificates have been added -/
structure PSkip (e : Epoch) (hi s E : Nat) (p : Nat × Nat) (voters : Nat → List Nat) (k : Nat) (P : Pool) : Prop where
  epoch : P.epoch = e
  plt : p.1 < s
  slots : ∀ t, s ≤ t → t < E → SkipSt e t (voters t) (P.slotState t).2
  noAbove : ∀ t, E ≤ t → P.getSlot t = none
  waiting : WaitBelow P s
  kle : s ≤ k ∧ k ≤ E
  trkS : k < E → TSkip hi s k p P
  trkR : k = E → TReady hi E p P
  quorum : ∀ t, s ≤ t → t < E → (e.isQuorum (stakeOf e (voters t)) = true ↔ t < k)

theorem PSkip.inBounds {P : Pool} {voters : Nat → List Nat}
    (ps : PSkip e hi s E p voters k P) (t : Nat) (h1 : s ≤ t) (h2 : t ≤ hi) : P.outOfBounds t = false := by
  have hpt : p.1 ≤ t := Nat.le_trans (Nat.le_of_lt ps.plt) h1
  by_cases hk : k < E
  · exact inBounds_of (Nat.le_trans (ps.trkS hk).first_le hpt) h2 (ps.trkS hk).bound
  · have tr := ps.trkR (Nat.le_antisymm ps.kle.2 (Nat.le_of_not_lt hk))
    exact inBounds_of (Nat.le_trans tr.first_le hpt) h2 tr.bound

theorem PSkip.next_eq {P : Pool} {voters : Nat → List Nat}
    (ps : PSkip e hi s E p voters k P) {t : Nat} (h1 : s ≤ t) (h2 : t < E) (hq0 : e.isQuorum (stakeOf e (voters t)) = false)
    (hprev : ∀ t', s ≤ t' → t' < t → e.isQuorum (stakeOf e (voters t')) = true) : k = t := by
  have hge : k ≤ t := Nat.le_of_not_lt (fun hlt => by have := (ps.quorum t h1 h2).mpr hlt; rw [hq0] at this; cases this)
  have hle : ¬ k < t := fun hlt =>
    Nat.lt_irrefl k ((ps.quorum k ps.kle.1 (Nat.lt_trans hlt h2)).mp (hprev k ps.kle.1 hlt))
  exact Nat.le_antisymm hge (Nat.le_of_not_lt hle)

theorem PSkip.congr {v v' : Nat → List Nat} {P : Pool}
    (ps : PSkip e hi s E p v k P) (h : ∀ t, s ≤ t → t < E → v t = v' t) : PSkip e hi s E p v' k P :=
  ⟨ps.epoch, ps.plt, fun t h1 h2 => by rw [← h t h1 h2]; exact ps.slots t h1 h2, ps.noAbove, ps.waiting, ps.kle, ps.trkS, ps.trkR,
    fun t h1 h2 => by rw [← h t h1 h2]; exact ps.quorum t h1 h2⟩

theorem PSkip.all {voters : Nat → List Nat} {P : Pool} (ps : PSkip e hi s E p voters k P)
    (h : ∀ t, s ≤ t → t < E → e.isQuorum (stakeOf e (voters t)) = true) : k = E :=
  Nat.le_antisymm ps.kle.2 (Nat.le_of_not_lt fun hk =>
    Nat.lt_irrefl k ((ps.quorum k ps.kle.1 hk).mp (h k ps.kle.1 hk)))

/-- what Votor will see of the skip certificate of slot `t` -/
def skipEvs (E : Nat) (p : Nat × Nat) (t : Nat) : List Votor.Event :=
  (if t + 1 = E then [Votor.Event.parentReady E p.1 p.2] else []) ++ [.cert .skip t 0]

/-- what Votor will see of the skip certificates of the slots `s ≤ t < k` -/
def skipQ (s : Nat) (p : Nat × Nat) (k : Nat) : List Votor.Event := (List.range' s (k - s)).flatMap (skipEvs (Cluster.wEnd s) p)

theorem skipQ_succ (s : Nat) (p : Nat × Nat) (k : Nat) (h : s ≤ k) : skipQ s p (k + 1) = skipQ s p k ++ skipEvs (Cluster.wEnd s) p k := by
  unfold skipQ
  rw [show k + 1 - s = (k - s) + 1 by omega, List.range'_concat, List.flatMap_append]
  simp only [List.flatMap_cons, List.flatMap_nil, List.append_nil]
  rw [show s + 1 * (k - s) = k by omega]

/-- `hprev`: the vote that completes the quorum of slot `t` finds the quorums of the earlier slots of the window complete — the
    votes of a sender arrive in slot order (`node_skip_vote`). With it the slot whose certificate is added is `k`
    (`PSkip.next_eq`), which is what `cert_skip` asks for. -/
theorem addVote_skip_step {Q : Pool} {voters : Nat → List Nat}
    (ps : PSkip e hi s (Cluster.wEnd s) p voters k Q) (t j : Nat) (h1 : s ≤ t)
    (h2 : t < Cluster.wEnd s) (h3 : t ≤ hi) (hj : j ∉ voters t) (hjn : j < e.n)
    (hprev : e.isQuorum (stakeOf e (voters t ++ [j])) = true → ∀ t', s ≤ t' → t' < t → e.isQuorum (stakeOf e (voters t')) = true) :
    ∀ R, R = (Q.addVote ⟨.skip, t, 0, j⟩) →
    ∃ k', PSkip e hi s (Cluster.wEnd s) p (fun x => if x = t then voters t ++ [j] else voters x) k' R.1 ∧
      Event.panic ∉ R.2.2 ∧ skipQ s p k ++ vEvs R.2.2 = skipQ s p k' := by
  rintro R rfl
  have hst := ps.slots t h1 h2
  obtain ⟨hc, hi'⟩ := hst.admits hj
  have hadm := addVote_admitted Q ⟨.skip, t, 0, j⟩ (ps.inBounds t h1 h3) (by rw [ps.epoch]; exact hjn) hc hi'
  have hQ0e : (Q.slotState t).1.epoch = e := (slotState_frame Q t).epoch.trans ps.epoch
  simp only [hQ0e] at hadm
  obtain ⟨c1, k1, hcs, hev, hst'⟩ := hst.addSkip j _ rfl
  rw [hadm]
  have hr1s := (addVote_slot e _ ⟨.skip, t, 0, j⟩).trans (slotState_snd_slot Q t)
  generalize (Q.slotState t).2.addVote e ⟨.skip, t, 0, j⟩ = r at *
  obtain ⟨hQ1trk, hQ1e, hQ1w, hQ1g⟩ := slotState_putSlot Q hr1s _ rfl
  replace hQ1e := hQ1e.trans ps.epoch
  generalize (Q.slotState t).1.putSlot r.1 = Q1 at *
  have hq := isQuorum_snoc e (voters t) j
  have hslots : ∀ (Q' : Pool) (a' : SlotState), (∀ x, Q'.getSlot x = if x = t then some a' else Q.getSlot x) →
      SkipSt e t (voters t ++ [j]) a' →
      (∀ x, s ≤ x → x < Cluster.wEnd s →
        SkipSt e x (if x = t then voters t ++ [j] else voters x) (Q'.slotState x).2) ∧
      (∀ x, Cluster.wEnd s ≤ x → Q'.getSlot x = none) := by
    intro Q' a' hg ha
    constructor
    · intro x hx1 hx2
      by_cases hxt : x = t
      · subst hxt
        rw [if_pos rfl, slotState_snd_of_some (by rw [hg, if_pos rfl])]
        exact ha
      · rw [if_neg hxt, slotState_snd_congr (P := Q') (Q := Q) (by rw [hg, if_neg hxt])]
        exact ps.slots x hx1 hx2
    · intro x hx
      rw [hg, if_neg (Nat.ne_of_gt (Nat.lt_of_lt_of_le h2 hx))]
      exact ps.noAbove x hx
  rw [hcs] at hst' ⊢
  have hor := or_crossed hq
  cases hx : (e.isQuorum (stakeOf e (voters t ++ [j])) && !e.isQuorum (stakeOf e (voters t))) <;> rw [hx] at hst' hor <;>
    simp only [Bool.false_eq_true, if_false, if_true, List.foldl_nil, addValidCerts_nil] at hst' ⊢
  · -- no certificate: slot `t` is on the side of the quorum it was on
    rw [Bool.or_false] at hor
    obtain ⟨sl1, sl2⟩ := hslots Q1 _ hQ1g hst'
    refine ⟨k, ⟨hQ1e, ps.plt, sl1, sl2, fun x hx => ps.waiting x (by rw [← hQ1w]; exact hx), ps.kle,
      fun hk => (ps.trkS hk).of_trk hQ1trk, fun hk => (ps.trkR hk).of_trk hQ1trk, ?_⟩, by simp [hev], by rw [hev]; exact List.append_nil _⟩
    intro x hx1 hx2
    by_cases hxt : x = t
    · subst hxt; rw [if_pos rfl, ← hor]; exact ps.quorum x hx1 hx2
    · rw [if_neg hxt]; exact ps.quorum x hx1 hx2
  · -- the quorum of skip votes for slot `t` is crossed
    obtain ⟨k1a, k1b, hh0⟩ := k1
    obtain ⟨hq1, hq0⟩ : e.isQuorum (stakeOf e (voters t ++ [j])) = true ∧ e.isQuorum (stakeOf e (voters t)) = false := by
      simpa using hx
    rw [addValidCerts_step, addValidCerts_nil]
    have hkt : k = t := ps.next_eq h1 h2 hq0 (hprev hq1)
    subst hkt
    have ts1 := (ps.trkS h2).of_trk hQ1trk
    obtain ⟨w1, w2, w3, wev, w5, w6⟩ := cert_skip (by rw [hQ1g, if_pos rfl]) ts1 h1 h2 ⟨k1a, k1b, hh0⟩ _ rfl
    have hg' : ∀ x, (Q1.addValidCert c1).1.getSlot x = if x = k then some (r.1.addCert c1) else Q.getSlot x := by
      intro x
      rw [w3, hQ1g]
      by_cases hx : x = k <;> simp [hx]
    obtain ⟨sl1, sl2⟩ := hslots _ _ hg' hst'
    have hqinv : ∀ x, s ≤ x → x < Cluster.wEnd s →
        (e.isQuorum (stakeOf e (if x = k then voters k ++ [j] else voters x)) = true ↔ x < k + 1) := by
      intro x hx1 hx2
      by_cases hxt : x = k
      · subst hxt
        rw [if_pos rfl, hq1]
        simp
      · rw [if_neg hxt, ps.quorum x hx1 hx2, Nat.lt_succ_iff_lt_or_eq, or_iff_left hxt]
    have hwt : WaitBelow (Q1.addValidCert c1).1 s := by
      intro x hx; rw [w2, hQ1w] at hx; exact ps.waiting x hx
    refine ⟨k + 1, ⟨w1.trans hQ1e, ps.plt, sl1, sl2, hwt, ⟨Nat.le_succ_of_le h1, h2⟩, w5, fun hk => hk ▸ w6 hk, hqinv⟩, ?_, ?_⟩
    · rw [wev, hev]
      have := prEvents_no_panic (if k + 1 = Cluster.wEnd s then [(k + 1, p)] else [])
      simpa using this
    · rw [wev, hev, skipQ_succ s p k h1]
      refine congrArg _ ?_
      unfold skipEvs
      simp only [List.nil_append, List.append_nil, vEvs_append, vEvs_cert, k1a, k1b, hh0, certKind]
      split
      · rename_i hlast; rw [← hlast]; rfl
      · rfl

end AgModel.Pool

namespace AgModel.Cluster
open AgModel.Node AgModel.NodePanic AgModel.Pool

variable {e : Epoch} {hi s : Nat} {p : Nat × Nat} {Y : List Nat} {j m : Nat}

theorem wEnd_eq (s : Nat) : ParentReady.windowFirst s + ParentReady.W = wEnd s := rfl

/-- the node is skipping the window of `s`: its pool holds the skip certificates of the slots `s ≤ t < k` for some `k` (which
    the voters determine: `PSkip.quorum`), and its Votor will see them when it drains the queue -/
structure NSkip (e : Epoch) (hi s : Nat) (p : Nat × Nat) (voters : Nat → List Nat) (N : Node) : Prop where
  alive : N.dead = false
  pool : ∃ k, PSkip e hi s (wEnd s) p voters k N.pool ∧ vEvs N.queue = skipQ s p k
  votor : VSkipped s p false N.votor

theorem NSkip.congr {N : Node} {v v' : Nat → List Nat} (n : NSkip e hi s p v N)
    (h : ∀ t, s ≤ t → t < wEnd s → v t = v' t) : NSkip e hi s p v' N :=
  let ⟨k, ps, hq⟩ := n.pool; ⟨n.alive, ⟨k, ps.congr h, hq⟩, n.votor⟩

/-- the voters of each slot when the senders `Y` are done and the skip votes of `j` for the slots below `m` have arrived -/
def votersAt (Y : List Nat) (j m : Nat) : Nat → List Nat := fun t => if t < m then Y ++ [j] else Y

theorem node_skip_vote {N : Node} (n : NSkip e hi s p (votersAt Y j m) N) (h1 : s ≤ m) (h2 : m < wEnd s)
    (h3 : m ≤ hi) (hj : j ∉ Y) (hjn : j < e.n) :
    NSkip e hi s p (votersAt Y j (m + 1)) (nodeStep N (.recvVote ⟨.skip, m, 0, j⟩)) := by
  obtain ⟨k, ps, hq⟩ := n.pool
  have hvm : votersAt Y j m m = Y := by simp [votersAt]
  -- the slots below `m` have the vote of `j` already
  have hprev : e.isQuorum (stakeOf e (Y ++ [j])) = true → ∀ t', s ≤ t' → t' < m →
      e.isQuorum (stakeOf e (votersAt Y j m t')) = true := fun hq1 t' _ ht2 => by
    rw [show votersAt Y j m t' = Y ++ [j] by simp [votersAt, ht2]]; exact hq1
  obtain ⟨k', ps', hnp, hev⟩ := addVote_skip_step ps m j h1 h2 h3 (by rw [hvm]; exact hj) hjn (by rw [hvm]; exact hprev) _ rfl
  rw [hvm] at ps'
  obtain ⟨d1, d2, d3, d4⟩ := nodeStep_recvVote N ⟨.skip, m, 0, j⟩ n.alive hnp
  have hvf : ∀ t, s ≤ t → t < wEnd s → (fun x => if x = m then Y ++ [j] else votersAt Y j m x) t = votersAt Y j (m + 1) t := by
    intro t _ _
    simp only [votersAt, Nat.lt_succ_iff_lt_or_eq]
    by_cases htm : t = m <;> by_cases hlt : t < m <;> simp [htm, hlt]
  exact ⟨d1, ⟨k', by rw [d3]; exact ps'.congr hvf, by rw [d4, hq]; exact hev⟩, by rw [d2]; exact n.votor⟩

theorem node_skip_sender {N : Node} (hE : wEnd s ≤ hi + 1) (n : NSkip e hi s p (fun _ => Y) N) (hj : j ∉ Y)
    (hjn : j < e.n) :
    NSkip e hi s p (fun _ => Y ++ [j])
      (nodeRun N ((List.range' s (wEnd s - s)).map (fun t => NodeOp.recvVote ⟨.skip, t, 0, j⟩))) := by
  have hlt := lt_wEnd s
  have key : ∀ (d m : Nat) (N : Node), m + d = wEnd s → s ≤ m → NSkip e hi s p (votersAt Y j m) N →
      NSkip e hi s p (votersAt Y j (wEnd s))
        (nodeRun N ((List.range' m d).map (fun t => NodeOp.recvVote ⟨.skip, t, 0, j⟩))) := by
    intro d
    induction d with
    | zero => intro m N hm _ n; rw [show m = wEnd s by omega] at n; exact n
    | succ d ih =>
      intro m N hm hsm n
      exact ih (m + 1) _ (by omega) (by omega) (node_skip_vote n hsm (by omega) (by omega) hj hjn)
  exact (key (wEnd s - s) s N (by omega) (Nat.le_refl _) (n.congr fun t h1 _ => by simp [votersAt]; omega)).congr
    fun t _ h2 => by simp [votersAt, h2]

/-- Votor handles the skip certificates of the window; `ParentReady` comes with the last one -/
theorem votor_skip_round {v : Votor.V} (a : VSkipped s p false v) :
    VSkipped s p true (Votor.run v (skipQ s p (wEnd s))) := by
  have hlt := lt_wEnd s
  have key : ∀ d, s + d < wEnd s → VSkipped s p false (Votor.run v (skipQ s p (s + d))) := by
    intro d
    induction d with
    | zero => intro _; simpa [skipQ, Votor.run] using a
    | succ d ih =>
      intro hle
      rw [show s + (d + 1) = s + d + 1 by omega, skipQ_succ s p (s + d) (by omega), Votor.run_append]
      unfold skipEvs
      rw [if_neg (by omega)]
      exact step_cert_skip (ih (by omega)) (by omega)
  obtain ⟨d, hd⟩ : ∃ d, s + d + 1 = wEnd s := ⟨wEnd s - s - 1, by omega⟩
  rw [← hd, skipQ_succ s p (s + d) (by omega), Votor.run_append]
  unfold skipEvs
  rw [if_pos hd]
  simp only [List.singleton_append, Votor.run]
  exact step_cert_skip (step_parentReady_skipped (key d (by omega))) (by omega)

theorem node_timeouts {N : Node} (hpos : 0 < e.total) (r : NReady e hi s p N) :
    NSkip e hi s p (fun _ => []) (nodeRun N ((List.range' s (wEnd s - s)).map NodeOp.timeout)) := by
  have hlt := lt_wEnd s
  obtain ⟨d, hd⟩ : ∃ d, wEnd s - s = d + 1 := ⟨wEnd s - s - 1, by omega⟩
  rw [hd, List.range'_succ, List.map_cons]
  simp only [nodeRun]
  have h0 : nodeStep N (.timeout s) = (votorStep N (.timeout s)).1 := rfl
  rw [h0, nodeStep_votor_ev N r.alive]
  have hv0 := step_timeout r.votor
  -- `Timeout(s)` made Votor vote skip in every slot of the rest of the window (`try_skip_window`, votor.rs): the remaining
  -- timeouts find their slots voted
  have hrest : ∀ (n a : Nat) (M : Node), s < a → a + n ≤ wEnd s → M.dead = false → VSkipped s p false M.votor →
      (nodeRun M ((List.range' a n).map NodeOp.timeout)).dead = false ∧
      (nodeRun M ((List.range' a n).map NodeOp.timeout)).pool = M.pool ∧
      (nodeRun M ((List.range' a n).map NodeOp.timeout)).queue = M.queue ∧
      VSkipped s p false (nodeRun M ((List.range' a n).map NodeOp.timeout)).votor := by
    intro n
    induction n with
    | zero => intro a M _ _ hd hv; exact ⟨hd, rfl, rfl, hv⟩
    | succ n ih =>
      intro a M ha hle hd hv
      rw [List.range'_succ, List.map_cons]
      simp only [nodeRun]
      have h1 : nodeStep M (.timeout a) = (votorStep M (.timeout a)).1 := rfl
      rw [h1, nodeStep_votor_ev M hd]
      have hv' := step_timeout_voted hv (t := a) (Nat.le_of_lt ha)
        (Nat.lt_of_lt_of_le (Nat.lt_add_of_pos_right (Nat.succ_pos n)) hle)
      exact ih (a + 1) { M with votor := Votor.step M.votor (.timeout a), dead := (Votor.step M.votor (.timeout a)).panicked }
        (Nat.lt_succ_of_lt ha) (by rw [Nat.add_right_comm]; exact hle) hv'.alive hv'
  obtain ⟨i1, i2, i3, i4⟩ := hrest d (s + 1) { N with votor := Votor.step N.votor (.timeout s), dead := (Votor.step N.votor (.timeout s)).panicked }
    (Nat.lt_succ_self s) (by rw [Nat.add_right_comm]; omega) hv0.alive hv0
  refine ⟨i1, ⟨s, ?_, by rw [i3]; show vEvs N.queue = _; rw [r.queue]; simp [skipQ, vEvs]⟩, i4⟩
  rw [i2]
  show PSkip e hi s (wEnd s) p (fun _ => []) s N.pool
  have hq0 : e.isQuorum (stakeOf e []) = false := quorum_nil e hpos
  refine ⟨r.epoch, r.trk.plt, ?_, fun t ht => r.noSlots t (Nat.le_trans (Nat.le_of_lt hlt) ht), r.waiting,
    ⟨Nat.le_refl _, Nat.le_of_lt hlt⟩, fun _ => r.trk.toSkip, fun h => absurd h (Nat.ne_of_lt hlt), ?_⟩
  · intro t h1 _
    rw [slotState_snd_of_none (r.noSlots t h1)]
    exact SkipSt.init e hpos t
  · intro t h1 _
    rw [hq0]
    constructor
    · intro hh; cases hh
    · exact fun hh => absurd h1 (Nat.not_le.mpr hh)

/-- every slot of the window has its quorum, so all skip certificates are there; Votor drains the queue -/
theorem node_skip_pumps {N : Node} (n : NSkip e hi s p (fun _ => Y) N) (hq : e.isQuorum (stakeOf e Y) = true) :
    (∀ t, s ≤ t → t < wEnd s → SkipSt e t Y ((nodeRun N (List.replicate N.queue.length .pump)).pool.slotState t).2) ∧
    NReady e hi (wEnd s) p (nodeRun N (List.replicate N.queue.length .pump)) := by
  obtain ⟨k, ps, hk⟩ := n.pool
  obtain rfl := ps.all (fun _ _ _ => hq)
  have hv := votor_skip_round n.votor
  rw [nodeRun_pumps N (by rw [n.alive, n.votor.alive]), hk]
  exact ⟨ps.slots, hv.alive, rfl, ps.epoch, ps.trkR rfl, ps.noAbove,
    fun k hk => by have := ps.waiting k hk; have := lt_wEnd s; omega, hv.ready_next⟩

theorem skip_master {st : State} (c : Cfg) (hpos : 0 < c.stakes.sum) (hE : wEnd s ≤ hi + 1)
    (r : CReady c hi s p st) (hq : cQuorum c = true) :
    (∀ i ∈ correctIds c, ∀ t, s ≤ t → t < wEnd s →
      SkipSt (c.epoch i) t (correctIds c) ((run st (skipSched c s (List.range' s (wEnd s - s)) st) i).pool.slotState t).2) ∧
    CReady c hi (wEnd s) p (run st (skipSched c s (List.range' s (wEnd s - s)) st)) := by
  simp only [skipSched, round, run_append]
  have m1 : ∀ i ∈ correctIds c, NSkip (c.epoch i) hi s p (fun _ => [])
      (run st (deliverTimeouts c (List.range' s (wEnd s - s))) i) := by
    intro i hi'
    unfold deliverTimeouts
    rw [run_allNodes, if_pos hi']
    exact node_timeouts (by exact hpos) (r i hi')
  generalize run st (deliverTimeouts c (List.range' s (wEnd s - s))) = st1 at *
  have m2 := phase_exchange c s (fun j => (List.range' s (wEnd s - s)).map (fun t => (⟨.skip, t, 0, j⟩ : Pool.Vote)))
    (I := fun i X N => NSkip (c.epoch i) hi s p (fun _ => X) N)
    (fun j hj => (m1 j hj).votor.votes j) m1
    (fun i _ X N j n hj hjc => by
      have := node_skip_sender (e := c.epoch i) hE n hj (mem_correctIds.mp hjc).1
      rwa [List.map_map])
  generalize run st1 (exchange c s st1) = st2 at *
  refine forall₂_and.mp fun i hi' => ?_
  unfold pumpAll
  rw [run_allNodes, if_pos hi']
  exact node_skip_pumps (m2 i hi') hq

end AgModel.Cluster
