import AgModel.Proofs.ClusterBridge
import AgModel.Proofs.PoolReady
import AgModel.Proofs.SpecLog
/-!
# C01 cluster refinement: the `ParentReady` events of a valid run are justified (weak form)

`tpOf c s` instantiates the abstract predicates of `Proofs/PoolReady.lean` on the history derived from the cluster state
`s`: a block is *in the log* when it is an ancestor of a block finalized on the history, a slot is a *gap* when it lies
strictly between a block of the log and its parent; a parent is acceptable (`CP`) when it is certified **or in the log**,
a slot may be skipped over (`SP`) when it is skip-certified **or a gap**. `liftReady T J` is the lifted node invariant
(`Proofs/NodeRun.lean`) for any tracker predicates `T` and any consequence `J` of the justification that is to hold of the
`ParentReady` events Votor has handled (`ReadyLog J`). `ready_run`: along every valid run every pool's trackers satisfy the tracker
invariants for `T` and every queued `ParentReady` event is justified, if the certificates backed by the final signatures satisfy
`T` — by projection, like `CInv.run`. What Votor has handled cannot go that way where `J` follows from the justification only
through facts about the run so far (safety of the prefix, `Props/C01Cluster.lean` `ready_justified`; the blocks voted for so
far, `Proofs/ClusterGenesis.lean` `ready_gok`): `ready_step` is the step of those inductions along the run.
-/
namespace AgModel.Cluster
open AgModel AgModel.Node AgModel.NodePanic AgModel.Pool AgModel.Spec

def idBlk (x : ℕ × ℕ) : Blk := Blk.mk' x.1 x.2

theorem parent_idBlk (c : Cfg) (x p : ℕ × ℕ) (hp : c.parentOf x = p) (hlt : p.1 < x.1) :
    (chainOf c).parent (idBlk x) = idBlk p := by
  have h0 : x.1 ≠ 0 := Nat.ne_of_gt (Nat.lt_of_le_of_lt (Nat.zero_le _) hlt)
  show parentBlk c (idBlk x) = idBlk p
  unfold parentBlk idBlk
  rw [Blk.mk'_slot, if_neg h0, Blk.mk'_hash _ _ h0, show (x.1, x.2) = x from rfl, hp, if_pos hlt]

theorem slot_idBlk (c : Cfg) (x : ℕ × ℕ) : (chainOf c).slot (idBlk x) = x.1 := Blk.mk'_slot _ _

theorem slot_idBlk_eq (c : Cfg) {b b' : ℕ × ℕ} (hs : b.1 = b'.1) : (chainOf c).slot (idBlk b) = (chainOf c).slot (idBlk b') :=
  (slot_idBlk c b).trans (hs.trans (slot_idBlk c b').symm)

theorem anc_idBlk_le (c : Cfg) {a b : ℕ × ℕ} (h : Anc (chainOf c) (idBlk a) (idBlk b)) : a.1 ≤ b.1 :=
  slot_idBlk c a ▸ slot_idBlk c b ▸ anc_slot_le (C := chainOf c) _ _ h

theorem inLog_link (c : Cfg) (s : State) {x p : ℕ × ℕ} (hl : InLog (stakeFn c) (chainOf c) (histOf c s) (idBlk x))
    (hp : c.parentOf x = p) (hlt : p.1 < x.1) :
    InLog (stakeFn c) (chainOf c) (histOf c s) (idBlk p) ∧
    ∀ u, p.1 < u → u < x.1 → Gap (stakeFn c) (chainOf c) (histOf c s) u := by
  have hg : idBlk x ≠ (chainOf c).genesis := fun e =>
    Nat.ne_of_gt (Nat.lt_of_le_of_lt (Nat.zero_le _) hlt) ((slot_idBlk c x).symm.trans (congrArg Blk.slot e))
  have hpar := parent_idBlk c x p hp hlt
  refine ⟨hpar ▸ inLog_parent (idBlk x) hl hg, fun u h1 h2 => ⟨idBlk x, hl, hg, ?_, ?_⟩⟩
  · rw [hpar]; exact (slot_idBlk c p).symm ▸ h1
  · exact (slot_idBlk c x).symm ▸ h2

def tpOf (c : Cfg) (s : State) : TP where
  F := {
    par := c.parentOf
    L := fun b => InLog (stakeFn c) (chainOf c) (histOf c s) (idBlk b)
    G := fun u => Gap (stakeFn c) (chainOf c) (histOf c s) u
    N := fun b => NotarCert (stakeFn c) (histOf c s) (idBlk b)
    Fc := fun t => FinalCert (stakeFn c) (histOf c s) t
    direct := fun b hn hf => ⟨idBlk b, Or.inr ⟨(slot_idBlk c b).symm ▸ hf, hn⟩, Anc.refl⟩
    down := fun _ _ hl hp hlt => inLog_link c s hl hp hlt }
  CP := fun b => Certified (stakeFn c) (chainOf c) (histOf c s) (idBlk b) ∨ InLog (stakeFn c) (chainOf c) (histOf c s) (idBlk b)
  SP := fun u => SkipCert (stakeFn c) (histOf c s) u ∨ Gap (stakeFn c) (chainOf c) (histOf c s) u
  cpL := fun _ h => Or.inr h
  spG := fun _ h => Or.inr h

theorem histOf_le (c : Cfg) (s s' : State) (hl : (sigOf c s).le (sigOf c s')) : HLe (histOf c s) (histOf c s') :=
  ⟨fun v b hx hc => (hx hc).imp_right fun h => hl.notar v.val b.slot b.hash (fun _ => h) hc,
    fun v b => hl.nf v.val b.slot b.hash, fun v t => hl.skip v.val t, fun v t => hl.sf v.val t, fun v t => hl.fin v.val t⟩

theorem histOf_le_run (c : Cfg) (s : State) (evs : List Ev) : HLe (histOf c s) (histOf c (run s evs)) :=
  histOf_le c s _ (sigOf_le_run c s evs)

theorem certT_of_backed (c : Cfg) (s : State) (i : ℕ) (x : Cert) (hb : CertBacked (sigOf c s) (c.epoch i) x) :
    CertT (tpOf c s) x := by
  have hon := certOn_of_backed c s i x hb
  unfold CertOn at hon
  unfold CertT
  cases hk : x.kind <;> simp only [hk] at hon ⊢
  · exact ⟨hon, Or.inl (Or.inr hon.nfCert)⟩
  · exact Or.inl (Or.inr hon)
  · exact Or.inl hon
  · exact ⟨idBlk (x.slot, x.hash), Or.inl hon, Anc.refl⟩
  · exact hon

theorem toVotor_parentReady {e : Pool.Event} {w a b : Nat} (h : toVotor e = some (.parentReady w a b)) :
    e = .parentReady w a b := by
  cases e <;> simp only [toVotor, Option.some.injEq, Votor.Event.parentReady.injEq, reduceCtorEq] at h
  obtain ⟨rfl, rfl, rfl⟩ := h; rfl

def ReadyLog (J : ℕ → ℕ × ℕ → Prop) (v : Votor.V) : Prop :=
  ∀ w a b, Votor.Item.ev (.parentReady w a b) ∈ v.log → J w (a, b)

theorem ReadyLog.init (J : ℕ → ℕ × ℕ → Prop) : ReadyLog J Votor.init :=
  fun _ _ _ h => nomatch List.mem_singleton.mp h

theorem liftReady (T : TP) (J : ℕ → ℕ × ℕ → Prop) (hJ : ∀ w p, ParentReady.ReadyP T.CP T.SP w p → J w p) :
    Lift (fun _ => TI T) (fun _ => ReadyEv T) (fun ve _ => ∀ w a b, ve = .parentReady w a b → J w (a, b)) (ReadyLog J)
      (fun _ p op => (∀ x, Pool.Event.cert x ∈ (poolStep p op).2 → CertT T x) ∧
        ∀ b par, op = .block b par → T.F.par b = par) where
  mono _ := ⟨fun _ h => h, fun _ h => h⟩
  pool hop i := (poolStep_ti T _ _ i hop.1 hop.2).imp_right fun h ev hev _ => h ev hev
  toV hg hv w a b e := by subst e; cases toVotor_parentReady hv; exact hJ _ _ hg
  votor he i w a b hx := (Votor.step_ev_mem hx).elim (fun h => he w a b h.symm) (i w a b)

/-- the premise of `liftReady` on a pool operation, from the premise `OpOk` of the signature invariant: the certificates the pool
    creates or admits are backed -/
theorem readyOk {S : SigLog} {e : Epoch} {par : ℕ × ℕ → ℕ × ℕ} {T : TP} (hpar : T.F.par = par)
    (hcert : ∀ x, CertBacked S e x → CertT T x) {p : Pool} (hq : PInv e (QS S e) p) {pop : PoolOp} (hop : OpOk S e par pop) :
    (∀ x, Pool.Event.cert x ∈ (poolStep p pop).2 → CertT T x) ∧ ∀ b q, pop = .block b q → T.F.par b = q :=
  ⟨fun x hx => hcert x (poolStep_certs p pop hq hop x hx), fun b q e => by subst e; exact hpar ▸ hop⟩

/-- **Along every valid run** the trackers of every pool satisfy the tracker invariants, and every queued `ParentReady` event is
    justified, for any predicates `T` over `c.parentOf` that hold of the genesis block and of the certificates backed by what has
    been signed by the end (as `CInv.run`: the node's state is the run of its own operations, each admissible at the end; the
    signature invariant runs beside, for the certificates the pool emits). -/
theorem ready_run {c : Cfg} (T : TP) (hpar : T.F.par = c.parentOf) (hN : T.F.N (0, 0)) (hC : T.CP (0, 0)) (evs : List Ev)
    (hv : Valid c (Cluster.init c) evs)
    (hcert : ∀ i x, CertBacked (sigOf c (Cluster.run (Cluster.init c) evs)) (c.epoch i) x → CertT T x) (j : ℕ) :
    TI T (Cluster.run (Cluster.init c) evs j).pool ∧ ∀ ev ∈ (Cluster.run (Cluster.init c) evs j).queue, ReadyEv T ev := by
  have i0 := NInv.init (sigOf c (Cluster.run (Cluster.init c) evs)) (c.epoch j) c.parentOf
  have L := (liftSigned (S := sigOf c (Cluster.run (Cluster.init c) evs)) (e := c.epoch j) (par := c.parentOf)).both
    (liftReady T (fun _ _ => True) fun _ _ _ => trivial)
  -- the fresh node: an empty pool, whose trackers know the genesis block only; nothing queued; a Votor log without events
  have start : L.Inv (Cluster.init c j) :=
    { pool := ⟨i0.pool, TI.init _ _ hN hC⟩
      queue := fun _ h => nomatch h
      votor := ⟨i0.votor, fun _ _ _ _ => trivial⟩ }
  -- every operation of the node is admissible at the end; the certificates a pool operation emits are backed by the
  -- signature invariant (`im.pool.1`) that runs beside
  have := L.run (proj j evs) _ start fun op hop m im => by
      have hok : NodeOk _ (c.epoch j) c.parentOf op := valid_final c hv (j, op) (mem_proj hop)
      cases op with
      | recvVote _ | recvCert _ | poolBlock _ _ =>
        exact ⟨hok, readyOk (e := c.epoch j) hpar (hcert j) im.pool.1.slots hok⟩
      | pump => trivial
      | votorBlock _ _ => exact ⟨hok, fun _ _ _ h => nomatch h⟩
      | _ => exact ⟨trivial, fun _ _ _ h => nomatch h⟩
  rw [run_proj]
  exact ⟨this.pool.2, fun ev hev => (this.queue ev hev).2⟩

/-- **One more valid event keeps every consequence `J` of the justification at the `ParentReady` events Votor has handled**, if
    the certificates backed by what has been signed so far satisfy `T`: the trackers and the queue are justified by `ready_run`;
    the event, if it is at this node, is one step of the lifted invariant. -/
theorem ready_step {c : Cfg} (T : TP) (J : ℕ → ℕ × ℕ → Prop) (hJ : ∀ w p, ParentReady.ReadyP T.CP T.SP w p → J w p)
    (hpar : T.F.par = c.parentOf) (hN : T.F.N (0, 0)) (hC : T.CP (0, 0)) (pre : List Ev) (ev : Ev)
    (hvp : Valid c (Cluster.init c) pre) (hok : EvOk c (Cluster.run (Cluster.init c) pre) ev)
    (hcert : ∀ i x, CertBacked (sigOf c (Cluster.run (Cluster.init c) pre)) (c.epoch i) x → CertT T x) (j : ℕ)
    (h : ReadyLog J (Cluster.run (Cluster.init c) pre j).votor) :
    ReadyLog J (Cluster.run (Cluster.init c) (pre ++ [ev]) j).votor := by
  obtain ⟨h1, h2⟩ := ready_run T hpar hN hC pre hvp hcert j
  obtain ⟨i, op⟩ := ev
  rw [run_snoc]
  refine (step_at (C := Lifted (fun _ => TI T) (fun _ => ReadyEv T) (ReadyLog J)) _ i op j ⟨h1, h2, h⟩ fun e =>
    (liftReady T J hJ).step _ op ⟨h1, h2, h⟩ ?_).votor
  subst e
  cases op with
  | recvVote _ | recvCert _ | poolBlock _ _ => exact readyOk (e := c.epoch j) hpar (hcert j) (CInv.run pre hvp j).pool.slots hok
  | pump => trivial
  -- no `ParentReady` event comes from outside
  | _ => exact fun _ _ _ h => nomatch h

end AgModel.Cluster
