import AgModel.Spec.Cluster
/-!
# C01 cluster refinement: the run-level invariants

Logs only grow, so `sigOf` only grows along a run, and what was admissible when it happened is admissible at the end
(`valid_final`). Node `i`'s state after a cluster run is `nodeRun` of the projection of the run to `i` (`run_proj`); hence every
node satisfies the node invariant `NInv` relative to the *final* `sigOf` by the single-node theorem, with no induction along the
cluster run (`CInv.run`). In a valid run the projection satisfies the single-node unforgeability premise `OwnVotesFromVotor` of
C05 for every correct `i` (`own_of_valid`), so that all composed-node theorems of C05 apply to every correct node of the cluster.
-/
namespace AgModel.Cluster
open AgModel AgModel.Node AgModel.NodePanic AgModel.Pool

theorem step_self (s : State) (i : Nat) (op : NodeOp) : step s (i, op) i = nodeStep (s i) op := by
  simp [step]

theorem step_other (s : State) (i j : Nat) (op : NodeOp) (h : j ≠ i) : step s (i, op) j = s j := by
  simp [step, h]

theorem step_at {C : Node → Prop} (s : State) (i : ℕ) (op : NodeOp) (j : ℕ) (h : C (s j))
    (hstep : j = i → C (nodeStep (s j) op)) : C (step s (i, op) j) := by
  by_cases hj : j = i
  · rw [hj, step_self]; exact hj ▸ hstep hj
  · rw [step_other _ _ _ _ hj]; exact h

theorem run_append (s : State) (a b : List Ev) : run s (a ++ b) = run (run s a) b := by
  induction a generalizing s with
  | nil => rfl
  | cons ev a ih => exact ih _

theorem valid_append (c : Cfg) (s : State) (a b : List Ev) : Valid c s (a ++ b) ↔ Valid c s a ∧ Valid c (run s a) b := by
  induction a generalizing s with
  | nil => simp [Valid, run]
  | cons ev a ih => simp only [List.cons_append, Valid, run, ih, and_assoc]

theorem run_snoc (s : State) (pre : List Ev) (ev : Ev) : run s (pre ++ [ev]) = step (run s pre) ev := by
  rw [run_append]; rfl

theorem snoc_induction {α : Type} (P : List α → Prop) (h0 : P []) (hs : ∀ l a, P l → P (l ++ [a])) : ∀ l, P l :=
  ParentReady.snoc_induction h0 hs

theorem valid_induction (c : Cfg) {P : List Ev → Prop} (h0 : P [])
    (hs : ∀ pre ev, Valid c (init c) pre → EvOk c (run (init c) pre) ev → P pre → P (pre ++ [ev])) :
    ∀ evs, Valid c (init c) evs → P evs := by
  apply snoc_induction (fun evs => Valid c (init c) evs → P evs) (fun _ => h0)
  intro pre ev ih hv
  obtain ⟨hvp, hve, _⟩ := (valid_append c _ pre [ev]).mp hv
  exact hs pre ev hvp hve (ih hvp)

theorem step_out_mono (s : State) (ev : Ev) (j : Nat) (o : Votor.Out) (h : Votor.Item.out o ∈ (s j).votor.log) :
    Votor.Item.out o ∈ (step s ev j).votor.log :=
  step_at (C := fun n => Votor.Item.out o ∈ n.votor.log) s ev.1 ev.2 j h fun _ => by
    rw [← mem_outsOf, nodeStep_outs]; exact List.mem_append_left _ (mem_outsOf.mpr h)

theorem sigOf_le_step (c : Cfg) (s : State) (ev : Ev) : (sigOf c s).le (sigOf c (step s ev)) := by
  have h := step_out_mono s ev
  exact ⟨fun j sl hh hx hc => let ⟨ps, ph, hm⟩ := hx hc; ⟨ps, ph, h j _ hm⟩, fun j sl hh hx hc => h j _ (hx hc),
    fun j sl hx hc => h j _ (hx hc), fun j sl hx hc => h j _ (hx hc), fun j sl hx hc => h j _ (hx hc)⟩

theorem sigOf_le_run (c : Cfg) (s : State) (evs : List Ev) : (sigOf c s).le (sigOf c (run s evs)) := by
  induction evs generalizing s with
  | nil => exact SigLog.le.refl _
  | cons ev evs ih => exact (sigOf_le_step c s ev).trans (ih _)

def CInv (c : Cfg) (s : State) : Prop := ∀ i, NInv (sigOf c s) (c.epoch i) c.parentOf (s i)

def proj (i : Nat) : List Ev → List NodeOp
  | [] => []
  | ev :: evs => if ev.1 = i then ev.2 :: proj i evs else proj i evs

theorem proj_eq (i : ℕ) (evs : List Ev) : proj i evs = evs.filterMap fun ev => if ev.1 = i then some ev.2 else none := by
  induction evs with
  | nil => rfl
  | cons ev evs ih => rw [proj, List.filterMap_cons, ← ih]; split <;> rfl

theorem proj_append (i : ℕ) (a b : List Ev) : proj i (a ++ b) = proj i a ++ proj i b := by
  simp only [proj_eq, List.filterMap_append]

theorem run_proj (i : Nat) (evs : List Ev) (s : State) : run s evs i = nodeRun (s i) (proj i evs) := by
  induction evs generalizing s with
  | nil => rfl
  | cons ev evs ih =>
    obtain ⟨k, op⟩ := ev
    simp only [run, proj]
    rw [ih]
    by_cases hk : k = i
    · subst hk; rw [step_self, if_pos rfl]; rfl
    · rw [step_other _ _ _ _ (Ne.symm hk), if_neg hk]

theorem mem_proj {i : Nat} {op : NodeOp} {evs : List Ev} (h : op ∈ proj i evs) : (i, op) ∈ evs := by
  obtain ⟨⟨k, o⟩, hm, he⟩ := List.mem_filterMap.mp (proj_eq i evs ▸ h)
  split at he
  · next hk => cases hk; cases he; exact hm
  · cases he

/-- what was admissible when it happened is admissible at the end: signatures are never lost -/
theorem valid_final (c : Cfg) {s : State} {evs : List Ev} (hv : Valid c s evs) : ∀ ev ∈ evs, EvOk c (run s evs) ev := by
  induction evs generalizing s with
  | nil => exact fun _ h => nomatch h
  | cons ev evs ih =>
    intro x hx
    rcases List.mem_cons.mp hx with rfl | hx
    · exact NodeOk.mono hv.1 (sigOf_le_run c s (x :: evs))
    · exact ih hv.2 x hx

/-- **Along every valid run** every node satisfies the node invariant relative to what has been signed by the end: its
    state is the run of its own operations, each of which is admissible at the end. -/
theorem CInv.run {c : Cfg} :
    ∀ evs, Valid c (Cluster.init c) evs → CInv c (Cluster.run (Cluster.init c) evs) := fun evs hv j => by
  rw [run_proj]
  exact nodeRun_ninv (e := c.epoch j) _ _ (NInv.init _ _ _) fun op hop => valid_final c hv (j, op) (mem_proj hop)

theorem outMatches_holds {c : Cfg} {s : State} {i : Nat} (hc : c.correct i = true) {v : Vote} (hs : v.signer = i)
    (hv : (sigOf c s).holds v) : ∃ o, Votor.Item.out o ∈ (s i).votor.log ∧ outMatches o v = true := by
  unfold SigLog.holds at hv
  cases hk : v.kind <;> simp only [hk, sigOf, hs] at hv
  · obtain ⟨ps, ph, hm⟩ := hv hc
    exact ⟨_, hm, by simp only [outMatches, hk, beq_self_eq_true, Bool.and_self]⟩
  · exact ⟨_, hv hc, by simp only [outMatches, hk, beq_self_eq_true, Bool.and_self]⟩
  all_goals exact ⟨_, hv hc, by simp only [outMatches, hk, beq_self_eq_true]⟩

/-- in a valid run, every correct node's own votes only come from its own Votor (the premise of the C05 composed-node
    theorems) -/
theorem own_of_valid (c : Cfg) (i : Nat) (hc : c.correct i = true) (evs : List Ev) (s : State) (sent : List Votor.Out)
    (hv : Valid c s evs) (hs : outsOf (s i).votor.log = .timer 0 :: sent) :
    OwnVotesFromVotor i (s i) sent (proj i evs) = true := by
  induction evs generalizing s sent with
  | nil => rfl
  | cons ev evs ih =>
    obtain ⟨k, op⟩ := ev
    simp only [proj]
    by_cases hk : k = i
    · subst hk
      rw [if_pos rfl]
      simp only [OwnVotesFromVotor, Bool.and_eq_true]
      constructor
      · cases op with
        | recvVote v =>
          simp only [ownOk, Bool.or_eq_true, bne_iff_ne, ne_eq, List.any_eq_true]
          by_cases hsig : v.signer = k
          · right
            obtain ⟨o, ho, hm⟩ := outMatches_holds hc hsig hv.1
            have : o ∈ outsOf (s k).votor.log := mem_outsOf.mpr ho
            rw [hs] at this
            -- `.timer 0` is the one output in the log of `Votor.init`; `sent` starts after it, and it matches no vote
            rcases List.mem_cons.mp this with h0 | h0
            · subst h0; simp [outMatches] at hm
            · exact ⟨o, h0, hm⟩
          · left; exact hsig
        | _ => rfl
      · have := ih (step s (k, op)) (sent ++ nodeOuts (s k) op) hv.2 (by rw [step_self, nodeStep_outs, hs]; rfl)
        rw [step_self] at this; exact this
    · rw [if_neg hk]
      have := ih (step s (k, op)) sent hv.2 (by rw [step_other _ _ _ _ (Ne.symm hk)]; exact hs)
      rw [step_other _ _ _ _ (Ne.symm hk)] at this; exact this

end AgModel.Cluster
