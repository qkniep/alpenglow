import AgModel.Spec.Protocol
import AgModel.Proofs.NodeSigned
/-!
# A cluster of model nodes under an adversarial network (C01, refinement stage 0: definitions)

* `Cfg`: `n = stakes.length` validators with their stakes, which of them are *correct* (the others are Byzantine),
  and the global parent function `parentOf` on block ids `(slot, hash)` — *the hash binds the parent* (C13): every
  block delivered anywhere in a run, to a pool or to a Votor, names the parent `parentOf` gives for its id.
* every validator index runs one composed node (`Model/Node.lean`: `PoolImpl` ∘ event queue ∘ `Votor`) with
  `epoch.own = i`; only the nodes of correct validators matter (nothing reads the others);
* a **run** is a list of events `(i, op)`: the operation `op : NodeOp` (deliver a vote / a certificate / a block to the
  pool, pump the event queue, deliver a block / first shred / invalid block / timeout to Votor) happens at node `i`.
  The *network is the adversary*: it chooses every event, in any order, with any delay, loss and duplication;
* `Valid`: the only restrictions — **unforgeability** and *the hash binds the parent*:
  a delivered vote naming a correct signer `j` is a vote node `j`'s Votor has broadcast before (`sigOf`); votes naming
  Byzantine signers are arbitrary; a delivered certificate is arbitrary but *backed* (`CertBacked`: what
  `ValidatedCert::try_new` checks, C09 — the distinct stake of the listed signers meets the threshold — and every
  listed *correct* signer has broadcast the vote the certificate binds its aggregate to); blocks agree with `parentOf`;
* the derived `History` (`histOf`): a correct validator signed exactly what its Votor log contains (`.out` items; the
  genesis block counts as notarized by everybody, as in `Spec.Protocol`); a Byzantine validator signed *everything* (the
  worst case: whatever votes of theirs were or could be delivered are in it);
* the derived `Chain` (`chainOf`): blocks are ids `(slot, hash)` (`Blk`; the only block of slot 0 is genesis), the
  parent is `parentOf` when that is in an earlier slot (else genesis: such a block is never voted for).
-/
namespace AgModel.Cluster
open AgModel AgModel.Node AgModel.NodePanic

structure Cfg where
  stakes : List Nat
  correct : Nat → Bool
  parentOf : Nat × Nat → Nat × Nat

def Cfg.n (c : Cfg) : Nat := c.stakes.length

def Cfg.epoch (c : Cfg) (i : Nat) : Pool.Epoch := { stakes := c.stakes, own := i }

/-- the state of the cluster: one node per validator index -/
abbrev State := Nat → Node

def init (c : Cfg) : State := fun i => { pool := { epoch := c.epoch i } }

/-- an event of a run: operation `op` happens at node `i` -/
abbrev Ev := Nat × NodeOp

def step (s : State) (ev : Ev) : State := fun j => if j = ev.1 then nodeStep (s j) ev.2 else s j

def run (s : State) : List Ev → State
  | [] => s
  | ev :: evs => run (step s ev) evs

/-- **who has signed what** in state `s`: a correct validator exactly what its Votor has broadcast (its log), a Byzantine
    validator everything -/
def sigOf (c : Cfg) (s : State) : Pool.SigLog where
  notar := fun j sl h => c.correct j = true → ∃ ps ph, Votor.Item.out (.notar sl h ps ph) ∈ (s j).votor.log
  nf := fun j sl h => c.correct j = true → Votor.Item.out (.notarFallback sl h) ∈ (s j).votor.log
  skip := fun j sl => c.correct j = true → Votor.Item.out (.skip sl) ∈ (s j).votor.log
  sf := fun j sl => c.correct j = true → Votor.Item.out (.skipFallback sl) ∈ (s j).votor.log
  fin := fun j sl => c.correct j = true → Votor.Item.out (.final sl) ∈ (s j).votor.log

/-- the restriction on one event (unforgeability; the hash binds the parent): `NodeOk` of `Proofs/NodeSigned.lean` —
    `.recvVote v`: `v` is signed by the validator it names; `.recvCert x`: `x` is backed; `.poolBlock b p`: `parentOf b = p`;
    `.votorBlock s ⟨h, ps, ph⟩`: `parentOf (s, h) = (ps, ph)`; everything else is unrestricted -/
def EvOk (c : Cfg) (s : State) (ev : Ev) : Prop := NodeOk (sigOf c s) (c.epoch ev.1) c.parentOf ev.2

/-- a run all of whose events respect the restriction in the state in which they happen -/
def Valid (c : Cfg) : State → List Ev → Prop
  | _, [] => True
  | s, ev :: evs => EvOk c s ev ∧ Valid c (step s ev) evs

/-! ### blocks, the chain -/

/-- block ids; the only block of slot 0 is the genesis block -/
structure Blk where
  slot : Nat
  hash : Nat
  ok : slot = 0 → hash = 0

theorem Blk.ext' {a b : Blk} (h1 : a.slot = b.slot) (h2 : a.hash = b.hash) : a = b := by
  cases a; cases b; simp only at h1 h2; subst h1; subst h2; rfl

def Blk.genesis : Blk := ⟨0, 0, fun _ => rfl⟩

/-- the block with id `(s, h)` (slot 0: genesis) -/
def Blk.mk' (s h : Nat) : Blk := if hs : s = 0 then Blk.genesis else ⟨s, h, fun h0 => absurd h0 hs⟩

theorem Blk.mk'_slot (s h : Nat) : (Blk.mk' s h).slot = s := by
  unfold Blk.mk'; split
  · rename_i hs; rw [hs]; rfl
  · rfl

theorem Blk.mk'_hash (s h : Nat) (hs : s ≠ 0) : (Blk.mk' s h).hash = h := by
  unfold Blk.mk'; rw [dif_neg hs]

theorem Blk.mk'_zero (h : Nat) : Blk.mk' 0 h = Blk.genesis := by
  unfold Blk.mk'; rw [dif_pos rfl]

theorem Blk.mk'_self (b : Blk) : Blk.mk' b.slot b.hash = b := by
  by_cases hs : b.slot = 0
  · apply Blk.ext'
    · rw [Blk.mk'_slot]
    · rw [hs, Blk.mk'_zero, b.ok hs]; rfl
  · apply Blk.ext'
    · rw [Blk.mk'_slot]
    · rw [Blk.mk'_hash _ _ hs]

theorem Blk.eq_genesis_of_slot (b : Blk) (h : b.slot = 0) : b = Blk.genesis :=
  Blk.ext' h (b.ok h)

def parentBlk (c : Cfg) (b : Blk) : Blk :=
  if b.slot = 0 then Blk.genesis
  else if (c.parentOf (b.slot, b.hash)).1 < b.slot then Blk.mk' (c.parentOf (b.slot, b.hash)).1 (c.parentOf (b.slot, b.hash)).2
  else Blk.genesis

/-- the block tree of a configuration -/
def chainOf (c : Cfg) : Spec.Chain Blk where
  slot := Blk.slot
  parent := parentBlk c
  genesis := Blk.genesis
  slot_genesis := rfl
  zero_is_genesis := fun b h => b.eq_genesis_of_slot h
  parent_lt := by
    intro b hb
    have hs : b.slot ≠ 0 := fun h => hb (b.eq_genesis_of_slot h)
    unfold parentBlk
    rw [if_neg hs]
    split
    · rw [Blk.mk'_slot]; assumption
    · show 0 < b.slot; omega

/-! ### validators, stakes, the history -/

def stakeFn (c : Cfg) : Fin c.n → ℕ := fun v => c.stakes.getD v.val 0

def byz (c : Cfg) : Fin c.n → Prop := fun v => c.correct v.val = false

/-- the global history of signed votes derived from a cluster state -/
def histOf (c : Cfg) (s : State) : Spec.History (Fin c.n) Blk where
  notar := fun v b => c.correct v.val = true →
    (b = Blk.genesis ∨ ∃ ps ph, Votor.Item.out (.notar b.slot b.hash ps ph) ∈ (s v.val).votor.log)
  nf := fun v b => c.correct v.val = true → Votor.Item.out (.notarFallback b.slot b.hash) ∈ (s v.val).votor.log
  skip := fun v t => c.correct v.val = true → Votor.Item.out (.skip t) ∈ (s v.val).votor.log
  sf := fun v t => c.correct v.val = true → Votor.Item.out (.skipFallback t) ∈ (s v.val).votor.log
  fin := fun v t => c.correct v.val = true → Votor.Item.out (.final t) ∈ (s v.val).votor.log

/-! ### what a correct node's pool reports as finalized (`PoolImpl::get_final_certs`) -/

/-- node `i`'s pool holds a fast-finalization certificate for block `b`, or a finalization certificate for `b`'s slot
    together with a notarization certificate for `b` -/
def PoolFinalized (s : State) (i : Nat) (b : Blk) : Prop :=
  ∃ st, (s i).pool.getSlot b.slot = some st ∧
    ((∃ x, st.cFf = some x ∧ x.hash = b.hash) ∨ (st.cFin.isSome = true ∧ ∃ x, st.cNotar = some x ∧ x.hash = b.hash))

end AgModel.Cluster
