import AgModel.Spec.Stake
import AgModel.Gen.Consts
/-!
Protocol-level specification for C01 (finalization agreement).

* validators `V` (any finite type), stakes, a Byzantine set with `< 20 %` of the stake;
* blocks with a slot and a parent (any number of blocks per slot: equivocating leaders);
* the *global, monotone history* of signed votes (`History`): which validator ever signed which vote —
  Byzantine validators arbitrary; message delay / loss / duplication / reordering never removes a vote
  from the history, so every certificate any node ever assembles is a subset of it;
* certificates are *derived*: a certificate exists iff the signers' stake reaches the threshold taken
  from the source (`AgModel.Gen.*_THRESHOLD_*`). This is what C03/C09 justify: every certificate a pool
  creates or admits is backed by distinct validators that signed exactly these votes;
* `Rules`: what the safety proof needs of a *correct* validator's own votes (R1–R5). Each rule is
  discharged for the executable Votor / Pool models by the C05 / C06 / C07 theorems (see DESIGN.md).
-/
namespace AgModel.Spec

open Classical

/-- `≥ 60 %` (QUORUM_THRESHOLD), `≥ 80 %`, `≥ 40 %`, `≥ 20 %` of `T`, as `Fraction::is_met` computes them -/
def Q (x T : ℕ) : Prop := x * Gen.QUORUM_THRESHOLD_DEN ≥ T * Gen.QUORUM_THRESHOLD_NUM
def Strong (x T : ℕ) : Prop := x * Gen.STRONG_QUORUM_THRESHOLD_DEN ≥ T * Gen.STRONG_QUORUM_THRESHOLD_NUM
def Weak (x T : ℕ) : Prop := x * Gen.WEAK_QUORUM_THRESHOLD_DEN ≥ T * Gen.WEAK_QUORUM_THRESHOLD_NUM
def Weakest (x T : ℕ) : Prop := x * Gen.WEAKEST_QUORUM_THRESHOLD_DEN ≥ T * Gen.WEAKEST_QUORUM_THRESHOLD_NUM

theorem Q_iff (x T : ℕ) : Q x T ↔ 5 * x ≥ 3 * T := by
  rw [Nat.mul_comm 5, Nat.mul_comm 3]; rfl
theorem Strong_iff (x T : ℕ) : Strong x T ↔ 5 * x ≥ 4 * T := by
  rw [Nat.mul_comm 5, Nat.mul_comm 4]; rfl
theorem Weak_iff (x T : ℕ) : Weak x T ↔ 5 * x ≥ 2 * T := by
  rw [Nat.mul_comm 5, Nat.mul_comm 2]; rfl
theorem Weakest_iff (x T : ℕ) : Weakest x T ↔ 5 * x ≥ T := by
  show T * 1 ≤ x * 5 ↔ T ≤ 5 * x; rw [Nat.mul_one, Nat.mul_comm]

/-! ### threshold arithmetic -/
section
variable {x y T B : ℕ}

theorem Q_mono (h : Q x T) (hle : x ≤ y) : Q y T := Nat.le_trans h (Nat.mul_le_mul_right _ hle)

theorem Strong.toQ (h : Strong x T) : Q x T := Nat.le_trans (Nat.mul_le_mul_left T (by decide : 3 ≤ 4)) h
theorem Q.toWeak (h : Q x T) : Weak x T := Nat.le_trans (Nat.mul_le_mul_left T (by decide : 2 ≤ 3)) h
theorem Weak.toWeakest (h : Weak x T) : Weakest x T := Nat.le_trans (Nat.mul_le_mul_left T (by decide : 1 ≤ 2)) h

theorem Weakest.byz_lt (h : Weakest x T) (hb : 5 * B < T) : B < x :=
  Nat.lt_of_mul_lt_mul_left (Nat.lt_of_lt_of_le hb ((Weakest_iff x T).mp h))

/-- **Counting.** Two sets holding `a/5` and `b/5` of the stake with `a + b ≥ 6` have more than 20 % in common: they cannot
    meet in the Byzantine stake `B` only. -/
theorem fractions_meet {a b : ℕ} (hab : 6 ≤ a + b) (hx : a * T ≤ 5 * x) (hy : b * T ≤ 5 * y) (hi : y + x ≤ T + B)
    (hb : 5 * B < T) : False :=
  Nat.lt_irrefl (6 * T) <| calc
    6 * T ≤ (a + b) * T := Nat.mul_le_mul_right T hab
    _ = a * T + b * T := Nat.add_mul a b T
    _ ≤ 5 * x + 5 * y := Nat.add_le_add hx hy
    _ = 5 * (y + x) := by rw [Nat.mul_add, Nat.add_comm]
    _ ≤ 5 * (T + B) := Nat.mul_le_mul_left 5 hi
    _ = 5 * T + 5 * B := Nat.mul_add 5 T B
    _ < 5 * T + T := Nat.add_lt_add_left hb _
    _ = 6 * T := (Nat.succ_mul 5 T).symm

/-- **Counting.** Of a set holding `(a + b)/5` of the stake, what lies outside a part below `b/5` holds `a/5`. -/
theorem fractions_rest {a b : ℕ} (hx : (a + b) * T ≤ 5 * x) (hs : x ≤ y + z) (hz : ¬ b * T ≤ 5 * z) : a * T ≤ 5 * y :=
  Nat.le_of_not_lt fun hy => Nat.lt_irrefl ((a + b) * T) <| calc
    (a + b) * T ≤ 5 * x := hx
    _ ≤ 5 * (y + z) := Nat.mul_le_mul_left 5 hs
    _ = 5 * y + 5 * z := Nat.mul_add 5 y z
    _ < a * T + b * T := Nat.add_lt_add hy (Nat.lt_of_not_le hz)
    _ = (a + b) * T := (Nat.add_mul a b T).symm

end

/-- the block tree -/
structure Chain (Block : Type) where
  slot : Block → ℕ
  parent : Block → Block
  genesis : Block
  slot_genesis : slot genesis = 0
  zero_is_genesis : ∀ b, slot b = 0 → b = genesis
  parent_lt : ∀ b, b ≠ genesis → slot (parent b) < slot b

/-- `Anc C b x`: `b` is `x` or an ancestor of `x` -/
inductive Anc {Block : Type} (C : Chain Block) (b : Block) : Block → Prop where
  | refl : Anc C b b
  | step (x : Block) : x ≠ C.genesis → Anc C b (C.parent x) → Anc C b x

/-- the global history of signed votes -/
structure History (V Block : Type) where
  notar : V → Block → Prop
  nf : V → Block → Prop
  skip : V → ℕ → Prop
  sf : V → ℕ → Prop
  fin : V → ℕ → Prop

def windowStart (t : ℕ) : Prop := t % Gen.SLOTS_PER_WINDOW = 0

section
variable {V Block : Type} [Fintype V] (stake : V → ℕ) (C : Chain Block) (H : History V Block)

/-- stake that signed a notarization vote for `b` -/
noncomputable def notarW (b : Block) : ℕ := w stake (fun v => H.notar v b)

def NotarCert (b : Block) : Prop := Q (notarW stake H b) (total stake)
def FastFinalCert (b : Block) : Prop := Strong (notarW stake H b) (total stake)
def NFCert (b : Block) : Prop := Q (w stake (fun v => H.notar v b ∨ H.nf v b)) (total stake)
def SkipCert (s : ℕ) : Prop := Q (w stake (fun v => H.skip v s ∨ H.sf v s)) (total stake)
def FinalCert (s : ℕ) : Prop := Q (w stake (fun v => H.fin v s)) (total stake)

/-- a block is finalized: fast path, or slow path (finalization + notarization certificate) -/
def FinalizedAt (b : Block) : Prop :=
  FastFinalCert stake H b ∨ (FinalCert stake H (C.slot b) ∧ NotarCert stake H b)

/-- a parent is acceptable: genesis, or certified at least notar-fallback -/
def Certified (p : Block) : Prop := p = C.genesis ∨ NFCert stake H p

variable {stake H}

theorem FastFinalCert.notarCert {b : Block} (h : FastFinalCert stake H b) : NotarCert stake H b := Strong.toQ h

theorem NotarCert.nfCert {b : Block} (h : NotarCert stake H b) : NFCert stake H b :=
  Q_mono h (w_mono stake fun _ => Or.inl)

theorem exists_correct_of_Q {byz p : V → Prop} (hb : 5 * w stake byz < total stake) (h : Q (w stake p) (total stake)) :
    ∃ v, p v ∧ ¬ byz v :=
  exists_correct stake byz p (h.toWeak.toWeakest.byz_lt hb)

variable (stake H)

/-- the voting rules of a correct validator `v`, on the history -/
structure Rules (v : V) : Prop where
  /-- R1: one initial vote per slot -/
  one_notar : ∀ b b', H.notar v b → H.notar v b' → C.slot b = C.slot b' → b = b'
  notar_no_skip : ∀ b, H.notar v b → ¬ H.skip v (C.slot b)
  /-- R2: finalize only the own, certificate-notarized block, never together with a skip / fallback vote -/
  fin_rule : ∀ s, H.fin v s →
    (∃ b, C.slot b = s ∧ H.notar v b ∧ NotarCert stake H b) ∧ ¬ H.skip v s ∧ ¬ H.sf v s ∧ ∀ x, C.slot x = s → ¬ H.nf v x
  /-- R3: notar-fallback only when safe-to-notar held -/
  nf_rule : ∀ x, H.nf v x →
    (Weak (notarW stake H x) (total stake) ∨
      (Weakest (notarW stake H x) (total stake) ∧
        Q (w stake (fun u => H.notar u x ∨ H.skip u (C.slot x))) (total stake))) ∧
    Certified stake C H (C.parent x) ∧ ¬ H.notar v x
  /-- R4: skip-fallback only when safe-to-skip held (for every candidate "most voted" block `c`) -/
  sf_rule : ∀ s, H.sf v s → ∀ c, C.slot c = s →
    Weak (w stake (fun u => H.skip u s ∨ ∃ x, C.slot x = s ∧ x ≠ c ∧ H.notar u x)) (total stake)
  /-- R5: notarize only on an acceptable parent (genesis counts as notarized by everyone) -/
  notar_rule : ∀ x, H.notar v x → x ≠ C.genesis →
    ((windowStart (C.slot x) → Certified stake C H (C.parent x) ∧
        ∀ t, C.slot (C.parent x) < t → t < C.slot x → SkipCert stake H t) ∧
     (¬ windowStart (C.slot x) → H.notar v (C.parent x) ∧ C.slot (C.parent x) + 1 = C.slot x))

end

end AgModel.Spec
