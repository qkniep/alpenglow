import Mathlib.Algebra.Order.BigOperators.Group.Finset
/-!
Stake arithmetic over an arbitrary finite validator set: the weight `w p` of a predicate on validators,
monotonicity, union / intersection bounds. Used by the protocol-level safety proof (C01) and the
progress arithmetic (C02).
-/
namespace AgModel.Spec

open Finset Classical

variable {V : Type} [Fintype V]

/-- total stake of the validators satisfying `p` -/
noncomputable def w (stake : V → ℕ) (p : V → Prop) : ℕ := ∑ v ∈ univ.filter p, stake v

/-- total stake -/
noncomputable def total (stake : V → ℕ) : ℕ := ∑ v, stake v

theorem w_true (stake : V → ℕ) : w stake (fun _ => True) = total stake :=
  congrArg (fun s => ∑ v ∈ s, stake v)
    (@Finset.filter_true_of_mem V (fun _ => True) (fun _ => propDecidable _) univ fun _ _ => trivial)

theorem w_mono (stake : V → ℕ) {p q : V → Prop} (h : ∀ v, p v → q v) : w stake p ≤ w stake q :=
  Finset.sum_le_sum_of_subset (Finset.monotone_filter_right _ fun v _ => h v)

theorem w_le_total (stake : V → ℕ) (p : V → Prop) : w stake p ≤ total stake :=
  Finset.sum_le_sum_of_subset (Finset.filter_subset _ _)

theorem w_or_add_and (stake : V → ℕ) (p q : V → Prop) :
    w stake (fun v => p v ∨ q v) + w stake (fun v => p v ∧ q v) = w stake p + w stake q := by
  unfold w
  simp only [Finset.sum_filter]
  rw [← Finset.sum_add_distrib, ← Finset.sum_add_distrib]
  apply Finset.sum_congr rfl
  intro v _
  by_cases hp : p v <;> by_cases hq : q v <;> simp [hp, hq]

theorem w_or_le (stake : V → ℕ) (p q : V → Prop) : w stake (fun v => p v ∨ q v) ≤ w stake p + w stake q :=
  Nat.le.intro (w_or_add_and stake p q)

theorem w_not (stake : V → ℕ) (p : V → Prop) : w stake p + w stake (fun v => ¬ p v) = total stake :=
  @Finset.sum_filter_add_sum_filter_not V ℕ _ univ p (fun _ => propDecidable _) (fun _ => propDecidable _) stake

theorem w_eq_zero (stake : V → ℕ) {p : V → Prop} (h : ∀ v, ¬ p v) : w stake p = 0 :=
  Finset.sum_eq_zero fun v hv => absurd (mem_filter.mp hv).2 (h v)

theorem w_add_le (stake : V → ℕ) {p q r : V → Prop} (hd : ∀ v, p v → ¬ q v) (hp : ∀ v, p v → r v) (hq : ∀ v, q v → r v) :
    w stake p + w stake q ≤ w stake r := by
  rw [← w_or_add_and, w_eq_zero stake (p := fun v => p v ∧ q v) fun v h => hd v h.1 h.2]
  exact w_mono stake fun v => Or.rec (hp v) (hq v)

/-- quorum intersection -/
theorem w_and_ge (stake : V → ℕ) (p q : V → Prop) :
    w stake p + w stake q ≤ w stake (fun v => p v ∧ q v) + total stake := by
  rw [← w_or_add_and, Nat.add_comm]; exact Nat.add_le_add_left (w_le_total stake _) _

theorem exists_correct (stake : V → ℕ) (byz p : V → Prop) (h : w stake byz < w stake p) : ∃ v, p v ∧ ¬ byz v := by
  by_contra hno
  exact Nat.not_le.mpr h (w_mono stake fun v hp => by_contra fun hb => hno ⟨v, hp, hb⟩)

/-- weight of a set all of whose correct members lie outside `n`: at most `total − w n + w byz` -/
theorem w_le_of_correct_outside (stake : V → ℕ) (byz n p : V → Prop) (h : ∀ v, p v → ¬ byz v → ¬ n v) :
    w stake p + w stake n ≤ total stake + w stake byz := by
  rw [← w_not stake n, Nat.add_comm (w stake n), Nat.add_right_comm]
  exact Nat.add_le_add_right (Nat.le_trans (w_mono stake fun v hp => (Classical.em (byz v)).symm.imp (h v hp) id)
    (w_or_le stake _ byz)) _

end AgModel.Spec
