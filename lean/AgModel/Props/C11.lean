import AgModel.Proofs.Pad
import AgModel.Proofs.Shred
import AgModel.Proofs.ShredInstance
import AgModel.Props.C15
import AgModel.Exec.ShredEnv
/-!
# C11 — Erasure coding: any 32 of a slice's 64 shreds restore it bit-for-bit

Statements about `AgModel.Pad` (padding / chunking arithmetic of `reed_solomon.rs`) and `AgModel.Shred`
(the four shredders and `Shredder::deshred`). `reed-solomon-simd`, AES-CTR, the SHA-256 key mask and the
interning of shard bytes as Merkle leaves are parameters `env : Env` whose contracts are the hypotheses
`Env.Laws env` (structure fields, not axioms).
-/
namespace AgModel.Shred
open AgModel.Pad AgModel.Merkle

/-- The size arithmetic of `ReedSolomonCoder::shred`, for **every** payload length:
    the shard size is even, at least 2 and `2·(len/64 + 1)`; 32 shards hold the payload plus
    1..64 padding bytes; `last_shreds_bytes` is a multiple of the shard size, at least 64; neither
    `usize` subtraction in `boundary` underflows; `boundary` is a multiple of the shard size and
    `≤ len`; the tail + marker fits `last_shreds` (`resize` never truncates). -/
theorem pad_arith (len : Nat) :
    shredBytes len = 2 * (len / 64 + 1) ∧
    1 ≤ paddingBytes len ∧ paddingBytes len ≤ 64 ∧
    len + paddingBytes len = 32 * shredBytes len ∧
    lastShredsBytes len % shredBytes len = 0 ∧
    paddingBytes len ≤ lastShredsBytes len ∧
    lastShredsBytes len - paddingBytes len ≤ len ∧
    boundary len % shredBytes len = 0 ∧ boundary len ≤ len ∧
    (len - boundary len) + 1 ≤ lastShredsBytes len := by
  obtain ⟨kl, hkl, _, hl⟩ := lastShredsBytes_eq len
  have hL := lastShredsBytes_le len
  have hb := boundary_add len
  have ht := padded_total len
  have hp := paddingBytes_bounds len
  refine ⟨shredBytes_eq len, hp.1, hp.2, ht, by rw [hl]; exact Nat.mul_mod_left _ _, Nat.le_trans hp.2 hL.1,
    Nat.sub_le_of_le_add (by rw [ht]; exact hL.2), by rw [boundary_eq_mul len kl hl]; exact Nat.mul_mod_left _ _,
    boundary_le len, by omega⟩

theorem shredBytes_le_max (len : Nat) (h : len ≤ MAX_PER_SLICE) : shredBytes len ≤ MAX_PER_SHRED := by
  rw [shredBytes_eq, MAX_PER_SHRED_eq]; rw [MAX_PER_SLICE_eq] at h; omega

/-- `rsSplit` (the data shards handed to the encoder): exactly 32 shards of `shred_bytes` bytes whose
    concatenation is `payload ‖ 0x80 ‖ 0…0`. -/
theorem split_spec (p : Bytes) :
    (rsSplit p).length = DATA ∧ (∀ c ∈ rsSplit p, c.length = shredBytes p.length) ∧
    (rsSplit p).flatten = p ++ marker :: List.replicate (paddingBytes p.length - 1) 0 :=
  ⟨(rsSplit_shape p).1, (rsSplit_shape p).2, rsSplit_flatten p⟩

/-- removing the padding restores the payload, for every payload (including the empty one, payloads
    ending in `0x00` / `0x80` bytes, and the maximum) -/
theorem unpad_split (p : Bytes) : unpad (rsSplit p).flatten = some p := by
  rw [rsSplit_flatten p]; exact unpad_pad p _

/-- **A slice above the size limit is refused at shredding time**, and only then: `shred` returns
    `TooMuchData` iff the serialized payload exceeds the shredder's `MAX_DATA_SIZE`; otherwise it returns
    the 64 shreds `leaderOut` (no panic). -/
theorem too_big (env : Env) (L : env.Laws) (v : Variant) (sl : Slice) (sk : Nat) (key : Bytes)
    (hkey : key.length = KEY_BYTES) :
    (v.maxData < (payloadBytes sl.parent sl.data).length → shred env v sl sk key = .err .tooMuchData) ∧
    ((payloadBytes sl.parent sl.data).length ≤ v.maxData →
      shred env v sl sk key = .ok (leaderOut env v sl sk key) ∧ (leaderOut env v sl sk key).length = TOTAL) := by
  constructor
  · intro hbig
    exact shred_tooMuchData env v sl sk key
      (Nat.lt_of_not_le fun h => Nat.not_le.mpr hbig ((coderPayload_fits env L v key _ hkey).mp h))
  · intro hfit
    refine ⟨shred_ok env L v sl sk key hkey hfit, ?_⟩
    unfold leaderOut
    simp only [mkAll_length]
    rw [rawsOf_length env _ _ L (nData_le v), TOTAL_eq]

/-- a shred made for position `i` from the tree over `raws` derives that tree's root, and its path uses up the index:
    completeness of the created Merkle proofs (C15 `createProof_derives`), read as a statement about `derive_root` -/
theorem mkShred_sliceRoot (env : Env) (raws : List Bytes) (tree : Tree)
    (htree : tree = Tree.new (raws.map env.leafId)) (h : Header) (nd : Nat) (sig : Sig)
    (i : Nat) (d : Bytes) (hi : raws[i]? = some d) :
    (mkShred h nd tree sig i d).shred.sliceRoot env = tree.root ∧
    (mkShred h nd tree sig i d).shred.indexConsumed = true := by
  subst htree
  have hd := createProof_derives (raws.map env.leafId) i
    (by rw [List.length_map]; exact (List.getElem?_eq_some_iff.mp hi).1)
  rw [List.getD_eq_getElem?_getD, List.getElem?_map, hi] at hd
  refine ⟨congrArg Prod.fst hd, ?_⟩
  have := congrArg Prod.snd hd
  rw [deriveRootIdx_snd] at this
  simpa [Shred.indexConsumed, mkShred] using this

/-- with `pk`'s signature over its header and that root, such a shred is one `try_new(_, None, pk)` accepts: the
    leader's own shreds, and those `fill_missing_shreds` regenerates with a copied signature -/
theorem mkShred_valid (env : Env) (raws : List Bytes) (tree : Tree)
    (htree : tree = Tree.new (raws.map env.leafId)) (h : Header) (nd pk : Nat) (sig : Sig) (i : Nat) (d : Bytes)
    (hi : raws[i]? = some d) (hsig : sig = .signed pk (commit h tree.root)) :
    validate env (mkShred h nd tree sig i d).shred none pk = .ok (mkShred h nd tree sig i d) := by
  obtain ⟨hder, hcons⟩ := mkShred_sliceRoot env raws tree htree h nd sig i d hi
  unfold validate
  rw [hcons, hder, hsig]
  simp [mkShred, Sig.verify]

theorem leaderOut_get (env : Env) (v : Variant) (sl : Slice) (sk : Nat) (key : Bytes) (i : Nat) (s : VShred)
    (h : (leaderOut env v sl sk key)[i]? = some s) :
    s.root = (leaderTree env v sl key).root ∧ s.shred.index = i ∧ s.shred.header = sl.header ∧
    s.shred.isData = decide (i < v.nData) ∧
    s.shred.sig = .signed sk (commit sl.header (leaderTree env v sl key).root) ∧
    s.shred.path = (leaderTree env v sl key).createProof i ∧
    (rawsOf env (coderPayload env v key (payloadBytes sl.parent sl.data)) v.nData)[i]? = some s.shred.data := by
  unfold leaderOut at h
  rw [mkAll_getElem?, Nat.zero_add] at h
  obtain ⟨d, hd, rfl⟩ := Option.map_eq_some_iff.mp h
  exact ⟨rfl, rfl, rfl, rfl, rfl, rfl, hd⟩

/-- **Round trip.** For each of the four shredders, every slice within the shredder's size limit (any
    header, with or without parent, any data including the empty and the maximum), every cipher key and
    every set `present` of at least 32 of the 64 positions: `deshred` on the shreds at those positions
    returns exactly the original slice (slot, index, last flag, parent, data) with the leader's root, and
    the array afterwards is the leader's complete output — every missing shred regenerated identically
    (same index, kind, bytes, copied signature, Merkle path). -/
theorem roundtrip (env : Env) (L : env.Laws) (v : Variant) (sl : Slice) (sk : Nat) (key : Bytes)
    (hkey : key.length = KEY_BYTES) (hfit : (payloadBytes sl.parent sl.data).length ≤ v.maxData)
    (hpar : ∀ s h, sl.parent = some (s, h) → s < 2 ^ 64 ∧ h.length = 32)
    (present : Nat → Bool) (hcnt : 32 ≤ ((List.range 64).filter present).length) :
    deshred env v (selectFrom present 0 (leaderOut env v sl sk key))
      = .ok (⟨sl, (leaderTree env v sl key).root⟩, (leaderOut env v sl sk key).map some) := by
  have hfit' : (payloadBytes sl.parent sl.data).length ≤ MAX_PER_SLICE :=
    Nat.le_trans hfit (by cases v <;> decide)
  exact deshred_leaderOut env v sl sk key present (rawsOf_length env _ _ L (nData_le v))
    (rawsOf_size env _ _ L)
    (deshredValidated_roundtrip env L v key _ hkey hfit _ (fun i d => ⟨rfl, rfl⟩) present hcnt)
    (parse_payloadBytes sl.parent sl.data hfit' hpar)

/-- **Each regenerated (= each leader) shred carries a Merkle proof valid under the same signed root**:
    it passes `ValidatedShred::try_new` for the leader key without a cache and - under any key - with the slice's
    cached commitment that remembers the leader's signature, with the leader's root as derived root, and its path
    verifies (`check_proof`) at its index. -/
theorem leader_shreds_validate (env : Env) (L : env.Laws) (v : Variant) (sl : Slice) (sk : Nat) (key : Bytes)
    (i : Nat) (s : VShred) (h : (leaderOut env v sl sk key)[i]? = some s) :
    validate env s.shred none sk = .ok s ∧
    (∀ pk, validate env s.shred (some ⟨commit sl.header (leaderTree env v sl key).root,
        some (.signed sk (commit sl.header (leaderTree env v sl key).root))⟩) pk = .ok s) ∧
    checkProof (env.leafId s.shred.data) s.shred.index (leaderTree env v sl key).root s.shred.path = true := by
  unfold leaderOut at h
  rw [mkAll_getElem?, Nat.zero_add] at h
  obtain ⟨d, hd, rfl⟩ := Option.map_eq_some_iff.mp h
  have hlen := rawsOf_length env (coderPayload env v key (payloadBytes sl.parent sl.data)) v.nData L (nData_le v)
  obtain ⟨hder, hcons⟩ := mkShred_sliceRoot env _ (leaderTree env v sl key) rfl sl.header v.nData
    (.signed sk (commit sl.header (leaderTree env v sl key).root)) i d hd
  refine ⟨mkShred_valid env _ _ rfl _ _ sk _ i d hd rfl, fun pk => ?_, ?_⟩
  · unfold validate Cached.shortcuts
    rw [hcons, hder]
    simp [mkShred, leaderTree]
  · have hc := AgModel.Merkle.complete ((rawsOf env (coderPayload env v key (payloadBytes sl.parent sl.data)) v.nData).map env.leafId)
      i (by rw [List.length_map]; exact (List.getElem?_eq_some_iff.mp hd).1) (by rw [List.length_map, hlen]; decide)
    rwa [List.getD_eq_getElem?_getD, List.getElem?_map, hd] at hc

/-- **Fewer than 32 shreds never reconstruct anything**, whatever the shreds are (honest or not):
    `deshred` then returns `NotEnoughShreds` or `InvalidLayout` (or hits the documented position panic of
    `ValidatedShreds::try_new`), never a slice. -/
theorem too_few (env : Env) (v : Variant) (shreds : List (Option VShred)) (h : count shreds < DATA) :
    deshred env v shreds = .err .notEnoughShreds ∨ deshred env v shreds = .err .invalidLayout ∨
      deshred env v shreds = .panic := by
  unfold deshred
  by_cases hall : shreds.all Option.isNone = true
  · left; simp only [hall, if_true]
  · simp only [hall, Bool.false_eq_true, if_false]
    cases tryNewLayout shreds v.nData with
    | invalid => right; left; rfl
    | panic => right; right; rfl
    | ok => left; simp only [deshredValidated_too_few env v shreds h]

/-- for fewer than 32 of the *leader's* shreds the verdict is exactly `NotEnoughShreds` -/
theorem too_few_honest (env : Env) (L : env.Laws) (v : Variant) (sl : Slice) (sk : Nat) (key : Bytes)
    (present : Nat → Bool) (hcnt : ((List.range 64).filter present).length < 32) :
    deshred env v (selectFrom present 0 (leaderOut env v sl sk key)) = .err .notEnoughShreds := by
  have hlen := rawsOf_length env (coderPayload env v key (payloadBytes sl.parent sl.data)) v.nData L (nData_le v)
  have hcount : count (selectFrom present 0 (leaderOut env v sl sk key)) = ((List.range 64).filter present).length := by
    unfold leaderOut
    rw [count_selectFrom, mkAll_length, hlen, List.range_eq_range']
  unfold deshred
  rcases Nat.eq_zero_or_pos (count (selectFrom present 0 (leaderOut env v sl sk key))) with h0 | hpos
  · rw [if_pos ((all_isNone_iff _).mpr h0)]
  · have hlay : tryNewLayout (selectFrom present 0 (leaderOut env v sl sk key)) v.nData = .ok :=
      tryNewLayout_select _ _ _ _ present _ _ (shredBytes_even _) (rawsOf_size env _ _ L) hpos
    simp only [all_isNone_eq_false hpos, Bool.false_eq_true, if_false, hlay,
      deshredValidated_too_few env v _ (by rw [hcount, DATA_eq]; exact hcnt)]

/-- **On any decoding error the supplied shreds are left untouched** (the model writes the array only in
    the final `fill_missing_shreds`; the harness compares the real array before / after every failing call). -/
theorem error_leaves_input (env : Env) (v : Variant) (shreds : List (Option VShred))
    (h : ∀ r, deshred env v shreds ≠ .ok r) : arrayAfter shreds (deshred env v shreds) = shreds := by
  cases hd : deshred env v shreds with
  | ok r => exact absurd hd (h r)
  | err e => rfl
  | panic => rfl

/-- a successful `deshred` of *any* array leaves every supplied shred in place -/
theorem present_untouched (env : Env) (v : Variant) (shreds : List (Option VShred)) (r : RSlice)
    (out : List (Option VShred)) (h : deshred env v shreds = .ok (r, out)) (i : Nat) (s : VShred)
    (hs : shreds[i]? = some (some s)) : out[i]? = some (some s) := by
  obtain ⟨_, _, _, _, _, _, _, rfl⟩ := deshred_eq_ok h
  exact fillAux_keeps hs

/-- **The contracts `Env.Laws` are satisfiable**: `Proofs/ShredInstance.lean` constructs an `Env` (a trivially MDS
    code whose recovery shards carry whole columns, identity cipher, injective list encoding as leaf id) and
    proves every clause — for arbitrary `Nat` shards, all `nc`, all shard sizes. -/
theorem laws_satisfiable : ∃ env : Env, env.Laws := ⟨Instance.env, Instance.laws⟩

/-- `roundtrip` instantiated with the lawful instance: an unconditional statement (no `Env.Laws` hypothesis). -/
theorem roundtrip_instance (v : Variant) (sl : Slice) (sk : Nat) (key : Bytes)
    (hkey : key.length = KEY_BYTES) (hfit : (payloadBytes sl.parent sl.data).length ≤ v.maxData)
    (hpar : ∀ s h, sl.parent = some (s, h) → s < 2 ^ 64 ∧ h.length = 32)
    (present : Nat → Bool) (hcnt : 32 ≤ ((List.range 64).filter present).length) :
    deshred Instance.env v (selectFrom present 0 (leaderOut Instance.env v sl sk key))
      = .ok (⟨sl, (leaderTree Instance.env v sl key).root⟩, (leaderOut Instance.env v sl sk key).map some) :=
  roundtrip Instance.env Instance.laws v sl sk key hkey hfit hpar present hcnt

/-! ### non-vacuity (concrete evaluation in the kernel, toy `Env` of `AgModel/Exec/ShredEnv.lean`) -/

section NonVacuity
open AgModel.Exec.ShredEnv

/-- a slice with a parent and data ending in `0x80 0x00` (the bytes the padding removal looks for) -/
def exampleSlice : Slice := ⟨⟨7, 3, true⟩, some (6, genHash 3), [1, 2, 0, 128, 0]⟩

/-- the conclusion of `roundtrip` holds for the toy coder, for all four shredders, when only the 32 odd positions are
    supplied (so every data shred of the regular layout has to come out of the decoder): what `roundtrip` takes from
    the contracts - the number and size of the shards and the shredder-specific decoding - holds by evaluation, the
    rest is `deshred_leaderOut`, … -/
example : ∀ v ∈ [Variant.regular, .codingOnly, .pets, .aont],
    deshred toyEnv v (selectFrom (fun i => i % 2 == 1) 0 (leaderOut toyEnv v exampleSlice 5 (keyOf 1)))
      = .ok (⟨exampleSlice, (leaderTree toyEnv v exampleSlice (keyOf 1)).root⟩,
             (leaderOut toyEnv v exampleSlice 5 (keyOf 1)).map some) := by
  -- the four facts in one evaluation: the kernel then builds each shredder's shards only once
  have facts : ∀ v ∈ [Variant.regular, .codingOnly, .pets, .aont],
      (rawsOf toyEnv (coderPayload toyEnv v (keyOf 1) (payloadBytes exampleSlice.parent exampleSlice.data)) v.nData).length = 64 ∧
      (∀ d ∈ rawsOf toyEnv (coderPayload toyEnv v (keyOf 1) (payloadBytes exampleSlice.parent exampleSlice.data)) v.nData,
        d.length = shredBytes (coderPayload toyEnv v (keyOf 1) (payloadBytes exampleSlice.parent exampleSlice.data)).length) ∧
      (deshredValidated toyEnv v (selectFrom (fun i => i % 2 == 1) 0 (leaderOut toyEnv v exampleSlice 5 (keyOf 1)))).toOption
        = some (payloadBytes exampleSlice.parent exampleSlice.data,
            leaderRaw toyEnv v (keyOf 1) (payloadBytes exampleSlice.parent exampleSlice.data)) ∧
      (parsePayload (payloadBytes exampleSlice.parent exampleSlice.data)).toOption
        = some (exampleSlice.parent, exampleSlice.data) := by
    decide +kernel
  intro v hv
  obtain ⟨h1, h2, h3, h4⟩ := facts v hv
  exact deshred_leaderOut toyEnv v exampleSlice 5 (keyOf 1) _ h1 h2
    (Except.eq_ok_of_toOption h3) (Except.eq_ok_of_toOption h4)

/-- … 31 shreds are refused, a 32 768-byte payload is refused at shredding time, a flipped tag is an invalid layout. -/
example :
    deshred toyEnv .regular (selectFrom (fun i => i % 2 == 1 && i != 63) 0 (leaderOut toyEnv .regular exampleSlice 5 (keyOf 1)))
      = .err .notEnoughShreds ∧
    shred toyEnv .regular ⟨⟨7, 3, true⟩, none, List.replicate 32759 1⟩ 5 (keyOf 1) = .err .tooMuchData ∧
    deshred toyEnv .regular (selectFrom (fun _ => true) 0 (leaderOut toyEnv .codingOnly exampleSlice 5 (keyOf 1)))
      = .err .invalidLayout := by
  refine ⟨by decide +kernel, shred_tooMuchData _ _ _ _ _ ?_, by decide +kernel⟩
  -- 1 + 8 + 32759 bytes: counted, not enumerated
  simp only [coderPayload, payloadBytes]
  rw [List.length_append, List.length_append, leBytes_length, List.length_replicate, MAX_PER_SLICE_eq]
  decide

end NonVacuity

end AgModel.Shred
