import AgModel.Proofs.ClusterPanic
/-!
# C10 / C01 — no node of a valid cluster run ever panics (`cluster_never_panics`)

The composition of C01 (safety of the cluster of executable model nodes, `Props/C01Cluster.lean`), C07 `pool_never_panics`
(every `.panic` of a pool operation comes from a tracker site, and the trackers do not panic in a pool run whose ghost log is
`Consistent`) and C10 (`votor_never_panics`): **the premise of the
tracker theorems is always met in a valid run** — the
"consensus safety violation" assertions of `finality_tracker.rs`, the `add_to_ready` assertion of `parent_ready_state.rs`, and
`add_block`'s assertions are unreachable.

Setting: `Spec/Cluster.lean` — `n` composed model nodes (`PoolImpl` ∘ queue ∘ `Votor`), an adversarial network that chooses every
event; `Valid` = unforgeability + "the hash binds the parent". Two more facts about the inputs of a pool are established
outside the cluster model before the pool is called and are hypotheses here (`Admitted`, decidable; both necessary:
`signer_bound_needed`, `parent_slot_bound_needed`): a delivered vote names a validator index (signature validation, C09
`validateVote_total`: `add_vote` indexes the validator table), and a registered block has its parent in an earlier slot (the
blockstore, C13 `announced_block_wellformed`: `assert!(block_id.0 > parent_id.0)`).

Statements (for every configuration with less than 20 % Byzantine stake, every valid admitted run, **every** node `i` — also the
nodes of Byzantine validators, whose pools only ever receive what the network delivers):

* `cluster_pools_safe` — the finality inputs of the ghost log of `i`'s pool satisfy every clause of `Finality.Safe`;
* `cluster_pools_consistent` — `i`'s pool is the run of the empty pool over the pool operations delivered to `i`
  and its ghost log is `Pool.Consistent`;
* `cluster_never_panics` — no pool operation of `i` emitted `Event.panic`, `i`'s Votor did not panic, `i` is not
  `dead`; `cluster_step_never_panics`: the same per operation, in the state in which it happens.

**Finding** (`old_skip_premise_fails_on_valid_run`): the stronger skip clause — *no skip certificate for the slot of any
`Final` block* — is **not** implied by safety: the slot of an *implicitly* finalized block
(an ancestor of a finalized block, certified only by a notarization / notar-fallback certificate) can carry a skip certificate
as well; the valid run `Findings.evs1` has one at the correct node A. (The same direct-vs-implicit distinction as D27, this
time in the premise of the C07 pool theorems, not in the code: nothing panics.) The skip clause of `Consistent` speaks about
*directly* finalized blocks only (`Proofs/PoolWiring.lean`), which safety gives (`finalized_not_skipped`) and which suffices: the
watermark of the finality tracker is always genesis or the slot of a directly finalized block (`first_direct`).
-/
namespace AgModel.Cluster
open AgModel AgModel.Node AgModel.NodePanic AgModel.Pool AgModel.Spec

/-- **Every clause of `Finality.Safe`** — parents in earlier slots, one parent per block, one `Final` block per slot,
    no `Final` block strictly between a `Final` block and its parent, one notarized block per slot, a notarized block agrees
    with a directly final one, no finalization certificate for an implicitly skipped slot — holds for the operations the
    finality tracker inside the pool of any node received in a valid admitted run. -/
theorem cluster_pools_safe (c : Cfg) (evs : List Ev) (hv : Valid c (init c) evs) (hw : Admitted c evs)
    (hb : 5 * w (stakeFn c) (byz c) < total (stakeFn c)) (i : ℕ) :
    Finality.Safe (finOps (poolLog { epoch := c.epoch i } (poolOps (proj i evs)))) :=
  (consistent_of_valid c evs hv hw hb i).safe

/-- **`cluster_pools_consistent`**: in every valid admitted run with less than 20 % Byzantine stake, the pool of every node is
    the run of the empty pool over the pool operations delivered to the node (none was dropped: the node never died), and
    its ghost log — block registrations and `CertCreated` events in order — is `Consistent` (`Finality.Safe`, no skip
    certificate for the slot of a directly finalized block, the only finalized block of slot 0 is genesis): the premise of
    the C07 / C08 / C18 pool theorems (`pool_wired`, `pool_ready_iff`, `pool_pr_never_panics`, …) is always met. -/
theorem cluster_pools_consistent (c : Cfg) (evs : List Ev) (hv : Valid c (init c) evs) (hw : Admitted c evs)
    (hb : 5 * w (stakeFn c) (byz c) < total (stakeFn c)) (i : ℕ) :
    (run (init c) evs i).pool = (poolRun { epoch := c.epoch i } (poolOps (proj i evs))).1 ∧
    Consistent (poolLog { epoch := c.epoch i } (poolOps (proj i evs))) :=
  ⟨(cluster_alive c evs hv hw hb i).2, consistent_of_valid c evs hv hw hb i⟩

/-- **`cluster_never_panics`: no node ever panics in a valid cluster run.** For every number of validators and stake
    distribution, every Byzantine set with less than 20 % of the stake, every run of the cluster (every interleaving of
    deliveries of votes, certificates and blocks, queue pumps, timeouts; arbitrary delay, loss, duplication, reordering;
    arbitrary votes and backed certificates naming Byzantine signers; equivocating leaders) that is `Valid` (unforgeability,
    the hash binds the parent) and `Admitted` (signers are validator indices, registered blocks have parents in earlier
    slots), and every node `i`: none of the pool operations delivered to `i` emitted `Event.panic` — neither the finality
    tracker's "consensus safety violation" assertions, nor the parent-ready tracker's `add_to_ready` assertion, nor
    `add_block`'s assertions, nor `parent not known` —, `i`'s Votor has not tripped an assertion, and `i` is not dead. The
    statement holds after every run, hence after every prefix: never. -/
theorem cluster_never_panics (c : Cfg) (evs : List Ev) (hv : Valid c (init c) evs) (hw : Admitted c evs)
    (hb : 5 * w (stakeFn c) (byz c) < total (stakeFn c)) (i : ℕ) :
    Pool.Event.panic ∉ (poolRun { epoch := c.epoch i } (poolOps (proj i evs))).2 ∧
    (run (init c) evs i).votor.panicked = false ∧ (run (init c) evs i).dead = false :=
  ⟨cluster_quiet c evs hv hw hb i, cluster_votor_ok c evs i, (cluster_alive c evs hv hw hb i).1⟩

/-- … per operation, in the state in which it happens: when the network delivers a vote / certificate / block to node `i`
    after the run `pre`, the call into `i`'s pool (`add_vote` / `add_cert` / `add_block` on the pool as it is then) emits no
    `Event.panic`. -/
theorem cluster_step_never_panics (c : Cfg) (pre : List Ev) (i : ℕ) (op : NodeOp) (hv : Valid c (init c) (pre ++ [(i, op)]))
    (hw : Admitted c (pre ++ [(i, op)])) (hb : 5 * w (stakeFn c) (byz c) < total (stakeFn c)) (pop : PoolOp)
    (hop : poolOpOf op = some pop) : Pool.Event.panic ∉ (poolStep (run (init c) pre i).pool pop).2 := by
  have hvp : Valid c (init c) pre := ((valid_append c _ pre [(i, op)]).mp hv).1
  have I := (cluster_alive c pre hvp (fun x hx => hw x (List.mem_append_left _ hx)) hb i).2
  have J := cluster_quiet c _ hv hw hb i
  have e : poolOps (proj i (pre ++ [(i, op)])) = poolOps (proj i pre) ++ [pop] := by
    simp [poolOps, proj_append, proj, hop]
  unfold poolOf at J
  rw [e, poolRun_append] at J
  exact I ▸ fun h => J (List.mem_append_right _ (List.mem_append_left _ h))

/-! ## the hypotheses are satisfiable (non-vacuity) and `Admitted` is necessary -/

/-- the run of finding 2 of `Props/C01Cluster.lean` (D27: the run on which the code before the fix 7ac7ffa panicked) is admitted -/
theorem evs2_admitted : Admitted (Findings.c Findings.par2) Findings.evs2 := by decide

/-- … so `cluster_never_panics` applies to it: node X = 0 (whose finality tracker walks past the notarized sibling) has not
    panicked, its pool holds a fast-finalization certificate -/
example : (run (init (Findings.c Findings.par2)) Findings.evs2 0).dead = false ∧
    (((run (init (Findings.c Findings.par2)) Findings.evs2 0).pool.getSlot 4).bind (·.cFf)).isSome = true :=
  ⟨(cluster_never_panics _ _ Findings.notarized_sibling_no_longer_panics.1 evs2_admitted
      ((byz_bound_iff _).mpr Findings.notarized_sibling_no_longer_panics.2.1) 0).2.2, by
    have h := Findings.notarized_sibling_no_longer_panics.2.2.2.2.1
    cases hx : ((run (init (Findings.c Findings.par2)) Findings.evs2 0).pool.getSlot 4).bind (·.cFf) with
    | none => rw [hx] at h; cases h
    | some _ => rfl⟩

example : Admitted Example.c Example.evs := by decide

/-- **`Admitted` is necessary (1)**: a vote naming signer 7 of 6 validators (index 7 is not a correct validator, so nothing
    restricts its votes in `Valid`) makes `add_vote` index the validator table out of bounds -/
theorem signer_bound_needed :
    Valid Example.c (init Example.c) [(0, .recvVote ⟨.skip, 1, 0, 7⟩)] ∧
    ¬ Admitted Example.c [(0, .recvVote ⟨.skip, 1, 0, 7⟩)] ∧
    (run (init Example.c) [(0, .recvVote ⟨.skip, 1, 0, 7⟩)] 0).dead = true := by decide +kernel

/-- **`Admitted` is necessary (2)**: a registration whose parent is not in an earlier slot trips
    `assert!(block_id.0 > parent_id.0)` of `add_block` (`parentOf` maps every id to `(0, 0)` here, so the registration agrees
    with it) -/
theorem parent_slot_bound_needed :
    Valid Example.c (init Example.c) [(0, .poolBlock (0, 3) (0, 0))] ∧
    ¬ Admitted Example.c [(0, .poolBlock (0, 3) (0, 0))] ∧
    (run (init Example.c) [(0, .poolBlock (0, 3) (0, 0))] 0).dead = true := by decide +kernel

/-! ## finding: "no skip certificate for the slot of any `Final` block" is not implied by safety -/

/-- the ghost log of the correct node A = 2 in the valid run `Findings.evs1` -/
def logA : List LogItem := poolLog { epoch := (Findings.c Findings.par1).epoch 2 } (poolOps (proj 2 Findings.evs1))

/-- **Finding**: in the valid, admitted run `Findings.evs1` (19 % Byzantine stake; all correct nodes follow the protocol) the
    log of the correct node A contains the skip certificate of slot 3 **and** block `(3, 30)` is `Final` in it — implicitly:
    `(4, 40)` is fast-finalized and `(4, 40) → (3, 30)` is registered. (`(3, 30)` has a notarization certificate from X + Z,
    slot 3 a skip certificate from Y, A and X's skip-fallback vote: both are legitimate, the next leader built on `(3, 30)`.)
    So "no skip certificate for a finalized slot" does **not** hold for every valid run; the premise of the C07 pool
    theorems (`Consistent`: … for a *directly* finalized slot) holds, by `cluster_pools_consistent`. No node panics in the
    run (`cluster_never_panics`). -/
theorem old_skip_premise_fails_on_valid_run :
    Valid (Findings.c Findings.par1) (init (Findings.c Findings.par1)) Findings.evs1 ∧
    Admitted (Findings.c Findings.par1) Findings.evs1 ∧
    (∃ x, LogItem.cert x ∈ logA ∧ x.kind = .skip ∧ x.slot = 3) ∧ Finality.Final (finOps logA) (3, 30) ∧
    ¬ Finality.Direct (finOps logA) (3, 30) ∧ Consistent logA ∧
    (List.range 4).all (fun i => !(run (init (Findings.c Findings.par1)) Findings.evs1 i).dead) = true := by
  have hv := Findings.parent_ready_from_finalization.1
  have hw : Admitted (Findings.c Findings.par1) Findings.evs1 := by decide
  have hb := (byz_bound_iff _).mpr Findings.parent_ready_from_finalization.2.1
  -- the log is consistent and no node is dead because the run is valid; the rest is one evaluation of the run
  have hc : Consistent logA := (cluster_pools_consistent _ _ hv hw hb 2).2
  have h : LogItem.cert ⟨.skip, 3, 0, [1, 2], [0], 81⟩ ∈ logA ∧ (3, 30) ∈ Finality.finals (finOps logA) ∧
      ¬ Finality.Direct (finOps logA) (3, 30) := by decide +kernel
  refine ⟨hv, hw, ⟨_, h.1, rfl, rfl⟩, (Finality.mem_finals hc.safe.link_lt).mp h.2.1, h.2.2, hc, ?_⟩
  exact List.all_eq_true.mpr fun i _ => by rw [(cluster_never_panics _ _ hv hw hb i).2.2]; rfl

end AgModel.Cluster
