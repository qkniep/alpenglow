import AgModel.Proofs.Repair
/-!
# C14 — repair stores only data matching the requested hash and cannot be derailed

Model: `AgModel.Repair` (requester + responder of `src/repair.rs`) over `AgModel.Blockstore`.
Merkle soundness (what an accepted proof implies about the tree) is C15 (`AgModel.Merkle.sound`,
`last_sound`); the theorems below are about what `repair.rs` / the blockstore do with it.
-/
namespace AgModel.Repair
open AgModel.Blockstore AgModel.Merkle

/-! ### integrity: a block is stored / announced under an id only if it hashes to that id -/

/-- every completed block filed in the repair spot of hash `h` has hash `h` -/
def RepOk (sd : SlotData) : Prop :=
  ∀ h b blk, repGet sd.rep h = some b → b.completed = some blk → blk.hash = h

theorem repOk_new (cap slot : Nat) : RepOk (SlotData.new cap slot) := by
  intro h b blk hg; simp [SlotData.new, repGet] at hg

/-- **Announced only under the requested id.** Whatever shred is filed for whatever requested hash
    `h`, if `add_shred_from_repair` announces a block, that block's hash is `h`. -/
theorem repair_announces_requested_hash (env : Nat → Content) (sd : SlotData) (h : H) (s : Shred) (info : BlockInfo)
    (hr : (addRepair env sd h s).2.1 = .ev (.block info)) : info.hash = h := by
  rcases addRepair_cases env sd h s with ⟨_, _, _, _, e⟩ | ⟨hk, _, e⟩ <;> rw [e] at hr
  · cases hr
  · exact hk info hr

/-- **Stored only under the matching id — invariant.** `RepOk` is preserved by every
    `add_shred_from_repair`, for every shred and every requested hash. -/
theorem addRepair_repOk (env : Nat → Content) (sd : SlotData) (h : H) (s : Shred) (hok : RepOk sd) :
    RepOk (addRepair env sd h s).1 := by
  intro h' b blk hg
  refine addRepair_spots (P := fun h' b => b.completed = some blk → blk.hash = h') env sd h s
    (fun h' b hg => hok h' b blk hg) (fun hk hc => ?_) h' b hg
  -- the spot of `h` either kept its block or completed the one it announces
  have hcomp : (addShred env (spot sd h) s).1.completed = (spot sd h).completed ∨ ∃ info txs,
      (addShred env (spot sd h) s).2 = .ev (.block info) ∧
        (addShred env (spot sd h) s).1.completed = some ⟨info.hash, info.parent, txs⟩ := by
    cases hty : s.ty with
    | true => rw [addShred_of_ty _ _ s hty]; exact addShred_completed env _ s
    | false => rw [addShred_wrongType _ _ s hty]; exact Or.inl rfl
  rcases hcomp with e | ⟨info, txs, hr, e⟩ <;> rw [e] at hc
  · exact spot_ind (P := fun b => b.completed = some blk → blk.hash = h) sd h (fun hc => nomatch hc)
      (fun b hg => hok h b blk hg) hc
  · cases hc; exact hk info hr

/-- dissemination never touches the repair spots -/
theorem addDissem_repOk (env : Nat → Content) (sd : SlotData) (s : Shred) (hok : RepOk sd) :
    RepOk (addDissem env sd s).1 := by
  have : (addDissem env sd s).1.rep = sd.rep := by
    cases hm : sd.misbehaved with
    | false => rw [addDissem_eq env sd s hm]; exact flagIfBad_rep _ _
    | true => rw [addDissem_flagged env sd s hm]
  intro h b blk hg
  rw [this] at hg
  exact hok h b blk hg

/-- **Stored under `id` ⇒ hashes to `id`.** `get_block((slot, h))` only ever returns a block whose hash
    is `h` — for the disseminated block by the lookup itself, for repaired blocks by `RepOk`. -/
theorem getBlock_hash (sd : SlotData) (h : H) (blk : Block) (hok : RepOk sd)
    (hg : getBlock sd h = some blk) : blk.hash = h := by
  unfold getBlock at hg
  cases hbd : blockData sd h with
  | none => rw [hbd] at hg; cases hg
  | some b =>
    rw [hbd] at hg
    rcases blockData_cases hbd with ⟨rfl, dblk, hd, hh⟩ | hr
    · exact (Option.some.inj (hd.symm.trans hg)) ▸ hh
    · exact hok h b blk hr hg

/-! ### responses -/

/-- **Replay / unsolicited responses are inert**: a response whose request is not outstanding changes
    neither the requester, nor the blockstore, and triggers nothing. -/
theorem unsolicited_ignored (env : Nat → Content) (cap : Nat) (st : RepairSt) (store : Store) (resp : Resp)
    (h : resp.req ∉ st.outstanding) : handleResponse env cap st store resp = (st, store, {}) := by
  unfold handleResponse; rw [if_pos h]

/-- every outstanding shred request has its slice root proven (what makes `unreachable!` unreachable) -/
def RootsKnown (st : RepairSt) : Prop :=
  ∀ b i j, Req.shred b i j ∈ st.outstanding → (rootGet st.sliceRoots (b, i)).isSome

/-- **A response that fails validation changes nothing (fix D4)** — wrong variant, invalid or
    truncated or foreign proof, wrong root, wrong or aliased last-slice index, shred with wrong
    slot / slice / index / root, with a last-slice flag that disagrees with the proven last slice
    index (fix D26), with a data/coding type that does not fit its index (fix D15b), or without the leader's
    signature: requester state (in particular the outstanding request and its pending timeout), blockstore
    and outputs are untouched, and the repair task does not panic. -/
theorem invalid_response_inert (env : Nat → Content) (cap : Nat) (st : RepairSt) (store : Store) (resp : Resp)
    (hk : RootsKnown st) (hv : ¬ Valid st resp) : handleResponse env cap st store resp = (st, store, {}) := by
  rcases handleResponse_cases env cap st store resp with h | ⟨_, b, i, j, ho, hn⟩ | ⟨r, rfl, _⟩ | ⟨b, l, root, π, rfl, _, h, _⟩ |
    ⟨b, i, root, π, rfl, _, h, _⟩ | ⟨b, i, j, slot, s, ok, rfl, _, h, _⟩
  · exact h
  · have := hk b i j ho
    rw [hn] at this; cases this
  · exact absurd trivial hv
  · exact absurd h hv
  · exact absurd h hv
  · exact absurd h hv

/-! ### retries -/

/-- every outstanding request has a pending timeout (so it is retried until validly answered) -/
def Tracked (st : RepairSt) : Prop := ∀ r ∈ st.outstanding, r ∈ st.timeouts

theorem sendRequest_tracked (st : RepairSt) (r : Req) (h : Tracked st) : Tracked (sendRequest st r) := by
  intro x hx
  show x ∈ st.timeouts.filter (· ≠ r) ++ [r]
  by_cases e : x = r
  · exact List.mem_append_right _ (List.mem_singleton.mpr e)
  · exact List.mem_append_left _ (List.mem_filter.mpr
      ⟨h x (((sendRequest_outstanding st r x).mp hx).resolve_right e), decide_eq_true e⟩)

theorem sendAll_tracked (st : RepairSt) (rs : List Req) (h : Tracked st) : Tracked (sendAll st rs) := by
  induction rs generalizing st with
  | nil => exact h
  | cons r rest ih => exact ih _ (sendRequest_tracked st r h)

theorem done_tracked (st : RepairSt) (r : Req) (h : Tracked st) : Tracked (done st r) :=
  fun x hx => h x ((done_outstanding st r x).mp hx).1

theorem accept_tracked (st : RepairSt) (r : Req) (k : Bid × Nat) (root : Nat) (lasts : List (Bid × Nat))
    (rs : List Req) (h : Tracked st) : Tracked (accept st r k root lasts rs) :=
  sendAll_tracked _ rs (done_tracked st r h)

/- **Retries are never lost.** `Tracked` holds initially (`tracked_init`) and is preserved by every step of the repair
   task: starting a repair (`repairBlock_tracked`), a timeout firing (`fireTimeout_tracked`), and every response
   whatsoever (`handleResponse_tracked`). Together with `invalid_response_inert` (an invalid response leaves the request
   outstanding) and `timeout_retries` this is the safety core of "cannot be derailed". -/
theorem tracked_init : Tracked RepairSt.init := by intro r hr; simp [RepairSt.init] at hr

theorem repairBlock_tracked (cap : Nat) (st : RepairSt) (store : Store) (b : Bid) (h : Tracked st) :
    Tracked (repairBlock cap st store b).1 := by
  rcases repairBlock_cases cap st store b with e | e <;> rw [e]
  · exact h
  · exact sendRequest_tracked st _ h

theorem fireTimeout_tracked (st : RepairSt) (h : Tracked st) (hnd : st.timeouts.Nodup) : Tracked (fireTimeout st).1 := by
  -- `hnd` is not needed
  unfold fireTimeout
  cases ht : st.timeouts with
  | nil => exact h
  | cons r rest =>
    have hrest : ∀ x ∈ st.outstanding, x ≠ r → x ∈ rest := fun x hx hne =>
      (List.mem_cons.mp (ht ▸ h x hx)).resolve_left hne
    dsimp only
    split
    · exact sendRequest_tracked _ r fun x hx =>
        hrest x (List.mem_filter.mp hx).1 (of_decide_eq_true (List.mem_filter.mp hx).2)
    · next hnot => exact fun x hx => hrest x hx fun e => hnot (e ▸ hx)

/-- a timeout of a request that is still outstanding re-sends exactly that request and keeps it outstanding -/
theorem timeout_retries (st : RepairSt) (r : Req) (rest : List Req) (ht : st.timeouts = r :: rest)
    (ho : r ∈ st.outstanding) :
    (fireTimeout st).2.sent = [r] ∧ r ∈ (fireTimeout st).1.outstanding ∧ r ∈ (fireTimeout st).1.timeouts := by
  unfold fireTimeout
  simp only [ht, ho, if_true]
  refine ⟨by simp, ?_, ?_⟩
  · rw [sendRequest_outstanding]; exact Or.inr rfl
  · unfold sendRequest; simp

theorem handleResponse_tracked (env : Nat → Content) (cap : Nat) (st : RepairSt) (store : Store) (resp : Resp)
    (h : Tracked st) : Tracked (handleResponse env cap st store resp).1 := by
  rcases handleResponse_cases env cap st store resp with e | ⟨e, _⟩ | ⟨r, rfl, ho, e⟩ | ⟨b, l, root, π, rfl, ho, hv, e⟩ |
    ⟨b, i, root, π, rfl, ho, hv, e⟩ | ⟨b, i, j, slot, s, ok, rfl, ho, hv, e⟩
  · rw [e]; exact h
  · rw [e]; exact h
  · rw [e]; exact sendRequest_tracked st r h
  · rw [e]; exact accept_tracked st _ _ _ _ _ h
  · rw [e]; exact accept_tracked st _ _ _ _ _ h
  · rw [e, ingest_eq]; exact done_tracked st _ h

/- The full statement — on every fair stream of responses / timeouts that eventually contains a correct answer to
   each outstanding request, an active repair completes, whatever is interleaved — is `repair_completes` in
   `Props/C14Live.lean` (with the typing hypothesis `Admissible`). Below is its safety core: an invalid response to
   an outstanding request leaves that request outstanding *with its retry timer pending* and changes nothing else,
   and the two invariants (`Tracked`, `RootsKnown`) survive every step. -/

/-- **Cannot be derailed (safety core).** -/
theorem not_derailed_partial (env : Nat → Content) (cap : Nat) (st : RepairSt) (store : Store) (resp : Resp)
    (ht : Tracked st) (hk : RootsKnown st) (hout : resp.req ∈ st.outstanding) (hv : ¬ Valid st resp) :
    let st' := (handleResponse env cap st store resp).1
    resp.req ∈ st'.outstanding ∧ resp.req ∈ st'.timeouts ∧ st' = st ∧
      (handleResponse env cap st store resp).2.1 = store ∧ Tracked st' ∧ RootsKnown st' := by
  have h := invalid_response_inert env cap st store resp hk hv
  simp only [h]
  exact ⟨hout, ht _ hout, trivial, trivial, ht, hk⟩

/-! ### the `unreachable!` of the shred arm is unreachable -/

theorem rootsKnown_init : RootsKnown RepairSt.init := by intro b i j h; simp [RepairSt.init] at h

theorem sendRequest_rootsKnown (st : RepairSt) (r : Req) (h : RootsKnown st)
    (hr : ∀ b i j, r = .shred b i j → (rootGet st.sliceRoots (b, i)).isSome) : RootsKnown (sendRequest st r) := by
  intro b i j hx
  rw [sendRequest_outstanding] at hx
  show (rootGet st.sliceRoots (b, i)).isSome
  rcases hx with hx | hx
  · exact h b i j hx
  · exact hr b i j hx.symm

theorem done_rootsKnown (st : RepairSt) (r : Req) (h : RootsKnown st) : RootsKnown (done st r) :=
  fun b i j hx => h b i j ((done_outstanding st r _).mp hx).1

theorem repairBlock_rootsKnown (cap : Nat) (st : RepairSt) (store : Store) (b : Bid) (h : RootsKnown st) :
    RootsKnown (repairBlock cap st store b).1 := by
  rcases repairBlock_cases cap st store b with e | e <;> rw [e]
  · exact h
  · exact sendRequest_rootsKnown st _ h (fun _ _ _ e => nomatch e)

theorem fireTimeout_rootsKnown (st : RepairSt) (h : RootsKnown st) : RootsKnown (fireTimeout st).1 := by
  intro b i j hx
  rw [(fireTimeout_frame st).1]
  exact h b i j ((fireTimeout_outstanding st _).mp hx)

theorem accept_rootsKnown (st : RepairSt) (r : Req) (k : Bid × Nat) (root : Nat) (lasts : List (Bid × Nat))
    (rs : List Req) (h : RootsKnown st) (hrs : ∀ b i j, Req.shred b i j ∈ rs → (b, i) = k) :
    RootsKnown (accept st r k root lasts rs) := by
  intro b i j hx
  rw [accept_roots]
  split
  · rfl
  · next hne =>
    rcases (accept_outstanding ..).mp hx with hx | hx
    · exact h b i j hx.1
    · exact absurd (hrs b i j hx) hne

/-- **`RootsKnown` is an invariant of the repair task** (with `rootsKnown_init`, `repairBlock_rootsKnown`,
    `fireTimeout_rootsKnown`): a shred request is only ever issued after the slice root was proven and
    proven roots are never forgotten, so the `unreachable!` in the shred arm cannot be reached. -/
theorem handleResponse_rootsKnown (env : Nat → Content) (cap : Nat) (st : RepairSt) (store : Store) (resp : Resp)
    (h : RootsKnown st) : RootsKnown (handleResponse env cap st store resp).1 := by
  rcases handleResponse_cases env cap st store resp with e | ⟨e, _⟩ | ⟨r, rfl, ho, e⟩ | ⟨b, l, root, π, rfl, ho, hv, e⟩ |
    ⟨b, i, root, π, rfl, ho, hv, e⟩ | ⟨b, i, j, slot, s, ok, rfl, ho, hv, e⟩
  · rw [e]; exact h
  · rw [e]; exact h
  · rw [e]
    exact sendRequest_rootsKnown st r h (fun b i j e => h b i j (e ▸ ho))
  · rw [e]
    refine accept_rootsKnown st _ _ _ _ _ h (fun b' i j hx => ?_)
    obtain ⟨_, _, e⟩ := List.mem_map.mp hx
    cases e
  · rw [e]
    refine accept_rootsKnown st _ _ _ _ _ h (fun b' i' j hx => ?_)
    obtain ⟨_, _, e⟩ := List.mem_map.mp hx
    cases e; rfl
  · rw [e, ingest_eq]; exact done_rootsKnown st _ h

/-- the shred arm never hits `unreachable!` under the invariant: a panic can then only come from the
    blockstore (`add_shred_from_repair`) or the two asserts after it -/
theorem shred_arm_root_known (st : RepairSt) (b : Bid) (i j : Nat) (h : RootsKnown st)
    (hout : Req.shred b i j ∈ st.outstanding) : ∃ root, rootGet st.sliceRoots (b, i) = some root :=
  Option.isSome_iff_exists.mp (h b i j hout)

/-! ### responder -/

/-- **Requests that cannot be served are NACKed**: if the blockstore holds no data for the block id
    (neither a completed disseminated block with that hash nor a repair spot), every request about
    it is answered with `Nack` of exactly that request. -/
theorem responder_nacks_unknown (sd : SlotData) (r : Req)
    (hnone : ∀ b, (r = .last b ∨ (∃ i, r = .root b i) ∨ (∃ i j, r = .shred b i j)) → blockData sd b.hash = none) :
    answer sd r = some (.nack r) := by
  cases r with
  | last b =>
    have := hnone b (Or.inl rfl)
    simp [answer, getLastSliceIndex, this]
  | root b i =>
    have := hnone b (Or.inr (Or.inl ⟨i, rfl⟩))
    simp [answer, getSliceRoot, this]
  | shred b i j =>
    have := hnone b (Or.inr (Or.inr ⟨i, j, rfl⟩))
    simp [answer, getShred, this]

end AgModel.Repair
