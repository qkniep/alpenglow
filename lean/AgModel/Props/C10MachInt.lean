import AgModel.Proofs.MachInt
import AgModel.Proofs.MachIntExt
/-!
# C10 (no panic from input), machine-integer layer

For ALL u64 values: when exactly each integer expression of `slot.rs`, `fraction.rs`, `epoch_info.rs` and the raw slot
arithmetic of pool / finality / parent-ready / votor / block producer panics (overflow checks are on in the release
profile), and that otherwise the machine result is the value the `Nat`-level models compute (refinement), so the
"unbounded Nat" of `Votor.firstInWindow`, `Votor.windowSlots`, `ParentReady.isWindowStart`, `Pool.isMet`,
`Pool.Epoch.is*`, `Route.leader`, `Route.indexInSlot`, `PoolTrack.outOfBounds` is exact for the code.
`none` = panic throughout.
-/
namespace AgModel.MachInt

/-- `first_slot_in_window` never panics and is `Votor.firstInWindow` = `ParentReady.windowFirst`. -/
theorem first_never_panics_refines (s : UInt64) :
    ∃ f, first s = some f ∧ f.toNat = Votor.firstInWindow s.toNat ∧ f.toNat = ParentReady.windowFirst s.toNat
      ∧ f.toNat ≤ s.toNat ∧ s.toNat < f.toNat + W :=
  ⟨_, (first_eq s).1, (first_eq s).2, (first_eq s).2,
    by rw [(first_eq s).2]; exact Nat.div_mul_le_self _ _, by rw [(first_eq s).2]; exact nat_lt_window_end _⟩

/-- `last_slot_in_window` (as repaired by `cd019dd`, D33) never panics, for every u64 slot including the last
    window, and is `first + (W - 1)`. -/
theorem last_never_panics_refines (s : UInt64) :
    ∃ l, last s = some l ∧ l.toNat = Votor.firstInWindow s.toNat + (W - 1) ∧ s.toNat ≤ l.toNat := by
  obtain ⟨l, hl, hn⟩ := last_eq s
  refine ⟨l, hl, hn, ?_⟩
  have := nat_lt_window_end s.toNat
  rw [hn]; omega

/-- The pre-fix formula (`Self(first.0 + W).prev()`) panics exactly on the slots of the last window. -/
theorem lastOld_panics_iff (s : UInt64) : lastOld s = none ↔ 2 ^ 64 - W ≤ s.toNat := by
  rw [(lastOld_spec s).1]; have := W_pos; have : W < 2 ^ 64 := by decide
  omega

/-- witness of D33: the old formula overflowed at `u64::MAX`, the repaired one returns `u64::MAX`. -/
theorem lastOld_overflow_witness :
    lastOld MAX = none ∧ last MAX = some MAX ∧ slotsInWindowOld MAX = none
      ∧ (slotsInWindow MAX).map List.length = some W := by decide

/-- `is_start_of_window` is `ParentReady.isWindowStart`. -/
theorem isStart_refines (s : UInt64) : isStart s = ParentReady.isWindowStart s.toNat := isStart_eq s

/-- `next` panics iff `s = u64::MAX`; otherwise it is `s + 1`. -/
theorem next_panics_iff (s : UInt64) :
    (next s = none ↔ s = MAX) ∧ ∀ n, next s = some n → n.toNat = s.toNat + 1 :=
  (next_spec s).imp (by rw [← MAX_toNat, UInt64.toNat_inj]) (fun _ h => h)

/-- `prev` panics iff `s = 0` (genesis); otherwise it is `s - 1`. -/
theorem prev_panics_iff (s : UInt64) :
    (prev s = none ↔ s = 0) ∧ ∀ p, prev s = some p → p.toNat + 1 = s.toNat :=
  (prev_spec s).imp toNat_eq_zero (fun _ h => h)

/-- `is_genesis_window` never panics: `s < W`. -/
theorem isGenesisWindow_never_panics (s : UInt64) : isGenesisWindow s = some (decide (s.toNat < W)) := by
  unfold isGenesisWindow
  rw [cdiv_W, Option.map_some, beq_zero_toNat, div_W_toNat]
  congr 1
  rw [Bool.eq_iff_iff, beq_iff_eq, decide_eq_true_eq]
  exact Nat.div_eq_zero_iff_lt W_pos

/-- `slots_in_window` never panics and yields `Votor.windowSlots` (W consecutive slots from the window start). -/
theorem slotsInWindow_never_panics_refines (s : UInt64) :
    ∃ l, slotsInWindow s = some l ∧ l.map UInt64.toNat = Votor.windowSlots s.toNat ∧ l.length = W := by
  obtain ⟨l, hl, hm⟩ := slotsInWindow_eq s
  refine ⟨l, hl, hm, ?_⟩
  have := congrArg List.length hm
  rw [List.length_map] at this
  rw [this]; unfold Votor.windowSlots; rw [List.length_range']; rfl

/-- every slot of `slots_in_window(s)` lies in the same window as `s`. -/
theorem slotsInWindow_same_window (s : UInt64) (l : List UInt64) (h : slotsInWindow s = some l) (x : UInt64)
    (hx : x ∈ l) : Votor.firstInWindow x.toNat = Votor.firstInWindow s.toNat := by
  obtain ⟨l', hl', hm⟩ := slotsInWindow_eq s
  rw [h] at hl'; cases hl'
  have hx' : x.toNat ∈ Votor.windowSlots s.toNat := by rw [← hm]; exact List.mem_map_of_mem hx
  unfold Votor.windowSlots at hx'
  rw [List.mem_range'_1] at hx'
  unfold Votor.firstInWindow at *
  have hW : 0 < Votor.W := W_pos
  generalize Votor.W = w at *
  generalize s.toNat / w = q at *
  have : x.toNat / w = q := by
    rw [Nat.div_eq_iff hW]; constructor <;> omega
  rw [this]

/-- `future_slots().take(k)` panics iff `s + k + 1 ≥ 2^64` (`self.0 + 1` overflows, or the range iterator computes
    the successor of `u64::MAX`); otherwise it yields `s+1 .. s+k`. -/
theorem futureSlots_panics_iff (s : UInt64) (k : Nat) :
    (futureSlots s k = none ↔ 2 ^ 64 ≤ s.toNat + k + 1)
    ∧ ∀ l, futureSlots s k = some l → l.map UInt64.toNat = List.range' (s.toNat + 1) k := by
  have := UInt64.toNat_lt s
  simp only [futureSlots, Option.bind_eq_bind]
  exact (cadd_one_spec s).bind (by omega) fun st hst _ =>
    (rangeFromTake_spec st k).imp (by omega) (fun l hl => by rw [hl, hst])

/-- The u128 products of `is_met` never overflow: `(2^64-1)^2 < 2^128`. -/
theorem u128_products_never_overflow (a b : UInt64) :
    a.toNat * b.toNat ≤ (2 ^ 64 - 1) * (2 ^ 64 - 1) ∧ (2 ^ 64 - 1) * (2 ^ 64 - 1) < 2 ^ 128 := by
  exact ⟨Nat.mul_le_mul (Nat.le_sub_one_of_lt (UInt64.toNat_lt a)) (Nat.le_sub_one_of_lt (UInt64.toNat_lt b)),
    u64_max_sq_lt_u128⟩

/-- `is_met` never panics (release profile) and is exactly the cross-multiplied comparison `Pool.isMet` on `Nat`,
    i.e. `value / total ≥ num / den` as rationals whenever `den, total > 0`. -/
theorem isMet_never_panics_refines (num den value total : UInt64) :
    isMet num den value total = some (Pool.isMet num.toNat den.toNat value.toNat total.toNat)
    ∧ (Pool.isMet num.toNat den.toNat value.toNat total.toNat = true
        ↔ total.toNat * num.toNat ≤ value.toNat * den.toNat) := by
  refine ⟨isMet_eq _ _ _ _, ?_⟩
  simp [Pool.isMet]

/-- With u64 products instead (what the source comment warns against) `is_met` would panic on realistic stakes. -/
theorem isMetU64_overflow_witness :
    isMetU64 3 5 (UInt64.ofNat (2 ^ 62)) (UInt64.ofNat (2 ^ 62)) = none
    ∧ isMet 3 5 (UInt64.ofNat (2 ^ 62)) (UInt64.ofNat (2 ^ 62)) = some true := by decide

/-- `is_met` is monotone in the stake and antitone in the total. -/
theorem isMet_monotone (num den v v' t t' : UInt64) (hv : v.toNat ≤ v'.toNat) (ht : t'.toNat ≤ t.toNat)
    (h : isMet num den v t = some true) : isMet num den v' t' = some true := by
  rw [isMet_eq] at h ⊢
  simp only [Option.some.injEq, Pool.isMet, decide_eq_true_eq] at h ⊢
  calc t'.toNat * num.toNat ≤ t.toNat * num.toNat := Nat.mul_le_mul_right _ ht
    _ ≤ v.toNat * den.toNat := h
    _ ≤ v'.toNat * den.toNat := Nat.mul_le_mul_right _ hv

/-- `EpochInfo::new` panics iff the exact total stake does not fit u64; otherwise `total_stake` is the exact sum
    (`Pool.Epoch.total`). A validator set is configuration, not peer input. -/
theorem totalStake_panics_iff (stakes : List UInt64) :
    (totalStake stakes = none ↔ 2 ^ 64 ≤ (stakes.map UInt64.toNat).sum)
    ∧ ∀ t, totalStake stakes = some t → t.toNat = (Pool.Epoch.total ⟨stakes.map UInt64.toNat, 0⟩) :=
  (sumFrom_spec 0 stakes).imp (by rw [zero_toNat, Nat.zero_add])
    (fun t h => by rw [h, zero_toNat, Nat.zero_add]; rfl)

/-- The four quorum predicates of `EpochInfo` never panic and are the `Pool.Epoch` predicates of the Nat model. -/
theorem quorums_refine (stakes : List UInt64) (t stake : UInt64) (h : totalStake stakes = some t) :
    let e : Pool.Epoch := ⟨stakes.map UInt64.toNat, 0⟩
    isWeakest t stake = some (e.isWeakest stake.toNat) ∧ isWeak t stake = some (e.isWeak stake.toNat)
    ∧ isQuorum t stake = some (e.isQuorum stake.toNat) ∧ isStrong t stake = some (e.isStrong stake.toNat) := by
  intro e
  have ht : t.toNat = e.total := (totalStake_panics_iff stakes).2 t h
  refine ⟨?_, ?_, ?_, ?_⟩
  · unfold isWeakest Pool.Epoch.isWeakest; rw [isMet_eq, ht]; rfl
  · unfold isWeak Pool.Epoch.isWeak; rw [isMet_eq, ht]; rfl
  · unfold isQuorum Pool.Epoch.isQuorum; rw [isMet_eq, ht]; rfl
  · unfold isStrong Pool.Epoch.isStrong; rw [isMet_eq, ht]; rfl

/-- quorum predicates are monotone in the stake. -/
theorem quorums_monotone (t a b : UInt64) (hab : a.toNat ≤ b.toNat) :
    (isWeakest t a = some true → isWeakest t b = some true) ∧ (isWeak t a = some true → isWeak t b = some true)
    ∧ (isQuorum t a = some true → isQuorum t b = some true) ∧ (isStrong t a = some true → isStrong t b = some true) :=
  ⟨isMet_monotone _ _ a b t t hab (Nat.le_refl _), isMet_monotone _ _ a b t t hab (Nat.le_refl _),
   isMet_monotone _ _ a b t t hab (Nat.le_refl _), isMet_monotone _ _ a b t t hab (Nat.le_refl _)⟩

/-- `leader(slot)` panics iff there are no validators; otherwise the index is `Route.leader` and in range
    (so `validators[leader_id as usize]` cannot fail). -/
theorem leader_panics_iff (n s : UInt64) :
    (leader n s = none ↔ n = 0) ∧ ∀ i, leader n s = some i → i.toNat = Route.leader n.toNat s.toNat ∧ i.toNat < n.toNat := by
  simp only [leader, cdiv_W, Option.bind_eq_bind, Option.bind_some]
  exact (cmod_spec (s / W64) n).imp Iff.rfl (fun i hi => ⟨by rw [hi.1, div_W_toNat]; rfl, hi.2⟩)

/-- `finalized + 2 * SLOTS_PER_EPOCH` (`add_cert` / `add_vote`) overflows iff `finalized ≥ 2^64 - 2E`; then the call
    PANICS (it does not reject); otherwise the bound is the `Nat` one. -/
theorem farFuture_panics_iff (fin : UInt64) :
    (farFuture fin = none ↔ 2 ^ 64 - 2 * E ≤ fin.toNat) ∧ ∀ ff, farFuture fin = some ff → ff.toNat = fin.toNat + 2 * E := by
  have : 2 * E < 2 ^ 64 := by decide
  exact (farFuture_spec fin).imp (by omega) (fun _ h => h)

/-- `SlotOutOfBounds` decision: same overflow condition; otherwise exactly `PoolTrack.outOfBounds`. -/
theorem outOfBounds_refines (fu fin slot : UInt64) :
    (outOfBounds fu fin slot = none ↔ 2 ^ 64 - 2 * E ≤ fin.toNat)
    ∧ ∀ b, outOfBounds fu fin slot = some b → b = natOutOfBounds fu.toNat fin.toNat slot.toNat := by
  simp only [outOfBounds, Option.bind_eq_bind]
  refine Panics.bind (farFuture_panics_iff fin) id fun ff hff hno => .pure hno ?_
  unfold natOutOfBounds
  unfold E at hff
  rw [← hff]
  simp only [UInt64.lt_iff_toNat_lt, ge_iff_le, UInt64.le_iff_toNat_le]

/-- the Nat form above is the existing pool model's decision -/
theorem natOutOfBounds_is_PoolTrack (p : PoolTrack.Pool) (slot : Nat) :
    PoolTrack.outOfBounds p slot = natOutOfBounds p.fin.first p.fin.highest slot := rfl

/-- The overflow is out of reach of the protocol: every admitted certificate / vote is for a slot below
    `finalized + 2E`, so after `k` finalizations `finalized ≤ k * 2E`; below 5 * 10^14 finalizations the bound does
    not overflow. -/
theorem farFuture_ok_after_k_finalizations (fin : UInt64) (k : Nat) (h : fin.toNat ≤ k * (2 * E))
    (hk : k ≤ 500000000000000) : (farFuture fin).isSome = true := by
  cases hf : farFuture fin with
  | some _ => rfl
  | none =>
    have h1 := (farFuture_panics_iff fin).1.mp hf
    have h2 : k * (2 * E) ≤ 500000000000000 * (2 * E) := Nat.mul_le_mul_right _ hk
    have h3 : 500000000000000 * (2 * E) + 2 * E < 2 ^ 64 := by decide
    omega

/-- `recover_from_standstill` / `FinalityTracker::prune`: `next()` chains panic iff they step past `u64::MAX`. -/
theorem standstill_prune_panic_iff (fin : UInt64) (k : Nat) :
    (standstillSlot fin = none ↔ fin = MAX) ∧ (pruneCursor fin k = none ↔ 2 ^ 64 ≤ fin.toNat + k + 1) :=
  ⟨(next_panics_iff fin).1, (pruneCursor_spec fin k).1⟩

/-- `slot.prev()` in `Votor::try_notar` (only off the window start) and in `wait_for_first_slot` of the block
    producer (only outside the genesis window) never panics. -/
theorem guarded_prev_never_panics (s : UInt64) : votorParentSlot s ≠ none ∧ producerPrevWindowLast s ≠ none := by
  constructor
  · unfold votorParentSlot
    rw [(first_eq s).1]
    exact guarded_prev_ne_none fun e => by rw [e]; decide
  · unfold producerPrevWindowLast
    rw [isGenesisWindow_never_panics]
    exact guarded_prev_ne_none fun e => by rw [e]; decide

/-- `index_in_slot` and `last_slice + 1` (usize) cannot overflow for validated indices; `index_in_slot` is
    `Route.indexInSlot`. -/
theorem index_arith_never_panics (slice shred : UInt64) (h1 : sliceIndexNew slice = some slice)
    (h2 : shredIndexNew shred = some shred) :
    (∃ r, indexInSlot slice shred = some r ∧ r.toNat = Route.indexInSlot slice.toNat shred.toNat)
    ∧ ∃ c, sliceCount slice = some c ∧ c.toNat = slice.toNat + 1 := by
  have hs := lt_of_index_new (K := Gen.MAX_SLICES_PER_BLOCK) (by decide) h1
  have hr := lt_of_index_new (K := Gen.TOTAL_SHREDS) (by decide) h2
  have hb : Gen.MAX_SLICES_PER_BLOCK * Gen.TOTAL_SHREDS + Gen.TOTAL_SHREDS < 2 ^ 64 := by decide
  have hm := Nat.mul_le_mul_right Gen.TOTAL_SHREDS (Nat.le_of_lt hs)
  have hM : Gen.MAX_SLICES_PER_BLOCK < 2 ^ 63 := by decide
  exact ⟨(indexInSlot_spec slice shred).ok (by omega), (cadd_one_spec slice).ok (by omega)⟩

/-- `Stake + Stake` / `+=` panic iff the exact sum `>= 2^64` (`checked_add` is `None` exactly then); `Stake - Stake` /
    `-=` panic iff `rhs > self`; `Stake * u64` panics iff the exact product `>= 2^64`; otherwise all are exact. -/
theorem stake_add_sub_mul_panic_iff (a b : UInt64) :
    (stakeAdd a b = none ↔ 2 ^ 64 ≤ a.toNat + b.toNat) ∧ (∀ c, stakeAdd a b = some c → c.toNat = a.toNat + b.toNat) ∧
    stakeCheckedAdd a b = stakeAdd a b ∧
    (stakeSub a b = none ↔ a.toNat < b.toNat) ∧ (∀ c, stakeSub a b = some c → c.toNat = a.toNat - b.toNat) ∧
    (stakeMul a b = none ↔ 2 ^ 64 ≤ a.toNat * b.toNat) ∧ (∀ c, stakeMul a b = some c → c.toNat = a.toNat * b.toNat) :=
  ⟨(cadd_spec a b).1, (cadd_spec a b).2, rfl, (csub_spec a b).1,
    fun c h => by have := (csub_spec a b).2 c h; omega, (cmul_spec a b).1, (cmul_spec a b).2⟩

/-- `Stake::div_ceil` panics iff the divisor is 0 (the `+ 1` of the rounding cannot overflow); otherwise the result
    `r` is the ceiling: `r = a / d + [a % d ≠ 0]`, i.e. the least `r` with `a ≤ r * d`. -/
theorem stake_divCeil_panics_iff (a d : UInt64) :
    (stakeDivCeil a d = none ↔ d = 0) ∧
    ∀ r, stakeDivCeil a d = some r →
      r.toNat = a.toNat / d.toNat + (if a.toNat % d.toNat = 0 then 0 else 1) ∧
      a.toNat ≤ r.toNat * d.toNat ∧ r.toNat * d.toNat < a.toNat + d.toNat := by
  have hsp := stakeDivCeil_spec a d
  refine ⟨hsp.1, fun r h => ?_⟩
  have hr := hsp.2 r h
  have hd0 : 0 < d.toNat := toNat_pos fun hd => by rw [hsp.1.mpr hd] at h; cases h
  refine ⟨hr, ?_⟩
  have hdm := Nat.div_add_mod a.toNat d.toNat
  have hml := Nat.mod_lt a.toNat hd0
  rw [hr, Nat.add_mul, Nat.mul_comm (a.toNat / d.toNat)]
  by_cases hz : a.toNat % d.toNat = 0
  · rw [if_pos hz]; omega
  · rw [if_neg hz]; omega

/-- `Fraction::cmp` (and `partial_cmp`, which is `Some(cmp)`) never panics - the u128 products cannot overflow - and
    is the comparison of the cross products, i.e. of the rationals `n1/d1` and `n2/d2` (denominators are `NonZeroU64`). -/
theorem fracCmp_never_panics_refines (n1 d1 n2 d2 : UInt64) :
    fracCmp n1 d1 n2 d2 = some (compare (n1.toNat * d2.toNat) (n2.toNat * d1.toNat)) := by
  unfold fracCmp; rw [mul128_eq, mul128_eq]

/-- `==` is consistent with `cmp`: true iff `cmp` is `Equal` iff the cross products agree (`1/2 == 2/4`); `cmp` is
    antisymmetric (`b.cmp(a)` is the reverse of `a.cmp(b)`) and reflexive. -/
theorem fracEq_consistent (n1 d1 n2 d2 : UInt64) :
    (fracEq n1 d1 n2 d2 = some true ↔ fracCmp n1 d1 n2 d2 = some .eq) ∧
    (fracEq n1 d1 n2 d2 = some true ↔ n1.toNat * d2.toNat = n2.toNat * d1.toNat) ∧
    (fracCmp n2 d2 n1 d1 = (fracCmp n1 d1 n2 d2).map Ordering.swap) ∧
    fracCmp n1 d1 n1 d1 = some .eq := by
  unfold fracEq
  rw [fracCmp_never_panics_refines, fracCmp_never_panics_refines, fracCmp_never_panics_refines]
  refine ⟨?_, ?_, ?_, ?_⟩
  · simp only [Option.map_some, Option.some.injEq]
    cases compare (n1.toNat * d2.toNat) (n2.toNat * d1.toNat) <;> decide
  · simp only [Option.map_some, Option.some.injEq]
    rw [← Nat.compare_eq_eq (a := n1.toNat * d2.toNat) (b := n2.toNat * d1.toNat)]
    cases compare (n1.toNat * d2.toNat) (n2.toNat * d1.toNat) <;> decide
  · simp only [Option.map_some, Option.some.injEq]
    rw [Nat.compare_swap]
  · rw [Nat.compare_eq_eq.mpr rfl]

/-- `cmp` is consistent with `is_met`: `Fraction(n/d).is_met(value, total)` iff `value/total >= n/d` under `cmp`. -/
theorem fracCmp_consistent_with_isMet (num den value total : UInt64) :
    isMet num den value total = some true ↔ fracCmp value total num den ≠ some .lt := by
  rw [isMet_eq, fracCmp_never_panics_refines]
  simp only [Option.some.injEq, ne_eq]
  rw [Nat.compare_eq_lt, (isMet_never_panics_refines num den value total).2, Nat.mul_comm total.toNat num.toNat]
  omega

/-- `cmp` is transitive (`<=`), so with antisymmetry and totality (`compare` on the products) it is a total preorder
    on fractions whose `Equal` classes are the equal rationals. Needs the non-zero denominators. -/
theorem fracCmp_le_trans (n1 d1 n2 d2 n3 d3 : UInt64) (h2 : d2 ≠ 0)
    (h12 : fracCmp n1 d1 n2 d2 ≠ some .gt) (h23 : fracCmp n2 d2 n3 d3 ≠ some .gt) :
    fracCmp n1 d1 n3 d3 ≠ some .gt := by
  rw [fracCmp_never_panics_refines] at *
  simp only [Option.some.injEq, ne_eq, Nat.compare_eq_gt, Nat.not_lt] at *
  have hd : 0 < d2.toNat := toNat_pos h2
  -- n1*d2 ≤ n2*d1, n2*d3 ≤ n3*d2  ⟹  n1*d3 ≤ n3*d1
  apply Nat.le_of_mul_le_mul_right (c := d2.toNat) _ hd
  calc n1.toNat * d3.toNat * d2.toNat = n1.toNat * d2.toNat * d3.toNat := by rw [Nat.mul_right_comm]
    _ ≤ n2.toNat * d1.toNat * d3.toNat := Nat.mul_le_mul_right _ h12
    _ = n2.toNat * d3.toNat * d1.toNat := by rw [Nat.mul_right_comm]
    _ ≤ n3.toNat * d2.toNat * d1.toNat := Nat.mul_le_mul_right _ h23
    _ = n3.toNat * d1.toNat * d2.toNat := by rw [Nat.mul_right_comm]

/-- `Slot::windows().take(k)` (`(0..).step_by(W)`): panics iff `k > 2^64 / W` - the iterator yields every window start
    of the u64 range (the last one, `2^64 - W`, included) and panics on the call after that; otherwise it yields
    `0, W, 2W, …, (k-1)·W`. -/
theorem windows_panics_iff (k : Nat) :
    (windows k = none ↔ 2 ^ 64 < k * W) ∧
    ∀ l, windows k = some l → l.map UInt64.toNat = (List.range k).map (fun i => i * W) := by
  cases k with
  | zero => exact Panics.pure (by rw [Nat.zero_mul]; exact Nat.not_lt_zero _) rfl
  | succ k =>
    unfold windows
    have h01 : cadd 0 1 = some 1 := by decide
    rw [h01]
    simp only
    have hq : 0 < 2 ^ 64 / W := by decide
    rw [pow64_lt_mul_W]
    refine (windowsFrom_spec k 1 0 (by rw [one_toNat]; omega)).step (by omega) fun rest ho hrl hno => ?_
    rw [ho]
    exact .pure (by omega) (by
      rw [List.map_cons, hrl, zero_toNat, List.range_eq_range', List.range'_succ, List.map_cons, Nat.zero_mul])

/-! ## non-vacuity -/

example : fracEq 1 2 2 4 = some true ∧ fracCmp 1 3 1 2 = some .lt ∧ fracCmp 3 4 2 3 = some .gt
    ∧ fracCmp MAX 1 (MAX - 1) 1 = some .gt ∧ fracCmp MAX MAX (MAX - 1) (MAX - 1) = some .eq := by decide
example : stakeDivCeil 7 2 = some 4 ∧ stakeDivCeil MAX 1 = some MAX ∧ stakeDivCeil MAX 2 = some (MAX / 2 + 1)
    ∧ stakeDivCeil 5 0 = none ∧ stakeSub 3 4 = none ∧ stakeMul (MAX / 2 + 1) 2 = none := by decide
example : windows 3 = some [0, 4, 8] := by decide

example : first 7 = some 4 ∧ last 7 = some 7 ∧ slotsInWindow 5 = some [4, 5, 6, 7] := by decide
example : next MAX = none ∧ prev 0 = none ∧ next 41 = some 42 ∧ prev 42 = some 41 := by decide
example : futureSlots (MAX - 2) 1 = some [MAX - 1] ∧ futureSlots (MAX - 2) 2 = none ∧ futureSlots (MAX - 1) 0 = some []
    ∧ futureSlots MAX 0 = none := by decide
example : totalStake [MAX, 1] = none ∧ totalStake [MAX - 1, 1] = some MAX ∧ totalStake [] = some 0 := by decide
example : isQuorum MAX (MAX / 5 * 3 - 1) = some false ∧ isQuorum MAX (MAX / 5 * 3) = some true := by decide
example : isQuorum 10 6 = some true ∧ isQuorum 10 5 = some false ∧ isStrong 10 8 = some true := by decide
example : leader 0 5 = none ∧ leader 3 (MAX - 1) = some 0 ∧ leader 5 22 = some 0 ∧ leader 5 24 = some 1 := by decide
example : farFuture (MAX - 35999) = none ∧ farFuture (MAX - 36000) = some MAX
    ∧ outOfBounds 0 (MAX - 36000) (MAX - 1) = some false := by decide
example : votorParentSlot 4 = some none ∧ votorParentSlot 5 = some (some 4) ∧ producerPrevWindowLast 0 = some none
    ∧ producerPrevWindowLast 8 = some (some 7) := by decide
example : sliceIndexNew 1023 = some 1023 ∧ sliceIndexNew 1024 = none ∧ indexInSlot 1023 63 = some 65535 := by decide

end AgModel.MachInt
