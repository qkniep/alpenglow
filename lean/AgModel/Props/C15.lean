import AgModel.Proofs.Merkle
/-!
# C15 — Merkle proofs verify exactly for the leaf at the stated position

All statements are about `AgModel.Merkle` (model of `src/crypto/merkle.rs`), with SHA-256 idealised
as the free term algebra `H` ("unless a hash collision"). Leaves are data ids; id `0` is the empty
byte string that `MerkleTree::new` pads with (`EMPTY_ROOTS`).
-/
namespace AgModel.Merkle

/-- the constant the model uses is the one in the source -/
theorem maxHeight_is_source : maxHeight = AgModel.Gen.MAX_MERKLE_TREE_HEIGHT := by decide

/-- the tree built by the well-founded form of the construction loop (proof vehicle) -/
def newWF (leaves : List Nat) : Tree := ⟨buildLevelsWF 0 (leaves.map H.leaf)⟩

theorem new_def (leaves : List Nat) : Tree.new leaves = newWF leaves := by
  unfold Tree.new newWF; rw [buildLevels_eq_wf]

private theorem leaves_isLeaf (leaves : List Nat) : ∀ y ∈ leaves.map H.leaf, IsLeaf y := by
  intro y hy; simp at hy; obtain ⟨a, _, rfl⟩ := hy; trivial

theorem height_le (leaves : List Nat) (k : Nat) (hn : leaves.length ≤ 2 ^ k) : (Tree.new leaves).height ≤ k := by
  rw [new_def]; exact (buildLevelsWF_height_le_iff 0 _ k).mpr (by simpa using hn)

/-- `MerkleTree::new` computes the root of the perfect tree over the leaves padded with empty leaves. -/
theorem new_eq_spec (leaves : List Nat) (hne : leaves ≠ []) :
    (Tree.new leaves).root = specG 0 (Tree.new leaves).height (leaves.map H.leaf) := by
  rw [new_def]; exact root_eq_spec 0 _ (by simpa using hne)

/-- the created proof derives the root from its leaf and uses up the index, whatever the number of leaves: what
    `derive_root` callers (`Shred::slice_root`) rely on; `check_proof` adds the cap on the proof length -/
theorem createProof_derives (leaves : List Nat) (i : Nat) (hi : i < leaves.length) :
    deriveRootIdx (.leaf (leaves.getD i 0)) i ((Tree.new leaves).createProof i) = ((Tree.new leaves).root, 0) := by
  rw [new_def, ← getD_map_leaf]
  exact proofAux_complete 0 _ i (by simpa using hi)

/-- **Completeness.** Every proof the tree creates verifies (any `n ≥ 1` up to `2^32` leaves, any `i < n`). -/
theorem complete (leaves : List Nat) (i : Nat) (hi : i < leaves.length) (hn : leaves.length ≤ 2 ^ 32) :
    checkProof (leaves.getD i 0) i (Tree.new leaves).root ((Tree.new leaves).createProof i) = true := by
  refine (checkProof_iff ..).mpr ⟨?_, createProof_derives leaves i hi⟩
  unfold Tree.createProof
  rw [proofAux_length]
  exact height_le leaves 32 hn

/-- **Completeness, last-leaf variant.** The created proof of the last leaf verifies as "last". -/
theorem complete_last (leaves : List Nat) (hne : leaves ≠ []) (hn : leaves.length ≤ 2 ^ 32) :
    checkProofLast (leaves.getD (leaves.length - 1) 0) (leaves.length - 1) (Tree.new leaves).root
      ((Tree.new leaves).createProof (leaves.length - 1)) = true := by
  have hpos : 0 < leaves.length := List.length_pos_iff.mpr hne
  rw [checkProofLast_iff]
  refine ⟨complete leaves _ (Nat.sub_lt hpos (by decide)) hn, fun t ht hb => ?_⟩
  rw [new_def] at ht ⊢
  have := proofAux_last_empty 0 (leaves.map H.leaf) _ (by rw [List.length_map]; exact Nat.sub_add_cancel hpos) t ht hb
  rwa [Nat.zero_add] at this

/-- what a derivation from leaf `d` at index `i` that ends in the tree's root with the index used up says about the
    tree; the last clause is what the last-leaf variant adds -/
theorem derive_root (leaves : List Nat) (hne : leaves ≠ []) (d i : Nat) (π : List H)
    (hv : deriveRootIdx (.leaf d) i π = ((Tree.new leaves).root, 0)) :
    π.length = (Tree.new leaves).height ∧ i < 2 ^ (Tree.new leaves).height ∧ d = leaves.getD i 0 ∧
      ((∀ t, t < π.length → i / 2 ^ t % 2 = 0 → π[t]? = some (emptyRoot t)) → ∀ j, i < j → leaves.getD j 0 = 0) := by
  have hr : (deriveRootIdx (.leaf d) i π).1 = specG 0 (Tree.new leaves).height (leaves.map H.leaf) := by
    rw [hv]; exact new_eq_spec leaves hne
  obtain ⟨hlen, hx, hright⟩ := derive_sound _ _ (leaves_isLeaf leaves) (.leaf d) trivial i π hr
  have hlt : i < 2 ^ (Tree.new leaves).height := by
    have hz : i / 2 ^ π.length = 0 := by rw [← deriveRootIdx_snd (.leaf d), hv]
    rw [hlen] at hz
    exact (Nat.div_eq_zero_iff_lt (Nat.two_pow_pos _)).mp hz
  rw [Nat.mod_eq_of_lt hlt] at hx hright
  rw [getD_map_leaf] at hx
  refine ⟨hlen, hlt, H.leaf.inj hx, fun hemp j hij => ?_⟩
  by_cases hjw : j < 2 ^ (Tree.new leaves).height
  · have := hright (hlen ▸ hemp) j hij hjw
    rw [getD_map_leaf] at this
    exact H.leaf.inj this
  · -- beyond the tree's width there are no leaves
    have : leaves.length ≤ 2 ^ (Tree.new leaves).height := by
      rw [new_def]
      have := (buildLevelsWF_height_le_iff 0 (leaves.map H.leaf) _).mp (Nat.le_refl _)
      rwa [List.length_map] at this
    rw [List.getD_eq_getElem?_getD, List.getElem?_eq_none (Nat.le_trans this (Nat.le_of_not_lt hjw))]; rfl

/-- **Soundness.** A proof verifies for `(leaf d, index i, root of the tree)` only if the proof has
    exactly the tree's height, the index is inside the tree's width (so an index beyond the width
    is rejected), and `d` is the `i`-th leaf (the padding leaf `0` beyond the real leaves). -/
theorem sound (leaves : List Nat) (hne : leaves ≠ []) (d i : Nat) (π : List H)
    (hv : checkProof d i (Tree.new leaves).root π = true) :
    π.length = (Tree.new leaves).height ∧ i < 2 ^ (Tree.new leaves).height ∧ d = leaves.getD i 0 := by
  obtain ⟨h1, h2, h3, _⟩ := derive_root leaves hne d i π ((checkProof_iff ..).mp hv).2
  exact ⟨h1, h2, h3⟩

/-- The accepted proof is unique: changing any proof element, or the proof's length, or the leaf,
    of an accepted `(d, i, root, π)` is rejected. -/
theorem proof_unique (leaves : List Nat) (hne : leaves ≠ []) (d d' i : Nat) (π π' : List H)
    (h1 : checkProof d i (Tree.new leaves).root π = true)
    (h2 : checkProof d' i (Tree.new leaves).root π' = true) : d = d' ∧ π = π' := by
  have l1 := (sound leaves hne d i π h1).1
  have l2 := (sound leaves hne d' i π' h2).1
  rw [checkProof_iff] at h1 h2
  have := derive_inj (.leaf d) (.leaf d') i π π' (l1.trans l2.symm) (by rw [h1.2, h2.2])
  exact ⟨H.leaf.inj this.1, this.2⟩

/-- **Last-leaf soundness.** The last-leaf variant verifies only if, in addition, every leaf to the
    right of `i` is empty: the number of slices cannot be misreported. -/
theorem last_sound (leaves : List Nat) (hne : leaves ≠ []) (d i : Nat) (π : List H)
    (hv : checkProofLast d i (Tree.new leaves).root π = true) :
    π.length = (Tree.new leaves).height ∧ i < 2 ^ (Tree.new leaves).height ∧ d = leaves.getD i 0 ∧
      ∀ j, i < j → leaves.getD j 0 = 0 := by
  obtain ⟨hcp, hemp⟩ := (checkProofLast_iff ..).mp hv
  obtain ⟨h1, h2, h3, h4⟩ := derive_root leaves hne d i π ((checkProof_iff ..).mp hcp).2
  exact ⟨h1, h2, h3, h4 hemp⟩

/-! ### The same about the tree of the well-founded loop -/

namespace WF

theorem new_eq_spec (leaves : List Nat) (hne : leaves ≠ []) :
    (newWF leaves).root = specG 0 (newWF leaves).height (leaves.map H.leaf) := by
  rw [← new_def]; exact Merkle.new_eq_spec leaves hne

theorem complete (leaves : List Nat) (i : Nat) (hi : i < leaves.length) (hn : leaves.length ≤ 2 ^ 32) :
    checkProof (leaves.getD i 0) i (newWF leaves).root ((newWF leaves).createProof i) = true := by
  rw [← new_def]; exact Merkle.complete leaves i hi hn

theorem complete_last (leaves : List Nat) (hne : leaves ≠ []) (hn : leaves.length ≤ 2 ^ 32) :
    checkProofLast (leaves.getD (leaves.length - 1) 0) (leaves.length - 1) (newWF leaves).root
      ((newWF leaves).createProof (leaves.length - 1)) = true := by
  rw [← new_def]; exact Merkle.complete_last leaves hne hn

theorem proof_unique (leaves : List Nat) (hne : leaves ≠ []) (d d' i : Nat) (π π' : List H)
    (h1 : checkProof d i (newWF leaves).root π = true)
    (h2 : checkProof d' i (newWF leaves).root π' = true) : d = d' ∧ π = π' := by
  rw [← new_def] at h1 h2; exact Merkle.proof_unique leaves hne d d' i π π' h1 h2

/-- Changing the root: a proof accepted for one root is rejected for every other root. -/
theorem root_unique (d i : Nat) (r r' : H) (π : List H)
    (h1 : checkProof d i r π = true) (h2 : checkProof d i r' π = true) : r = r' := by
  rw [checkProof_iff] at h1 h2
  exact (Prod.mk.inj (h1.2.symm.trans h2.2)).1

theorem last_sound (leaves : List Nat) (hne : leaves ≠ []) (d i : Nat) (π : List H)
    (hv : checkProofLast d i (newWF leaves).root π = true) :
    π.length = (newWF leaves).height ∧ i < 2 ^ (newWF leaves).height ∧ d = leaves.getD i 0 ∧
      ∀ j, i < j → leaves.getD j 0 = 0 := by
  rw [← new_def] at hv ⊢; exact Merkle.last_sound leaves hne d i π hv

end WF

/-! ### The snapshot's verifier (defect D5) and non-vacuity -/

/-- What *is* true of the snapshot's `check_hash_proof`, which ignores index bits above the proof
    length: the leaf is the one at `i mod 2^height`. -/
theorem sound_old_mod (leaves : List Nat) (hne : leaves ≠ []) (d i : Nat) (π : List H)
    (hv : checkHashProofOld (.leaf d) i (Tree.new leaves).root π = true) :
    π.length = (Tree.new leaves).height ∧ H.leaf d = (leaves.map H.leaf).getD (i % 2 ^ (Tree.new leaves).height) (.leaf 0) := by
  unfold checkHashProofOld deriveRoot at hv
  simp only [Bool.and_eq_true, decide_eq_true_eq] at hv
  have hr := hv.2
  rw [new_eq_spec leaves hne] at hr
  obtain ⟨h1, h2, _⟩ := derive_sound _ _ (leaves_isLeaf leaves) (.leaf d) trivial i π hr
  exact ⟨h1, h2⟩

/-- Witness that `sound` is false for the snapshot's verifier: in a 4-leaf tree the proof of leaf 3
    is accepted for index 7 (and a 1-leaf tree accepts every index with the empty proof). The
    repaired verifier rejects both. -/
theorem old_unsound_witness :
    let t := Tree.new [1, 2, 3, 4]
    checkHashProofOld (.leaf 4) 7 t.root (t.createProof 3) = true ∧
    checkHashProof (.leaf 4) 7 t.root (t.createProof 3) = false ∧
    checkHashProofOld (.leaf 9) 12345 (Tree.new [9]).root [] = true ∧
    checkHashProof (.leaf 9) 12345 (Tree.new [9]).root [] = false := by decide

/-- Non-vacuity: a concrete 5-leaf tree; proofs verify, the last-leaf variant accepts exactly the
    last leaf, a wrong index / leaf / truncated proof is rejected. -/
example :
    let t := Tree.new [11, 12, 13, 14, 15]
    t.height = 3 ∧
    checkProof 12 1 t.root (t.createProof 1) = true ∧
    checkProofLast 15 4 t.root (t.createProof 4) = true ∧
    checkProofLast 14 3 t.root (t.createProof 3) = false ∧
    checkProof 12 2 t.root (t.createProof 1) = false ∧
    checkProof 13 1 t.root (t.createProof 1) = false ∧
    checkProof 12 1 t.root ((t.createProof 1).dropLast) = false := by decide

end AgModel.Merkle
