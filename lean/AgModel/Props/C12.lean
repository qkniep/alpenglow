import AgModel.Proofs.Shred
import AgModel.Model.ShredGate
import AgModel.Props.C15
import AgModel.Props.C11
import AgModel.Exec.ShredEnv
/-!
# C12 — Shreds are bound to leader, slot, slice and position; equivocation is detected

Statements about `AgModel.Shred.validate` (`ValidatedShred::try_new`), the leader's output
(`leaderOut`, see `Props/C11.lean`) and the equivocation gate of the blockstore (`Model/ShredGate.lean`).
Ed25519 is symbolic (`Sig.signed key commitment`; a correct leader's key signs only what the leader
signs), SHA-256 is the free term algebra of `Model/Merkle.lean`, shard bytes ↦ leaf id is injective
(`Env.Laws.leafId_inj`).
-/
namespace AgModel.Shred
open AgModel.Pad AgModel.Merkle

/-- the commitment a shred claims: its header fields and the root derived from payload, index and path -/
def Shred.claimed (env : Env) (s : Shred) : Commitment := commit s.header (s.sliceRoot env)

/-- a cache entry is *sound* for key `pk`: the signature it remembers, if any, is `pk`'s signature over its
    commitment. Entries only come out of `ValidatedShred::commitment()` (`accepted_entry_sound`: the invariant) or
    of `SliceCommitment::new` (no signature remembered). -/
def Cached.Sound (pk : Nat) (e : Cached) : Prop := ∀ σ, e.sig = some σ → σ = .signed pk e.commitment

def CacheSound (pk : Nat) : Option Cached → Prop
  | none => True
  | some e => e.Sound pk

def VShred.Signed (pk : Nat) (v : VShred) : Prop := v.shred.sig = .signed pk v.commitment

/-- **An index the Merkle path does not consume is rejected** (D32 `fix:`), with or without cached commitment,
    whatever the signature: never accepted and never reported as equivocation of the leader. -/
theorem index_not_consumed_rejected (env : Env) (s : Shred) (cached : Option Cached) (pk : Nat)
    (h : s.indexConsumed = false) : validate env s cached pk = .error .invalidSignature := by
  unfold validate; simp [h]

theorem validate_none (env : Env) (s : Shred) (pk : Nat) (hc : s.indexConsumed = true) :
    validate env s none pk =
      if s.sig = .signed pk (s.claimed env) then .ok ⟨s, s.sliceRoot env⟩ else .error .invalidSignature := by
  unfold validate Sig.verify Shred.claimed
  by_cases h : s.sig = .signed pk (commit s.header (s.sliceRoot env)) <;> simp [hc, h]

theorem validate_some (env : Env) (s : Shred) (e : Cached) (pk : Nat) (hc : s.indexConsumed = true) :
    validate env s (some e) pk =
      if e.commitment = s.claimed env ∧ e.sig = some s.sig then .ok ⟨s, s.sliceRoot env⟩
      else if s.sig ≠ .signed pk (s.claimed env) then .error .invalidSignature
      else if e.commitment = s.claimed env then .ok ⟨s, s.sliceRoot env⟩ else .error .equivocation := by
  unfold validate Sig.verify Shred.claimed Cached.shortcuts
  simp only [hc, Bool.not_true, Bool.false_eq_true, if_false, Bool.and_eq_true, decide_eq_true_eq,
    Bool.not_eq_true', decide_eq_false_iff_not, ne_eq, ite_not]

/-- a sound entry shortcuts only shreds that carry the leader's signature over their own commitment -/
theorem Cached.Sound.no_shortcut {pk : Nat} {e : Cached} (hs : e.Sound pk) {env : Env} {s : Shred}
    (hsig : s.sig ≠ .signed pk (s.claimed env)) : ¬ (e.commitment = s.claimed env ∧ e.sig = some s.sig) :=
  fun ⟨h1, h2⟩ => hsig (h1 ▸ hs s.sig h2)

theorem validate_conflict (env : Env) (s : Shred) (e : Cached) (pk : Nat) (hc : s.indexConsumed = true)
    (hne : s.claimed env ≠ e.commitment) (hsig : s.sig = .signed pk (s.claimed env)) :
    validate env s (some e) pk = .error .equivocation := by
  rw [validate_some env s e pk hc, if_neg (fun h => hne h.1.symm), if_neg (fun h => h hsig), if_neg (Ne.symm hne)]

/-- whatever is accepted has an index inside the width `2 ^ path length` of the tree its path describes -/
theorem accepted_index_consumed (env : Env) (s : Shred) (cached : Option Cached) (pk : Nat) (x : VShred)
    (h : validate env s cached pk = .ok x) : s.indexConsumed = true ∧ s.index < 2 ^ s.path.length := by
  cases hc : s.indexConsumed with
  | false => rw [index_not_consumed_rejected env s cached pk hc] at h; cases h
  | true =>
    refine ⟨rfl, ?_⟩
    simp only [Shred.indexConsumed, decide_eq_true_eq] at hc
    exact (Nat.div_eq_zero_iff_lt (Nat.two_pow_pos _)).mp hc

/-- **No signature of the leader over the claimed commitment: rejected**, whatever is cached (sound) - in particular
    a genuine shred whose signature bytes a relay replaced, presented while the slice's own commitment is cached. -/
theorem unsigned_rejected (env : Env) (s : Shred) (pk : Nat) (cached : Option Cached) (hs : CacheSound pk cached)
    (hsig : s.sig ≠ .signed pk (s.claimed env)) : validate env s cached pk = .error .invalidSignature := by
  cases hc : s.indexConsumed with
  | false => exact index_not_consumed_rejected env s cached pk hc
  | true =>
    cases cached with
    | none => rw [validate_none env s pk hc, if_neg hsig]
    | some e => rw [validate_some env s e pk hc, if_neg (hs.no_shortcut hsig), if_pos hsig]

/-- **Accepted only if the leader signed exactly this slot, slice index, last flag and root - with or without a
    cached commitment** (D34 `fix:`; before it only without cache: `cache_skips_signature_old_witness`), the root being
    the one derived from the shred's payload, index and path; a cached commitment, if any, must be that very one. -/
theorem accept_iff_signed (env : Env) (s : Shred) (pk : Nat) (cached : Option Cached) (hs : CacheSound pk cached)
    (v : VShred) :
    validate env s cached pk = .ok v ↔
      (s.indexConsumed = true ∧ s.sig = .signed pk (s.claimed env) ∧
        (∀ e, cached = some e → e.commitment = s.claimed env) ∧ v = ⟨s, s.sliceRoot env⟩) := by
  by_cases hsig : s.sig = .signed pk (s.claimed env)
  · cases hc : s.indexConsumed with
    | false => rw [index_not_consumed_rejected env s cached pk hc]; simp
    | true =>
      cases cached with
      | none => rw [validate_none env s pk hc, if_pos hsig]; simp [hsig, eq_comm]
      | some e =>
        rw [validate_some env s e pk hc]
        by_cases hcm : e.commitment = s.claimed env <;> simp [hcm, hsig, eq_comm]
  · -- the one place where the soundness of the cache matters
    rw [unsigned_rejected env s pk cached hs hsig]; simp [hsig]

/-- without a cached commitment -/
theorem accept_none_iff (env : Env) (s : Shred) (pk : Nat) (v : VShred) :
    validate env s none pk = .ok v ↔
      s.indexConsumed = true ∧ s.sig = .signed pk (s.claimed env) ∧ v = ⟨s, s.sliceRoot env⟩ :=
  (accept_iff_signed env s pk none trivial v).trans
    ⟨fun ⟨h1, h2, _, h3⟩ => ⟨h1, h2, h3⟩, fun ⟨h1, h2, h3⟩ => ⟨h1, h2, nofun, h3⟩⟩

/-- everything `try_new` accepts under a sound cache carries the leader's signature over its own commitment, and the
    cache entry it seeds (`ValidatedShred::commitment()`) is sound again: the invariant of the commitment cache -/
theorem accepted_entry_sound (env : Env) (s : Shred) (pk : Nat) (cached : Option Cached) (hs : CacheSound pk cached)
    (v : VShred) (h : validate env s cached pk = .ok v) : v.Signed pk ∧ v.cacheEntry.Sound pk := by
  obtain ⟨_, h1, _, rfl⟩ := (accept_iff_signed env s pk cached hs v).mp h
  exact ⟨h1, fun σ hσ => (Option.some.inj hσ).symm.trans h1⟩

/-- **A cached commitment only ever shortcuts verification of an identical commitment, and only for the signature
    verified for it.** The verdict of `try_new` with a sound cached entry `e`, by cases: the shred claims `e`'s
    commitment or another one, and carries the leader's signature over what it claims or not (a shred whose index its
    path does not consume: `index_not_consumed_rejected`). The second case is the D34 `fix:`; `Equivocation` needs two
    different validly signed commitments. -/
theorem cache_only_identical (env : Env) (s : Shred) (e : Cached) (pk : Nat) (hcons : s.indexConsumed = true)
    (hs : e.Sound pk) :
    (s.claimed env = e.commitment → s.sig = .signed pk (s.claimed env) → validate env s (some e) pk = .ok ⟨s, s.sliceRoot env⟩) ∧
    (s.claimed env = e.commitment → s.sig ≠ .signed pk (s.claimed env) → validate env s (some e) pk = .error .invalidSignature) ∧
    (s.claimed env ≠ e.commitment → s.sig = .signed pk (s.claimed env) → validate env s (some e) pk = .error .equivocation) ∧
    (s.claimed env ≠ e.commitment → s.sig ≠ .signed pk (s.claimed env) → validate env s (some e) pk = .error .invalidSignature) := by
  refine ⟨?_, ?_, ?_, ?_⟩
  · intro h1 h2
    rw [validate_some env s e pk hcons]; simp [h1.symm, h2]
  · intro _ h2; exact unsigned_rejected env s pk (some e) hs h2
  · exact validate_conflict env s e pk hcons
  · intro _ h2; exact unsigned_rejected env s pk (some e) hs h2

/-- **Equivocation is reported only for two different commitments both signed by the leader key**: a correct
    leader (whose key signs one commitment per slot and slice) is never reported by `try_new`. -/
theorem equivocation_only_if_two_signed (env : Env) (s : Shred) (cached : Option Cached) (pk : Nat)
    (h : validate env s cached pk = .error .equivocation) :
    ∃ e, cached = some e ∧ e.commitment ≠ s.claimed env ∧ s.sig = .signed pk (s.claimed env) := by
  cases hc : s.indexConsumed with
  | false => rw [index_not_consumed_rejected env s cached pk hc] at h; cases h
  | true =>
    cases cached with
    | none => rw [validate_none env s pk hc] at h; split at h <;> cases h
    | some e =>
      rw [validate_some env s e pk hc] at h
      by_cases hsig : s.sig = .signed pk (s.claimed env)
      · refine ⟨e, rfl, fun hcm => ?_, hsig⟩
        simp [hcm, hsig] at h
      · rw [if_pos hsig] at h
        split at h <;> cases h

/-- **Replay / header mutation is rejected**: a signature of the leader over commitment `c` makes a shred
    acceptable only for exactly `c`'s slot, slice index, last flag and root. Altering any of them (or
    replaying the shred under another slot / slice / position, which changes the derived root or the header)
    gives `InvalidSignature` — with or without a (sound) cached commitment. (Before the D34 fix: unless the claimed
    commitment was the cached one.) -/
theorem replay_rejected (env : Env) (s : Shred) (pk : Nat) (c : Commitment) (cached : Option Cached)
    (hs : CacheSound pk cached) (hsig : s.sig = .signed pk c)
    (hmut : s.header.slot ≠ c.slot ∨ s.header.sliceIdx ≠ c.sliceIdx ∨ s.header.isLast ≠ c.isLast ∨ s.sliceRoot env ≠ c.root) :
    validate env s cached pk = .error .invalidSignature := by
  apply unsigned_rejected env s pk cached hs
  rw [hsig]
  intro h
  injection h with _ h
  subst h
  simp [Shred.claimed, commit] at hmut

/-- **The payload at the shred index is proven under the signed root - for a tree of every height.** `leaves` is
    *any* tree a leader may sign (1 .. 2^32 shards: 64 as the shredders do, 2, 65, …); `hcons` is what `try_new`
    demands since the D32 fix (`accepted_index_consumed`). Beyond the real leaves the leaf is the empty padding leaf.
    So a shred cannot be relabelled `j ↦ j + k * 2^h`, a path element / the path length / a payload byte cannot be
    altered, without changing the derived root. (Before the D32 fix this held only when the tree had height 6:
    `index_alias_old_witness`.) -/
theorem root_binds_position (env : Env) (L : env.Laws) (leaves : List Bytes) (hne : leaves ≠ [])
    (hn : leaves.length ≤ 2 ^ 32) (s : Shred) (hcons : s.indexConsumed = true)
    (hroot : s.sliceRoot env = (Tree.new (leaves.map env.leafId)).root) :
    s.path.length = (Tree.new (leaves.map env.leafId)).height ∧
    s.index < 2 ^ (Tree.new (leaves.map env.leafId)).height ∧
    env.leafId s.data = (leaves.map env.leafId).getD s.index 0 ∧
    (∀ hi : s.index < leaves.length,
      s.data = leaves[s.index] ∧ s.path = (Tree.new (leaves.map env.leafId)).createProof s.index) := by
  have hne' : leaves.map env.leafId ≠ [] := by simpa using hne
  have hn' : (leaves.map env.leafId).length ≤ 2 ^ 32 := by simpa using hn
  -- the root and the exhausted index together: the derivation ends in `(root, 0)`, which is what C15 speaks about
  have hv : deriveRootIdx (.leaf (env.leafId s.data)) s.index s.path = ((Tree.new (leaves.map env.leafId)).root, 0) :=
    Prod.ext hroot (by rw [deriveRootIdx_snd]; simpa [Shred.indexConsumed] using hcons)
  obtain ⟨h1, h2, h3, _⟩ := derive_root _ hne' _ _ _ hv
  refine ⟨h1, h2, h3, fun hi => ?_⟩
  have hdata : s.data = leaves[s.index] := by
    rw [List.getD_eq_getElem?_getD, List.getElem?_map, List.getElem?_eq_getElem hi] at h3
    exact L.leafId_inj _ _ h3
  -- the path has the tree's height, so `check_proof` accepts it, and the accepted proof is the created one
  have hc1 : checkProof (env.leafId s.data) s.index (Tree.new (leaves.map env.leafId)).root s.path = true :=
    (checkProof_iff ..).mpr ⟨by rw [h1]; exact height_le _ 32 hn', hv⟩
  exact ⟨hdata, (proof_unique _ hne' _ _ _ _ _ hc1 (complete _ s.index (by simpa using hi) hn')).2⟩

/-- under the root of a tree over 64 shards (a code word: height 6) the index is below 64 as well, so the shred is the
    one of the tree at its index -/
theorem root_binds_codeword (env : Env) (L : env.Laws) (raws : List Bytes) (hlen : raws.length = 64) (s : Shred)
    (hcons : s.indexConsumed = true) (hroot : s.sliceRoot env = (Tree.new (raws.map env.leafId)).root) :
    ∃ hi : s.index < raws.length,
      s.data = raws[s.index] ∧ s.path = (Tree.new (raws.map env.leafId)).createProof s.index := by
  obtain ⟨_, h2, _, h4⟩ := root_binds_position env L raws (by intro h; rw [h] at hlen; cases hlen)
    (by rw [hlen]; decide) s hcons hroot
  have hh := height_le (raws.map env.leafId) 6 (by rw [List.length_map, hlen]; decide)
  have hi : s.index < raws.length := by
    rw [hlen]; exact Nat.lt_of_lt_of_le h2 (Nat.pow_le_pow_right (n := 2) (by decide) hh)
  exact ⟨hi, h4 hi⟩

/-- the same for a correct leader's slice (any of the four shredders: 64 shards, height 6): a shred whose path
    consumes its index and that derives the leader's root *is*, in payload and path, the leader's shred at that
    index - and the index is below 64 (a conclusion, not a hypothesis: the bound of the wire format is not needed). -/
theorem root_binds_leader_position (env : Env) (L : env.Laws) (v : Variant) (sl : Slice) (sk : Nat) (key : Bytes)
    (s : Shred) (hcons : s.indexConsumed = true) (hroot : s.sliceRoot env = (leaderTree env v sl key).root) :
    s.index < TOTAL ∧
    ∃ l, (leaderOut env v sl sk key)[s.index]? = some l ∧ s.data = l.shred.data ∧ s.path = l.shred.path := by
  have hlen := rawsOf_length env (coderPayload env v key (payloadBytes sl.parent sl.data)) v.nData L (nData_le v)
  unfold leaderOut leaderTree at *
  generalize rawsOf env (coderPayload env v key (payloadBytes sl.parent sl.data)) v.nData = raws at *
  obtain ⟨hi, hdata, hpath⟩ := root_binds_codeword env L raws hlen s hcons hroot
  refine ⟨by rw [TOTAL_eq, ← hlen]; exact hi, _, by rw [mkAll_getElem?, List.getElem?_eq_getElem hi]; rfl, hdata, ?_⟩
  rw [hpath, Nat.zero_add]; rfl

/-- **Mutations of a valid shred are rejected** (single-field and combined): whatever is accepted — with *any*
    sound cache state (none, the slice's own commitment, anything else) — under a correct leader's key and that
    leader's signature for the slice is the leader's own shred at that index: same slot, slice index, last flag,
    payload bytes and Merkle path, at an index below 64 (a conclusion since the D32 fix, not a hypothesis). Only the
    data/coding tag may differ (defect D15). Full statement (fails only for the tag): `… → s = l.shred`. -/
theorem accepted_is_leader_shred_partial (env : Env) (L : env.Laws) (v : Variant) (sl : Slice) (sk : Nat) (key : Bytes)
    (s : Shred) (x : VShred)
    (cached : Option Cached) (hcache : CacheSound sk cached)
    (hsig : s.sig = .signed sk (commit sl.header (leaderTree env v sl key).root))
    (hok : validate env s cached sk = .ok x) :
    s.index < TOTAL ∧
    ∃ l, (leaderOut env v sl sk key)[s.index]? = some l ∧ s = { l.shred with isData := s.isData } ∧
      x = ⟨s, (leaderTree env v sl key).root⟩ := by
  obtain ⟨hcons, h1, _, rfl⟩ := (accept_iff_signed env s sk cached hcache x).mp hok
  -- the leader key signed one commitment: the claimed one is the slice's, field by field
  obtain ⟨h1, h2, h3, h4⟩ := Commitment.mk.inj (Sig.signed.inj (h1.symm.trans hsig)).2
  obtain ⟨hidx, l, hl, hd, hp⟩ := root_binds_leader_position env L v sl sk key s hcons h4
  obtain ⟨_, hli, hlh, _, hls, _, _⟩ := leaderOut_get env v sl sk key s.index l hl
  refine ⟨hidx, l, hl, ?_, by rw [h4]⟩
  have hhdr : s.header = sl.header := by
    cases hs : s.header; cases hsl : sl.header
    rw [hs, hsl] at h1 h2 h3
    exact congr (congr (congrArg Header.mk h1) h2) h3
  cases s
  simp only [Shred.mk.injEq, true_and]
  exact ⟨hhdr.trans hlh.symm, hli.symm, hd, hsig.trans hls.symm, hp⟩

/-! ### the blockstore's equivocation gate: the snapshot's gate `Gate.addOld` (core of `Gate.add`) -/

/-- The last-slice check of `BlockData::add_shred`. `Gate.addOld` runs it on the gate as it stands after the cache
    look-up: unchanged on a hit, with the new entry on a miss. -/
def Gate.lastCheck (g : Gate) (idx : Nat) (isLast : Bool) : Gate × GateVerdict :=
  match g.lastSlice with
  | none =>
    if isLast then
      if g.cache.any (fun e => decide (e.1 > idx)) then ({ g with misbehaved := true }, .equivocation)
      else ({ g with lastSlice := some idx }, .pass)
    else (g, .pass)
  | some l =>
    if (idx < l && !isLast) || (idx == l && isLast) then (g, .pass)
    else ({ g with misbehaved := true }, .equivocation)

def Gate.insert (g : Gate) (v : VShred) : Gate :=
  { g with cache := (v.shred.header.sliceIdx, v.commitment) :: g.cache,
           sigs := (v.shred.header.sliceIdx, v.shred.sig) :: g.sigs }

theorem Gate.addOld_hit (g : Gate) (v : VShred) (c : Commitment) (hg : g.misbehaved = false)
    (hc : g.cached v.shred.header.sliceIdx = some c) :
    g.addOld v = if c = v.commitment then g.lastCheck v.shred.header.sliceIdx v.shred.header.isLast
      else ({ g with misbehaved := true }, .equivocation) := by
  unfold Gate.addOld
  rw [if_neg (by rw [hg]; decide)]
  simp only [hc, ne_eq, ite_not]
  rfl

theorem Gate.addOld_miss (g : Gate) (v : VShred) (hg : g.misbehaved = false)
    (hc : g.cached v.shred.header.sliceIdx = none) :
    g.addOld v = (g.insert v).lastCheck v.shred.header.sliceIdx v.shred.header.isLast := by
  unfold Gate.addOld
  rw [if_neg (by rw [hg]; decide)]
  simp only [hc]
  rfl

theorem Gate.lastCheck_cache (g : Gate) (i : Nat) (b : Bool) :
    (g.lastCheck i b).1.cache = g.cache ∧ (g.lastCheck i b).1.sigs = g.sigs := by
  unfold Gate.lastCheck
  split <;> repeat' split
  all_goals exact ⟨rfl, rfl⟩

theorem Gate.lastCheck_pass (g : Gate) (i : Nat) (b : Bool) (h : (g.lastCheck i b).2 = .pass) :
    (g.lastCheck i b).1.misbehaved = g.misbehaved := by
  revert h
  unfold Gate.lastCheck
  split <;> repeat' split
  all_goals first | exact fun _ => rfl | exact fun h => nomatch h

theorem Gate.cached_of_cache_eq {g g' : Gate} (h : g'.cache = g.cache) (i : Nat) : g'.cached i = g.cached i := by
  unfold Gate.cached; rw [h]

theorem Gate.cached_mem {g : Gate} {i : Nat} {c : Commitment} (h : g.cached i = some c) : (i, c) ∈ g.cache := by
  obtain ⟨p, hf, rfl⟩ := Option.map_eq_some_iff.mp h
  exact find?_fst hf

theorem gateOld_pass_caches (g : Gate) (a : VShred) (hg : g.misbehaved = false) (hpass : (g.addOld a).2 = .pass) :
    (g.addOld a).1.cached a.shred.header.sliceIdx = some a.commitment ∧ (g.addOld a).1.misbehaved = false := by
  cases hc : g.cached a.shred.header.sliceIdx with
  | some c =>
    rw [Gate.addOld_hit g a c hg hc] at hpass ⊢
    by_cases hca : c = a.commitment
    · rw [if_pos hca] at hpass ⊢
      rw [Gate.cached_of_cache_eq (Gate.lastCheck_cache g _ _).1, hc, hca, Gate.lastCheck_pass g _ _ hpass]
      exact ⟨rfl, hg⟩
    · rw [if_neg hca] at hpass; cases hpass
  | none =>
    rw [Gate.addOld_miss g a hg hc] at hpass ⊢
    rw [Gate.cached_of_cache_eq (Gate.lastCheck_cache _ _ _).1, Gate.lastCheck_pass _ _ _ hpass]
    exact ⟨by simp [Gate.cached, Gate.insert], hg⟩

/-- `gate_conflict_reported` for the gate without the type check -/
theorem gateOld_conflict_reported (g : Gate) (a b : VShred) (hg : g.misbehaved = false)
    (hidx : a.shred.header.sliceIdx = b.shred.header.sliceIdx) (hne : a.commitment ≠ b.commitment)
    (hpass : (g.addOld a).2 = .pass) :
    ((g.addOld a).1.addOld b).2 = .equivocation ∧ (((g.addOld a).1.addOld b).1).misbehaved = true := by
  obtain ⟨h1, h2⟩ := gateOld_pass_caches g a hg hpass
  generalize (g.addOld a).1 = g' at *
  unfold Gate.addOld
  rw [hidx] at h1
  simp [h2, h1, hne]

/-- the gate invariant under shreds of one consistent block: commitments given by `C`, last slice `last`;
    (since the D2 fix) no cached slice index lies beyond the block's last slice -/
def Gate.Consistent (C : Nat → Commitment) (last : Option Nat) (g : Gate) : Prop :=
  g.misbehaved = false ∧ (∀ p ∈ g.cache, p.2 = C p.1) ∧ (g.lastSlice = none ∨ g.lastSlice = last) ∧
  (∀ p ∈ g.cache, ∀ l, last = some l → p.1 ≤ l)

/-- a validated shred of a block whose slices have commitments `C` and whose last slice is `last` -/
def VShred.FromBlock (C : Nat → Commitment) (last : Option Nat) (v : VShred) : Prop :=
  v.commitment = C v.shred.header.sliceIdx ∧
  (v.shred.header.isLast = true ↔ last = some v.shred.header.sliceIdx) ∧
  (∀ l, last = some l → v.shred.header.sliceIdx ≤ l)

/-- the empty gate is consistent with every block (the induction starts here) -/
theorem gate_empty_consistent (C : Nat → Commitment) (last : Option Nat) : ({} : Gate).Consistent C last :=
  by unfold Gate.Consistent; simp

theorem Gate.insert_consistent {C : Nat → Commitment} {last : Option Nat} {g : Gate} {v : VShred}
    (hg : g.Consistent C last) (hv : v.FromBlock C last) : (g.insert v).Consistent C last := by
  obtain ⟨hm, hcache, hlast, hbound⟩ := hg
  refine ⟨hm, ?_, hlast, ?_⟩
  · intro p hp
    rcases List.mem_cons.mp hp with rfl | hp
    · exact hv.1
    · exact hcache p hp
  · intro p hp l hl
    rcases List.mem_cons.mp hp with rfl | hp
    · exact hv.2.2 l hl
    · exact hbound p hp l hl

theorem Gate.lastCheck_consistent {C : Nat → Commitment} {last : Option Nat} {g : Gate} {i : Nat} {b : Bool}
    (hg : g.Consistent C last) (h1 : b = true ↔ last = some i) (h2 : ∀ l, last = some l → i ≤ l) :
    (g.lastCheck i b).2 = .pass ∧ (g.lastCheck i b).1.Consistent C last := by
  obtain ⟨hm, hcache, hlast, hbound⟩ := hg
  unfold Gate.lastCheck Gate.Consistent
  cases hgl : g.lastSlice with
  | none =>
    cases b with
    | false => exact ⟨rfl, hm, hcache, Or.inl hgl, hbound⟩
    | true =>
      have hl : last = some i := h1.mp rfl
      -- nothing cached lies beyond the slice that is now declared last
      have hany : g.cache.any (fun e => decide (e.1 > i)) = false := by
        rw [List.any_eq_false]
        intro p hp
        have := hbound p hp i hl
        simp only [gt_iff_lt, decide_eq_true_eq]; exact Nat.not_lt.mpr this
      simp only [hany, if_true, Bool.false_eq_true, if_false]
      exact ⟨trivial, hm, hcache, Or.inr hl.symm, hbound⟩
  | some l =>
    have hll : last = some l := (hlast.resolve_left (by rw [hgl]; exact Option.some_ne_none l)).symm.trans hgl
    have hcond : ((decide (i < l) && !b) || (i == l && b)) = true := by
      cases b with
      | true => simp [Option.some.inj (hll.symm.trans (h1.mp rfl))]
      | false =>
        have he : i ≠ l := fun he => Bool.false_ne_true (h1.mpr (by rw [he]; exact hll))
        simp [Nat.lt_of_le_of_ne (h2 l hll) he]
    simp only [hcond, if_true]
    exact ⟨trivial, hm, hcache, Or.inr (by rw [hgl, hll]), hbound⟩

/-- `gate_honest_never_flagged` for the gate without the type check -/
theorem gateOld_honest_never_flagged {C : Nat → Commitment} {last : Option Nat} {g : Gate} {v : VShred}
    (hg : g.Consistent C last) (hv : v.FromBlock C last) :
    (g.addOld v).2 = .pass ∧ (g.addOld v).1.Consistent C last := by
  cases hcd : g.cached v.shred.header.sliceIdx with
  | some c =>
    have : c = v.commitment := (hg.2.1 _ (Gate.cached_mem hcd)).trans hv.1.symm
    rw [Gate.addOld_hit g v c hg.1 hcd, if_pos this]
    exact Gate.lastCheck_consistent hg hv.2.1 hv.2.2
  | none =>
    rw [Gate.addOld_miss g v hg.1 hcd]
    exact Gate.lastCheck_consistent (Gate.insert_consistent hg hv) hv.2.1 hv.2.2

/-! ### the gate after the D15 `fix:` (`Gate.add`): a shred whose data/coding type does not fit its index is dropped -/

theorem gate_add_of_typeOk (g : Gate) (v : VShred) (hg : g.misbehaved = false) (ht : v.shred.typeOk = true) :
    g.add v = g.addOld v := by
  unfold Gate.add; simp [hg, ht]

theorem gate_add_wrongType (g : Gate) (v : VShred) (hg : g.misbehaved = false) (ht : v.shred.typeOk = false) :
    g.add v = (g, .wrongType) := by
  unfold Gate.add; simp [hg, ht]

theorem gate_pass_typeOk (g : Gate) (v : VShred) (hg : g.misbehaved = false) (hpass : (g.add v).2 = .pass) :
    v.shred.typeOk = true := by
  cases ht : v.shred.typeOk with
  | true => rfl
  | false => rw [gate_add_wrongType g v hg ht] at hpass; cases hpass

theorem gate_pass_caches (g : Gate) (a : VShred) (hg : g.misbehaved = false) (hpass : (g.add a).2 = .pass) :
    (g.add a).1.cached a.shred.header.sliceIdx = some a.commitment ∧ (g.add a).1.misbehaved = false := by
  have ht := gate_pass_typeOk g a hg hpass
  rw [gate_add_of_typeOk g a hg ht] at hpass ⊢
  exact gateOld_pass_caches g a hg hpass

/-- **Two different commitments for one slot and slice are never silently accepted, in both arrival orders**:
    whichever of two validated shreds with the same slice index and different commitments is stored by an unflagged
    block data first, the other one is answered with `Equivocation` and the leader is flagged - unless its
    data/coding type does not fit its index: then (D15 `fix:`) it is dropped as `WrongType` and the block data does
    not change (the blockstore cannot tell a relay's alteration from the leader's doing; the *node* still reports
    the conflict, because `try_new` answers `Equivocation` before the type is looked at: `node_conflict_reported`).
    For `Gate.addOld` the first clause holds without the premise `typeOk` (`gateOld_conflict_reported`). -/
theorem gate_conflict_reported (g : Gate) (a b : VShred) (hg : g.misbehaved = false)
    (hidx : a.shred.header.sliceIdx = b.shred.header.sliceIdx) (hne : a.commitment ≠ b.commitment)
    (hpass : (g.add a).2 = .pass) :
    (b.shred.typeOk = true →
      ((g.add a).1.add b).2 = .equivocation ∧ (((g.add a).1.add b).1).misbehaved = true) ∧
    (b.shred.typeOk = false → (g.add a).1.add b = ((g.add a).1, .wrongType)) := by
  have hta := gate_pass_typeOk g a hg hpass
  have hm := (gate_pass_caches g a hg hpass).2
  refine ⟨fun htb => ?_, fun htb => gate_add_wrongType _ b hm htb⟩
  rw [gate_add_of_typeOk _ b hm htb]
  rw [gate_add_of_typeOk g a hg hta] at hpass ⊢
  exact gateOld_conflict_reported g a b hg hidx hne hpass

/-- **A correct leader is never flagged by the gate** (`honest_never_flagged`, gate part; the type check of the D15
    `fix:` is what lets it cover relayed type flips): a validated shred that belongs to the leader's block — its
    commitment is the block's commitment for its slice, the last flag sits exactly on the last slice, no slice beyond
    it; *its data/coding type may have been flipped by whoever passed it on* — is answered `pass` (iff the type fits the index) or `WrongType`, never
    `Equivocation` / `InvalidShred`, and the gate stays consistent and unflagged. -/
theorem gate_honest_never_flagged (C : Nat → Commitment) (last : Option Nat) (g : Gate) (v : VShred)
    (hg : g.Consistent C last) (hv : v.FromBlock C last) :
    ((g.add v).2 = .pass ∨ (g.add v).2 = .wrongType) ∧ ((g.add v).2 = .pass ↔ v.shred.typeOk = true) ∧
      (g.add v).1.Consistent C last := by
  have hm : g.misbehaved = false := hg.1
  cases ht : v.shred.typeOk with
  | true =>
    rw [gate_add_of_typeOk g v hm ht]
    obtain ⟨h1, h2⟩ := gateOld_honest_never_flagged hg hv
    exact ⟨Or.inl h1, ⟨fun _ => rfl, fun _ => h1⟩, h2⟩
  | false =>
    rw [gate_add_wrongType g v hm ht]
    exact ⟨Or.inr rfl, ⟨(fun h => by cases h), (fun h => by cases h)⟩, hg⟩

def Gate.run (g : Gate) : List VShred → Gate × List GateVerdict
  | [] => (g, [])
  | v :: rest => ((g.add v).1.run rest).1 |> fun g' => (g', (g.add v).2 :: ((g.add v).1.run rest).2)

/-- **`honest_never_flagged` for every sequence** (any order, duplicates, relayed tag flips): validated shreds that
    all belong to one block of a correct leader never make the gate answer `Equivocation` or `InvalidShred`, and the
    leader ends unflagged. -/
theorem honest_never_flagged (C : Nat → Commitment) (last : Option Nat) (g : Gate) (vs : List VShred)
    (hg : g.Consistent C last) (hvs : ∀ v ∈ vs, v.FromBlock C last) :
    (∀ r ∈ (g.run vs).2, r = .pass ∨ r = .wrongType) ∧ (g.run vs).1.Consistent C last ∧
      (g.run vs).1.misbehaved = false := by
  induction vs generalizing g with
  | nil => exact ⟨by intro r hr; simp [Gate.run] at hr, hg, hg.1⟩
  | cons v rest ih =>
    obtain ⟨h1, _, h3⟩ := gate_honest_never_flagged C last g v hg (hvs v List.mem_cons_self)
    obtain ⟨i1, i2, i3⟩ := ih (g.add v).1 h3 (fun x hx => hvs x (List.mem_cons_of_mem _ hx))
    simp only [Gate.run]
    refine ⟨?_, i2, i3⟩
    intro r hr
    rcases List.mem_cons.mp hr with rfl | hr
    · exact h1
    · exact i1 r hr

/-- the commitment cache of the gate is sound for the leader key: entry by entry, `sigs` holds the leader's
    signature over the commitment `cache` holds for the same slice index -/
def sigsSound (pk : Nat) : List (Nat × Commitment) → List (Nat × Sig) → Prop
  | [], [] => True
  | c :: cs, σ :: σs => c.1 = σ.1 ∧ σ.2 = .signed pk c.2 ∧ sigsSound pk cs σs
  | _, _ => False

def Gate.SigSound (pk : Nat) (g : Gate) : Prop := sigsSound pk g.cache g.sigs

theorem sigsSound_find {pk : Nat} {cs : List (Nat × Commitment)} {σs : List (Nat × Sig)} (h : sigsSound pk cs σs)
    {idx : Nat} {c : Nat × Commitment} (hc : cs.find? (·.1 == idx) = some c) :
    ∃ σ, σs.find? (·.1 == idx) = some σ ∧ σ.2 = .signed pk c.2 := by
  fun_induction sigsSound pk cs σs with
  | case1 => cases hc
  | case2 c0 cs σ0 σs ih =>
    obtain ⟨h1, h2, h3⟩ := h
    rw [List.find?_cons] at hc ⊢
    rw [← h1]
    cases hk : c0.1 == idx with
    | true => rw [hk] at hc; cases hc; exact ⟨σ0, rfl, h2⟩
    | false => rw [hk] at hc; exact ih h3 hc
  | case3 => exact h.elim

/-- every entry `cached_commitment` hands to `try_new` is sound -/
theorem gate_entry_sound {pk : Nat} {g : Gate} (hg : g.SigSound pk) (idx : Nat) : CacheSound pk (g.cachedEntry idx) := by
  unfold Gate.cachedEntry Gate.cached
  cases hf : g.cache.find? (·.1 == idx) with
  | none => simp [CacheSound]
  | some c =>
    obtain ⟨σ, hσ, hs⟩ := sigsSound_find hg hf
    simp only [Option.map_some, CacheSound, Cached.Sound, hσ, Option.some.injEq]
    intro σ' h; rw [← h]; exact hs

theorem gate_add_sigsound (pk : Nat) (g : Gate) (v : VShred) (hg : g.SigSound pk) (hv : v.Signed pk) :
    (g.add v).1.SigSound pk := by
  unfold Gate.add
  split
  · exact hg
  · rename_i hm
    split
    · exact hg
    · have hm : g.misbehaved = false := by simpa using hm
      -- `addOld` leaves cache and signatures alone (hit) or extends both by the entry of `v` (miss)
      unfold Gate.SigSound
      cases hc : g.cached v.shred.header.sliceIdx with
      | some c =>
        rw [Gate.addOld_hit g v c hm hc]
        split
        · rw [(Gate.lastCheck_cache g _ _).1, (Gate.lastCheck_cache g _ _).2]; exact hg
        · exact hg
      | none =>
        rw [Gate.addOld_miss g v hm hc, (Gate.lastCheck_cache _ _ _).1, (Gate.lastCheck_cache _ _ _).2]
        exact ⟨rfl, hv, hg⟩

/-- **The node only ever caches, stores and forwards shreds that carry the leader's signature** (D34 `fix:`):
    the soundness of the commitment cache is an invariant of `handle_disseminator_shred` (it holds for the empty
    blockstore), and whatever the handler accepts - with or without cache hit - is signed by the leader key over
    its own commitment. -/
theorem node_cache_sound (env : Env) (g : Gate) (s : Shred) (pk : Nat) (hg : g.SigSound pk) :
    (g.nodeHandle env s pk).SigSound pk ∧
    ∀ v, validate env s (g.cachedEntry s.header.sliceIdx) pk = .ok v → v.Signed pk := by
  have hs := gate_entry_sound hg s.header.sliceIdx
  refine ⟨?_, fun v hv => (accepted_entry_sound env s pk _ hs v hv).1⟩
  unfold Gate.nodeHandle
  cases hv : validate env s (g.cachedEntry s.header.sliceIdx) pk with
  | ok v =>
    simp only
    split
    · exact hg
    · exact gate_add_sigsound pk g v hg (accepted_entry_sound env s pk _ hs v hv).1
  | error e => cases e <;> exact hg

theorem gate_empty_sigsound (pk : Nat) : ({} : Gate).SigSound pk := trivial

/-- **The node reports a conflicting signed commitment** (after the D16 `fix:`): when the blockstore already
    caches a commitment for the slice and a shred arrives that the leader key validly signed for a *different*
    commitment of that slot and slice, `handle_disseminator_shred` flags the leader (the snapshot dropped the
    `Equivocation` verdict of `try_new` silently, so at node level the conflict was never reported). -/
theorem node_conflict_reported (env : Env) (g : Gate) (s : Shred) (pk : Nat) (e : Cached)
    (hcons : s.indexConsumed = true)
    (hc : g.cachedEntry s.header.sliceIdx = some e) (hne : s.claimed env ≠ e.commitment)
    (hsig : s.sig = .signed pk (s.claimed env)) :
    (g.nodeHandle env s pk).misbehaved = true := by
  unfold Gate.nodeHandle
  rw [hc, validate_conflict env s e pk hcons hne hsig]

/-- a shred with a bad signature, or one that merely fails to match the cache without a valid signature, never
    changes the node's gate (so it cannot flag a correct leader) -/
theorem node_invalid_ignored (env : Env) (g : Gate) (s : Shred) (pk : Nat)
    (h : validate env s (g.cachedEntry s.header.sliceIdx) pk = .error .invalidSignature) :
    g.nodeHandle env s pk = g := by
  unfold Gate.nodeHandle; rw [h]

/-- **A genuine shred whose signature a relay replaced is ignored by the node, cache hit or not** (D34 `fix:`): it
    is neither stored nor does it touch the cache or the leader's standing. -/
theorem node_unsigned_ignored (env : Env) (g : Gate) (s : Shred) (pk : Nat) (hg : g.SigSound pk)
    (hsig : s.sig ≠ .signed pk (s.claimed env)) : g.nodeHandle env s pk = g :=
  node_invalid_ignored env g s pk (unsigned_rejected env s pk _ (gate_entry_sound hg _) hsig)

/-- What a correct leader with key `pk` means for the shreds of one slot, in the symbolic signature model: every
    signature of `pk` that occurs on a shred is over a commitment of the leader's one block for the slot
    (commitment `C i` for slice `i`, the last flag exactly on the last slice `last`, no slice beyond it).
    Nothing is assumed about the rest of the shred: payload, index, path, type, header, other signatures. -/
def LeaderSignedOnly (pk : Nat) (C : Nat → Commitment) (last : Option Nat) (s : Shred) : Prop :=
  ∀ c, s.sig = .signed pk c →
    c = C c.sliceIdx ∧ (c.isLast = true ↔ last = some c.sliceIdx) ∧ (∀ l, last = some l → c.sliceIdx ≤ l)

/-- `handle_disseminator_shred` on a sequence of received shreds -/
def Gate.nodeRun (env : Env) (pk : Nat) (g : Gate) (ss : List Shred) : Gate :=
  ss.foldl (fun g s => g.nodeHandle env s pk) g

/-- one step of `node_honest_never_flagged` -/
theorem node_honest_step (env : Env) {pk : Nat} {C : Nat → Commitment} {last : Option Nat} {g : Gate} {s : Shred}
    (hg : g.Consistent C last) (hsnd : g.SigSound pk) (hs : LeaderSignedOnly pk C last s) :
    (g.nodeHandle env s pk).Consistent C last ∧ (g.nodeHandle env s pk).SigSound pk := by
  refine ⟨?_, (node_cache_sound env g s pk hsnd).1⟩
  have hcs := gate_entry_sound hsnd s.header.sliceIdx
  unfold Gate.nodeHandle
  cases hv : validate env s (g.cachedEntry s.header.sliceIdx) pk with
  | error e =>
    cases e with
    | invalidSignature => exact hg
    | equivocation =>
      -- impossible: the cached commitment and the claimed one are both the block's commitment for this slice
      exfalso
      obtain ⟨e, he, hne, hsig⟩ := equivocation_only_if_two_signed env s _ pk hv
      obtain ⟨c, hc, rfl⟩ := Option.map_eq_some_iff.mp he
      exact hne ((hg.2.1 _ (Gate.cached_mem hc)).trans (hs _ hsig).1.symm)
  | ok v =>
    simp only
    split
    · exact hg
    · obtain ⟨_, hsig, _, rfl⟩ := (accept_iff_signed env s pk _ hcs v).mp hv
      exact (gate_honest_never_flagged C last g ⟨s, s.sliceRoot env⟩ hg (hs _ hsig)).2.2

/-- **No shred whatsoever can make a node report a correct leader** (the last clause of C12 at node level, for the
    part of `handle_disseminator_shred` the gate models): whatever sequence of shreds a node receives for a slot
    of a correct leader — genuine ones in any order with duplicates, shreds with altered payload / index / path /
    header / signature, replays from other slices, genuine shreds with the data/coding type flipped by a relay —
    the leader is never flagged and the commitment cache only ever holds the leader's commitments.
    (What happens to the stored shreds afterwards - reconstruction - is C13 `honest_never_flagged`, which applies
    because what is stored is the leader's own shred, type included: `gate_stores_leader_shred`.) -/
theorem node_honest_never_flagged (env : Env) (pk : Nat) (C : Nat → Commitment) (last : Option Nat) (g : Gate)
    (ss : List Shred) (hg : g.Consistent C last) (hsnd : g.SigSound pk)
    (hss : ∀ s ∈ ss, LeaderSignedOnly pk C last s) :
    (g.nodeRun env pk ss).Consistent C last ∧ (g.nodeRun env pk ss).misbehaved = false := by
  suffices h : (g.nodeRun env pk ss).Consistent C last ∧ (g.nodeRun env pk ss).SigSound pk from ⟨h.1, h.1.1⟩
  induction ss generalizing g with
  | nil => exact ⟨hg, hsnd⟩
  | cons s rest ih =>
    obtain ⟨h1, h2⟩ := node_honest_step env hg hsnd (hss s List.mem_cons_self)
    exact ih (g.nodeHandle env s pk) h1 h2 (fun x hx => hss x (List.mem_cons_of_mem _ hx))

/-- **What the blockstore stores for a correct leader's slice is the leader's own shred, type included** (D15
    `fix:`): if a shred validated (any sound cache state) under the leader's signature for a slice of the regular
    shredder passes the gate, it *is* the leader's shred at its index - `accepted_is_leader_shred_partial` without
    the exception for the data/coding type. At the level of `try_new` alone the exception remains
    (`tag_not_bound_witness`): the type is still not authenticated, it is the consumers that drop a wrong one. -/
theorem gate_stores_leader_shred (env : Env) (L : env.Laws) (sl : Slice) (sk : Nat) (key : Bytes)
    (s : Shred) (x : VShred) (cached : Option Cached) (hcache : CacheSound sk cached)
    (hsig : s.sig = .signed sk (commit sl.header (leaderTree env .regular sl key).root))
    (hok : validate env s cached sk = .ok x)
    (g : Gate) (hg : g.misbehaved = false) (hpass : (g.add x).2 = .pass) :
    (leaderOut env .regular sl sk key)[s.index]? = some x := by
  obtain ⟨hidx, l, hl, hs, hx⟩ := accepted_is_leader_shred_partial env L .regular sl sk key s x cached hcache hsig hok
  have ht := gate_pass_typeOk g x hg hpass
  obtain ⟨hroot, hli, _, hld, _, _, _⟩ := leaderOut_get env .regular sl sk key s.index l hl
  have hxs : x.shred = s := by rw [hx]
  have hdata : s.isData = l.shred.isData := by
    rw [hxs] at ht
    simp only [Shred.typeOk, beq_iff_eq] at ht
    rw [ht, hld]; rfl
  have hsl : s = l.shred := by rw [hs, hdata]
  rw [hl, hx, hsl, ← hroot]

/-- a stored shred a repair peer accepts: `try_new(shred, None, leader_pk)` succeeds and returns it -/
def VShred.Valid (env : Env) (pk : Nat) (x : VShred) : Prop := validate env x.shred none pk = .ok x

/-- everything `try_new` accepts under a sound cache is also accepted without any cache (so: by a repair peer) -/
theorem accepted_valid_without_cache (env : Env) (s : Shred) (pk : Nat) (cached : Option Cached)
    (hs : CacheSound pk cached) (v : VShred) (h : validate env s cached pk = .ok v) : v.Valid env pk := by
  obtain ⟨h1, h2, _, rfl⟩ := (accept_iff_signed env s pk cached hs v).mp h
  exact (accept_none_iff env s pk _).mpr ⟨h1, h2, rfl⟩

/-- **Every shred a node holds after reconstructing a slice is one a repair peer accepts.** If each shred the
    blockstore stored for a slice passes `try_new(_, None, leader_pk)` (which everything ingested through the
    validated paths does since the D34 fix: `accepted_valid_without_cache`, `node_cache_sound`), then after a
    successful `Shredder::deshred` *every* shred of the array - the stored ones and the regenerated ones, which get
    the first stored shred's header and signature and the recomputed tree's proofs - passes it too. (Before the D34
    fix the premise failed for a junk-signature shred accepted on a cache hit, and so did the conclusion:
    `cache_skips_signature_old_witness`.) -/
theorem reconstructed_shreds_validate (env : Env) (v : Variant) (shreds : List (Option VShred)) (pk : Nat)
    (rs : RSlice) (out : List (Option VShred)) (h : deshred env v shreds = .ok (rs, out))
    (hvalid : ∀ x, some x ∈ shreds → x.Valid env pk) :
    ∀ y, some y ∈ out → y.Valid env pk := by
  obtain ⟨pb, raw, a, _, ha, hroot, _, rfl⟩ := deshred_eq_ok h
  obtain ⟨_, hasig, haeq⟩ := (accept_none_iff env a.shred pk a).mp (hvalid a (anyShred_mem ha))
  have haroot : a.root = a.shred.sliceRoot env := congrArg VShred.root haeq
  intro y hy
  rcases fillAux_mem hy with hy | ⟨i, d, hi, rfl⟩
  · exact hvalid y hy
  · -- a regenerated shred copies the signature of the first shred found, which is over the root that shred derives,
    -- and that is the rebuilt tree's root
    refine mkShred_valid env _ (buildTree env raw) rfl _ _ pk _ (0 + i) d (by rwa [Nat.zero_add]) ?_
    rw [hroot, haroot]; exact hasig

section Witness
open AgModel.Exec.ShredEnv

def wOut : List VShred := leaderOut toyEnv .regular exampleSlice 5 (keyOf 1)
def wS : Shred := (wOut.getD 3 default).shred
def wFlipped : Shred := { wS with isData := !wS.isData }

-- `Except` has no `DecidableEq`: `okIs` / `errIs` turn a verdict of `validate` into a `Bool` the kernel can evaluate
def okIs (r : Except VErr VShred) (x : VShred) : Bool :=
  match r with
  | .ok y => decide (y = x)
  | .error _ => false

def errIs (r : Except VErr VShred) (e : VErr) : Bool :=
  match r with
  | .ok _ => false
  | .error e' => decide (e' = e)

/-- **Witness of D15**: flipping the data/coding tag of a correct leader's shred still validates (with and
    without cache), and 32 validated shreds one of which carries a flipped tag make `deshred` fail with
    `InvalidLayout` — which the snapshot's blockstore turned into `InvalidShred` and a flagged leader (the D15 `fix:`
    drops such a shred before it is stored: `tag_flip_gate_old_witness`). Also non-vacuity: the unflipped shred
    validates; a changed payload byte / slot / index / key is rejected. -/
theorem tag_not_bound_witness :
    okIs (validate toyEnv wS none 5) (wOut.getD 3 default) ∧
    okIs (validate toyEnv wFlipped none 5) ⟨wFlipped, (wOut.getD 3 default).root⟩ ∧
    okIs (validate toyEnv wFlipped (some (wOut.getD 40 default).cacheEntry) 99) ⟨wFlipped, (wOut.getD 3 default).root⟩ ∧
    deshred toyEnv .regular ((selectFrom (fun i => i < 32) 0 wOut).set 3 (some ⟨wFlipped, (wOut.getD 3 default).root⟩))
      = .err .invalidLayout ∧
    errIs (validate toyEnv { wS with data := wS.data.set 0 77 } none 5) .invalidSignature ∧
    errIs (validate toyEnv { wS with header := { wS.header with slot := 8 } } none 5) .invalidSignature ∧
    errIs (validate toyEnv { wS with index := 4 } none 5) .invalidSignature ∧
    errIs (validate toyEnv { wS with index := 4 } (some (wOut.getD 40 default).cacheEntry) 5) .invalidSignature ∧
    errIs (validate toyEnv wS none 6) .invalidSignature := by
  decide +kernel

/-- **Witness of the D15 repair at the gate**: the gate without the type check (`Gate.addOld`) lets the tag-flipped,
    validated shred pass - it is cached and stored, and `deshred` then fails (`tag_not_bound_witness`) -; `Gate.add`
    answers `WrongType` and stays as it was, and the genuine shred at that index passes afterwards. -/
theorem tag_flip_gate_old_witness :
    (({} : Gate).addOld ⟨wFlipped, (wOut.getD 3 default).root⟩).2 = .pass ∧
    ({} : Gate).add ⟨wFlipped, (wOut.getD 3 default).root⟩ = ({}, .wrongType) ∧
    (({} : Gate).add (wOut.getD 3 default)).2 = .pass ∧
    (({} : Gate).nodeHandle toyEnv wFlipped 5) = {} ∧
    (({} : Gate).nodeHandle toyEnv wS 5).cached 3 = some (wOut.getD 3 default).commitment := by
  decide +kernel

/-! #### the index alias of short trees (defect D32, repaired) -/

/-- the first two shards of the example slice: the leaves of a two-leaf tree a (Byzantine) leader signs -/
def wLeaves2 : List Bytes := [(wOut.getD 0 default).shred.data, (wOut.getD 1 default).shred.data]
def wTree2 : Tree := Tree.new (wLeaves2.map toyEnv.leafId)
def wCommit2 : Commitment := commit wS.header wTree2.root
/-- the cache entry a validated shred of that slice seeds: the commitment with the leader's signature -/
def wEntry2 : Cached := ⟨wCommit2, some (.signed 5 wCommit2)⟩
/-- the genuine shred at position `i` of that two-leaf slice (1-hash path), signed by key 5 -/
def wShort (i : Nat) : Shred := ⟨true, wS.header, i, wLeaves2.getD i [], .signed 5 wCommit2, wTree2.createProof i⟩
/-- shred 0 relabelled as index `0 + k * 2` by a relay: same payload, same path, same derived root -/
def wAlias (k : Nat) : Shred := { wShort 0 with index := 2 * k }
/-- a one-leaf tree: the empty path -/
def wTree1 : Tree := Tree.new [toyEnv.leafId (wLeaves2.getD 0 [])]
def wOne (i : Nat) : Shred := ⟨true, wS.header, i, wLeaves2.getD 0 [], .signed 5 (commit wS.header wTree1.root), wTree1.createProof 0⟩

/-- **Witness of D32 and of its repair.** The snapshot's `try_new` (`validateOld`) accepts shred 0 of a signed
    two-leaf tree under the indices 2 and 62 as well (without cache under the leader key; with the slice's cached
    commitment under any key), and the single shred of a one-leaf tree under index 63. The repaired `try_new`
    answers `InvalidSignature` in each case, with and without cache - never `Equivocation` - and still accepts the
    genuine shreds 0 and 1 (and the one-leaf shred at index 0). Non-vacuity of `root_binds_position` for a tree of
    height 1: its hypotheses hold for the genuine shred. -/
theorem index_alias_old_witness :
    okIs (validateOld toyEnv (wAlias 1) none 5) ⟨wAlias 1, wTree2.root⟩ ∧
    okIs (validateOld toyEnv (wAlias 31) none 5) ⟨wAlias 31, wTree2.root⟩ ∧
    okIs (validateOld toyEnv (wAlias 1) (some wCommit2) 99) ⟨wAlias 1, wTree2.root⟩ ∧
    okIs (validateOld toyEnv (wOne 63) none 5) ⟨wOne 63, wTree1.root⟩ ∧
    errIs (validate toyEnv (wAlias 1) none 5) .invalidSignature ∧
    errIs (validate toyEnv (wAlias 31) none 5) .invalidSignature ∧
    errIs (validate toyEnv (wAlias 1) (some wEntry2) 5) .invalidSignature ∧
    errIs (validate toyEnv (wAlias 1) (some (wOut.getD 40 default).cacheEntry) 5) .invalidSignature ∧
    errIs (validate toyEnv (wOne 63) none 5) .invalidSignature ∧
    errIs (validate toyEnv (wOne 1) (some ⟨commit wS.header wTree1.root, some (.signed 5 (commit wS.header wTree1.root))⟩) 5) .invalidSignature ∧
    okIs (validate toyEnv (wShort 0) none 5) ⟨wShort 0, wTree2.root⟩ ∧
    okIs (validate toyEnv (wShort 1) none 5) ⟨wShort 1, wTree2.root⟩ ∧
    okIs (validate toyEnv (wShort 1) (some wEntry2) 99) ⟨wShort 1, wTree2.root⟩ ∧
    okIs (validate toyEnv (wOne 0) none 5) ⟨wOne 0, wTree1.root⟩ ∧
    errIs (validate toyEnv (wShort 1) (some (wOut.getD 40 default).cacheEntry) 5) .equivocation ∧
    ((wShort 1).indexConsumed = true ∧ (wShort 1).sliceRoot toyEnv = (Tree.new (wLeaves2.map toyEnv.leafId)).root ∧
      wLeaves2 ≠ [] ∧ wTree2.height = 1) := by
  decide +kernel

/-! #### the cache hit skipped the signature (defect D34, repaired) -/

/-- a genuine shred of the correct leader whose signature bytes a relay replaced -/
def wJunk (i : Nat) : Shred := { (wOut.getD i default).shred with sig := .junk 7 }
/-- the same with a valid signature of *another* key over the very same commitment -/
def wForeign : Shred := { wS with sig := .signed 6 (wOut.getD 3 default).commitment }
/-- 32 shreds (indices 0..31) of the slice, the one at index 0 carrying the junk signature -/
def wStored : List (Option VShred) :=
  (selectFrom (fun i => i < 32) 0 wOut).set 0 (some ⟨wJunk 0, (wOut.getD 0 default).root⟩)
/-- the signature of shred `j` in the array `deshred` leaves behind -/
def sigAfter (j : Nat) : Option Sig :=
  match deshred toyEnv .regular wStored with
  | .ok (_, out) => (out.getD j none).map (·.shred.sig)
  | _ => none

/-- **Witness of D34 and of its repair.** `try_new` before the D34 fix (`validateCacheOld`): once the slice's
    commitment is cached, shred 3 with a garbage signature is accepted - under any key - although the same shred is
    refused without cache (what a repair peer does); stored at index 0 it is the shred `deshred` copies the signature
    from, so that every regenerated shred (e.g. 40, 63) carries the garbage. Repaired `try_new`: `InvalidSignature`
    with the cache hit (never `Equivocation`, also for a valid signature of a foreign key over the same commitment); a
    genuine shred still takes the shortcut without its key being looked at; an entry that remembers no signature never
    shortcuts. -/
theorem cache_skips_signature_old_witness :
    okIs (validateCacheOld toyEnv (wJunk 3) (some (wOut.getD 40 default).commitment) 5) ⟨wJunk 3, (wOut.getD 3 default).root⟩ ∧
    okIs (validateCacheOld toyEnv (wJunk 3) (some (wOut.getD 40 default).commitment) 99) ⟨wJunk 3, (wOut.getD 3 default).root⟩ ∧
    errIs (validateCacheOld toyEnv (wJunk 3) none 5) .invalidSignature ∧
    sigAfter 40 = some (.junk 7) ∧ sigAfter 63 = some (.junk 7) ∧ sigAfter 5 = some (wOut.getD 5 default).shred.sig ∧
    errIs (validate toyEnv (wJunk 3) (some (wOut.getD 40 default).cacheEntry) 5) .invalidSignature ∧
    errIs (validate toyEnv (wJunk 3) none 5) .invalidSignature ∧
    errIs (validate toyEnv wForeign (some (wOut.getD 40 default).cacheEntry) 5) .invalidSignature ∧
    okIs (validate toyEnv wForeign (some (wOut.getD 40 default).cacheEntry) 6) ⟨wForeign, (wOut.getD 3 default).root⟩ ∧
    okIs (validate toyEnv wS (some (wOut.getD 40 default).cacheEntry) 99) (wOut.getD 3 default) ∧
    errIs (validate toyEnv wS (some ⟨(wOut.getD 40 default).commitment, none⟩) 99) .invalidSignature ∧
    okIs (validate toyEnv wS (some ⟨(wOut.getD 40 default).commitment, none⟩) 5) (wOut.getD 3 default) := by
  decide +kernel

end Witness

end AgModel.Shred
