import AgModel.Proofs.NodeRun
import AgModel.Proofs.PoolGlue
import AgModel.Props.C05
/-!
# C10 — No network input or Byzantine-signed content can crash or wedge a node

Panic-freedom is proved per modelled seam (each model carries the Rust `assert!` / `expect` / `unreachable!` /
index sites of its seam as explicit `panic` outcomes) and, here, across the pool–votor seam of the composed node.
The derive-generated decoders, the tokio glue, UDP and third-party crates are outside the models: they are covered by
the hostile-traffic run against real full nodes (`harness/src/bin/c10.rs`), which is exploration — level `other`.

Per-seam theorems proved elsewhere (`cfg/C10.json` re-runs the panic oracles of their harnesses, `also`):
* C09 `validateVote_total`, `validateCert_total` — admission of arbitrary votes / certificates never panics;
* C05 `votor_asserts_unreachable` — the four `assert!`s of votor.rs;
* C14 `unsolicited_ignored`, `invalid_response_inert`, `shred_arm_root_known`, `repair_announces_requested_hash` — repair
  responses (the `unreachable!` and the `assert_eq!` of repair.rs);
* C13 `announced_block_wellformed` — a block announced by the blockstore has its parent in an earlier slot (so
  `pool.add_block`'s `assert!(block_id.0 > parent_id.0)` holds for every block the blockstore hands over);
* C18 `recover_total`; C20 `no_panic`; C19 `decoded_shred_in_range`, `decoded_agg_bounded`.
-/
namespace AgModel.NodePanic
open AgModel.Node

/-- **The voting task of a node never hits an assertion**, whatever validated votes and certificates arrive from
    the network (in particular everything Byzantine validators can sign), whatever blocks are reconstructed, in any
    interleaving with timeouts: the pool announces `ParentReady` only for window starts (proved through the
    parent-ready tracker model), which is the only way `set_timeouts`' assertion could fire, and the three pruning
    assertions are unreachable (C05). -/
theorem votor_never_panics (e : Pool.Epoch) (ops : List NodeOp) :
    (nodeRun { pool := { epoch := e } } ops).votor.panicked = false := by
  obtain ⟨es, hes, hrun⟩ := nodeRun_votor { epoch := e } ops
  rw [hrun]
  exact Votor.votor_asserts_unreachable es hes

/-- the pool's own state stays well-formed (C03/C18 `PoolOk`) under every sequence of pool operations with validated
    certificates: `poolRun_ok` from the empty pool -/
theorem node_pool_ok (e : Pool.Epoch) (hpos : 0 < e.total) (ops : List Pool.PoolOp)
    (hrecv : ∀ c, Pool.PoolOp.cert c ∈ ops → Pool.CertOk e c) :
    Pool.PoolOk (Pool.poolRun { epoch := e } ops).1 :=
  (Pool.poolRun_ok ops { epoch := e } (Pool.PoolOk.init e hpos) hrecv).1

end AgModel.NodePanic
