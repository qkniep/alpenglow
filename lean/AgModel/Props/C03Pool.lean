import AgModel.Proofs.PoolGlue
/-!
# C03 at pool level

`Props/C03.lean` states the certificate properties for the state machine of one slot (`slotRun`). The pool applies those
operations to the slot states it retains, interleaved with the finality / parent-ready trackers, the waiting-children map
and pruning (`Pool.addVote`, `Pool.addCert`, `Pool.addBlock`). `poolRun_ok` (Proofs/PoolGlue.lean) carries the per-slot
invariant through all of that; the corollaries below read C03's clauses about a state (the five vote counters, timeliness,
validity of the held certificates) off it, for every slot state of every reachable pool.
-/
namespace AgModel.Pool

/-- every slot state retained by a pool that is reachable from the empty pool through any votes, validated
    certificates and block registrations satisfies the per-slot invariant and holds only valid certificates -/
theorem pool_slots_ok (e : Epoch) (hpos : 0 < e.total) (ops : List PoolOp)
    (hrecv : ∀ c, PoolOp.cert c ∈ ops → CertOk e c) :
    ∀ st ∈ (poolRun { epoch := e } ops).1.slots, Inv e st ∧ HeldOk e st := by
  have h := poolRun_ok ops { epoch := e } (PoolOk.init e hpos) hrecv
  intro st hm
  have := h.1.2 st hm
  rw [h.2] at this
  exact this

/-- **Counters are recounts** in every retained slot state of a reachable pool: each validator's stake is in a total
    at most once per class, and exactly the validators whose vote is stored are counted. -/
theorem pool_counters_are_recounts (e : Epoch) (hpos : 0 < e.total) (ops : List PoolOp)
    (hrecv : ∀ c, PoolOp.cert c ∈ ops → CertOk e c) (st : SlotState) (hm : st ∈ (poolRun { epoch := e } ops).1.slots) :
    (∀ b, lookupD st.sNotar b = stakeOf e (st.notarVoters e.n b)) ∧
    (∀ b, lookupD st.sNf b = stakeOf e (st.nfVoters e.n b)) ∧
    st.sSkip = stakeOf e (st.skipVoters e.n) ∧ st.sSf = stakeOf e (st.sfVoters e.n) ∧
    st.sFin = stakeOf e (st.finVoters e.n) := by
  have i := (pool_slots_ok e hpos ops hrecv st hm).1.1
  exact ⟨i.cNotar, i.cNf, i.cSkip, i.cSf, i.cFin⟩

/-- **Timely.** In every retained slot state of a reachable pool: whenever the counted stake meets a threshold the
    corresponding certificate is held (created in the same operation that crossed it, or received). -/
theorem pool_cert_timely (e : Epoch) (hpos : 0 < e.total) (ops : List PoolOp)
    (hrecv : ∀ c, PoolOp.cert c ∈ ops → CertOk e c) (st : SlotState) (hm : st ∈ (poolRun { epoch := e } ops).1.slots) :
    (∀ b, e.isQuorum (lookupD st.sNotar b) = true → st.cNotar.isSome = true) ∧
    (∀ b, e.isStrong (lookupD st.sNotar b) = true → st.cFf.isSome = true) ∧
    (∀ b, e.isQuorum (lookupD st.sNf b + lookupD st.sNotar b) = true → st.isNf b = true) ∧
    (e.isQuorum (st.sSkip + st.sSf) = true → st.cSkip.isSome = true) ∧
    (e.isQuorum st.sFin = true → st.cFin.isSome = true) := by
  have i := (pool_slots_ok e hpos ops hrecv st hm).1.2
  exact ⟨i.tNotar, i.tFf, i.tNf, i.tSkip, i.tFin⟩

/-- **Valid.** Every certificate held by a reachable pool — created locally or received — is valid at any receiver:
    disjoint, in-range signer lists whose stake meets the threshold of its type. -/
theorem pool_held_certs_valid (e : Epoch) (hpos : 0 < e.total) (ops : List PoolOp)
    (hrecv : ∀ c, PoolOp.cert c ∈ ops → CertOk e c) (st : SlotState) (hm : st ∈ (poolRun { epoch := e } ops).1.slots) :
    ∀ c ∈ st.certs, CertOk e c :=
  (pool_slots_ok e hpos ops hrecv st hm).2

end AgModel.Pool
