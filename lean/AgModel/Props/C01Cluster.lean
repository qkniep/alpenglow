import AgModel.Props.C01
import AgModel.Props.C05
import AgModel.Proofs.ClusterBridge
import AgModel.Proofs.ClusterReady
import AgModel.Proofs.ClusterDec
/-!
# C01 — refinement: a cluster of executable model nodes produces a history that obeys the voting rules

`Spec/Cluster.lean` defines a cluster of `n` composed model nodes (`PoolImpl` ∘ queue ∘ `Votor`, one per validator) driven
by an adversarial network (`Valid`: unforgeability + "the hash binds the parent" are the only restrictions), the derived
global history `histOf` and block tree `chainOf`. This file connects the two halves of C01 — **all stages are theorems**:

* **stage 1** (`cluster_one_notar`, `cluster_notar_no_skip`, and the vote-local half of `cluster_fin_rule`): R1 and the
  vote-local part of R2, from the C05 theorems, for every correct node of every valid run;
* **stage 2** (`cluster_certs_sound`): every certificate held by any pool of the cluster is a certificate of the
  derived history (thresholds of `Spec/Protocol.lean`, signers' votes in the history);
* **stage 3** (`cluster_fin_rule`, `cluster_nf_rule`, `cluster_sf_rule`, `cluster_notar_rule_partial` + `ready_justified`):
  R2's certificate clause, R3, R4, and R5. R5 for the first slot of a leader window is first proved relative to
  `ReadyJustified` (every `ParentReady` event a correct Votor handled was for a certified parent with skip-certified slots in
  between; the `…_partial` theorems), and `ready_justified` then discharges that premise by induction along the run: the
  implementation also derives `ParentReady` from finalizations (implicitly finalized parents, implicitly skipped slots), which
  is justified only through the safety theorems applied to the *prefix* of the run (`Proofs/SpecLog.lean`) and because
  Byzantine stake counts as signed in `histOf` (finding 1 at the end of this file);
* **stage 4** (`cluster_rules`, `cluster_setting`, `cluster_agreement`, `cluster_logs_one_chain`,
  `cluster_tracker_logs_one_chain`): all rules R1–R5 for every correct validator of every valid run; hence
  (`Props/C01.lean`) the blocks that the pools / finality trackers of *any* two nodes report finalized are on one chain.

Crashed validators are correct validators whose nodes receive no further events. The statements hold after every run, hence
after every prefix: "never".
-/
namespace AgModel.Cluster
open AgModel AgModel.Node AgModel.NodePanic AgModel.Pool AgModel.Spec

/-- the facts about node `v` used below: its Votor satisfies the invariants of C05, the composed-node premises of C05 hold
    for its projection, and the node invariant holds -/
structure NodeFacts (c : Cfg) (evs : List Ev) (v : ℕ) : Type where
  inv : Votor.Inv none (run (init c) evs v).votor
  zero : Votor.Zero (run (init c) evs v).votor
  hrun : run (init c) evs v = nodeRun { pool := { epoch := c.epoch v } } (proj v evs)
  hown : OwnVotesFromVotor (c.epoch v).own { pool := { epoch := c.epoch v } } [] (proj v evs) = true
  ninv : NInv (sigOf c (run (init c) evs)) (c.epoch v) c.parentOf (run (init c) evs v)

theorem nodeFacts (c : Cfg) (evs : List Ev) (hv : Valid c (init c) evs) (v : ℕ)
    (hc : c.correct v = true) : Nonempty (NodeFacts c evs v) := by
  have hrun : run (init c) evs v = nodeRun { pool := { epoch := c.epoch v } } (proj v evs) := run_proj v evs _
  obtain ⟨hi, hz⟩ := node_votor_inv { epoch := c.epoch v } (proj v evs)
  exact ⟨⟨hrun ▸ hi, hrun ▸ hz, hrun, own_of_valid c v hc evs _ [] hv rfl, CInv.run evs hv v⟩⟩

theorem pos_of_byz (c : Cfg) (hb : 5 * w (stakeFn c) (byz c) < total (stakeFn c)) : 0 < c.stakes.sum :=
  total_eq c ▸ Nat.lt_of_le_of_lt (Nat.zero_le _) hb

section
variable (c : Cfg) (evs : List Ev) (v : Fin c.n) (F : NodeFacts c evs v.val) (hc : c.correct v.val = true)

local notation "H" => histOf c (run (init c) evs)

include F hc

omit hc in
/-- a log item of a correct node that is a vote is not for slot 0, unless it is the finalize vote -/
theorem no_slot_zero (x : Votor.Item) (hx : x ∈ (run (init c) evs v.val).votor.log) (hs : x.voteSlot = some 0) :
    x = .out (.final 0) :=
  F.zero.2 x hx hs

omit F in
theorem notar_in_log {b : Blk} (h : (H).notar v b) (h0 : b.slot ≠ 0) :
    ∃ ps ph, Votor.Item.out (.notar b.slot b.hash ps ph) ∈ (run (init c) evs v.val).votor.log :=
  (h hc).elim (fun e => absurd (e ▸ rfl) h0) id

omit F hc in
theorem notar_of_log {sl h ps ph : ℕ} (hm : Votor.Item.out (.notar sl h ps ph) ∈ (run (init c) evs v.val).votor.log) :
    (H).notar v (Blk.mk' sl h) :=
  hist_notar_of_sig c _ v sl h fun _ => ⟨ps, ph, hm⟩

/-! ## stage 1: R1 -/

/-- **R1 (one notarization vote per slot)** -/
theorem cluster_one_notar (b b' : Blk) (h1 : (H).notar v b) (h2 : (H).notar v b')
    (hs : (chainOf c).slot b = (chainOf c).slot b') : b = b' := by
  have hs' : b.slot = b'.slot := hs
  by_cases h0 : b.slot = 0
  · exact (b.eq_genesis_of_slot h0).trans (b'.eq_genesis_of_slot (hs' ▸ h0)).symm
  · obtain ⟨ps, ph, m1⟩ := notar_in_log c evs v hc h1 h0
    obtain ⟨ps', ph', m2⟩ := notar_in_log c evs v hc h2 (hs' ▸ h0)
    have := F.inv.init_unique b.slot _ _ m1 m2 (beq_self_eq_true b.slot) (hs' ▸ beq_self_eq_true b'.slot)
    simp only [Votor.Item.out.injEq, Votor.Out.notar.injEq] at this
    exact Blk.ext' this.1 this.2.1

/-- **R1 (never notarize and skip the same slot)** -/
theorem cluster_notar_no_skip (b : Blk) (h1 : (H).notar v b) : ¬ (H).skip v ((chainOf c).slot b) := by
  intro h2
  have m2 := h2 hc
  by_cases h0 : b.slot = 0
  · have e : b = Blk.genesis := b.eq_genesis_of_slot h0
    subst e
    cases no_slot_zero c evs v F _ m2 rfl
  · obtain ⟨ps, ph, m1⟩ := notar_in_log c evs v hc h1 h0
    cases F.inv.init_unique b.slot _ _ m1 m2 (beq_self_eq_true b.slot) (beq_self_eq_true b.slot)

/-! ## stage 3: R2 (with its certificate clause), R3, R4 -/

/-- **R2**: a finalize vote only for the own, certificate-notarized block; never with a skip or fallback vote -/
theorem cluster_fin_rule (t : ℕ) (hf : (H).fin v t) :
    (∃ b, (chainOf c).slot b = t ∧ (H).notar v b ∧ NotarCert (stakeFn c) (H) b) ∧ ¬ (H).skip v t ∧ ¬ (H).sf v t ∧
      ∀ x, (chainOf c).slot x = t → ¬ (H).nf v x := by
  have mf := hf hc
  obtain ⟨h, hn, hcert⟩ := F.inv.final_mem mf
  obtain ⟨n1, n2, n3⟩ := F.inv.no_final_bad t mf
  refine ⟨⟨Blk.mk' t h, Blk.mk'_slot t h, ?_, ?_⟩, fun a => n1 (a hc), fun a => n2 (a hc),
    fun x hx a => n3 x.hash (by rw [← show x.slot = t from hx]; exact a hc)⟩
  · rcases hn with ⟨rfl, _⟩ | ⟨ps, ph, hm⟩
    · intro _; left; exact Blk.mk'_zero h
    · exact notar_of_log c evs v hm
  · rcases hcert with ⟨rfl, _⟩ | hm
    · rw [Blk.mk'_zero]; exact notarCert_genesis c _
    · obtain ⟨x, hk, hsl, hh, hb⟩ := F.ninv.votor _ hm
      have hon := certOn_of_backed c _ v.val x hb
      have hkn : x.kind = .notar := by cases hx : x.kind <;> simp [hx, certKind] at hk ⊢
      rw [hkn, hsl, hh] at hon
      exact hon

omit F hc in
theorem certified_parent (x : Blk) (hcs : CertifiedS (sigOf c (run (init c) evs)) (c.epoch v.val) (c.parentOf (x.slot, x.hash))) :
    Certified (stakeFn c) (chainOf c) (H) ((chainOf c).parent x) := by
  show Certified (stakeFn c) (chainOf c) _ (parentBlk c x)
  unfold parentBlk
  split
  · exact Or.inl rfl
  · split
    · obtain ⟨y, hst, hid, hb⟩ := hcs
      have hon := certOn_of_backed c _ v.val y hb
      have h1 : y.slot = (c.parentOf (x.slot, x.hash)).1 := congrArg Prod.fst hid
      have h2 : y.hash = (c.parentOf (x.slot, x.hash)).2 := congrArg Prod.snd hid
      rw [← h1, ← h2]
      right
      unfold CertOn at hon
      rcases hst with hk | hk | hk <;> simp only [hk] at hon
      · exact hon.nfCert
      · exact hon
      · exact hon.notarCert.nfCert
    · exact Or.inl rfl

/-- **R3**: a notar-fallback vote only when safe-to-notar held on the history -/
theorem cluster_nf_rule (x : Blk) (hnf : (H).nf v x) :
    (Weak (notarW (stakeFn c) (H) x) (total (stakeFn c)) ∨
      (Weakest (notarW (stakeFn c) (H) x) (total (stakeFn c)) ∧
        Q (w (stakeFn c) (fun u => (H).notar u x ∨ (H).skip u ((chainOf c).slot x))) (total (stakeFn c)))) ∧
    Certified (stakeFn c) (chainOf c) (H) ((chainOf c).parent x) ∧ ¬ (H).notar v x := by
  have mf := hnf hc
  have h0 : x.slot ≠ 0 := fun e0 => by cases no_slot_zero c evs v F _ mf (by rw [e0]; rfl)
  obtain ⟨⟨st, hsl, ⟨iv, qv, _⟩, hcond⟩, hpar⟩ := F.ninv.votor _ (F.inv.nf_mem mf)
  refine ⟨?_, certified_parent c evs v x hpar, ?_⟩
  · have := s2n_stake_on_hist c _ v.val st iv qv x.hash hcond.1
    rw [hsl, Blk.mk'_self] at this
    exact this
  · intro hn
    obtain ⟨ps, ph, hm⟩ := notar_in_log c evs v hc hn h0
    rw [F.hrun] at mf
    rw [F.hrun] at hm
    exact node_fallback_not_for_own_block (c.epoch v.val) (proj v.val evs) F.hown x.slot x.hash x.hash ps ph mf hm rfl

/-- **R4**: a skip-fallback vote only when safe-to-skip held on the history -/
theorem cluster_sf_rule (t : ℕ) (hsf : (H).sf v t) (cb : Blk) (hcb : (chainOf c).slot cb = t) :
    Weak (w (stakeFn c) (fun u => (H).skip u t ∨ ∃ x, (chainOf c).slot x = t ∧ x ≠ cb ∧ (H).notar u x)) (total (stakeFn c)) := by
  have mf := hsf hc
  have h0 : t ≠ 0 := fun e0 => by cases no_slot_zero c evs v F _ mf (by rw [e0]; rfl)
  obtain ⟨st, hsl, ⟨iv, qv, _⟩, hcond⟩ := F.ninv.votor _ (F.inv.sf_mem mf)
  have := s2s_stake_on_hist c _ v.val st iv qv (by rw [hsl]; exact h0) hcond.1 cb
  rw [hsl] at this
  exact this

/-! ## R5 -/

/-- the premise for the first slot of a leader window: every `ParentReady(w, (ps, ph))` event this Votor handled was for a
    parent in an earlier slot that is certified on the history, with every slot in between skip-certified -/
def ReadyJustifiedAt (c : Cfg) (evs : List Ev) (v : Fin c.n) : Prop :=
  ∀ w ps ph, Votor.Item.ev (.parentReady w ps ph) ∈ (run (init c) evs v.val).votor.log →
    ps < w ∧ Certified (stakeFn c) (chainOf c) (histOf c (run (init c) evs)) (Blk.mk' ps ph) ∧
    ∀ t, ps < t → t < w → SkipCert (stakeFn c) (histOf c (run (init c) evs)) t

/-- **R5** — inside a leader window in full (the node notarized the parent itself, in the preceding slot); for the first
    slot of a window relative to `ReadyJustifiedAt` -/
theorem cluster_notar_rule_partial (hr : ReadyJustifiedAt c evs v) (x : Blk) (hn : (H).notar v x)
    (hx : x ≠ (chainOf c).genesis) :
    (windowStart ((chainOf c).slot x) →
      Certified (stakeFn c) (chainOf c) (H) ((chainOf c).parent x) ∧
        ∀ t, (chainOf c).slot ((chainOf c).parent x) < t → t < (chainOf c).slot x →
          SkipCert (stakeFn c) (H) t) ∧
    (¬ windowStart ((chainOf c).slot x) → (H).notar v ((chainOf c).parent x) ∧
      (chainOf c).slot ((chainOf c).parent x) + 1 = (chainOf c).slot x) := by
  have h0 : x.slot ≠ 0 := fun e0 => hx (x.eq_genesis_of_slot e0)
  obtain ⟨ps, ph, hm⟩ := notar_in_log c evs v hc hn h0
  obtain ⟨hblk, hpar⟩ := F.inv.notar_mem hm
  have hpo : c.parentOf (x.slot, x.hash) = (ps, ph) := F.ninv.votor (.block x.slot ⟨x.hash, ps, ph⟩) hblk
  have hparent : ps < x.slot → (chainOf c).parent x = Blk.mk' ps ph := fun hlt =>
    x.mk'_self ▸ parent_idBlk c (x.slot, x.hash) (ps, ph) hpo hlt
  have hslot : (chainOf c).slot (Blk.mk' ps ph) = ps := Blk.mk'_slot ps ph
  constructor
  · intro hw
    rw [if_pos (show x.slot % Votor.W = 0 from hw)] at hpar
    obtain ⟨hlt, hcert, hskip⟩ := hr _ _ _ hpar
    rw [hparent hlt, hslot]
    exact ⟨hcert, hskip⟩
  · intro hw
    rw [if_neg (show ¬ x.slot % Votor.W = 0 from hw)] at hpar
    obtain ⟨hs1, hor⟩ := hpar
    rw [hparent (hs1 ▸ Nat.lt_succ_self ps), hslot]
    refine ⟨?_, hs1⟩
    rcases hor with ⟨rfl, rfl⟩ | ⟨ps', ph', hm'⟩
    · intro _; left; exact Blk.mk'_zero 0
    · exact notar_of_log c evs v hm'

end

/-- every `ParentReady` event handled by a correct Votor was justified (see `ReadyJustifiedAt`) -/
def ReadyJustified (c : Cfg) (evs : List Ev) : Prop := ∀ v : Fin c.n, c.correct v.val = true → ReadyJustifiedAt c evs v

/-- **Stage 2: every certificate held by a pool of the cluster is a certificate of the derived history** — for every node
    (correct or not: pools only store what was delivered), every slot state `st` of slot `sl`, every held certificate: the
    stake of the validators with votes *in the history* of the kind of the field that holds it, for slot `sl` (and the
    certificate's hash), meets the threshold of `Spec/Protocol.lean`. -/
theorem cluster_certs_sound (c : Cfg) (evs : List Ev) (hv : Valid c (init c) evs) (hpos : 0 < c.stakes.sum)
    (i sl : ℕ) (st : SlotState) (hg : (run (init c) evs i).pool.getSlot sl = some st) :
    (∀ x, st.cNotar = some x → x.slot = sl ∧ NotarCert (stakeFn c) (histOf c (run (init c) evs)) (Blk.mk' sl x.hash)) ∧
    (∀ x, x ∈ st.cNf → x.slot = sl ∧ NFCert (stakeFn c) (histOf c (run (init c) evs)) (Blk.mk' sl x.hash)) ∧
    (∀ x, st.cSkip = some x → SkipCert (stakeFn c) (histOf c (run (init c) evs)) sl) ∧
    (∀ x, st.cFf = some x → x.slot = sl ∧ FastFinalCert (stakeFn c) (histOf c (run (init c) evs)) (Blk.mk' sl x.hash)) ∧
    (∀ x, st.cFin = some x → FinalCert (stakeFn c) (histOf c (run (init c) evs)) sl) := by
  have hq : QC (sigOf c (run (init c) evs)) (c.epoch i) st := ((CInv.run evs hv i).pool.slots.2 sl st hg).2.2
  have hsl := getSlot_slot hg
  -- a held certificate of kind `k` for the slot of `st` is a certificate of the history
  have on : ∀ x k, x.kind = k ∧ x.slot = st.slot ∧ CertBacked (sigOf c (run (init c) evs)) (c.epoch i) x →
      x.slot = sl ∧ CertOn c (histOf c (run (init c) evs)) k sl x.hash := fun x k ⟨hk, hs, hb⟩ =>
    ⟨hs.trans hsl, hk ▸ hs.trans hsl ▸ certOn_of_backed c _ i x hb⟩
  exact ⟨fun x hx => on x _ (hq.notar x hx), fun x hx => on x _ (hq.nf x hx), fun x hx => (on x _ (hq.skip x hx)).2,
    fun x hx => on x _ (hq.ff x hx), fun x hx => (on x _ (hq.fin x hx)).2⟩

/-- **`cluster_rules`** — `_partial` (relative to `ReadyJustified`): in every valid run of the cluster, the derived history
    satisfies all voting rules R1–R5 for every correct validator. -/
theorem cluster_rules_partial (c : Cfg) (evs : List Ev) (hv : Valid c (init c) evs)
    (hr : ReadyJustified c evs) (v : Fin c.n) (hc : c.correct v.val = true) :
    Rules (stakeFn c) (chainOf c) (histOf c (run (init c) evs)) v := by
  obtain ⟨F⟩ := nodeFacts c evs hv v.val hc
  exact ⟨cluster_one_notar c evs v F hc, cluster_notar_no_skip c evs v F hc, cluster_fin_rule c evs v F hc,
    cluster_nf_rule c evs v F hc, cluster_sf_rule c evs v F hc,
    cluster_notar_rule_partial c evs v F hc (hr v hc)⟩

theorem cluster_setting_partial (c : Cfg) (evs : List Ev) (hv : Valid c (init c) evs)
    (hb : 5 * w (stakeFn c) (byz c) < total (stakeFn c)) (hr : ReadyJustified c evs) :
    Setting (stakeFn c) (chainOf c) (histOf c (run (init c) evs)) (byz c) where
  byz_bound := hb
  rules := fun v hn => cluster_rules_partial c evs hv hr v (correct_of_not_byz hn)

theorem finalizedAt_of_pool (c : Cfg) (evs : List Ev) (hv : Valid c (init c) evs) (hpos : 0 < c.stakes.sum) (i : ℕ) (b : Blk)
    (hf : PoolFinalized (run (init c) evs) i b) :
    FinalizedAt (stakeFn c) (chainOf c) (histOf c (run (init c) evs)) b := by
  obtain ⟨st, hg, hor⟩ := hf
  obtain ⟨h1, _, _, h4, h5⟩ := cluster_certs_sound c evs hv hpos i b.slot st hg
  rcases hor with ⟨x, hx, hh⟩ | ⟨hfin, x, hx, hh⟩
  · exact Or.inl (b.mk'_self ▸ hh ▸ (h4 x hx).2)
  · obtain ⟨y, hfc⟩ := Option.isSome_iff_exists.mp hfin
    exact Or.inr ⟨h5 y hfc, b.mk'_self ▸ hh ▸ (h1 x hx).2⟩

/-! ## discharging `ReadyJustified`: induction along the run -/

theorem byzAll (c : Cfg) (s : State) : ByzAll (histOf c s) (byz c) := by
  intro v hv b hc
  unfold byz at hv
  rw [hv] at hc
  cases hc

/-- **Every `ParentReady` event a correct Votor handles in a valid run is justified on the derived history** (the parent is
    in an earlier slot and certified, every slot in between is skip-certified), although the implementation also derives
    such events from finalizations: by induction along the run, with the safety hypotheses for the prefix. -/
theorem ready_justified (c : Cfg) (hb : 5 * w (stakeFn c) (byz c) < total (stakeFn c)) :
    ∀ evs, Valid c (init c) evs → ReadyJustified c evs := by
  refine valid_induction c (P := ReadyJustified c) (fun _ _ w a b => ReadyLog.init (fun _ _ => _) w a b) ?_
  · intro pre ev hvp hve ihp v hc w ps ph hm
    have hS := cluster_setting_partial c pre hvp hb ihp
    have hl := histOf_le c _ _ (sigOf_le_step c (run (init c) pre) ev)
    rw [← run_snoc] at hl
    -- weakly justified when queued (certified *or in the finalized log*; skip-certified *or a gap*): justified, by safety
    -- on the prefix
    obtain ⟨h1, h2, h3⟩ := ready_step (tpOf c (run (init c) pre))
      (fun w p => p.1 < w ∧ Certified (stakeFn c) (chainOf c) (histOf c (run (init c) pre)) (Blk.mk' p.1 p.2) ∧
        ∀ t, p.1 < t → t < w → SkipCert (stakeFn c) (histOf c (run (init c) pre)) t)
      (fun w p ⟨h1, h2, h3⟩ => ⟨h1, h2.elim id (certified_of_inLog hS (byzAll c _) _),
        fun t a b => (h3 t a b).elim id (skip_of_gap hS (byzAll c _) t)⟩)
      rfl (notarCert_genesis c _) (Or.inl (Or.inl rfl)) pre ev hvp hve (certT_of_backed c _) v.val (ihp v hc) w ps ph hm
    exact ⟨h1, Certified.mono hl h2, fun t a b => SkipCert.mono hl (h3 t a b)⟩

/-- **`cluster_rules`: in every valid run of the cluster the derived history satisfies all voting rules R1–R5 of
    `Spec.Rules` for every correct validator** — for every number of validators and stake distribution, every Byzantine set
    with less than 20 % of the stake, every run (every interleaving of deliveries of votes, certificates and blocks to
    pools and Votors, queue pumps and timeouts at all nodes; arbitrary delay, loss, duplication, reordering; arbitrary
    votes and backed certificates naming Byzantine signers; equivocating leaders), restricted only by unforgeability and
    "the hash binds the parent" (`Valid`). -/
theorem cluster_rules (c : Cfg) (evs : List Ev) (hv : Valid c (init c) evs)
    (hb : 5 * w (stakeFn c) (byz c) < total (stakeFn c)) (v : Fin c.n) (hc : c.correct v.val = true) :
    Rules (stakeFn c) (chainOf c) (histOf c (run (init c) evs)) v :=
  cluster_rules_partial c evs hv (ready_justified c hb evs hv) v hc

/-- the hypotheses of the protocol-level safety theorems (`Props/C01.lean`) hold for the derived history of every valid run -/
theorem cluster_setting (c : Cfg) (evs : List Ev) (hv : Valid c (init c) evs)
    (hb : 5 * w (stakeFn c) (byz c) < total (stakeFn c)) :
    Setting (stakeFn c) (chainOf c) (histOf c (run (init c) evs)) (byz c) :=
  cluster_setting_partial c evs hv hb (ready_justified c hb evs hv)

/-- **`cluster_agreement`: finalization agreement for the cluster of executable model nodes.** With less than 20 % of the stake
    Byzantine, in every valid run — whatever the network and the Byzantine validators do — if the pools of two nodes `i`, `j`
    report blocks `b`, `b'` as finalized (a fast-finalization certificate, or a finalization certificate together with a
    notarization certificate: `PoolImpl::get_final_certs`), then `b` and `b'` lie on one chain of the block tree; if they are
    in the same slot they are equal; and no pool of the cluster holds a skip certificate for `b`'s slot. -/
theorem cluster_agreement (c : Cfg) (evs : List Ev) (hv : Valid c (init c) evs)
    (hb : 5 * w (stakeFn c) (byz c) < total (stakeFn c))
    (i j : ℕ) (b b' : Blk) (hf : PoolFinalized (run (init c) evs) i b) (hf' : PoolFinalized (run (init c) evs) j b') :
    (Anc (chainOf c) b b' ∨ Anc (chainOf c) b' b) ∧ (b.slot = b'.slot → b = b') ∧
    (∀ k st, (run (init c) evs k).pool.getSlot b.slot = some st → st.cSkip = none) := by
  have hS := cluster_setting c evs hv hb
  have hpos := pos_of_byz c hb
  have f1 := finalizedAt_of_pool c evs hv hpos i b hf
  have f2 := finalizedAt_of_pool c evs hv hpos j b' hf'
  refine ⟨agreement hS b b' f1 f2, fun hs => (slot_unique hS b' b hs f2 f1), ?_⟩
  intro k st hg
  cases hsk : st.cSkip with
  | none => rfl
  | some x => exact absurd ((cluster_certs_sound c evs hv hpos k b.slot st hg).2.2.1 x hsk) (finalized_not_skipped hS b f1)

/-- all blocks the pools report finalized, and their ancestors, lie on one chain (the finalization logs never conflict) -/
theorem cluster_logs_one_chain (c : Cfg) (evs : List Ev) (hv : Valid c (init c) evs)
    (hb : 5 * w (stakeFn c) (byz c) < total (stakeFn c))
    (i j : ℕ) (b b' x y : Blk) (hf : PoolFinalized (run (init c) evs) i b) (hf' : PoolFinalized (run (init c) evs) j b')
    (hx : Anc (chainOf c) x b) (hy : Anc (chainOf c) y b') :
    (Anc (chainOf c) x y ∨ Anc (chainOf c) y x) ∧ (x.slot = y.slot → x = y) := by
  have hS := cluster_setting c evs hv hb
  have hpos := pos_of_byz c hb
  exact logs_one_chain hS x y ⟨b, finalizedAt_of_pool c evs hv hpos i b hf, hx⟩ ⟨b', finalizedAt_of_pool c evs hv hpos j b' hf', hy⟩

/-- **The finalization logs of the nodes' finality trackers never conflict**: whenever the finality tracker inside the pool of
    node `i` marks slot `s` as finalized or implicitly finalized with block `h`, and that of node `j` slot `s'` with `h'`
    (directly, or through a finalized descendant along registered parent links), the two blocks lie on one chain of the block
    tree, and are equal if `s = s'`. (Tracker entries are pruned as the watermark advances; the statement holds after every
    prefix of every run.) -/
theorem cluster_tracker_logs_one_chain (c : Cfg) (evs : List Ev) (hv : Valid c (init c) evs)
    (hb : 5 * w (stakeFn c) (byz c) < total (stakeFn c)) (i j s s' h h' : ℕ)
    (hi : (run (init c) evs i).pool.fin.status s = some (.finalized h) ∨
          (run (init c) evs i).pool.fin.status s = some (.implFinalized h))
    (hj : (run (init c) evs j).pool.fin.status s' = some (.finalized h') ∨
          (run (init c) evs j).pool.fin.status s' = some (.implFinalized h')) :
    (Anc (chainOf c) (Blk.mk' s h) (Blk.mk' s' h') ∨ Anc (chainOf c) (Blk.mk' s' h') (Blk.mk' s h)) ∧
    (s = s' → Blk.mk' s h = Blk.mk' s' h') := by
  have hS := cluster_setting c evs hv hb
  have hR := ready_run (tpOf c (run (init c) evs)) rfl (notarCert_genesis c _) (Or.inl (Or.inl rfl)) evs hv (certT_of_backed c _)
  -- `(hR i).1.1` is the invariant of the finality tracker in node `i`'s pool: a block it marks finalized or implicitly
  -- finalized is in the finalized log of the history
  obtain ⟨a, b⟩ := logs_one_chain hS (Blk.mk' s h) (Blk.mk' s' h')
    (hi.elim (fun a => (hR i).1.1.fin s h a) (fun a => (hR i).1.1.impl s h a))
    (hj.elim (fun a => (hR j).1.1.fin s' h' a) (fun a => (hR j).1.1.impl s' h' a))
  exact ⟨a, fun e => b (slot_idBlk_eq c (b := (s, h)) (b' := (s', h')) e)⟩

/-! ## non-vacuity: a valid run with a Byzantine validator in which two pools report a block finalized -/
namespace Example

/-- six validators with stake 1; validator 5 is Byzantine (1/6 < 20 %) -/
def c : Cfg := { stakes := [1, 1, 1, 1, 1, 1], correct := fun i => decide (i < 5), parentOf := fun _ => (0, 0) }

/-- validators 0–3 receive block (1,9) and notarize it; node 0's pool receives their votes and a vote of the Byzantine
    validator 5 (5/6 ≥ 80 %: notar-fallback, notarization and fast-finalization certificates), its Votor handles the
    certificates (finalize vote); node 1's pool receives the fast-finalization certificate -/
def evs : List Ev :=
  [(0, .votorBlock 1 ⟨9, 0, 0⟩), (1, .votorBlock 1 ⟨9, 0, 0⟩), (2, .votorBlock 1 ⟨9, 0, 0⟩), (3, .votorBlock 1 ⟨9, 0, 0⟩),
   (0, .recvVote ⟨.notar, 1, 9, 0⟩), (0, .recvVote ⟨.notar, 1, 9, 1⟩), (0, .recvVote ⟨.notar, 1, 9, 2⟩),
   (0, .recvVote ⟨.notar, 1, 9, 3⟩), (0, .recvVote ⟨.notar, 1, 9, 5⟩),
   (0, .pump), (0, .pump), (0, .pump),
   (1, .recvCert ⟨.ff, 1, 9, [0, 1, 2, 3, 5], [], 5⟩)]

theorem byz_bound : 5 * w (stakeFn c) (byz c) < total (stakeFn c) := by
  rw [byz_bound_iff]; decide

theorem run_facts : Valid c (init c) evs ∧
    ∀ i ∈ [0, 1], ((run (init c) evs i).pool.getSlot 1).bind (fun st => st.cFf.map (·.hash)) = some 9 := by decide +kernel

theorem valid : Valid c (init c) evs := run_facts.1

/-- node 0 has voted: notarization, then (after its pool created the certificates) the finalize vote -/
example : nodeRunOuts { pool := { epoch := c.epoch 0 } } (proj 0 evs) =
    [.notar 1 9 0 0, .cert .notarFallback 1 9, .final 1, .cert .notar 1 9, .timer 0, .cert .fastFinal 1 9] := by decide +kernel

theorem pool_finalized (i : ℕ) (hi : i = 0 ∨ i = 1) : PoolFinalized (run (init c) evs) i ⟨1, 9, by decide⟩ := by
  have h := run_facts.2 i (by rcases hi with rfl | rfl <;> decide)
  obtain ⟨st, hg, hm⟩ := Option.bind_eq_some_iff.mp h
  obtain ⟨x, hf, hx⟩ := Option.map_eq_some_iff.mp hm
  exact ⟨st, hg, Or.inl ⟨x, hf, hx⟩⟩

/-- the hypotheses of `cluster_agreement` are satisfied by this run, for the pools of nodes 0 and 1 -/
example : (Anc (chainOf c) ⟨1, 9, by decide⟩ ⟨1, 9, by decide⟩ ∨ Anc (chainOf c) ⟨1, 9, by decide⟩ ⟨1, 9, by decide⟩) :=
  (cluster_agreement c evs valid byz_bound 0 1 _ _ (pool_finalized 0 (Or.inl rfl)) (pool_finalized 1 (Or.inr rfl))).1

end Example

/-! ## two findings of the refinement proof (both reproduced on the real `PoolImpl` + `Votor`: directed cases of
    `harness/src/bin/cluster.rs`)

Validators X = 0 (41 %), Y = 1 (39 %), A = 2 (1 %) are correct, Z = 3 (19 %) is Byzantine; the leader of window 0
(slots 1–3) and of slot 4 equivocates. -/
namespace Findings

def c (par : ℕ × ℕ → ℕ × ℕ) : Cfg := { stakes := [41, 39, 1, 19], correct := fun i => decide (i < 3), parentOf := par }

/-! ### 1. `ParentReady` derived from a finalization: a correct node notarizes a block whose parent has no certificate -/

def par1 : ℕ × ℕ → ℕ × ℕ
  | (2, 20) => (1, 10) | (3, 30) => (2, 20) | (4, 40) => (3, 30) | (4, 41) => (2, 20) | _ => (0, 0)

/-- X notarizes (1,10), p = (2,20), (3,30); Y and A time out (skip 1–3); X casts skip-fallback 3; (3,30) is notarized by X + Z;
    X and Y notarize c2 = (4,40) built on (3,30); A holds the skip certificate of slot 3, knows (4,40) → (3,30) → (2,20), has
    the block x = (4,41) built on p pending, and receives the fast-finalization certificate of (4,40) -/
def evs1 : List Ev :=
  [(0, .votorBlock 1 ⟨10, 0, 0⟩), (0, .votorBlock 2 ⟨20, 1, 10⟩), (0, .votorBlock 3 ⟨30, 2, 20⟩), (1, .timeout 1), (2, .timeout 1),
   (0, .recvVote ⟨.notar, 3, 30, 0⟩), (0, .recvVote ⟨.skip, 3, 0, 1⟩), (0, .recvVote ⟨.skip, 3, 0, 2⟩), (0, .pump),
   (0, .recvCert ⟨.notar, 3, 30, [0, 3], [], 60⟩), (0, .votorBlock 4 ⟨40, 3, 30⟩), (0, .pump), (0, .pump),
   (1, .recvCert ⟨.notar, 3, 30, [0, 3], [], 60⟩), (1, .votorBlock 4 ⟨40, 3, 30⟩), (1, .pump), (1, .pump),
   (2, .recvCert ⟨.skip, 3, 0, [1, 2], [0], 81⟩), (2, .poolBlock (3, 30) (2, 20)), (2, .poolBlock (4, 40) (3, 30)),
   (2, .votorBlock 4 ⟨41, 2, 20⟩),
   (2, .recvCert ⟨.ff, 4, 40, [0, 1, 3], [], 99⟩), (2, .pump), (2, .pump), (2, .pump)]

/-- **Finding 1** (not a safety violation; the reason why `histOf` counts Byzantine stake as signed): in this *valid* run with
    19 % Byzantine stake the correct node A notarizes x = (4,41), a block of the first slot of a leader window whose parent
    p = (2,20) was announced `ParentReady` only because p is an ancestor of the fast-finalized (4,40): A's pool holds no
    certificate for p (it has no state for slot 2 at all), and the only correct validator that ever signed a notarization or
    notar-fallback vote for p is X (41 % < 60 %): on the history of the votes actually signed, R5 (`notar_rule`) fails for A.
    `cluster_rules` holds because on `histOf` the Byzantine 19 % count as signed (41 + 19 ≥ 60). -/
theorem parent_ready_from_finalization :
    Valid (c par1) (init (c par1)) evs1 ∧ 5 * byzStake (c par1) < (c par1).stakes.sum ∧
    nodeRunOuts { pool := { epoch := (c par1).epoch 2 } } (proj 2 evs1) =
      [.skip 1, .skip 2, .skip 3, .cert .skip 3 0, .notar 4 41 2 20, .timer 4, .timer 4, .cert .fastFinal 4 40] ∧
    ((run (init (c par1)) evs1 2).pool.getSlot 2).isNone = true ∧
    (List.range 3).filter (fun j => (run (init (c par1)) evs1 j).votor.log.any (fun it => isNotarFor 2 20 it ||
      it == .out (.notarFallback 2 20))) = [0] := by decide +kernel

/-! ### 2. D27: before the fix 7ac7ffa a correct node hit a "consensus safety violation" assertion although safety holds -/

def par2 : ℕ × ℕ → ℕ × ℕ
  | (2, 21) => (1, 10) | (2, 22) => (1, 10) | (3, 32) => (2, 22) | (4, 40) => (3, 32) | _ => (0, 0)

/-- the leader of slot 2 equivocates: X notarizes x = (2,21), Y and A notarize y = (2,22); Z notarizes both. y reaches 59 %
    notarization stake: X casts the notar-fallback vote for y (and, by `try_skip_window`, skips slot 3); x gets a
    notarization certificate (X + Z = 60 %), y a notar-fallback certificate. The chain continues on y: z = (3,32) (Y, A, Z
    notarize, X notar-fallback), f = (4,40) (X and Y notarize: 80 %, fast-finalized). -/
def evs2 : List Ev :=
  [(0, .votorBlock 1 ⟨10, 0, 0⟩), (1, .votorBlock 1 ⟨10, 0, 0⟩), (2, .votorBlock 1 ⟨10, 0, 0⟩),
   (0, .votorBlock 2 ⟨21, 1, 10⟩), (1, .votorBlock 2 ⟨22, 1, 10⟩), (2, .votorBlock 2 ⟨22, 1, 10⟩),
   (1, .votorBlock 3 ⟨32, 2, 22⟩), (2, .votorBlock 3 ⟨32, 2, 22⟩),
   (0, .recvVote ⟨.notar, 1, 10, 0⟩), (0, .recvVote ⟨.notar, 1, 10, 3⟩),
   (0, .poolBlock (2, 22) (1, 10)), (0, .recvVote ⟨.notar, 2, 21, 0⟩),
   (0, .recvVote ⟨.notar, 2, 22, 1⟩), (0, .recvVote ⟨.notar, 2, 22, 2⟩), (0, .recvVote ⟨.notar, 2, 22, 3⟩),
   (0, .pump), (0, .pump), (0, .pump), (0, .pump), (0, .pump),
   (0, .recvCert ⟨.notar, 2, 21, [0, 3], [], 60⟩), (0, .recvVote ⟨.nf, 2, 22, 0⟩),
   (0, .poolBlock (3, 32) (2, 22)), (0, .recvVote ⟨.skip, 3, 0, 0⟩),
   (0, .recvVote ⟨.notar, 3, 32, 1⟩), (0, .recvVote ⟨.notar, 3, 32, 2⟩), (0, .recvVote ⟨.notar, 3, 32, 3⟩),
   (0, .pump), (0, .pump), (0, .pump), (0, .pump), (0, .pump), (0, .pump), (0, .pump),
   (0, .recvVote ⟨.nf, 3, 32, 0⟩), (0, .votorBlock 4 ⟨40, 3, 32⟩), (0, .pump), (0, .pump), (0, .pump),
   (1, .recvCert ⟨.nf, 3, 32, [1, 2, 3], [0], 100⟩), (1, .votorBlock 4 ⟨40, 3, 32⟩), (1, .pump), (1, .pump),
   (0, .poolBlock (4, 40) (3, 32)), (0, .recvVote ⟨.notar, 4, 40, 0⟩), (0, .recvVote ⟨.notar, 4, 40, 1⟩)]

/-- **Finding 2** (defect D27 of `finality_tracker.rs`, found by this refinement proof; repaired in `/repo` by the `fix:` commit
    7ac7ffa, which `Model/Finality.lean` follows; `markNotarizedOld` / `markFastFinalizedOld` model the code before it). In this
    *valid* run with 19 % Byzantine stake — all correct nodes follow the protocol, agreement holds (`cluster_agreement`) — node
    X's finality tracker holds `Notarized(x)` for slot 2 (a notarization certificate for x = (2,21)) when the fast-finalization
    of f = (4,40) makes it walk the chain f → z → y = (2,22). The code before the fix asserted in `handle_implicitly_finalized`
    that the notarized block of slot 2 is y ("consensus safety violation") and the correct node X panicked. A notarized block
    need not be on the finalized chain: its slot can also hold a notar-fallback-certified block (safety makes a notarized block
    agree with a *directly* finalized one only: `Finality.Safe.notar_direct`). The statement: the run completes, no node
    panics, X's pool holds the fast-finalization certificate of f; `markNotarizedOld` / `markFastFinalizedOld`, applied to X's
    tracker state before the last operation (which both versions reach identically), panic on the fast-finalization. -/
theorem notarized_sibling_no_longer_panics :
    Valid (c par2) (init (c par2)) evs2 ∧ 5 * byzStake (c par2) < (c par2).stakes.sum ∧
    (List.range 4).all (fun i => !(run (init (c par2)) evs2 i).dead) = true ∧
    Pool.Event.panic ∉ (recvVote (run (init (c par2)) (evs2.take 45) 0) ⟨.notar, 4, 40, 1⟩).2.2 ∧
    (((run (init (c par2)) evs2 0).pool.getSlot 4).bind (·.cFf)).map (·.hash) = some 40 ∧
    (match Finality.markNotarizedOld (run (init (c par2)) (evs2.take 45) 0).pool.fin (4, 40) with
      | .ok t _ => (match Finality.markFastFinalizedOld t (4, 40) with | .panic => true | .ok _ _ => false)
      | .panic => false) = true ∧
    nodeRunOuts { pool := { epoch := (c par2).epoch 1 } } (proj 1 evs2) =
      [.notar 1 10 0 0, .notar 2 22 1 10, .notar 3 32 2 22, .notar 4 40 3 32, .timer 4, .cert .notarFallback 3 32] := by
  decide +kernel

end Findings

end AgModel.Cluster
