import AgModel.Model.NodeGlue
import AgModel.Props.C16
/-!
# C16 (node glue) — order and conditions of the side effects of `Alpenglow::handle_disseminator_shred`

Statements about `AgModel.NodeGlue.handleShred` (model of `src/consensus.rs:386-441`), for **all** inputs: every
verdict of `try_new`, either answer of `has_expected_type`, every outcome of `Disseminator::forward`, own node leader
or not, every answer of the blockstore.  Part (d) plugs the glue into the loss-free run of `AgModel.Route`
(Props/C16.lean) as the behaviour of every node and re-derives coverage from `rotor_run` / `turbine_run`.
That the real handler *is* this function is decided on every run by `harness/src/bin/ng.rs` + `drv_ng`.
-/
namespace AgModel.NodeGlue
open AgModel.Route

/-- the shred validates (`try_new` = Ok) and has the type its index demands -/
def Accepted (i : ShredIn) : Prop := i.verdict = .ok ∧ i.typeOk = true

/-- An accepted shred passes both checks and is forwarded; the blockstore follows unless `forward` failed or
    the own node leads the slot. -/
theorem handleShred_accepted (i : ShredIn) (h : Accepted i) :
    handleShred i = .readCache :: .validate .ok :: .typeCheck true :: .forward i.fwd ::
      if i.fwd = .panic ∨ i.ownIsLeader = true then []
      else .ingest i.bs :: if i.bs = .block then [.addBlock] else [] := by
  obtain ⟨v, t, f, l, b⟩ := i
  obtain ⟨hv, ht⟩ := h
  simp only at hv ht
  subst hv ht
  cases f with
  | panic => rfl
  | to ds =>
    cases l with
    | true => rfl
    | false => cases b <;> rfl

/-- A rejected shred ends the handler at the failing check; an equivocation flags the leader first. -/
theorem handleShred_rejected (i : ShredIn) (h : ¬ Accepted i) :
    ∃ es, handleShred i = .readCache :: .validate i.verdict :: es ∧
      (es = [] ∨ es = [.flag] ∨ es = [.typeCheck false]) := by
  obtain ⟨v, t, f, l, b⟩ := i
  cases v with
  | equivocation => exact ⟨_, rfl, .inr (.inl rfl)⟩
  | invalidSignature => exact ⟨_, rfl, .inl rfl⟩
  | ok =>
    cases t with
    | false => exact ⟨_, rfl, .inr (.inr rfl)⟩
    | true => exact absurd ⟨rfl, rfl⟩ h

/-- … so none of its effects leaves the handler: one that does shows that the shred was accepted. -/
theorem accepted_of_act {i : ShredIn} {pre post : List Eff} {e : Eff} (h : handleShred i = pre ++ e :: post)
    (he : e.isAct = true) : Accepted i :=
  Classical.byContradiction fun ha => by
    obtain ⟨es, hi, hes⟩ := handleShred_rejected i ha
    have hall : (handleShred i).all (fun e => !e.isAct) = true := by
      rw [hi]; rcases hes with rfl | rfl | rfl <;> rfl
    have := List.all_eq_true.mp hall e (h ▸ List.mem_append_right pre (List.mem_cons_self ..))
    rw [he] at this; cases this

theorem mem_pre_of_append_eq {α} (hd : List α) {tl pre post : List α} {e : α}
    (h : hd ++ tl = pre ++ e :: post) (he : e ∉ hd) : ∀ x ∈ hd, x ∈ pre := by
  -- `hd` is a prefix of `pre`, or `pre` one of `hd`: if a proper one, the cut element lies in `hd`
  rcases List.append_eq_append_iff.mp h with ⟨a, rfl, _⟩ | ⟨c, rfl, hc⟩
  · exact fun x hx => List.mem_append_left a hx
  · cases c with
    | nil => exact fun x hx => List.append_nil pre ▸ hx
    | cons c cs => exact absurd (List.mem_append_right pre ((List.cons.inj hc).1 ▸ List.mem_cons_self ..)) he

/-! ## (a) an accepted shred is forwarded exactly once - also by the slot's leader; a rejected one never -/

/-- **Forward exactly once.** Whatever `forward` does, whoever leads the slot, whatever the blockstore answers. -/
theorem forward_exactly_once (i : ShredIn) (h : Accepted i) :
    forwards (handleShred i) = 1 ∧ Eff.forward i.fwd ∈ handleShred i := by
  rw [handleShred_accepted i h]
  refine ⟨?_, by simp⟩
  split
  · rfl
  · split <;> rfl

/-- what an accepted shred puts on the network is exactly what `Disseminator::forward` does -/
theorem fwdOut_accepted (i : ShredIn) (h : Accepted i) : fwdOut (handleShred i) = i.fwd := by
  rw [handleShred_accepted i h]; rfl

/-- the case the Rotor leader depends on, spelled out -/
theorem leader_forwards (i : ShredIn) (h : Accepted i) (hl : i.ownIsLeader = true) :
    forwards (handleShred i) = 1 ∧ fwdOut (handleShred i) = i.fwd :=
  ⟨(forward_exactly_once i h).1, fwdOut_accepted i h⟩

/-- **Never when validation fails** (bad signature, equivocation, wrong type): no forward, no ingest, no block. -/
theorem rejected_no_effect (i : ShredIn) (h : ¬ Accepted i) :
    forwards (handleShred i) = 0 ∧ ingests (handleShred i) = 0 ∧ Eff.addBlock ∉ handleShred i ∧
      fwdOut (handleShred i) = .to [] := by
  obtain ⟨es, he, hes⟩ := handleShred_rejected i h
  rw [he]
  rcases hes with rfl | rfl | rfl <;> exact ⟨rfl, rfl, by simp, rfl⟩

/-- an equivocating shred flags the leader and nothing else happens -/
theorem equivocation_flags (i : ShredIn) (h : i.verdict = .equivocation) :
    handleShred i = [.readCache, .validate .equivocation, .flag] := by
  obtain ⟨v, t, f, l, b⟩ := i
  simp only at h
  subst h
  rfl

/-! ## (b) nothing leaves the handler before validation succeeded; forward precedes the blockstore -/

/-- **Nothing before validation.** Wherever a network send, a blockstore write or a pool write stands in the effect
    list, `try_new = Ok` and `has_expected_type = true` stand before it. -/
theorem nothing_before_validation (i : ShredIn) (pre post : List Eff) (e : Eff)
    (h : handleShred i = pre ++ e :: post) (he : e.isAct = true) :
    Eff.validate .ok ∈ pre ∧ Eff.typeCheck true ∈ pre := by
  rw [handleShred_accepted i (accepted_of_act h he)] at h
  have := mem_pre_of_append_eq [Eff.readCache, .validate .ok, .typeCheck true] h fun hm => by
    simp only [List.mem_cons, List.not_mem_nil, or_false] at hm
    rcases hm with rfl | rfl | rfl <;> cases he
  exact ⟨this _ (by simp), this _ (by simp)⟩

/-- **Forward before store**: the blockstore is only written after `forward` was called. -/
theorem forward_before_ingest (i : ShredIn) (pre post : List Eff) (r : BsRes)
    (h : handleShred i = pre ++ Eff.ingest r :: post) : ∃ o, Eff.forward o ∈ pre := by
  rw [handleShred_accepted i (accepted_of_act h rfl)] at h
  exact ⟨i.fwd, mem_pre_of_append_eq [Eff.readCache, .validate .ok, .typeCheck true, .forward i.fwd] h (by simp)
    _ (by simp)⟩

/-! ## (c) the leader's node never ingests its own disseminated shreds, but forwards them -/

theorem leader_never_ingests (i : ShredIn) (hl : i.ownIsLeader = true) :
    ingests (handleShred i) = 0 ∧ Eff.addBlock ∉ handleShred i ∧ (Accepted i → forwards (handleShred i) = 1) := by
  by_cases ha : Accepted i
  · rw [handleShred_accepted i ha, if_pos (Or.inr hl)]
    exact ⟨rfl, by simp, fun _ => rfl⟩
  · have := rejected_no_effect i ha
    exact ⟨this.2.1, this.2.2.1, fun h => absurd h ha⟩

/-- everybody else hands an accepted shred to the blockstore exactly once (after a successful `forward`), and calls
    `pool.add_block` iff the blockstore reports the block complete -/
theorem nonleader_ingests_once (i : ShredIn) (h : Accepted i) (hl : i.ownIsLeader = false) (ds : List Nat)
    (hf : i.fwd = .to ds) :
    ingests (handleShred i) = 1 ∧ (Eff.addBlock ∈ handleShred i ↔ i.bs = .block) := by
  rw [handleShred_accepted i h, if_neg (by rw [hf, hl]; simp)]
  split
  · rename_i hb; exact ⟨rfl, by simp [hb]⟩
  · rename_i hb; exact ⟨rfl, by simp [hb]⟩

/-! ## (d) every node runs this glue: fault-free dissemination reaches everyone -/

theorem rotorGlueRun_eq (n ldr : Nat) (committee : List Nat) (s : Nat) (bs : Nat → BsRes) :
    rotorGlueRun handleShred n ldr committee s (fun _ => .ok) (fun _ => true) bs = rotorRun n ldr committee s := by
  unfold rotorGlueRun rotorRun
  -- `fwdOut` stops at the first `forward`, which `handleShred` emits before it looks at `fwd`, the leader test or `bs`
  rfl

/-- **Rotor with the glue.** Every shred the leader sends (to relay `r = committee[s]`) is delivered to the relay and
    then to everybody but relay and leader - also when `r` is the leader itself: its own node's handler forwards. -/
theorem rotor_glue_run (n ldr : Nat) (committee : List Nat) (s r : Nat) (bs : Nat → BsRes)
    (hc : committee[s]? = some r) (hr : r < n) :
    rotorGlueRun handleShred n ldr committee s (fun _ => .ok) (fun _ => true) bs = r :: broadcastDests n r ldr := by
  rw [rotorGlueRun_eq]; exact (rotor_run n ldr committee s r hc hr).1

/-- every validator other than the leader receives the shred exactly once -/
theorem rotor_glue_cover (n ldr : Nat) (committee : List Nat) (s r v : Nat) (bs : Nat → BsRes)
    (hc : committee[s]? = some r) (hr : r < n) (hv : v < n) :
    (rotorGlueRun handleShred n ldr committee s (fun _ => .ok) (fun _ => true) bs).count v
      = if v = ldr then (if r = ldr then 1 else 0) else 1 := by
  rw [rotorGlueRun_eq]; exact rotor_cover n ldr committee s r v hc hr hv

/-- **exactly one relay broadcast**: the only node whose handler sends anything is the relay - the leader included -/
theorem rotor_glue_one_broadcast (n ldr own : Nat) (committee : List Nat) (s r : Nat) (bs : Nat → BsRes)
    (hc : committee[s]? = some r) (hr : r < n) :
    fwdOut (handleShred (rotorIn n ldr committee s (fun _ => .ok) (fun _ => true) bs own))
      = (if own = r then .to (broadcastDests n r ldr) else .to []) := by
  rw [fwdOut_accepted _ ⟨rfl, rfl⟩]
  exact rotor_one_broadcast n ldr own committee s r hc hr

/-- the shreds whose sampled relay is the leader: the leader's own node broadcasts them -/
theorem rotor_glue_leader_relay (n ldr : Nat) (committee : List Nat) (s : Nat) (bs : Nat → BsRes)
    (hc : committee[s]? = some ldr) (hr : ldr < n) :
    fwdOut (handleShred (rotorIn n ldr committee s (fun _ => .ok) (fun _ => true) bs ldr))
      = .to (broadcastDests n ldr ldr) := by
  rw [rotor_glue_one_broadcast n ldr ldr committee s ldr bs hc hr]; simp

/-- in that run every node but the leader stores the shred once, the leader never -/
theorem rotor_glue_ingests (n ldr v : Nat) (committee : List Nat) (s r : Nat) (bs : Nat → BsRes)
    (hc : committee[s]? = some r) (hr : r < n) :
    ingests (handleShred (rotorIn n ldr committee s (fun _ => .ok) (fun _ => true) bs v)) = if v = ldr then 0 else 1 := by
  by_cases h : v = ldr
  · rw [if_pos h]
    exact (leader_never_ingests _ (by simp [rotorIn, h])).1
  · rw [if_neg h]
    obtain ⟨ds, hds⟩ : ∃ ds, rotorForward n ldr v committee s = .to ds := by
      rw [rotor_one_broadcast n ldr v committee s r hc hr]; split <;> exact ⟨_, rfl⟩
    exact (nonleader_ingests_once _ ⟨rfl, rfl⟩ (by simp [rotorIn, h]) ds hds).1

/-- **Turbine with the glue**: the delivery sequence is the order; everybody receives every shred exactly once. -/
theorem turbine_glue_cover_once (perm : List Nat) (f ldr v : Nat) (bs : Nat → BsRes) (hnd : perm.Nodup) (hf : 1 ≤ f)
    (hb : perm.length * f + 1 < 2 ^ 64) (hl : ldr ∈ perm) (hv : v ∈ perm) :
    turbineGlueRun handleShred perm f ldr (fun _ => .ok) (fun _ => true) bs = perm ∧
      (turbineGlueRun handleShred perm f ldr (fun _ => .ok) (fun _ => true) bs).count v = 1 := by
  show turbineRun perm f ldr = perm ∧ (turbineRun perm f ldr).count v = 1
  exact ⟨(turbine_run perm f ldr hnd hf hb hl).1, turbine_cover_once perm f ldr v hnd hf hb hl hv⟩

/-- a node that rejects what it receives (here: everybody) forwards nothing: the run stops at the first receiver -/
theorem rejecting_nodes_stop_the_run (n ldr : Nat) (committee : List Nat) (s r : Nat) (bs : Nat → BsRes)
    (hc : committee[s]? = some r) (hr : r < n) :
    rotorGlueRun handleShred n ldr committee s (fun _ => .invalidSignature) (fun _ => true) bs = [r] := by
  have hrel := rotorRelay_eq hc hr
  have : (fun v => fwdOut (handleShred (rotorIn n ldr committee s (fun _ => Verdict.invalidSignature) (fun _ => true) bs v)))
      = fun _ => Out.to [] := by
    funext v
    exact (rejected_no_effect _ (fun h => Verdict.noConfusion h.1)).2.2.2
  unfold rotorGlueRun
  rw [this]
  simp only [rotorSend, hrel, outDests, Route.run]
  cases n <;> rfl

/-! ## the defective order: "leader returns before forward" loses the shreds whose relay is the leader -/

/-- 4 validators, leader 1, relay of the shred = the leader: with the real order everybody gets the shred … -/
theorem leader_relay_ok :
    rotorGlueRun handleShred 4 1 [1] 0 (fun _ => .ok) (fun _ => true) (fun _ => .stored) = [1, 0, 2, 3] := by decide

/-- … with the leader test moved above `forward` it reaches nobody but the leader itself -/
theorem leaderFirst_loses_leader_relay_shreds :
    rotorGlueRun handleShredLeaderFirst 4 1 [1] 0 (fun _ => .ok) (fun _ => true) (fun _ => .stored) = [1] ∧
      forwards (handleShredLeaderFirst ⟨.ok, true, .to [0, 2, 3], true, .stored⟩) = 0 := by decide

/-! ## all-to-all messages -/

/-- the pool is touched exactly once for a message whose signatures verify, never otherwise -/
theorem a2a_pool_iff_valid (k : A2AKind) (valid : Bool) (res : PoolRes) :
    ((handleA2A k valid res).countP (fun e => e = .addVote ∨ e = .addCert) = if valid then 1 else 0) ∧
      (handleA2A k valid res).head? = some (.validate k valid) := by
  refine ⟨?_, rfl⟩
  cases valid
  · rfl
  · cases k
    · cases res <;> rfl
    · rfl

/-! ## non-vacuity -/

example : handleShred ⟨.ok, true, .to [0, 2], false, .block⟩ =
    [.readCache, .validate .ok, .typeCheck true, .forward (.to [0, 2]), .ingest .block, .addBlock] := rfl
example : handleShred ⟨.ok, true, .to [0, 2], true, .block⟩ =
    [.readCache, .validate .ok, .typeCheck true, .forward (.to [0, 2])] := rfl
example : handleShred ⟨.ok, false, .to [0, 2], false, .stored⟩ = [.readCache, .validate .ok, .typeCheck false] := rfl
example : handleShred ⟨.invalidSignature, true, .to [0], false, .stored⟩ = [.readCache, .validate .invalidSignature] := rfl
example : render false (handleShred ⟨.ok, true, .to [0, 2], false, .block⟩) = "fwd 0 2 | store | block" := by decide
example : Accepted ⟨.ok, true, .to [], true, .err⟩ := ⟨rfl, rfl⟩
example : rotorGlueRun handleShred 5 1 [3, 1, 4] 0 (fun _ => .ok) (fun _ => true) (fun _ => .stored) = [3, 0, 2, 4] := by decide

end AgModel.NodeGlue
