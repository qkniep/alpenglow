import AgModel.Model.NodeGlue
/-!
# C09 at the node: votes / certificates through `Alpenglow::handle_all2all_message`

Theorems about `AgModel.NodeGlue.handleA2A` / `a2aNode` (Model/NodeGlue.lean: consensus.rs:345-382, then
pool.rs `add_valid_cert` → `PoolEvent::CertCreated` → votor.rs `handle_cert_created` → `All2All::broadcast`),
tied to the real node by the `a2a` family of `harness/src/bin/ng.rs` + `drv_ng`.
For ALL messages: nothing reaches the pool, is created or broadcast unless `Validated{Vote,Cert}::try_new` accepted the
message; effects come in the order validate → pool call → CertCreated events → re-broadcasts; a refused message
(invalid, or valid but answered `Err(_)` by the pool) has no effect beyond the (refused) pool call.
-/
namespace AgModel.NodeGlue

/-- an effect that changes / leaves the node: pool call, pool event, broadcast -/
def NodeEff.isAct : NodeEff → Bool
  | .glue .addVote | .glue .addCert | .certCreated _ | .bcast _ => true
  | _ => false

def NodeEff.isPoolCall : NodeEff → Bool
  | .glue .addVote | .glue .addCert => true
  | _ => false

def NodeEff.isBcast : NodeEff → Bool
  | .bcast _ => true
  | _ => false

def NodeEff.cert? : NodeEff → Option CertRef
  | .bcast c | .ignoreOld c | .certCreated c => some c
  | .glue _ => none

/-- the Votor reacts to every `CertCreated` exactly once, in order: re-broadcast or (old slot) drop -/
theorem votor_reacts_to_each (hf : Nat) (cs : List CertRef) :
    (votorCerts hf cs).1.filterMap NodeEff.cert? = cs ∧
      ∀ e ∈ (votorCerts hf cs).1, (∃ c, e = .bcast c) ∨ (∃ c, e = .ignoreOld c) := by
  induction cs generalizing hf with
  | nil => exact ⟨rfl, List.forall_mem_nil _⟩
  | cons c cs ih =>
    simp only [votorCerts]
    split
    · refine ⟨congrArg (c :: ·) (ih hf).1, fun e he => ?_⟩
      rcases List.mem_cons.1 he with rfl | he
      · exact .inr ⟨c, rfl⟩
      · exact (ih hf).2 e he
    · refine ⟨congrArg (c :: ·) (ih _).1, fun e he => ?_⟩
      rcases List.mem_cons.1 he with rfl | he
      · exact .inl ⟨c, rfl⟩
      · exact (ih _).2 e he

/-- only certificates the pool newly stored are ever broadcast -/
theorem bcast_only_created (hf : Nat) (cs : List CertRef) (c : CertRef)
    (h : NodeEff.bcast c ∈ (votorCerts hf cs).1) : c ∈ cs := by
  rw [← (votor_reacts_to_each hf cs).1]
  exact List.mem_filterMap.2 ⟨_, h, rfl⟩

/-- `highest_final_cert_slot` never decreases -/
theorem votor_hf_mono (hf : Nat) (cs : List CertRef) : hf ≤ (votorCerts hf cs).2 := by
  induction cs generalizing hf with
  | nil => exact Nat.le_refl hf
  | cons c cs ih =>
    simp only [votorCerts]
    split
    · exact ih hf
    · refine Nat.le_trans ?_ (ih _)
      split
      · exact Nat.le_max_left _ _
      · exact Nat.le_refl _

/-- the first effect is always the validation, with the verdict of `try_new` -/
theorem a2a_validate_first (k : A2AKind) (valid : Bool) (res : PoolRes) (cr : List CertRef) (hf : Nat) :
    (a2aNode k valid res cr hf).1.head? = some (.glue (.validate k valid)) := by
  unfold a2aNode
  split <;> rfl

/-- **a message that does not validate has no effect at all**: the effect list is the failed validation alone and
    the Votor's state is untouched - for every pool answer and every `created` the environment might claim -/
theorem a2a_invalid_no_effect (k : A2AKind) (res : PoolRes) (cr : List CertRef) (hf : Nat) :
    a2aNode k false res cr hf = ([.glue (.validate k false)], hf) := rfl

/-- **pool effects only after successful validation**: if any pool call, pool event or broadcast occurs, the message
    validated (and validation is the head of the list by `a2a_validate_first`) -/
theorem a2a_act_only_if_valid (k : A2AKind) (valid : Bool) (res : PoolRes) (cr : List CertRef) (hf : Nat)
    (e : NodeEff) (he : e ∈ (a2aNode k valid res cr hf).1) (ha : e.isAct = true) : valid = true := by
  cases valid with
  | true => rfl
  | false =>
    rw [a2a_invalid_no_effect] at he
    cases List.mem_singleton.1 he
    cases ha

/-- **order of effects** of an accepted message: validation, the one pool call, one `CertCreated` per certificate the
    pool newly stored (in the pool's order), then the Votor's reaction to each of them in the same order -/
theorem a2a_accepted_shape (k : A2AKind) (cr : List CertRef) (hf : Nat) :
    (a2aNode k true .ok cr hf).1 =
      .glue (.validate k true) :: .glue (match k with | .vote => .addVote | .cert => .addCert) ::
        (cr.map NodeEff.certCreated ++ (votorCerts hf cr).1) := by
  cases k <;> rfl

/-- a valid message is offered to the pool exactly once (`add_vote` for votes, `add_cert` for certificates), an invalid one never -/
theorem a2a_pool_call_count (k : A2AKind) (valid : Bool) (res : PoolRes) (cr : List CertRef) (hf : Nat) :
    (a2aNode k valid res cr hf).1.countP NodeEff.isPoolCall = if valid then 1 else 0 := by
  cases valid with
  | false => rfl
  | true =>
    cases res with
    | ok =>
      -- after the one pool call come only `CertCreated` events and the Votor's reactions
      have hv : (votorCerts hf cr).1.countP NodeEff.isPoolCall = 0 :=
        List.countP_eq_zero.2 fun e he => by
          rcases (votor_reacts_to_each hf cr).2 e he with ⟨c, rfl⟩ | ⟨c, rfl⟩ <;> simp [NodeEff.isPoolCall]
      have hc : (cr.map NodeEff.certCreated).countP NodeEff.isPoolCall = 0 :=
        List.countP_eq_zero.2 fun e he => by
          obtain ⟨c, _, rfl⟩ := List.mem_map.1 he
          simp [NodeEff.isPoolCall]
      rw [a2a_accepted_shape]
      cases k <;> simp [List.countP_cons, NodeEff.isPoolCall, hv, hc]
    | slashable => cases k <;> rfl
    | otherErr => cases k <;> rfl

/-- **a message the pool refuses (`Err(_)`: duplicate, out-of-range slot, slashable) creates and broadcasts nothing** -/
theorem a2a_refused_no_effect (k : A2AKind) (valid : Bool) (res : PoolRes) (cr : List CertRef) (hf : Nat)
    (h : res ≠ .ok) :
    (a2aNode k valid res cr hf).2 = hf ∧
      ∀ e ∈ (a2aNode k valid res cr hf).1, ∃ g, e = .glue g := by
  unfold a2aNode
  rw [if_neg (by simp [h])]
  exact ⟨rfl, fun e he => let ⟨g, _, hg⟩ := List.mem_map.1 he; ⟨g, hg.symm⟩⟩

/-- **an accepted new certificate is re-broadcast once**: a certificate message that validates and is
    new to the pool (`Ok(())`, the pool stores exactly it) whose slot is not below the window of the highest final
    certificate is broadcast once, after `add_cert` and after its `CertCreated` event; below that window it is dropped. -/
theorem a2a_new_cert_rebroadcast (c : CertRef) (hf : Nat) :
    (a2aNode .cert true .ok [c] hf).1 =
      [.glue (.validate .cert true), .glue .addCert, .certCreated c,
        if c.slot < votorFirstUnpruned hf then .ignoreOld c else .bcast c] := by
  unfold a2aNode handleA2A
  by_cases h : c.slot < votorFirstUnpruned hf <;> simp [votorCerts, h]

/-- a vote creates no broadcast unless it completed a certificate -/
theorem a2a_vote_no_cert_no_bcast (valid : Bool) (res : PoolRes) (hf : Nat) :
    (a2aNode .vote valid res [] hf).1.countP NodeEff.isBcast = 0 ∧ (a2aNode .vote valid res [] hf).2 = hf := by
  cases valid <;> cases res <;> exact ⟨rfl, rfl⟩

/-! ## non-vacuity -/

example : a2aNode .cert true .ok [⟨.final, 5⟩] 0 =
    ([.glue (.validate .cert true), .glue .addCert, .certCreated ⟨.final, 5⟩, .bcast ⟨.final, 5⟩], 5) := rfl
example : (a2aNode .cert true .ok [⟨.notar, 2⟩] 5).1 =
    [.glue (.validate .cert true), .glue .addCert, .certCreated ⟨.notar, 2⟩, .ignoreOld ⟨.notar, 2⟩] := rfl
example : (a2aNode .vote true .ok [⟨.notar, 3⟩, ⟨.fastFinal, 3⟩] 0) =
    ([.glue (.validate .vote true), .glue .addVote, .certCreated ⟨.notar, 3⟩, .certCreated ⟨.fastFinal, 3⟩,
      .bcast ⟨.notar, 3⟩, .bcast ⟨.fastFinal, 3⟩], 3) := rfl
example : (a2aNode .vote true .slashable [⟨.notar, 3⟩] 0).1 =
    [.glue (.validate .vote true), .glue .addVote, .glue .warnSlashable] := rfl
example : renderNode (a2aNode .cert true .ok [⟨.final, 5⟩] 0).1 = "add_cert | bcast final@5" := rfl

end AgModel.NodeGlue
