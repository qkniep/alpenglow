import AgModel.Model.PoolTrack
/-!
# C08 — pool half: bounds check and `PoolImpl::prune`

Model: `AgModel.PoolTrack` (certificate-only regime), after the `fix:` commits for D12, the
`s2n_waiting_parent_cert` leak and D27 (finality tracker).
-/
namespace AgModel.PoolTrack

/-- `SlotOutOfBounds` is the only way to be answered `oob`: every other path through `add_valid_cert` ends in
    `dup`, `ok` or a panic -/
theorem addCert_eq_oob (p : Pool) (k : CertKind) (slot h : Nat) :
    addCert p k slot h = .oob ↔ outOfBounds p slot = true := by
  unfold addCert
  by_cases hob : outOfBounds p slot = true
  · simp [hob]
  · simp only [hob]
    constructor
    · intro hh
      exfalso
      revert hh
      simp only [Bool.false_eq_true, if_false]
      repeat' split
      all_goals (intro hh; cases hh)
    · intro hh; cases hh

/-- "votes and certificates for slots that are not yet decided are still accepted ... once it is decided the node
    neither retains nor accepts anything older": a certificate is refused as out of bounds exactly when its slot
    is below the pruning watermark (`first_unpruned_slot`, below which every slot is decided:
    `Finality.watermark_prefix`) or at least two epochs above the highest finalized slot — whatever else the pool
    holds. -/
theorem oob_iff (p : Pool) (k : CertKind) (slot h : Nat) :
    addCert p k slot h = .oob ↔ (slot < p.fin.first ∨ slot ≥ p.fin.highest + 2 * Gen.SLOTS_PER_EPOCH) :=
  (addCert_eq_oob p k slot h).trans (by simp [outOfBounds, farFuture])

/-- an in-bounds certificate for an undecided slot is never answered `oob` (the answer that leaves the pool
    untouched: `Out.oob` carries no state) -/
theorem undecided_slot_accepted (p : Pool) (k : CertKind) (slot h : Nat)
    (h1 : p.fin.first ≤ slot) (h2 : slot < p.fin.highest + 2 * Gen.SLOTS_PER_EPOCH) :
    addCert p k slot h ≠ .oob := by
  intro hh
  rcases (oob_iff p k slot h).mp hh with h' | h'
  · exact absurd h' (Nat.not_lt.mpr h1)
  · exact absurd h2 (Nat.not_lt.mpr h')

/-- `PoolImpl::prune`: afterwards no per-slot vote/certificate state, no parent-ready state and no safe-to-notar
    waiting entry of a child below the watermark is retained, and the parent-ready root is the watermark. -/
theorem prune_bounded (p : Pool) :
    (∀ s, s < p.fin.first → (prune p).slots s = none ∧ (prune p).pr.states s = none) ∧
    (∀ e ∈ (prune p).s2n, p.fin.first ≤ e.2.1) ∧ (prune p).pr.root = p.fin.first ∧ (prune p).fin = p.fin := by
  refine ⟨?_, ?_, rfl, rfl⟩
  · intro s hs
    simp [prune, ParentReady.prune, hs]
  · intro e he
    simp only [prune, List.mem_filter, decide_eq_true_eq] at he
    exact he.2

/-- ... and nothing at or above the watermark is touched ("discarding old state never changes these answers") -/
theorem prune_lossless (p : Pool) (s : Nat) (h : p.fin.first ≤ s) :
    (prune p).slots s = p.slots s ∧ (prune p).pr.states s = p.pr.states s := by
  have : ¬ s < p.fin.first := Nat.not_lt.mpr h
  simp [prune, ParentReady.prune, this]

/-! ### witnesses of the repaired defects (evaluated by the kernel) -/

def runWith (stepf : Pool → Op → Out) (p : Pool) : List Op → Option Pool
  | [] => some p
  | op :: rest =>
    match stepf p op with
    | .ok p1 _ _ => runWith stepf p1 rest
    | .dup p1 => runWith stepf p1 rest
    | .oob => runWith stepf p rest
    | .panic => none

def stepOld (p : Pool) : Op → Out
  | .cert k s h => addCert p k s h
  | .block b q => addBlockOld p b q

def summary (p : Pool) : Nat × Nat × Bool × Nat := (p.fin.first, p.pr.root, (p.slots 1).isSome, p.s2n.length)

/-- D12: block (3,3) is fast-finalized, its parent (1,1) notarized, slot 2 skip-certified.  Registering the link
    3 → 1 → 0 through `add_block` finalizes (1,1) and moves the watermark to 3.  The old `add_block` keeps the
    per-slot state of slot 1, the parent-ready root at 0 and both waiting entries; the repaired one prunes in the
    same step. -/
theorem d12_old_add_block_does_not_prune :
    (runWith stepOld init [.cert .fastFinal 3 3, .cert .notar 1 1, .cert .skip 2 0, .block (1, 1) (0, 0),
        .block (3, 3) (1, 1)]).map summary = some (3, 0, true, 2) ∧
    (runWith step init [.cert .fastFinal 3 3, .cert .notar 1 1, .cert .skip 2 0, .block (1, 1) (0, 0),
        .block (3, 3) (1, 1)]).map summary = some (3, 3, false, 1) := by
  decide

def addCertOld (p : Pool) (k : CertKind) (slot h : Nat) : Out :=
  -- `addCert` with `pruneOld` in `handle_finalization`, notar path only (what the witness needs)
  if outOfBounds p slot then .oob
  else
    let p0 := putSlot p slot (getSlot p slot)
    if isDuplicate (getSlot p0 slot) k h then .dup p0
    else
      let p1 := putSlot p0 slot (storeCert (getSlot p0 slot) k h)
      match finalityOf p1 k slot h with
      | none => .ok p1 [] []
      | some .panic => .panic
      | some (.ok f1 ev) =>
        match ParentReady.handleFinalization p1.pr ev with
        | none => .panic
        | some (pr1, a1, w1) =>
          let p2 := pruneOld { p1 with fin := f1, pr := pr1 }
          match k with
          | .notar =>
            match s2nGet p2.s2n (slot, h) with
            | none => .ok p2 a1 w1
            | some child =>
              if (getSlot p2 child.1).known.contains child.2 then .ok p2 a1 w1 else .panic
          | _ => .ok p2 a1 w1

/-- The pruned-child lookup: with `pruneOld` (no s2n pruning) the notarization certificate of (1,1) finds the waiting
    child (2,9) whose slot state was just pruned and panics (`"parent not known"`); with the repaired `prune` the run
    completes. -/
theorem s2n_old_pruned_child_panics :
    (runWith (fun p op => match op with | .cert k s h => addCertOld p k s h | .block b q => addBlockOld p b q) init
      [.block (2, 9) (1, 1), .cert .final 1 0, .cert .fastFinal 2 8, .cert .fastFinal 3 7, .cert .notar 1 1]).isNone = true ∧
    (runWith step init
      [.block (2, 9) (1, 1), .cert .final 1 0, .cert .fastFinal 2 8, .cert .fastFinal 3 7, .cert .notar 1 1]).map summary
      = some (3, 3, false, 0) := by
  decide

/-- D27 at pool level (certificate-only regime): the notarization certificate of `(4,5)`, the block `(8,9)` with parent
    `(4,4)` and the fast-finalization certificate of `(8,9)`, in both arrival orders of the sibling's certificate:
    the repaired pool runs through (finality tracker *and* parent-ready tracker) and ends with highest finalized
    slot 8 and slot 4 `ImplicitlyFinalized(4)`.  (With the finality tracker before the D27 fix both orders panic:
    `Finality.d27_old_panics`.) -/
theorem d27_pool_runs :
    (runWith step init [.cert .notar 4 5, .block (8, 9) (4, 4), .cert .fastFinal 8 9]).map
        (fun p => (p.fin.highest, p.fin.status 4)) = some (8, some (.implFinalized 4)) ∧
    (runWith step init [.block (8, 9) (4, 4), .cert .fastFinal 8 9, .cert .notar 4 5]).map
        (fun p => (p.fin.highest, p.fin.status 4)) = some (8, some (.implFinalized 4)) := by
  decide +kernel

end AgModel.PoolTrack
