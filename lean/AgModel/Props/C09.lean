import AgModel.Proofs.Cert
/-!
# C09 — only authentic votes and sufficiently backed certificates are admitted

All statements are about `AgModel.Cert` (model of `ValidatedVote::try_new`, `ValidatedCert::try_new`,
`Cert::{check_threshold, check_sig}`, `AggregateSignature::{verify, is_signer, signers}`,
`Fraction::is_met`, `read_bitvec`). BLS signatures are idealised: a signature value is the multiset
of its parts `(key, payload)`; verification is multiset equality ("unless a forgery").
`e.keyOf i` is the voting key of validator `i`; `e.KeysDistinct` says distinct validators have
distinct voting keys (needed only where a *signer* is recovered from a signature).
-/
namespace AgModel.Cert

/-- **Exact verdict of vote admission**, for every epoch and every vote: unknown signer first, then
    the signature must be *exactly* the named validator's signature over *exactly* this vote's
    (kind, slot, hash). No input panics. -/
theorem vote_verdict (e : Epoch) (v : Vote) :
    validateVote e v =
      if v.signer ≥ e.n then .err .unknownSigner
      else if v.sig = [⟨e.keyOf v.signer, v.payload⟩] then .ok
      else .err .invalidSignature := by
  unfold validateVote
  by_cases h : v.signer ≥ e.n
  · rw [if_pos h, if_pos h]
  · obtain ⟨val, hv, hkey⟩ := e.vals_get v.signer (Nat.not_le.1 h)
    rw [if_neg h, if_neg h, hv]
    simp only [verifyInd_iff, hkey]

/-- A vote is admitted **iff** the validator it names belongs to the epoch and the signature is that
    validator's signature over exactly this vote's kind, slot and block hash. -/
theorem vote_admitted_iff (e : Epoch) (v : Vote) :
    validateVote e v = .ok ↔ v.signer < e.n ∧ v.sig = [⟨e.keyOf v.signer, v.payload⟩] := by
  rw [vote_verdict]
  by_cases h : v.signer ≥ e.n
  · simp [h]; omega
  · by_cases hs : v.sig = [⟨e.keyOf v.signer, v.payload⟩]
    · simp [h, hs]; omega
    · simp [h, hs]

/-- Vote validation never panics (any epoch, also the empty one; any signer index). -/
theorem validateVote_total (e : Epoch) (v : Vote) : validateVote e v ≠ .panic := by
  rw [vote_verdict]; split
  · simp
  · split <;> simp

/-- A signature admits at most one vote: if two votes carrying the same signature value are both
    admitted they agree in kind, slot, hash and (keys distinct) signer. Hence every alteration of
    kind / slot / hash / signer of an admitted vote that keeps the signature, and every transplant
    of a signature onto another vote, is rejected. -/
theorem vote_sig_binds (e : Epoch) (hk : e.KeysDistinct) (v v' : Vote) (hs : v'.sig = v.sig)
    (h : validateVote e v = .ok) (h' : validateVote e v' = .ok) : v' = v := by
  rw [vote_admitted_iff] at h h'
  obtain ⟨hn, hsig⟩ := h
  obtain ⟨hn', hsig'⟩ := h'
  rw [hs, hsig] at hsig'
  simp only [List.cons.injEq, Part.mk.injEq, and_true] at hsig'
  have hi := e.keyOf_inj hk _ _ hn hn' hsig'.1
  cases v; cases v'; cases hs; cases hsig'.2; cases hi; rfl

/-- ... and the rejection is an error, not a panic. -/
theorem vote_mutation_rejected (e : Epoch) (hk : e.KeysDistinct) (v v' : Vote) (hs : v'.sig = v.sig)
    (h : validateVote e v = .ok) (hne : v' ≠ v) : ∃ err, validateVote e v' = .err err := by
  cases hv : validateVote e v' with
  | ok => exact absurd (vote_sig_binds e hk v v' hs h hv) hne
  | err x => exact ⟨x, rfl⟩
  | panic => exact absurd hv (validateVote_total e v')

theorem checkSig_true_iff (e : Epoch) (c : Cert) :
    checkSig e c = some true ↔ ∀ h ∈ c.halves, h.1.verify h.2 e.pks = some true := by
  rw [checkSig, allOpt_map_some _ _ _ fun h _ => Agg.verify_eq .., Option.some.injEq, List.all_eq_true]
  simp only [Agg.verify_eq, Option.some.injEq]

/-- **Exact verdict of certificate admission**: with total stake 0 the `debug_assert!` of `Fraction::is_met` fires;
    otherwise the threshold test comes first, then the signature test, and no input panics. -/
theorem cert_verdict (e : Epoch) (c : Cert) :
    validateCert e c =
      if e.total = 0 then .panic
      else if stakeWhere c.marks 0 e.vals * c.threshold.2 ≥ e.total * c.threshold.1 then
        if checkSig e c = some true then .ok else .err .invalidSignature
      else .err .insufficientStake := by
  unfold validateCert checkThreshold isMet
  by_cases ht : e.total = 0
  · rw [if_pos ht, if_pos ht]
  · rw [if_neg ht, if_neg ht]
    by_cases hm : stakeWhere c.marks 0 e.vals * c.threshold.2 ≥ e.total * c.threshold.1
    · rw [if_pos hm, decide_eq_true hm]
      cases hc : checkSig e c with
      | none =>
        -- no half panics: `Agg.verify` always returns
        rw [checkSig, allOpt_map_some _ _ _ fun h _ => Agg.verify_eq ..] at hc
        cases hc
      | some b => cases b <;> simp
    · rw [if_neg hm, decide_eq_false hm]

theorem validateCert_ok_iff (e : Epoch) (c : Cert) :
    validateCert e c = .ok ↔
      e.total ≠ 0 ∧ stakeWhere c.marks 0 e.vals * c.threshold.2 ≥ e.total * c.threshold.1 ∧ checkSig e c = some true := by
  rw [cert_verdict]
  by_cases ht : e.total = 0
  · simp [ht]
  · by_cases hm : stakeWhere c.marks 0 e.vals * c.threshold.2 ≥ e.total * c.threshold.1
    · by_cases hs : checkSig e c = some true <;> simp [ht, hm, hs]
    · simp [ht, hm]

theorem admitted_half_verifies {e : Epoch} {c : Cert} (h : validateCert e c = .ok) {a : Agg} {p : Payload}
    (ha : (a, p) ∈ c.halves) : a.verify p e.pks = some true :=
  (checkSig_true_iff e c).1 ((validateCert_ok_iff e c).1 h).2.2 _ ha

/-- **A certificate is admitted iff** the distinct stake of the validators marked in any present
    half meets the certificate type's threshold, and every present half has a bitmask of exactly
    `n` bits, at least one signer, and an aggregate that is exactly the marked signers' signatures
    over exactly the payload the certificate type binds that half to (kind, slot, hash). -/
theorem cert_admitted_iff (e : Epoch) (c : Cert) :
    validateCert e c = .ok ↔
      e.total ≠ 0 ∧
      stakeWhere c.marks 0 e.vals * c.threshold.2 ≥ e.total * c.threshold.1 ∧
      ∀ h ∈ c.halves, h.1.bits.length = e.n ∧ h.1.signers ≠ [] ∧
        h.1.sig.Perm (h.1.signers.map (fun i => (⟨e.keyOf i, h.2⟩ : Part))) := by
  rw [validateCert_ok_iff, checkSig_true_iff]
  simp only [Agg.verify_true_iff, e.pks_length]
  rfl

/-- Certificate validation never panics, for every epoch with non-zero total stake (with total
    stake 0 the `debug_assert!` in `Fraction::is_met` fires in debug builds), every certificate,
    every bitmask length, every marked index. -/
theorem validateCert_total (e : Epoch) (c : Cert) (ht : e.total ≠ 0) : validateCert e c ≠ .panic := by
  rw [cert_verdict, if_neg ht]
  split
  · split <;> simp
  · simp

/-- The stake figure a certificate declares plays no role in admission. -/
theorem declared_stake_irrelevant (e : Epoch) (c : Cert) (st : Nat) :
    validateCert e (c.withDeclared st) = validateCert e c := by
  cases c <;> rfl

/-- **Backing.** An admitted certificate is backed by a duplicate-free set `S` of validators of the
    epoch, each of which really signed (its key's signature over one of the certificate's own
    payloads is a part of the corresponding aggregate), whose stake - each validator counted once
    - meets the threshold of the certificate type. -/
theorem cert_backed (e : Epoch) (c : Cert) (h : validateCert e c = .ok) :
    ∃ S : List Nat, S.Nodup ∧
      (∀ i ∈ S, i < e.n ∧ ∃ hf ∈ c.halves, (⟨e.keyOf i, hf.2⟩ : Part) ∈ hf.1.sig) ∧
      stakeOf e S * c.threshold.2 ≥ e.total * c.threshold.1 := by
  obtain ⟨_, hst, _⟩ := (validateCert_ok_iff e c).1 h
  refine ⟨(List.range e.n).filter c.marks, List.Pairwise.filter _ List.nodup_range, fun i hi => ?_, ?_⟩
  · obtain ⟨hi, hm⟩ := List.mem_filter.1 hi
    obtain ⟨hf, hmem, hsg⟩ := List.any_eq_true.1 hm
    exact ⟨List.mem_range.1 hi, hf, hmem,
      (mem_sig_iff (admitted_half_verifies h hmem) _).2 ⟨i, (mem_signers_iff hf.1 i).2 hsg, rfl⟩⟩
  · rw [← stakeWhere_eq_stakeOf]; exact hst

/-- The counted stake never exceeds the total (each validator is counted at most once, however many
    halves mark it). -/
theorem counted_stake_le_total (e : Epoch) (c : Cert) : stakeWhere c.marks 0 e.vals ≤ e.total :=
  stakeWhere_le _ _ _

/-- An aggregate signature value verifies for at most one payload: an aggregate accepted in some
    half of an admitted certificate is not accepted under any other (kind, slot, hash) - in
    particular not in the other half of a mixed certificate, and not for another slot or block. -/
theorem agg_payload_unique (e : Epoch) (c c' : Cert) (h : validateCert e c = .ok) (h' : validateCert e c' = .ok)
    (a a' : Agg) (p p' : Payload) (ha : (a, p) ∈ c.halves) (ha' : (a', p') ∈ c'.halves) (hs : a.sig = a'.sig) :
    p = p' :=
  verify_payload_unique a a' p p' e.pks hs (admitted_half_verifies h ha) (admitted_half_verifies h' ha')

/-- ... and (keys distinct) for exactly one signer set: any change of the bitmask of an admitted
    certificate that keeps the signature is rejected. -/
theorem agg_signers_unique (e : Epoch) (hk : e.KeysDistinct) (c c' : Cert) (h : validateCert e c = .ok)
    (h' : validateCert e c' = .ok) (a a' : Agg) (p p' : Payload) (ha : (a, p) ∈ c.halves)
    (ha' : (a', p') ∈ c'.halves) (hs : a.sig = a'.sig) : a = a' := by
  cases agg_payload_unique e c c' h h' a a' p p' ha ha' hs
  have hb := verify_bits_unique e hk a a' p hs (admitted_half_verifies h ha) (admitted_half_verifies h' ha')
  cases a; cases a'; cases hs; cases hb; rfl

theorem admitted_has_half {e : Epoch} {c : Cert} (h : validateCert e c = .ok) : c.halves ≠ [] := by
  obtain ⟨ht, hst, _⟩ := (validateCert_ok_iff e c).1 h
  intro hh
  have hm : c.marks = fun _ => false := by funext i; simp [Cert.marks, hh]
  rw [hm, stakeWhere_false, Nat.zero_mul] at hst
  have : c.threshold.1 ≠ 0 := by cases c <;> exact Nat.succ_ne_zero _
  exact this ((Nat.mul_eq_zero.1 (Nat.le_zero.1 hst)).resolve_left ht)

/-- **An aggregate moved under another payload is refused.** If `c` is admitted and `c'` has the same
    threshold and marks the same validators (so it passes the stake test too) but carries one of the
    aggregates of `c` for a different payload, then `c'` fails the signature test. -/
theorem rejected_of_payload_clash (e : Epoch) (c c' : Cert) (h : validateCert e c = .ok)
    (hth : c'.threshold = c.threshold) (hm : c'.marks = c.marks) (a : Agg) (p p' : Payload)
    (ha : (a, p) ∈ c.halves) (ha' : (a, p') ∈ c'.halves) (hne : p ≠ p') :
    validateCert e c' = .err .invalidSignature := by
  obtain ⟨ht, hst, _⟩ := (validateCert_ok_iff e c).1 h
  rw [cert_verdict e c', if_neg ht, hth, hm, if_pos hst, if_neg]
  intro hs
  exact hne (verify_payload_unique a a p p' e.pks rfl (admitted_half_verifies h ha) ((checkSig_true_iff e c').1 hs _ ha'))

/-- A certificate of two optional halves with its halves exchanged: whichever half is present clashes. -/
theorem half_swap_rejected (e : Epoch) (c c' : Cert) (h : validateCert e c = .ok) (a1 a2 : Option Agg) (p1 p2 : Payload)
    (hp : p1 ≠ p2) (hc : c.halves = optHalf a1 p1 ++ optHalf a2 p2) (hc' : c'.halves = optHalf a2 p1 ++ optHalf a1 p2)
    (hth : c'.threshold = c.threshold) :
    validateCert e c' = .err .invalidSignature := by
  have hm : c'.marks = c.marks := by
    funext i
    cases a1 <;> cases a2 <;> simp [Cert.marks, hc, hc', optHalf, Bool.or_comm]
  have hne := admitted_has_half h
  cases a1 with
  | some x =>
    exact rejected_of_payload_clash e c c' h hth hm x p1 p2 (by simp [hc, optHalf]) (by simp [hc', optHalf]) hp
  | none =>
    cases a2 with
    | some y =>
      exact rejected_of_payload_clash e c c' h hth hm y p2 p1 (by simp [hc, optHalf]) (by simp [hc', optHalf]) (Ne.symm hp)
    | none => exact absurd hc hne

/-- Swapping the two halves of an admitted notar-fallback certificate is rejected with
    `InvalidSignature` (whatever stake is declared). -/
theorem half_swap_rejected_nf (e : Epoch) (s hsh st st' : Nat) (a1 a2 : Option Agg)
    (h : validateCert e (.notarFallback s hsh a1 a2 st) = .ok) :
    validateCert e (.notarFallback s hsh a2 a1 st') = .err .invalidSignature :=
  half_swap_rejected e _ _ h a1 a2 (.notar s hsh) (.notarFallback s hsh) nofun rfl rfl rfl

/-- Swapping the two halves of an admitted skip certificate is rejected with
    `InvalidSignature` (whatever stake is declared). -/
theorem half_swap_rejected_skip (e : Epoch) (s st st' : Nat) (a1 a2 : Option Agg)
    (h : validateCert e (.skip s a1 a2 st) = .ok) :
    validateCert e (.skip s a2 a1 st') = .err .invalidSignature :=
  half_swap_rejected e _ _ h a1 a2 (.skip s) (.skipFallback s) nofun rfl rfl rfl

/-- Admission looks at a certificate through its halves and its threshold only, and is monotone in the threshold:
    with the same halves, the same denominator and a numerator that is not larger, an admitted certificate stays admitted. -/
theorem admitted_of_weaker {e : Epoch} {c c' : Cert} (h : validateCert e c = .ok) (hh : c'.halves = c.halves)
    (hd : c'.threshold.2 = c.threshold.2) (hn : c'.threshold.1 ≤ c.threshold.1) : validateCert e c' = .ok := by
  obtain ⟨ht, hst, hs⟩ := (validateCert_ok_iff e c).1 h
  refine (validateCert_ok_iff e c').2 ⟨ht, ?_, ?_⟩
  · unfold Cert.marks
    rw [hh, hd]
    exact Nat.le_trans (Nat.mul_le_mul_left _ hn) hst
  · rw [checkSig, hh]
    exact hs

/-- A fast-final certificate is a notar aggregate with a higher threshold: whatever is admitted as
    fast-final is admitted as notarization for the same slot and block (the converse needs 4/5). -/
theorem fastFinal_implies_notar (e : Epoch) (s hsh st st' : Nat) (a : Agg)
    (h : validateCert e (.fastFinal s hsh a st) = .ok) : validateCert e (.notar s hsh a st') = .ok :=
  admitted_of_weaker h rfl rfl
    (show AgModel.Gen.QUORUM_THRESHOLD_NUM ≤ AgModel.Gen.STRONG_QUORUM_THRESHOLD_NUM by decide)

/-- The thresholds the model uses are the constants of the source: 3/5 for notar (notar-fallback, skip and final
    certificates share its arm of `Cert.threshold`), 4/5 for fast-final. -/
theorem thresholds_are_source :
    (∀ s h a st, (Cert.notar s h a st).threshold = (AgModel.Gen.QUORUM_THRESHOLD_NUM, AgModel.Gen.QUORUM_THRESHOLD_DEN)) ∧
    (∀ s h a st, (Cert.fastFinal s h a st).threshold = (AgModel.Gen.STRONG_QUORUM_THRESHOLD_NUM, AgModel.Gen.STRONG_QUORUM_THRESHOLD_DEN)) ∧
    AgModel.Gen.QUORUM_THRESHOLD_NUM * 5 = 3 * AgModel.Gen.QUORUM_THRESHOLD_DEN ∧
    AgModel.Gen.STRONG_QUORUM_THRESHOLD_NUM * 5 = 4 * AgModel.Gen.STRONG_QUORUM_THRESHOLD_DEN := by
  refine ⟨fun _ _ _ _ => rfl, fun _ _ _ _ => rfl, by decide, by decide⟩

/-- `read_bitvec`: whatever `num_bits` and word vector arrive on the wire, a decoded bitmask has exactly
    `num_bits ≤ 64·⌈max_bits/64⌉` bits; longer claims are decode errors. -/
theorem readBitvec_length (maxBits numBits : Nat) (ws : List Nat) (bits : List Bool)
    (h : readBitvec maxBits numBits ws = some bits) :
    bits.length = numBits ∧ numBits ≤ 64 * ((maxBits + 63) / 64) := by
  obtain ⟨h1, h⟩ := Option.ite_none_left_eq_some.1 h
  obtain ⟨h2, h⟩ := Option.ite_none_left_eq_some.1 h
  cases h
  rw [List.length_take, bitsOfWords_length]
  exact ⟨Nat.min_eq_left (Nat.not_lt.1 h2), Nat.le_trans (Nat.not_lt.1 h2) (Nat.mul_le_mul_left 64 (Nat.not_lt.1 h1))⟩

/-! ## non-vacuity and concrete witnesses -/

private def ep : Epoch := ⟨[⟨10, 3⟩, ⟨11, 1⟩, ⟨12, 1⟩, ⟨13, 1⟩, ⟨14, 4⟩]⟩   -- total stake 10

/-- A concrete epoch with unequal stakes: an honest vote is admitted; the same signature under
    another kind / slot / hash / signer, a signature by an outsider, an out-of-range signer are
    rejected with the right error. -/
example :
    validateVote ep ⟨.notar 5 7, [⟨12, .notar 5 7⟩], 2⟩ = .ok ∧
    validateVote ep ⟨.notarFallback 5 7, [⟨12, .notar 5 7⟩], 2⟩ = .err .invalidSignature ∧
    validateVote ep ⟨.notar 6 7, [⟨12, .notar 5 7⟩], 2⟩ = .err .invalidSignature ∧
    validateVote ep ⟨.notar 5 8, [⟨12, .notar 5 7⟩], 2⟩ = .err .invalidSignature ∧
    validateVote ep ⟨.notar 5 7, [⟨12, .notar 5 7⟩], 3⟩ = .err .invalidSignature ∧
    validateVote ep ⟨.notar 5 7, [⟨99, .notar 5 7⟩], 2⟩ = .err .invalidSignature ∧
    validateVote ep ⟨.notar 5 7, [⟨12, .notar 5 7⟩], 5⟩ = .err .unknownSigner := by decide

/-- Certificates on the same epoch: stake 6 of 10 (validators 0,1,2,3) is admitted as notar and
    rejected as fast-final; validators 0 and 4 in *both* halves of a skip certificate count once
    (7 of 10: admitted) while {1,2,3} in both halves (3 of 10, 6 if double-counted) is rejected;
    a wrong declared stake changes nothing; bitmask of length 6 or 4 is rejected. -/
example :
    let sigN (ks : List Nat) : Sig := ks.map (fun k => ⟨k, .notar 5 7⟩)
    let sigS (ks : List Nat) : Sig := ks.map (fun k => ⟨k, .skip 5⟩)
    let sigSF (ks : List Nat) : Sig := ks.map (fun k => ⟨k, .skipFallback 5⟩)
    validateCert ep (.notar 5 7 ⟨sigN [10, 11, 12, 13], [true, true, true, true, false]⟩ 0) = .ok ∧
    validateCert ep (.fastFinal 5 7 ⟨sigN [10, 11, 12, 13], [true, true, true, true, false]⟩ 10) = .err .insufficientStake ∧
    validateCert ep (.skip 5 (some ⟨sigS [10, 14], [true, false, false, false, true]⟩)
                             (some ⟨sigSF [14, 10], [true, false, false, false, true]⟩) 14) = .ok ∧
    validateCert ep (.skip 5 (some ⟨sigS [11, 12, 13], [false, true, true, true, false]⟩)
                             (some ⟨sigSF [11, 12, 13], [false, true, true, true, false]⟩) 6) = .err .insufficientStake ∧
    validateCert ep (.notar 5 7 ⟨sigN [10, 11, 12, 13], [true, true, true, true, false, false]⟩ 6) = .err .invalidSignature ∧
    validateCert ep (.notar 5 7 ⟨sigN [10, 11, 12, 13], [true, true, true, true]⟩ 6) = .err .invalidSignature ∧
    validateCert ep (.notar 5 8 ⟨sigN [10, 11, 12, 13], [true, true, true, true, false]⟩ 6) = .err .invalidSignature ∧
    validateCert ep (.notar 5 7 ⟨sigN [10, 11, 12], [true, true, true, true, false]⟩ 6) = .err .invalidSignature := by
  decide

end AgModel.Cert
