import AgModel.Proofs.PoolCerts
/-!
# C04 — Vote admission: one countable vote per validator, slashing flagged order-free

About the admission filter of the pool model (`Pool.addVote` = bounds, `check_slashable_offence`,
`should_ignore_vote`) and the vote stores of a slot, for every reachable slot state and every vote.
-/
namespace AgModel.Pool

/-- the verdict of `Pool::add_vote` is: out of bounds, else the slashable offence found by
    `check_slashable_offence`, else duplicate if `should_ignore_vote`, else accepted. -/
theorem addVote_verdict (p : Pool) (v : Vote) (hs : v.signer < p.epoch.n) :
    (p.addVote v).2.1 =
      if p.outOfBounds v.slot then .oob
      else match (p.slotState v.slot).2.checkSlashable v with
        | some o => .slash o
        | none => if (p.slotState v.slot).2.shouldIgnore v then .dup else .ok := by
  unfold Pool.addVote
  split
  · rfl
  · have : ¬ v.signer ≥ p.epoch.n := by omega
    simp only [this, if_false]
    split <;> rename_i h <;> simp only [h]
    split <;> rfl

/-- the bounds test comes first in `Pool::add_vote`: whatever the signer, the verdict is `oob` exactly when the slot is out of bounds -/
theorem oob_iff_outOfBounds (p : Pool) (v : Vote) : (p.addVote v).2.1 = .oob ↔ p.outOfBounds v.slot = true := by
  unfold Pool.addVote
  split
  · rename_i h; exact ⟨fun _ => h, fun _ => rfl⟩
  · rename_i h
    refine ⟨fun hv => ?_, fun hb => absurd hb h⟩
    split at hv
    · cases hv
    · dsimp only at hv
      split at hv
      · cases hv
      · split at hv <;> cases hv

/-- A vote is refused as out of bounds exactly below the pruning watermark or
    `2 * SLOTS_PER_EPOCH` or more above the highest finalized slot. -/
theorem slot_bounds (p : Pool) (v : Vote) :
    ((p.addVote v).2.1 = .oob ↔ (v.slot < p.fin.first ∨ v.slot ≥ p.fin.highest + 2 * Gen.SLOTS_PER_EPOCH))
      ∨ v.signer ≥ p.epoch.n :=
  Or.inl ((oob_iff_outOfBounds p v).trans (by unfold Pool.outOfBounds; simp))

def Stored (st : SlotState) (x : Vote) : Prop :=
  match x.kind with
  | .notar => st.vNotar.lookup x.signer = some x.hash
  | .nf => (x.signer, x.hash) ∈ st.vNf
  | .skip => x.signer ∈ st.vSkip
  | .sf => x.signer ∈ st.vSf
  | .final => x.signer ∈ st.vFin

/-- the slashable conflicts of the protocol (symmetric by definition) -/
def conflict (x y : Vote) : Option Offence :=
  match x.kind, y.kind with
  | .notar, .notar => if x.hash ≠ y.hash then some .notarDifferentHash else none
  | .skip, .notar => some .skipAndNotarize
  | .notar, .skip => some .skipAndNotarize
  | .final, .skip => some .skipAndFinalize
  | .skip, .final => some .skipAndFinalize
  | .final, .sf => some .skipAndFinalize
  | .sf, .final => some .skipAndFinalize
  | .final, .nf => some .nfAndFinalize
  | .nf, .final => some .nfAndFinalize
  | _, _ => none

theorem conflict_symm (x y : Vote) : conflict x y = conflict y x := by
  unfold conflict
  cases x.kind <;> cases y.kind <;> simp
  by_cases h : x.hash = y.hash
  · simp [h]
  · have : ¬ y.hash = x.hash := fun e => h e.symm
    simp [h, this]

/-- equivalent repeats: the same vote, or skip / skip-fallback of one validator, or notar /
    notar-fallback for the same block -/
def equivalent (x y : Vote) : Bool :=
  match x.kind, y.kind with
  | .notar, .notar => true
  | .notar, .nf => x.hash == y.hash
  | .nf, .notar => x.hash == y.hash
  | .nf, .nf => x.hash == y.hash
  | .skip, .skip | .skip, .sf | .sf, .skip | .sf, .sf => true
  | .final, .final => true
  | _, _ => false

/-- **A refusal always has a reason**: a vote is reported slashable only if a conflicting vote of the
    same validator is stored (and the reported offence is that conflict); it is refused as a
    duplicate only if an equivalent vote of the same validator is stored. Hence a vote that neither
    conflicts with nor repeats an accepted vote of its validator is never refused or reported. -/
theorem refusal_reason (st : SlotState) (y : Vote) :
    (∀ o, st.checkSlashable y = some o → ∃ x, Stored st x ∧ x.signer = y.signer ∧ conflict x y = some o) ∧
    (st.checkSlashable y = none → st.shouldIgnore y = true →
      ∃ x, Stored st x ∧ x.signer = y.signer ∧ equivalent x y = true) := by
  -- the stored votes of `y.signer` that the two filters can find, one per vote store
  have wS : st.vSkip.contains y.signer = true → Stored st ⟨.skip, y.slot, 0, y.signer⟩ := List.contains_iff_mem.mp
  have wSf : st.vSf.contains y.signer = true → Stored st ⟨.sf, y.slot, 0, y.signer⟩ := List.contains_iff_mem.mp
  have wF : st.vFin.contains y.signer = true → Stored st ⟨.final, y.slot, 0, y.signer⟩ := List.contains_iff_mem.mp
  have wN : ∀ b, st.vNotar.lookup y.signer = some b → Stored st ⟨.notar, y.slot, b, y.signer⟩ := fun _ h => h
  have wNf : ∀ b, st.vNf.contains (y.signer, b) = true → Stored st ⟨.nf, y.slot, b, y.signer⟩ :=
    fun _ => List.contains_iff_mem.mp
  constructor
  · intro o ho
    unfold SlotState.checkSlashable at ho
    cases hk : y.kind <;> simp only [hk] at ho
    · split at ho
      · rename_i h; cases ho
        exact ⟨_, wS h, rfl, by simp [conflict, hk]⟩
      · split at ho
        · rename_i h' hl
          split at ho <;> cases ho
          rename_i hne
          exact ⟨_, wN h' hl, rfl, by simp only [conflict, hk]; simp; exact fun e => hne e.symm⟩
        · cases ho
    · split at ho <;> cases ho
      rename_i h
      exact ⟨_, wF h, rfl, by simp [conflict, hk]⟩
    · split at ho
      · rename_i h; cases ho
        exact ⟨_, wF h, rfl, by simp [conflict, hk]⟩
      · split at ho <;> cases ho
        rename_i h
        cases hl : st.vNotar.lookup y.signer with
        | none => simp [hl] at h
        | some b => exact ⟨_, wN b hl, rfl, by simp [conflict, hk]⟩
    · split at ho <;> cases ho
      rename_i h
      exact ⟨_, wF h, rfl, by simp [conflict, hk]⟩
    · split at ho
      · rename_i h; cases ho
        rcases Bool.or_eq_true _ _ ▸ h with h | h
        · exact ⟨_, wS h, rfl, by simp [conflict, hk]⟩
        · exact ⟨_, wSf h, rfl, by simp [conflict, hk]⟩
      · split at ho <;> cases ho
        rename_i h
        obtain ⟨⟨a, b⟩, hm, ha⟩ := List.any_eq_true.mp h
        have ha : a = y.signer := beq_iff_eq.mp ha
        exact ⟨_, wNf b (List.contains_iff_mem.mpr (ha ▸ hm)), rfl, by simp [conflict, hk]⟩
  · intro _ hi
    unfold SlotState.shouldIgnore at hi
    cases hk : y.kind <;> simp only [hk] at hi
    · rcases Bool.or_eq_true _ _ ▸ hi with hi | hi
      · cases hl : st.vNotar.lookup y.signer with
        | none => simp [hl] at hi
        | some b => exact ⟨_, wN b hl, rfl, by simp [equivalent, hk]⟩
      · exact ⟨_, wNf _ hi, rfl, by simp [equivalent, hk]⟩
    · rcases Bool.or_eq_true _ _ ▸ hi with hi | hi
      · exact ⟨_, wNf _ hi, rfl, by simp [equivalent, hk]⟩
      · exact ⟨_, wN _ (beq_iff_eq.mp hi), rfl, by simp [equivalent, hk]⟩
    · rcases Bool.or_eq_true _ _ ▸ hi with hi | hi
      · exact ⟨_, wS hi, rfl, by simp [equivalent, hk]⟩
      · exact ⟨_, wSf hi, rfl, by simp [equivalent, hk]⟩
    · rcases Bool.or_eq_true _ _ ▸ hi with hi | hi
      · exact ⟨_, wSf hi, rfl, by simp [equivalent, hk]⟩
      · exact ⟨_, wS hi, rfl, by simp [equivalent, hk]⟩
    · exact ⟨_, wF hi, rfl, by simp [equivalent, hk]⟩

/-- once `x` is stored, a conflicting vote `y` of the same validator that was admissible before is reported, as that
    conflict (whether `x` itself was admissible plays no role) -/
theorem flagged_after (e : Epoch) (st : SlotState) (x y : Vote) (o : Offence) (hs : x.signer = y.signer)
    (hc : conflict x y = some o) (hy : Adm st y) : (st.stored e x).checkSlashable y = some o := by
  unfold conflict at hc
  unfold SlotState.checkSlashable SlotState.stored
  split at hc <;> rename_i hkx hky <;> simp only [hkx, hky] <;> rw [← hs]
  · -- the cases follow the rows of `conflict`; only a second notarization, notarize-then-skip and
    -- notar-fallback-then-finalize are not found by the first test of `check_slashable_offence`
    obtain ⟨a1, a2, _⟩ := adm_notar_facts st y hky hy
    rw [← hs] at a1 a2
    rw [lookup_after_store _ _ _ _ a2, if_neg (by simpa using a1), if_pos rfl]
    split at hc
    · rename_i hne; cases hc; exact if_pos (Ne.symm hne)
    · cases hc
  · rw [contains_append_self]; exact hc
  · obtain ⟨a1, a2, _⟩ := adm_skip_facts st y hky hy
    rw [← hs] at a1 a2
    rw [lookup_after_store _ _ _ _ a2, if_neg (by simpa using a1)]
    simpa using hc
  · rw [contains_append_self]; exact hc
  · rw [contains_append_self]; exact hc
  · rw [contains_append_self]; exact hc
  · rw [contains_append_self, Bool.or_true]; exact hc
  · rw [contains_append_self]; exact hc
  · obtain ⟨a1, a2, _⟩ := adm_final_facts st y hky hy
    rw [← hs] at a1 a2
    rw [if_neg (by simpa using ⟨a1, a2⟩), List.any_append]
    simpa using hc
  · cases hc

theorem slash_after (e : Epoch) (st : SlotState) (x y : Vote) (o : Offence) (hs : x.signer = y.signer)
    (hc : conflict x y = some o) (hx : Adm st x) (hy : Adm st y) : (st.stored e x).checkSlashable y = some o :=
  flagged_after e st x y o hs hc hy

/-- **Slashing is flagged order-free.** For every pair of conflicting votes of one validator
    (notarize two blocks; skip & notarize; finalize & skip; finalize & skip-fallback; finalize &
    notar-fallback) that are both individually admissible in a state: whichever is accepted first, the
    other is then refused and reported as the same offence. -/
theorem slash_order_free (e : Epoch) (st : SlotState) (x y : Vote) (o : Offence) (hs : x.signer = y.signer)
    (hc : conflict x y = some o) (hx : Adm st x) (hy : Adm st y) :
    (st.stored e x).checkSlashable y = some o ∧ (st.stored e y).checkSlashable x = some o :=
  ⟨slash_after e st x y o hs hc hx hy, slash_after e st y x o hs.symm (by rw [conflict_symm]; exact hc) hy hx⟩

/-- admission does not read the safe-to-notar / safe-to-skip bookkeeping -/
theorem admission_coreEq {a b : SlotState} (h : CoreEq a b) (y : Vote) :
    a.checkSlashable y = b.checkSlashable y ∧ a.shouldIgnore y = b.shouldIgnore y :=
  ⟨h.congr (·.checkSlashable y) fun _ => rfl, h.congr (·.shouldIgnore y) fun _ => rfl⟩

/-- **Counted at most once per class** (from the invariant): in every state reachable by a history of
    slot operations each validator occurs at most once in each vote store (per block for
    notar-fallback) and the accepted votes of one validator are conflict-free. With C03
    `counters_are_recounts` (each counter is the stake of the validators in its store) a validator's stake
    enters each counter at most once. -/
theorem counted_once (e : Epoch) (hpos : 0 < e.total) (slot : Nat) (ops : List SlotOp) :
    let st := (slotRun e { slot := slot } ops).1
    (st.vNotar.map Prod.fst).Nodup ∧ st.vNf.Nodup ∧ st.vSkip.Nodup ∧ st.vSf.Nodup ∧ st.vFin.Nodup ∧
    (∀ v, v ∈ st.vSkip → st.vNotar.lookup v = none) ∧
    (∀ v, v ∈ st.vFin → v ∉ st.vSkip ∧ v ∉ st.vSf ∧ ∀ h, (v, h) ∉ st.vNf) ∧
    (∀ v, v ∈ st.vSkip → v ∉ st.vSf) ∧ (∀ v h, (v, h) ∈ st.vNf → st.vNotar.lookup v ≠ some h) := by
  have i := slotRun_invariant (slotStep_InvV e) ops _ (InvV.init e slot)
  exact ⟨i.notarNodup, i.nfNodup, i.skipNodup, i.sfNodup, i.finNodup, i.noSkipNotar, i.noFinSkip, i.noSkipSf, i.noNotarNfSame⟩

/-! non-vacuity: the legitimate combinations are all accepted, in a "worst" order -/
example :
    let e : Epoch := { stakes := [1, 1, 1, 1, 1], own := 0 }
    let votes : List Vote := [⟨.nf, 2, 8, 3⟩, ⟨.notar, 2, 7, 3⟩, ⟨.sf, 2, 0, 3⟩, ⟨.nf, 2, 9, 3⟩,   -- notarize + nf others + sf
                              ⟨.nf, 2, 7, 4⟩, ⟨.skip, 2, 0, 4⟩,                                 -- skip + nf
                              ⟨.final, 2, 0, 1⟩, ⟨.notar, 2, 7, 1⟩]                              -- notarize + finalize
    let p0 : Pool := { epoch := e }
    (votes.foldl (fun (acc : Pool × List Verdict) v => let r := acc.1.addVote v; (r.1, acc.2 ++ [r.2.1])) (p0, [])).2
      = [.ok, .ok, .ok, .ok, .ok, .ok, .ok, .ok] := by decide

end AgModel.Pool
