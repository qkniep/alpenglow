import AgModel.Spec.Protocol
/-!
# C01 — Finalization agreement

For every finite validator set, every stake distribution, every Byzantine set holding less than 20 % of
the stake (arbitrary, equivocating votes), every block tree (any number of blocks per slot) and every
global history of signed votes in which the *correct* validators obey the voting rules R1–R5
(`Spec.Rules`; discharged for the cluster of executable node models by `cluster_rules`, `Props/C01Cluster.lean`):

* `notar_unique`      — at most one block per slot gets a notarization certificate;
* `final_excludes`    — a finalized slot has no skip certificate and no other block of that slot is
                        certified (notar-fallback or stronger);
* `slot_unique`       — no two different blocks are finalized in the same slot;
* `chain`             — every block certified in a slot at or after a finalized block descends from it;
* `agreement`         — any two finalized blocks lie on one chain (so the finalization logs of any two
                        correct nodes, each consisting of finalized blocks and their ancestors, are
                        totally ordered by the ancestor relation).

Crashes are the special case of correct validators that stop voting (the rules only restrict votes
that are cast). Network behaviour is irrelevant: the history is the set of votes ever signed.
-/
namespace AgModel.Spec

open Classical

variable {V Block : Type} [Fintype V] (stake : V → ℕ) (C : Chain Block) (H : History V Block) (byz : V → Prop)

structure Setting : Prop where
  byz_bound : 5 * w stake byz < total stake
  rules : ∀ v, ¬ byz v → Rules stake C H v

variable {stake C H byz}

/-- **Counting on weights.** A set whose correct members miss a quorum `K` is no quorum; one whose correct members miss an 80 % set
    weighs less than 40 %. -/
theorem Q.light {K p : V → Prop} (hK : Q (w stake K) (total stake)) (hb : 5 * w stake byz < total stake)
    (hp : ∀ v, p v → ¬ byz v → ¬ K v) : ¬ Q (w stake p) (total stake) := fun h =>
  fractions_meet (a := 3) (b := 3) (by decide) ((Q_iff _ _).mp hK) ((Q_iff _ _).mp h)
    (w_le_of_correct_outside stake byz K p hp) hb

theorem Strong.light {K p : V → Prop} (hK : Strong (w stake K) (total stake)) (hb : 5 * w stake byz < total stake)
    (hp : ∀ v, p v → ¬ byz v → ¬ K v) : ¬ Weak (w stake p) (total stake) := fun h =>
  fractions_meet (a := 4) (b := 2) (by decide) ((Strong_iff _ _).mp hK) ((Weak_iff _ _).mp h)
    (w_le_of_correct_outside stake byz K p hp) hb

/-! ### A1–A3 (the steps of the proof outline, DESIGN.md Appendix A): one notarization certificate per slot; the voters behind
    a finalized block -/

theorem notar_unique (S : Setting stake C H byz) (b b' : Block) (hs : C.slot b = C.slot b')
    (h1 : NotarCert stake H b) (h2 : NotarCert stake H b') : b = b' := by
  -- otherwise the two voter sets would meet in Byzantine validators only
  by_contra hne
  exact Q.light h2 S.byz_bound (fun v hv hc hv' => hne ((S.rules v hc).one_notar b b' hv hv' hs)) h1

/-- on the fast path no correct validator ever casts a skip-fallback vote in the slot or a
    notar-fallback vote for another block of the slot -/
theorem fast_no_fallback (S : Setting stake C H byz) (b : Block) (hff : FastFinalCert stake H b)
    (v : V) (hc : ¬ byz v) :
    ¬ H.sf v (C.slot b) ∧ ∀ x, C.slot x = C.slot b → x ≠ b → ¬ H.nf v x := by
  -- a set whose correct members did not notarize `b` weighs less than 40 %
  have light : ∀ p : V → Prop, (∀ u, p u → ¬ byz u → ¬ H.notar u b) → ¬ Weak (w stake p) (total stake) := fun _ =>
    Strong.light hff S.byz_bound
  have other : ∀ u x, ¬ byz u → C.slot x = C.slot b → x ≠ b → H.notar u x → ¬ H.notar u b :=
    fun u x hcu hsx hne hnx hnb => hne ((S.rules u hcu).one_notar x b hnx hnb hsx)
  constructor
  · intro hsf
    refine light _ ?_ ((S.rules v hc).sf_rule _ hsf b rfl)
    rintro u (hsk | ⟨x, hsx, hne, hnx⟩) hcu hnb
    · exact (S.rules u hcu).notar_no_skip b hnb hsk
    · exact other u x hcu hsx hne hnx hnb
  · intro x hsx hne hnf
    rcases ((S.rules v hc).nf_rule x hnf).1 with h | ⟨_, h⟩
    · exact light _ (fun u hu hcu => other u x hcu hsx hne hu) h
    · refine light _ ?_ h.toWeak
      rintro u (hnx | hsk) hcu hnb
      · exact other u x hcu hsx hne hnx hnb
      · exact (S.rules u hcu).notar_no_skip b hnb (hsx ▸ hsk)

/-- **The voters behind a finalized block `b`**: a quorum `K` — the notarization voters of `b` on the fast path, the
    finalization voters of its slot on the slow path — whose correct members cast no vote against `b`: no skip or
    skip-fallback vote in the slot, no vote for another block of the slot. -/
theorem finalized_core (S : Setting stake C H byz) (b : Block) (hf : FinalizedAt stake C H b) :
    ∃ K : V → Prop, Q (w stake K) (total stake) ∧ ∀ v, K v → ¬ byz v →
      ¬ H.skip v (C.slot b) ∧ ¬ H.sf v (C.slot b) ∧
      ∀ x, C.slot x = C.slot b → x ≠ b → ¬ H.notar v x ∧ ¬ H.nf v x := by
  rcases hf with hff | ⟨hfc, hnc⟩
  · refine ⟨fun v => H.notar v b, hff.notarCert, fun v hn hc => ?_⟩
    obtain ⟨h1, h2⟩ := fast_no_fallback S b hff v hc
    exact ⟨(S.rules v hc).notar_no_skip b hn, h1,
      fun x hsx hne => ⟨fun hx => hne ((S.rules v hc).one_notar x b hx hn hsx), h2 x hsx hne⟩⟩
  · refine ⟨fun v => H.fin v (C.slot b), hfc, fun v hfin hc => ?_⟩
    -- the block it notarized has a notarization certificate, so it is `b`
    obtain ⟨⟨b', hs', hv', hn'⟩, h1, h2, h3⟩ := (S.rules v hc).fin_rule _ hfin
    have hn : H.notar v b := notar_unique S b' b hs' hn' hnc ▸ hv'
    exact ⟨h1, h2, fun x hsx hne => ⟨fun hx => hne ((S.rules v hc).one_notar x b hx hn hsx), h3 x hsx⟩⟩

/-- a block for which the correct members of a quorum cast neither a notarization nor a notar-fallback vote is not
    certified -/
theorem not_nfCert_of_quorum {K : V → Prop} (hK : Q (w stake K) (total stake)) (hb : 5 * w stake byz < total stake)
    {x : Block} (h : ∀ v, K v → ¬ byz v → ¬ H.notar v x ∧ ¬ H.nf v x) : ¬ NFCert stake H x :=
  hK.light hb fun v hv hc hk => hv.elim (h v hk hc).1 (h v hk hc).2

/-! ### A4: a finalized slot excludes everything else -/

theorem final_excludes (S : Setting stake C H byz) (b : Block) (hf : FinalizedAt stake C H b) :
    ¬ SkipCert stake H (C.slot b) ∧ ∀ x, C.slot x = C.slot b → x ≠ b → ¬ NFCert stake H x := by
  obtain ⟨K, hK, hcore⟩ := finalized_core S b hf
  exact ⟨hK.light S.byz_bound fun v hv hc hk => hv.elim (hcore v hk hc).1 (hcore v hk hc).2.1,
    fun x hsx hne => not_nfCert_of_quorum hK S.byz_bound fun v hk hc => (hcore v hk hc).2.2 x hsx hne⟩

theorem finalized_nf (b : Block) (hf : FinalizedAt stake C H b) : NFCert stake H b :=
  hf.elim (fun h => h.notarCert.nfCert) (fun h => h.2.nfCert)

/-- **No two different blocks are finalized in one slot.** -/
theorem slot_unique (S : Setting stake C H byz) (b b' : Block) (hs : C.slot b' = C.slot b)
    (hf : FinalizedAt stake C H b) (hf' : FinalizedAt stake C H b') : b' = b :=
  by_contra fun hne => (final_excludes S b hf).2 b' hs hne (finalized_nf b' hf')

theorem anc_slot_le (b x : Block) (h : Anc C b x) : C.slot b ≤ C.slot x := by
  induction h with
  | refl => exact Nat.le_refl _
  | step x hx _ ih => exact Nat.le_trans ih (Nat.le_of_lt (C.parent_lt x hx))

theorem anc_same_slot (b x : Block) (h : Anc C b x) (hs : C.slot x = C.slot b) : x = b := by
  cases h with
  | refl => rfl
  | step _ hx hp =>
    exact absurd (hs ▸ C.parent_lt x hx) (Nat.not_lt.mpr (anc_slot_le b (C.parent x) hp))

/-- induction along the parent link -/
theorem Chain.induction (C : Chain Block) {P : Block → Prop} (h : ∀ x, (x ≠ C.genesis → P (C.parent x)) → P x)
    (x : Block) : P x :=
  (measure C.slot).wf.induction x fun x ih => h x fun hg => ih _ (C.parent_lt x hg)

theorem anc_genesis (x : Block) : Anc C C.genesis x := by
  induction x using C.induction with
  | _ x ih =>
    by_cases hg : x = C.genesis
    · rw [hg]; exact Anc.refl
    · exact Anc.step x hg (ih hg)

theorem anc_trans (a b x : Block) (h1 : Anc C a b) (h2 : Anc C b x) : Anc C a x := by
  induction h2 with
  | refl => exact h1
  | step x hx _ ih => exact Anc.step x hx ih

/-! ### A5: the chain -/

/-- a notar-fallback vote of a correct validator presupposes a notarization vote of a correct validator (safe-to-notar
    needs 20 % notarization stake) -/
theorem nf_has_correct_notar (S : Setting stake C H byz) (x : Block) (v : V) (hc : ¬ byz v) (hnf : H.nf v x) :
    ∃ u, H.notar u x ∧ ¬ byz u :=
  exists_correct stake byz _
    ((((S.rules v hc).nf_rule x hnf).1.elim Weak.toWeakest And.left).byz_lt S.byz_bound)

theorem nfcert_has_correct_notar (S : Setting stake C H byz) (x : Block) (h : NFCert stake H x) :
    ∃ u, H.notar u x ∧ ¬ byz u := by
  obtain ⟨v, hv, hc⟩ := exists_correct_of_Q S.byz_bound h
  exact hv.elim (fun hn => ⟨v, hn, hc⟩) (nf_has_correct_notar S x v hc)

theorem nfcert_needs_correct (S : Setting stake C H byz) (x : Block)
    (hno : ∀ v, ¬ byz v → ¬ H.notar v x) : ¬ NFCert stake H x :=
  fun hcert => (nfcert_has_correct_notar S x hcert).elim fun v hv => hno v hv.2 hv.1

/-- **The chain invariant.** Off the subtree of a finalized block `b ≠ genesis`, from `b`'s slot on, the correct voters
    behind `b` (`K` of `finalized_core`) cast no notarization or notar-fallback vote, so no block there is certified. By
    induction along the parent link: a correct validator notarizes an off block `x` only on top of an off block — in the
    first slot of a window the parent would be certified (it is not, by induction, and it is not older than `b`, whose
    slot has no skip certificate); inside a window the validator notarized the parent itself, so it is not one of `K`. A
    notar-fallback vote for `x` needs a correct notarization vote and a certified parent. -/
theorem off_subtree (S : Setting stake C H byz) (b : Block) (hf : FinalizedAt stake C H b) (hbg : b ≠ C.genesis) :
    ∃ K : V → Prop, Q (w stake K) (total stake) ∧ ∀ x, C.slot b ≤ C.slot x → ¬ Anc C b x →
      ∀ v, K v → ¬ byz v → ¬ H.notar v x ∧ ¬ H.nf v x := by
  obtain ⟨K, hK, hcore⟩ := finalized_core S b hf
  refine ⟨K, hK, fun x => ?_⟩
  have hs1 : 0 < C.slot b := Nat.pos_of_ne_zero fun h => hbg (C.zero_is_genesis b h)
  induction x using C.induction with
  | _ x ih =>
    intro hle hoff
    rcases Nat.eq_or_lt_of_le hle with he | hlt
    · exact fun v hk hc => (hcore v hk hc).2.2 x he.symm fun e => hoff (e ▸ Anc.refl)
    have hxg : x ≠ C.genesis := fun e => by rw [e, C.slot_genesis] at hlt; exact Nat.not_lt_zero _ hlt
    -- the parent is off the subtree too: if it is not older than `b`, the induction hypothesis speaks of it
    have ihp := fun hge => ih hxg hge fun ha => hoff (Anc.step x hxg ha)
    have uncert : C.slot b ≤ C.slot (C.parent x) → ¬ Certified stake C H (C.parent x) := by
      rintro hge (hg | hnf)
      · rw [hg, C.slot_genesis] at hge; exact Nat.not_lt.mpr hge hs1
      · exact not_nfCert_of_quorum hK S.byz_bound (ihp hge) hnf
    -- a correct notarization voter of `x` notarized the parent, which is not older than `b`
    have key : ∀ v, ¬ byz v → H.notar v x → C.slot b ≤ C.slot (C.parent x) ∧ H.notar v (C.parent x) := by
      intro v hc hnx
      obtain ⟨hstart, hlater⟩ := (S.rules v hc).notar_rule x hnx hxg
      by_cases hw : windowStart (C.slot x)
      · obtain ⟨hcert, hskips⟩ := hstart hw
        exact absurd hcert (uncert (Nat.le_of_not_lt fun h => (final_excludes S b hf).1 (hskips (C.slot b) h hlt)))
      · obtain ⟨hnp, hsp⟩ := hlater hw
        exact ⟨Nat.le_of_lt_add_one (hsp ▸ hlt), hnp⟩
    refine fun v hk hc => ⟨fun hnx => ?_, fun hnf => ?_⟩
    · obtain ⟨hge, hnp⟩ := key v hc hnx
      exact (ihp hge v hk hc).1 hnp
    · obtain ⟨u, hnu, hcu⟩ := nf_has_correct_notar S x v hc hnf
      exact uncert (key u hcu hnu).1 ((S.rules v hc).nf_rule x hnf).2.1

/-- **Chain.** Every block that is certified (notar-fallback or stronger — in particular every notarized,
    fast-finalized or finalized block) in a slot at or after a finalized block `b` descends from `b`. -/
theorem chain (S : Setting stake C H byz) (b x : Block) (hf : FinalizedAt stake C H b)
    (hs : C.slot b ≤ C.slot x) (hx : NFCert stake H x) : Anc C b x := by
  by_cases hbg : b = C.genesis
  · rw [hbg]; exact anc_genesis x
  · obtain ⟨K, hK, h⟩ := off_subtree S b hf hbg
    by_contra hoff
    exact not_nfCert_of_quorum hK S.byz_bound (h x hs hoff) hx

/-- **Agreement.** Any two finalized blocks lie on one chain: the one in the earlier (or same) slot is an
    ancestor of (or equal to) the other. Hence the finalization logs of any two correct nodes — finalized
    blocks and their ancestors — never conflict, whatever the network and the Byzantine validators do. -/
theorem agreement (S : Setting stake C H byz) (b b' : Block)
    (hf : FinalizedAt stake C H b) (hf' : FinalizedAt stake C H b') : Anc C b b' ∨ Anc C b' b := by
  by_cases h : C.slot b ≤ C.slot b'
  · exact Or.inl (chain S b b' hf h (finalized_nf b' hf'))
  · exact Or.inr (chain S b' b hf' (Nat.le_of_not_le h) (finalized_nf b hf))

/-- directly or indirectly finalized: an ancestor of a finalized block -/
def InLog (stake : V → ℕ) (C : Chain Block) (H : History V Block) (x : Block) : Prop :=
  ∃ b, FinalizedAt stake C H b ∧ Anc C x b

theorem anc_comparable (a a' x : Block) (h1 : Anc C a x) (h2 : Anc C a' x) : Anc C a a' ∨ Anc C a' a := by
  revert h2
  induction h1 with
  | refl => intro h2; exact Or.inr h2
  | step y hy hp ih =>
    intro h2
    cases h2 with
    | refl => exact Or.inl (Anc.step _ hy hp)
    | step _ _ hp2 => exact ih hp2

/-- **All blocks finalized directly or through a finalized descendant lie on one chain**; two of them in the
    same slot are equal. -/
theorem logs_one_chain (S : Setting stake C H byz) (x y : Block) (hx : InLog stake C H x) (hy : InLog stake C H y) :
    (Anc C x y ∨ Anc C y x) ∧ (C.slot x = C.slot y → x = y) := by
  obtain ⟨b, hfb, hxb⟩ := hx
  obtain ⟨b', hfb', hyb'⟩ := hy
  have hcmp : Anc C x y ∨ Anc C y x := by
    rcases agreement S b b' hfb hfb' with h | h
    · exact anc_comparable x y b' (anc_trans x b b' hxb h) hyb'
    · exact anc_comparable x y b hxb (anc_trans y b' b hyb' h)
  refine ⟨hcmp, ?_⟩
  intro hs
  rcases hcmp with h | h
  · exact (anc_same_slot x y h hs.symm).symm
  · exact anc_same_slot y x h hs

/-- **No slot is both directly finalized and skip-certified** (the first half of `final_excludes`). The slot of an
    *implicitly* finalized block (an ancestor of a finalized one) can carry a skip certificate:
    `old_skip_premise_fails_on_valid_run`, `Props/C10Cluster.lean`. -/
theorem finalized_not_skipped (S : Setting stake C H byz) (b : Block) (hf : FinalizedAt stake C H b) :
    ¬ SkipCert stake H (C.slot b) := (final_excludes S b hf).1

end AgModel.Spec

/-! ### non-vacuity: a concrete setting satisfying all hypotheses, with a finalized block -/
namespace AgModel.Spec.Example
open AgModel.Spec Classical

/-- 6 validators with stake 1; validator 5 is Byzantine (1/6 < 20 %) and silent -/
def stake : Fin 6 → ℕ := fun _ => 1
def byz : Fin 6 → Prop := fun v => v = 5

/-- blocks are natural numbers: block `b` is in slot `b`, its parent is `b - 1`, genesis is `0` -/
def C : Chain ℕ where
  slot := id
  parent := fun b => b - 1
  genesis := 0
  slot_genesis := rfl
  zero_is_genesis := fun _ h => h
  parent_lt := fun b hb => by simp only [id]; omega

/-- the five correct validators notarize genesis (by convention) and block 1, and finalize-vote slot 1 -/
def H : History (Fin 6) ℕ where
  notar := fun v b => v ≠ 5 ∧ b ≤ 1
  nf := fun _ _ => False
  skip := fun _ _ => False
  sf := fun _ _ => False
  fin := fun v s => v ≠ 5 ∧ s = 1

theorem total_eq : total stake = 6 := by
  unfold total stake; simp

theorem w_byz : w stake byz = 1 := by
  have h : (Finset.univ.filter (fun v : Fin 6 => v = 5)).card = 1 := by decide
  unfold w stake byz
  simp
  convert h

theorem w_notar1 : w stake (fun v => H.notar v 1) = 5 := by
  have h : (Finset.univ.filter (fun v : Fin 6 => ¬ v = 5)).card = 5 := by decide
  unfold w stake H
  simp
  convert h

theorem setting : Setting stake C H byz := by
  refine ⟨by rw [w_byz, total_eq]; decide, ?_⟩
  intro v hv
  refine ⟨?_, ?_, ?_, ?_, ?_, ?_⟩
  · intro b b' _ _ hs; exact hs
  · intro b _ h; exact h
  · intro s hs
    obtain ⟨hv5, rfl⟩ := hs
    refine ⟨⟨1, rfl, ⟨hv5, Nat.le_refl 1⟩, ?_⟩, fun h => h, fun h => h, fun _ _ h => h⟩
    unfold NotarCert notarW; rw [Q_iff, w_notar1, total_eq]; decide
  · intro x h; exact h.elim
  · intro s h; exact h.elim
  · intro x hx hxg
    obtain ⟨hv5, hle⟩ := hx
    have hx1 : x = 1 := Nat.le_antisymm hle (Nat.pos_of_ne_zero hxg)
    subst hx1
    refine ⟨fun hw => ?_, fun _ => ⟨⟨hv5, by decide⟩, rfl⟩⟩
    unfold windowStart Gen.SLOTS_PER_WINDOW at hw; simp [C] at hw

/-- block 1 is finalized (fast path: 5/6 ≥ 80 %), so the theorems above apply non-vacuously -/
example : FinalizedAt stake C H 1 := by
  left
  unfold FastFinalCert notarW; rw [Strong_iff, w_notar1, total_eq]; decide

end AgModel.Spec.Example
