import AgModel.Proofs.MachIntExt
import AgModel.Proofs.ProgressSkip
/-!
# C02 (progress once the network is timely): the timeout arithmetic of Votor, on machine integers

`Votor::set_timeouts` (`src/consensus/votor.rs:315-335`) with the real `std::time::Duration` arithmetic
(`{secs: u64, nanos: u32}`, `+` / `* u32` panic on overflow, `saturating_sub`, `from_millis`, `checked_mul(3).unwrap()`)
and the constants `DELTA`, `DELTA_BLOCK`, `DELTA_FIRST_SLICE`, `DELTA_TIMEOUT` read from `src/consensus.rs` on every
run (`Gen/Consts.lean`). For ALL u64 slots:

* the only panic is the `assert!(slot.is_start_of_window())`; no `Duration` expression overflows;
* on an ideal clock the timeout of the `i`-th slot of the window fires exactly `Δtimeout + (i + 1)·Δblock` after the
  call (the formula of the protocol), the crashed-leader timeout at `Δtimeout + Δfirst_slice`;
* these are strictly increasing in the slot index, all later than `Δtimeout`, the crashed-leader timeout first;
* hence the `Timeout` events of a window fire in slot order: exactly the list `List.range' s (wEnd s - s)` in which the
  progress theorem `Cluster.silent_leader_skipped` (`Props/C02Cluster.lean`) delivers them (`skipSched`).

The `Duration` operations are characterised for ALL well-formed operands (`Dur.wf`: `nanos < 10^9`, the type's
invariant), not only the constants. `none` = panic.
-/
namespace AgModel.MachInt.Timeouts

/-- `Duration::from_millis` never panics, keeps the invariant, and is exact. -/
theorem fromMillis_exact (ms : UInt64) :
    (Dur.fromMillis ms).wf ∧ (Dur.fromMillis ms).toNanos = ms.toNat * 1000000 := by
  unfold Dur.fromMillis Dur.wf Dur.toNanos NPS
  have h1 : (ms % 1000).toNat = ms.toNat % 1000 := by rw [UInt64.toNat_mod]; rfl
  have h2 : (ms / 1000).toNat = ms.toNat / 1000 := by rw [UInt64.toNat_div]; rfl
  simp only [h1, h2]
  omega

/-- `a + b` on `Duration` panics iff the exact sum is `≥ 2^64 s`; otherwise it is exact (in ns). -/
theorem add_panics_iff (a b : Dur) (ha : a.wf) (hb : b.wf) :
    (a.add b = none ↔ 2 ^ 64 * NPS ≤ a.toNanos + b.toNanos) ∧
    ∀ c, a.add b = some c → c.wf ∧ c.toNanos = a.toNanos + b.toNanos :=
  Dur.checkedAdd_spec a b ha hb

/-- `a * k` (`k: u32`) panics (`checked_mul` is `None`) iff the exact product is `≥ 2^64 s`; otherwise exact. -/
theorem mul_panics_iff (a : Dur) (k : UInt64) (ha : a.wf) (hk : k.toNat < 2 ^ 32) :
    (a.mul k = none ↔ 2 ^ 64 * NPS ≤ a.toNanos * k.toNat) ∧
    ∀ c, a.mul k = some c → c.wf ∧ c.toNanos = a.toNanos * k.toNat :=
  Dur.checkedMul_spec a k ha hk

/-- `saturating_sub` never panics and is truncated subtraction. -/
theorem saturatingSub_exact (a b : Dur) (ha : a.wf) (hb : b.wf) :
    (a.saturatingSub b).wf ∧ (a.saturatingSub b).toNanos = a.toNanos - b.toNanos :=
  Dur.saturatingSub_spec a b ha hb

/-- `tokio::time::sleep(d)`: the deadline `now + d` is exact unless `now` is within `d + 1 s` of the end of the
    `i64` seconds range (then tokio substitutes a far-future deadline; it never panics). -/
theorem sleep_deadline_exact (now : Inst) (d : Dur) (hn : now.nanos < NPS) (hd : d.wf)
    (h : now.secs + d.secs.toNat + 1 < 2 ^ 63) :
    ∃ t, sleepDeadline now d = some t ∧ t.nanos < NPS ∧ t.toNanos = now.toNanos + d.toNanos := by
  unfold Dur.wf at hd
  unfold sleepDeadline Inst.checkedAdd
  have h1 : ¬ (now.secs + (d.secs.toNat : Int) ≥ 2 ^ 63) := by omega
  have h2 : ¬ (now.secs + (d.secs.toNat : Int) + 1 ≥ 2 ^ 63) := by omega
  simp only [h1, h2, if_false]
  by_cases hc : now.nanos + d.nanos ≥ NPS
  · rw [if_pos hc]
    refine ⟨_, rfl, ?_, ?_⟩
    · simp only; rw [NPS_eq] at *; omega
    · unfold Inst.toNanos Dur.toNanos; simp only; rw [NPS_eq] at *; push_cast; omega
  · rw [if_neg hc]
    refine ⟨_, rfl, ?_, ?_⟩
    · simp only; omega
    · unfold Inst.toNanos Dur.toNanos; simp only; rw [NPS_eq] at *; push_cast; omega

/-- `DELTA.checked_mul(3).unwrap()` is `Some` (it compiles), `DELTA_TIMEOUT = 3·DELTA` exactly; the constants keep the
    `Duration` invariant; the const assertion `DELTA_FIRST_SLICE <= DELTA_BLOCK` holds; `DELTA_BLOCK > 0`. -/
theorem consts_ok :
    (∃ dt, DELTA_TIMEOUT = some dt ∧ dt.wf ∧ dt.toNanos = Gen.DELTA_TIMEOUT_FACTOR * DELTA.toNanos) ∧
    DELTA.wf ∧ DELTA_BLOCK.wf ∧ DELTA_FIRST_SLICE.wf ∧ constAssert = true ∧ 0 < DELTA_BLOCK.toNanos := by
  obtain ⟨dt, h1, h2, h3⟩ := DELTA_TIMEOUT_some
  exact ⟨⟨dt, h1, h2, h3.trans (by decide)⟩, by decide, by decide, by decide, by decide, by decide⟩

/-- `set_timeouts` at a window start: the sleep before `TimeoutCrashedLeader`, then one sleep per slot of the window;
    no `Duration` or slot expression overflows -/
theorem setTimeouts_start (s : UInt64) (h : s.toNat % W = 0) :
    ∃ (d0 : Dur) (l : List UInt64),
      setTimeouts s = some ((d0, .crashed s.toNat) :: l.map fun x => (slotSleep x, .timeout x.toNat)) ∧
      d0.toNanos = natCrashed ∧ l.map UInt64.toNat = List.range' s.toNat W := by
  obtain ⟨dt, hdt, hwf, hns⟩ := DELTA_TIMEOUT_some
  have hs := Dur.checkedAdd_spec dt _ hwf DELTA_FIRST_SLICE_wf.1
  rw [hns, DELTA_FIRST_SLICE_wf.2] at hs
  obtain ⟨d0, hadd, hd0⟩ := hs.ok (Nat.not_le.mpr consts_fit)
  obtain ⟨l, hl, hm⟩ := slotsInWindow_eq s
  rw [windowSlots_eq, window_start_eq h] at hm
  refine ⟨d0, l, ?_, hd0.2, hm⟩
  unfold setTimeouts
  rw [if_neg (by rw [(isStart_iff s).mpr h]; simp), hdt]
  simp only
  rw [show dt.add DELTA_FIRST_SLICE = some d0 from hadd]
  simp only
  rw [hl]

/-- **No overflow panic.** `set_timeouts(s)` panics iff `s` is not the first slot of a window (its `assert!`): for
    every u64 slot, including the last window, no `Duration` / slot expression in it overflows. -/
theorem setTimeouts_panics_iff (s : UInt64) : setTimeouts s = none ↔ s.toNat % W ≠ 0 := by
  by_cases h : s.toNat % W = 0
  · obtain ⟨_, _, e, _⟩ := setTimeouts_start s h
    simp [e, h]
  · have : isStart s = false := Bool.eq_false_iff.mpr (fun hh => h ((isStart_iff s).mp hh))
    simp [setTimeouts, this, h]

/-- **Exact schedule (refinement to the Nat form).** For every window start `s` the sleeps of the spawned task add up,
    on an ideal clock, to: `TimeoutCrashedLeader(s)` at `Δtimeout + Δfirst_slice`, then `Timeout(s + i)` at exactly
    `Δtimeout + (i + 1)·Δblock` for `i = 0 … W-1` (`natSchedule`), nothing else. -/
theorem setTimeouts_exact (s : UInt64) (h : s.toNat % W = 0) :
    ∃ sched, setTimeouts s = some sched ∧ sched.length = W + 1 ∧ fireTimes sched 0 = natSchedule s.toNat := by
  obtain ⟨d0, l, e, hd0, hm⟩ := setTimeouts_start s h
  have hlen : l.length = W := by simpa using congrArg List.length hm
  refine ⟨_, e, by rw [List.length_cons, List.length_map, hlen], ?_⟩
  -- after the first sleep the task's clock is `windowClock s`, which reads `natTimeout i` after slot `s + i`
  have hc := fireTimes_clock slotSleep .timeout UInt64.toNat (windowClock s.toNat) l s.toNat (by rw [hm, hlen])
    fun x hx => windowClock_step h x (List.mem_range'_1.1 (hm ▸ List.mem_map_of_mem (f := UInt64.toNat) hx))
  have hs : windowClock s.toNat s.toNat = natCrashed := if_pos rfl
  show (0 + d0.toNanos, _) :: fireTimes _ (0 + d0.toNanos) = _
  rw [Nat.zero_add, hd0, ← hs, hc, hs, hlen, natSchedule, List.range'_eq_map_range, List.map_map]
  refine congrArg _ (List.map_congr_left fun i _ => ?_)
  show (if s.toNat + i + 1 = s.toNat then _ else _, _) = _
  rw [if_neg (by omega), Nat.add_right_comm, Nat.add_sub_cancel_left]

/-- **Strictly increasing, at least the base.** The timeouts of the slots of one window are strictly increasing in the
    slot index; the `i`-th is exactly `base + (i + 1)·Δblock ≥ base + Δblock` with `base = Δtimeout = 3Δ`; the
    crashed-leader timeout lies after the base and not after the first slot's timeout. -/
theorem natTimeout_strictMono_ge_base :
    (∀ i j, i < j → natTimeout i < natTimeout j) ∧
    (∀ i, natTimeout i = natDeltaTimeoutNs + (i + 1) * natDeltaBlockNs ∧ natDeltaTimeoutNs + natDeltaBlockNs ≤ natTimeout i) ∧
    natDeltaTimeoutNs ≤ natCrashed ∧ natCrashed ≤ natTimeout 0 ∧
    natDeltaTimeoutNs = Gen.DELTA_TIMEOUT_FACTOR * (Gen.DELTA_MS * 1000000) := by
  have hb := block_pos
  have hfb := first_le_block
  refine ⟨?_, ?_, ?_, ?_, ?_⟩
  · intro i j hij
    unfold natTimeout
    have : (i + 1) * natDeltaBlockNs < (j + 1) * natDeltaBlockNs := Nat.mul_lt_mul_of_pos_right (by omega) hb
    omega
  · intro i
    refine ⟨rfl, ?_⟩
    unfold natTimeout
    have : 1 * natDeltaBlockNs ≤ (i + 1) * natDeltaBlockNs := Nat.mul_le_mul_right _ (by omega)
    omega
  · unfold natCrashed; omega
  · unfold natCrashed natTimeout; omega
  · unfold natDeltaTimeoutNs; rw [Nat.mul_assoc]

/-- the fire times of `natSchedule` are pairwise strictly increasing in list order (with the production constants,
    where `Δfirst_slice < Δblock`): no two timeouts of a window coincide, they fire in the order they were requested -/
theorem natSchedule_strictly_increasing (f : Nat) :
    ((natSchedule f).map Prod.fst).Pairwise (· < ·) := by
  have : (natSchedule f).map Prod.fst = natCrashed :: (List.range W).map natTimeout := by
    simp [natSchedule, List.map_map, Function.comp_def]
  have hfb : natDeltaFirstSliceNs < natDeltaBlockNs := by decide
  rw [this, List.pairwise_cons]
  refine ⟨fun t ht => ?_, List.pairwise_map.2 (List.pairwise_lt_range.imp fun h => natTimeout_strictMono_ge_base.1 _ _ h)⟩
  obtain ⟨i, _, rfl⟩ := List.mem_map.1 ht
  have := (natTimeout_strictMono_ge_base.2.1 i).2
  unfold natCrashed
  omega

/-- **Link to the progress model.** For a window start `s` the `Timeout` events fire in slot order, and that order is
    `Votor.windowSlots s` = `List.range' s (wEnd s - s)`: the list `ts` of `Cluster.skipSched c s ts` in
    `Cluster.silent_leader_skipped` / `timely_progress` (`Props/C02Cluster.lean`); `Votor.V.setTimeouts` emits
    `.timer s` under the same condition under which the machine form does not panic. -/
theorem fire_order_is_skipSched_order (s : UInt64) (h : s.toNat % W = 0) :
    ∃ sched, setTimeouts s = some sched ∧
      timeoutSlots (fireTimes sched 0) = Votor.windowSlots s.toNat ∧
      timeoutSlots (fireTimes sched 0) = List.range' s.toNat (Cluster.wEnd s.toNat - s.toNat) := by
  obtain ⟨d0, l, e, _, hm⟩ := setTimeouts_start s h
  refine ⟨_, e, ?_⟩
  rw [fireTimes, timeoutSlots, timeoutSlots_fireTimes, hm, windowSlots_eq, window_start_eq h]
  refine ⟨rfl, ?_⟩
  unfold Cluster.wEnd Votor.firstInWindow
  show _ = List.range' s.toNat (s.toNat / W * W + W - s.toNat)
  rw [window_start_eq h, Nat.add_sub_cancel_left]

/-- the Votor model's `set_timeouts` (`Votor.V.setTimeouts`) panics exactly when the machine form does -/
theorem votor_model_agrees (v : Votor.V) (s : UInt64) (hv : v.panicked = false) :
    ((v.setTimeouts s.toNat).panicked = true ↔ setTimeouts s = none) := by
  rw [setTimeouts_panics_iff]
  unfold Votor.V.setTimeouts
  show (if s.toNat % W = 0 then _ else _ : Votor.V).panicked = true ↔ _
  by_cases h : s.toNat % W = 0
  · rw [if_pos h]; simp [Votor.V.emit, hv, h]
  · rw [if_neg h]; simp [Votor.V.panic, h]

/-! ## non-vacuity -/

example : (setTimeouts 8).map (fun l => fireTimes l 0) =
    some [(760000000, .crashed 8), (1150000000, .timeout 8), (1550000000, .timeout 9), (1950000000, .timeout 10),
      (2350000000, .timeout 11)] := by decide
example : setTimeouts 9 = none := by decide
example : (setTimeouts (UInt64.ofNat (2 ^ 64 - 4))).isSome = true := by decide
example : Dur.add ⟨UInt64.ofNat (2 ^ 64 - 1), 999999999⟩ ⟨0, 1⟩ = none := by decide
example : Dur.add ⟨UInt64.ofNat (2 ^ 64 - 1), 999999998⟩ ⟨0, 1⟩ = some ⟨UInt64.ofNat (2 ^ 64 - 1), 999999999⟩ := by decide
example : Dur.mul ⟨5, 500000000⟩ 3 = some ⟨16, 500000000⟩ := by decide
example : Dur.saturatingSub ⟨1, 0⟩ ⟨0, 1⟩ = ⟨0, 999999999⟩ := by decide

end AgModel.MachInt.Timeouts
