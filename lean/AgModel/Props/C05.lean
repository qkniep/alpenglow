import AgModel.Gen.Consts
import AgModel.Proofs.VotorExt
import AgModel.Proofs.NodeFallback
/-!
# C05 — a correct node's own votes obey the voting rules under every event order

All statements are about `AgModel.Votor` (model of `src/consensus/votor.rs`, tied to the code by the
correspondence run) and quantify over **every finite event list** `es` delivered to a fresh Votor —
the adversary chooses all events: blocks (several per slot, before their parents), timeouts,
parent-ready announcements, certificates of every kind, safe-to-notar / safe-to-skip announcements,
standstill bundles, events for retired and pruned slots, in any order.

`log es` is the history, newest first, of the events received (`.ev`) and of everything handed to
`All2All::broadcast` (`.out`). In `log = a ++ x :: b` the list `b` is what happened *before* `x`.

The clause "fallback votes only in slots where the node already voted" is not a property of Votor alone
(`fallback_before_vote_without_pool`); it is proved at the end of this file for the composed node
`AgModel.Node` (the node's own pool feeding Votor through the event queue): `node_fallback_only_after_vote`,
`node_fallback_not_for_own_block`.
-/
namespace AgModel.Votor

def log (es : List Event) : List Item := (run init es).log

/-- the window constant of the model is the one in the source -/
theorem W_is_source : W = AgModel.Gen.SLOTS_PER_WINDOW := rfl

/-- **At most one initial vote per slot** (notarize one block, or skip). -/
theorem one_initial_vote (es : List Event) (s : Nat) : (log es).countP (·.isInit s) ≤ 1 :=
  (inv_reachable es).once s

/-- two initial votes of one slot are the same vote -/
theorem initial_vote_unique (es : List Event) (s : Nat) (x y : Item) (hx : x ∈ log es) (hy : y ∈ log es)
    (px : x.isInit s = true) (py : y.isInit s = true) : x = y :=
  (inv_reachable es).init_unique s x y hx hy px py

/-- **A block is notarized only if its parent is acceptable.** Whenever a notar vote for block `h`
    of slot `s` with parent `(ps, ph)` is cast, that block was delivered by the blockstore before, and
    * in the first slot of a window: the pool announced `ParentReady(s, (ps, ph))` before;
    * otherwise: `ps` is the preceding slot and `ph` is the block the node itself notarized there
      before (for slot 1: the genesis block). -/
theorem notar_parent_ok (es : List Event) (a b : List Item) (s h ps ph : Nat)
    (hl : log es = a ++ .out (.notar s h ps ph) :: b) :
    .ev (.block s ⟨h, ps, ph⟩) ∈ b ∧
    (if s % W = 0 then .ev (.parentReady s ps ph) ∈ b
     else ps + 1 = s ∧ ((ps = 0 ∧ ph = 0) ∨ ∃ ps' ph', .out (.notar ps ph ps' ph') ∈ b)) :=
  (inv_reachable es).hist.split a _ b hl

/-- **A finalize vote is cast only for the block the node notarized, after seeing that block's
    notarization certificate** (the pre-notarized genesis block being the only other case). -/
theorem final_only_for_notarized_own_block (es : List Event) (a b : List Item) (s : Nat)
    (hl : log es = a ++ .out (.final s) :: b) :
    ∃ h, ((s = 0 ∧ h = 0) ∨ ∃ ps ph, .out (.notar s h ps ph) ∈ b) ∧
         ((s = 0 ∧ h = 0) ∨ .ev (.cert .notar s h) ∈ b) :=
  (inv_reachable es).hist.split a _ b hl

/-- **No finalize vote in a slot with a skip, skip-fallback or notar-fallback vote, in either
    order** (never finalizes a bad slot; never casts any of those after finalizing). -/
theorem no_final_in_bad_slot (es : List Event) (s : Nat) (hf : .out (.final s) ∈ log es) :
    .out (.skip s) ∉ log es ∧ .out (.skipFallback s) ∉ log es ∧ ∀ h, .out (.notarFallback s h) ∉ log es :=
  (inv_reachable es).no_final_bad s hf

/-- once a finalize vote for `s` is cast, every later vote for `s` is a finalize vote; for the genesis slot, born finalized,
    there is no other vote at all (`no_vote_in_slot_zero`) -/
theorem only_final_after_final (es : List Event) (a b : List Item) (s : Nat)
    (hl : log es = a ++ .out (.final s) :: b) (x : Item) (hx : x ∈ a)
    (hs : x.voteSlot = some s) : x = .out (.final s) := by
  have hxl : x ∈ log es := by rw [hl]; simp [hx]
  have hfin : .out (.final s) ∈ log es := by rw [hl]; simp
  have hclean := (inv_reachable es).finalClean s ⟨.out (.final s), hfin, beq_self_eq_true s⟩ x hxl
  -- a vote for `s` is a skip / fallback vote, a notarization vote, or the finalization vote
  have hcases : x.isBad s = true ∨ x.isInit s = true ∨ x = .out (.final s) := by
    cases x with
    | ev e => cases hs
    | out o => cases o <;> cases hs <;> simp [Item.isBad, Item.isInit]
  rcases hcases with hb | hi | rfl
  · rw [hclean] at hb; cases hb
  · -- a second initial vote: the first is the notarization vote the finalization vote rests on
    obtain ⟨h, hn, _⟩ := final_only_for_notarized_own_block es a b s hl
    rcases hn with ⟨rfl, _⟩ | ⟨ps, ph, hb⟩
    · exact no_vote_in_slot_zero es x hxl hs
    · have := one_initial_vote es s
      rw [hl, List.countP_append, List.countP_cons] at this
      have c1 : 1 ≤ a.countP (·.isInit s) := List.countP_pos_iff.mpr ⟨_, hx, hi⟩
      have c2 : 1 ≤ b.countP (·.isInit s) := List.countP_pos_iff.mpr ⟨_, hb, beq_self_eq_true s⟩
      omega
  · rfl

/-- **Nothing but (repeated) finalize votes after finalizing**: once a finalize vote for `s` is
    cast, every later vote for `s` is a finalize vote. (`s ≠ 0` is not needed: `only_final_after_final`.) -/
theorem nothing_after_final (es : List Event) (a b : List Item) (s : Nat)
    (hl : log es = a ++ .out (.final s) :: b) (hs0 : s ≠ 0) (x : Item) (hx : x ∈ a)
    (hs : x.voteSlot = some s) : x = .out (.final s) :=
  only_final_after_final es a b s hl x hx hs

/-- **Fallback votes only after the corresponding condition held at the node**: a notar-fallback
    vote for `(s, h)` is cast only in direct response to `SafeToNotar(s, h)`, a skip-fallback vote for `s`
    only in direct response to `SafeToSkip(s)` (the event is the item logged immediately before). -/
theorem fallback_only_after_condition (es : List Event) (a b : List Item) (s : Nat) :
    (∀ h, log es = a ++ .out (.notarFallback s h) :: b → ∃ rest, b = .ev (.safeToNotar s h) :: rest) ∧
    (log es = a ++ .out (.skipFallback s) :: b → ∃ rest, b = .ev (.safeToSkip s) :: rest) :=
  ⟨fun _ hl => (inv_reachable es).hist.split a _ b hl, fun hl => (inv_reachable es).hist.split a _ b hl⟩

/-- What the node's own pool guarantees (C06; `slot_state.rs` emits the safe-to events only once the
    own initial vote is stored): every safe-to-notar / safe-to-skip announcement for `s` arrives after
    an own initial vote for `s` was cast. -/
def PoolOrdered : List Item → Prop :=
  Hist (fun x past => match x with
    | .ev (.safeToNotar s _) => ∃ y ∈ past, y.isInit s = true
    | .ev (.safeToSkip s) => ∃ y ∈ past, y.isInit s = true
    | _ => True)

/-- **Fallback votes only in slots where the node already voted** — `_partial`: relative to the
    pool-side guarantee `PoolOrdered` (Votor alone, fed a safe-to event for an unvoted slot, broadcasts
    the fallback vote and *then* the skip vote: see `fallback_before_vote_without_pool`). The
    assumption is discharged for the composed node (Pool ∘ Votor) below: `node_pool_ordered`,
    `node_fallback_only_after_vote`. -/
theorem fallback_only_after_vote_partial (es : List Event) (hp : PoolOrdered (log es))
    (a b : List Item) (s : Nat) (x : Item)
    (hx : x = .out (.skipFallback s) ∨ ∃ h, x = .out (.notarFallback s h))
    (hl : log es = a ++ x :: b) : ∃ y ∈ b, y.isInit s = true := by
  rcases hx with rfl | ⟨h, rfl⟩
  · obtain ⟨rest, rfl⟩ := (fallback_only_after_condition es a b s).2 hl
    obtain ⟨y, hy, hyi⟩ := hp.split_next hl
    exact ⟨y, List.mem_cons_of_mem _ hy, hyi⟩
  · obtain ⟨rest, rfl⟩ := (fallback_only_after_condition es a b s).1 h hl
    obtain ⟨y, hy, hyi⟩ := hp.split_next hl
    exact ⟨y, List.mem_cons_of_mem _ hy, hyi⟩

/-- witness that the pool-side guarantee is needed: Votor alone answers `SafeToNotar` for an unvoted
    slot with the fallback vote first and the skip votes of the window afterwards -/
theorem fallback_before_vote_without_pool :
    log [.safeToNotar 5 7] =
      [.out (.skip 7), .out (.skip 6), .out (.skip 5), .out (.skip 4), .out (.notarFallback 5 7),
       .ev (.safeToNotar 5 7), .out (.timer 0)] := by decide

/-- the slashable combinations of `SlashableOffence` (`pool/slot_state.rs check_slashable_offence`) -/
def slashable : Out → Out → Bool
  | .notar s h _ _, .notar s' h' _ _ => s == s' && h != h'      -- NotarDifferentHash
  | .skip s, .notar s' _ _ _ => s == s'                         -- SkipAndNotarize
  | .notar s _ _ _, .skip s' => s == s'
  | .skip s, .final s' => s == s'                               -- SkipAndFinalize
  | .final s, .skip s' => s == s'
  | .skipFallback s, .final s' => s == s'
  | .final s, .skipFallback s' => s == s'
  | .notarFallback s _, .final s' => s == s'                    -- NotarFallbackAndFinalize
  | .final s, .notarFallback s' _ => s == s'
  | _, _ => false

/-- **The node's own votes are never a slashable combination.** -/
theorem own_votes_never_slashable (es : List Event) (o1 o2 : Out)
    (h1 : .out o1 ∈ log es) (h2 : .out o2 ∈ log es) : slashable o1 o2 = false := by
  have uniq := fun s x y hx hy px py => initial_vote_unique es s x y hx hy px py
  have nofin := no_final_in_bad_slot es
  -- the nine pairs for which the table `slashable` has a row (all others are `false` by `rfl`), named by their constructors
  cases o1 <;> cases o2 <;> (try rfl) <;> simp only [slashable]
  case notar.notar s h ps ph s' h' ps' ph' =>
    refine Bool.and_eq_false_imp.mpr fun hs => ?_
    cases eq_of_beq hs
    cases uniq s _ _ h1 h2 (beq_self_eq_true s) (beq_self_eq_true s)
    exact bne_self_eq_false h
  case notar.skip s h ps ph s' =>
    refine beq_false_of_ne fun hs => ?_
    cases hs; cases uniq s _ _ h1 h2 (beq_self_eq_true s) (beq_self_eq_true s)
  case skip.notar s s' h ps ph =>
    refine beq_false_of_ne fun hs => ?_
    cases hs; cases uniq s _ _ h1 h2 (beq_self_eq_true s) (beq_self_eq_true s)
  case skip.final s s' => exact beq_false_of_ne fun hs => (nofin s' h2).1 (hs ▸ h1)
  case final.skip s s' => exact beq_false_of_ne fun hs => (nofin s h1).1 (hs ▸ h2)
  case skipFallback.final s s' => exact beq_false_of_ne fun hs => (nofin s' h2).2.1 (hs ▸ h1)
  case final.skipFallback s s' => exact beq_false_of_ne fun hs => (nofin s h1).2.1 (hs ▸ h2)
  case notarFallback.final s h s' => exact beq_false_of_ne fun hs => (nofin s' h2).2.2 h (hs ▸ h1)
  case final.notarFallback s s' h => exact beq_false_of_ne fun hs => (nofin s h1).2.2 h (hs ▸ h2)

/-- **Pruning never resurrects a slot; votes are only cast for retained slots.** Everything logged
    after the point where slot `s` fell below the retained window (`s < firstUnpruned`, the start of
    the window of the highest final certificate seen) contains no vote for `s`, whatever events
    follow. -/
theorem pruned_slot_never_votes (es es' : List Event) (s : Nat) (hs : s < (run init es).firstUnpruned) :
    ∃ xs, log (es ++ es') = xs ++ log es ∧ ∀ x ∈ xs, x.voteSlot ≠ some s := by
  obtain ⟨_, xs, hl, hq⟩ := Ext.run es' (run init es)
  refine ⟨xs, by unfold log; rw [run_append]; exact hl, ?_⟩
  intro x hx hv
  have := hq x hx s hv
  omega

/-- the retained window only moves forward -/
theorem first_unpruned_monotone (es es' : List Event) :
    (run init es).firstUnpruned ≤ (run init (es ++ es')).firstUnpruned := by
  rw [run_append]
  exact firstInWindow_mono (Ext.run es' (run init es)).1

/-- **The asserts of votor.rs are unreachable**: as long as the pool announces `ParentReady` only for
    the first slot of a window (what `set_timeouts` asserts; the pool's contract), no event list makes
    Votor panic — in particular the three `slot >= first_unpruned_slot()` asserts of `try_notar`,
    `try_final`, `try_skip_window` can never fire, also not from `check_pending_blocks` after pruning. -/
theorem votor_asserts_unreachable (es : List Event) (hwf : ∀ e ∈ es, e.wellFormed) :
    (run init es).panicked = false :=
  Keys.init.run_panicked es hwf

/-- the hypothesis is needed: `ParentReady` for a slot inside a window trips `set_timeouts`' assert -/
theorem parent_ready_mid_window_panics : (run init [.parentReady 5 0 0]).panicked = true := by decide

/-! ## non-vacuity: concrete histories in which the votes of the theorems are really cast -/

/-- block of slot 1 on genesis, its notarization certificate: notar vote, then finalize vote -/
example : log [.block 1 ⟨9, 0, 0⟩, .cert .notar 1 9] =
    [.out (.cert .notar 1 9), .out (.final 1), .ev (.cert .notar 1 9),
     .out (.notar 1 9 0 0), .ev (.block 1 ⟨9, 0, 0⟩), .out (.timer 0)] := by decide

/-- a block of a window's first slot arriving before its parent is ready is voted for only once
    the parent is announced; its child (delivered even earlier) follows in the same step -/
example : log [.block 5 ⟨50, 4, 40⟩, .block 4 ⟨40, 2, 20⟩, .parentReady 4 2 20] =
    [.out (.timer 4), .out (.notar 5 50 4 40), .out (.notar 4 40 2 20), .ev (.parentReady 4 2 20),
     .ev (.block 4 ⟨40, 2, 20⟩), .ev (.block 5 ⟨50, 4, 40⟩), .out (.timer 0)] := by decide

/-- timeout, then the late block is not notarized; safe-to-notar gives the fallback vote; the
    notarization certificate gives no finalize vote -/
example : log [.timeout 1, .block 1 ⟨9, 0, 0⟩, .safeToNotar 1 9, .cert .notar 1 9] =
    [.out (.cert .notar 1 9), .ev (.cert .notar 1 9), .out (.notarFallback 1 9), .ev (.safeToNotar 1 9),
     .ev (.block 1 ⟨9, 0, 0⟩), .out (.skip 3), .out (.skip 2), .out (.skip 1), .ev (.timeout 1),
     .out (.timer 0)] := by decide

/-- a final certificate in the second window prunes the first: a late block there gets no vote -/
example : log [.cert .final 5 0, .block 1 ⟨9, 0, 0⟩, .timeout 2] =
    [.ev (.timeout 2), .ev (.block 1 ⟨9, 0, 0⟩), .out (.cert .final 5 0), .out (.timer 4),
     .ev (.cert .final 5 0), .out (.timer 0)] := by decide

/-- observation (not a violation of C05): a notarization certificate delivered twice makes Votor
    broadcast the finalize vote twice — `CertCreated` is not filtered for retired slots -/
theorem duplicate_final_on_repeated_cert :
    log [.block 1 ⟨9, 0, 0⟩, .cert .notar 1 9, .cert .notar 1 9] =
    [.out (.cert .notar 1 9), .out (.final 1), .ev (.cert .notar 1 9),
     .out (.cert .notar 1 9), .out (.final 1), .ev (.cert .notar 1 9),
     .out (.notar 1 9 0 0), .ev (.block 1 ⟨9, 0, 0⟩), .out (.timer 0)] := by decide

end AgModel.Votor

/-! ## The composed node: the pool-side ordering is a theorem

`Model/Node.lean` wires the pool model (C03/C06) to Votor through the FIFO event queue as `consensus.rs` does; `NodeOp` /
`nodeStep` / `nodeRun` (`Proofs/NodeRun.lean`) let the adversary choose every interleaving of network votes, certificates,
reconstructed blocks, queue pumps, blockstore events and timeouts. The node's own votes reach its own pool like everybody
else's: as network votes (`All2All::broadcast` delivers to the sender as well). The only premise is unforgeability:
`OwnVotesFromVotor own n sent ops` — every `recvVote v` with `v.signer = own` in `ops` is matched (`outMatches`: kind,
slot, and block for notar / notar-fallback) by a broadcast of the node's own Votor earlier in the same run. -/
namespace AgModel.Node
open AgModel AgModel.NodePanic

/-- the Votor of the composed node is reachable: the invariants of Votor hold of it -/
theorem node_votor_inv (p : Pool.Pool) (ops : List NodeOp) :
    Votor.Inv none (nodeRun { pool := p } ops).votor ∧ Votor.Zero (nodeRun { pool := p } ops).votor := by
  obtain ⟨es, _, hrun⟩ := nodeRun_votor p ops
  rw [hrun]; exact ⟨Votor.inv_reachable es, Votor.Zero.init.run es⟩

/-- **The pool-side guarantee holds in the composed node**: in every run from the fresh node satisfying the unforgeability
    premise, Votor's history is that of a list of well-formed events and satisfies `PoolOrdered` — every safe-to-notar /
    safe-to-skip event reached Votor after Votor cast its initial vote of that slot. (Chain: the pool stores an own vote
    only when it is delivered, hence after it was broadcast, `poolStep_own`; the pool raises the events only when the
    own vote is stored, `s2n_s2s_sound` → `poolStep_goodO`; the queue only delays them.) -/
theorem node_pool_ordered (e : Pool.Epoch) (ops : List NodeOp)
    (hown : OwnVotesFromVotor e.own { pool := { epoch := e } } [] ops = true) :
    ∃ es, (∀ ev ∈ es, Votor.Event.wellFormed ev) ∧
      (nodeRun { pool := { epoch := e } } ops).votor = Votor.run Votor.init es ∧ Votor.PoolOrdered (Votor.log es) := by
  obtain ⟨es, hes, hrun⟩ := nodeRun_votor { epoch := e } ops
  refine ⟨es, hes, hrun, ?_⟩
  have hf := (nodeRun_finv e ops [] _ (FInv.init e) (fun _ h => nomatch h) hown).votor
  rw [hrun] at hf
  refine Votor.Hist.mono ?_ hf
  intro x past hx
  cases x with
  | out o => trivial
  | ev ev =>
    cases ev with
    | safeToNotar s h =>
      rcases hx with hx | ⟨h', _, ps, ph, hx⟩
      · exact ⟨_, hx, beq_self_eq_true _⟩
      · exact ⟨_, hx, beq_self_eq_true _⟩
    | safeToSkip s =>
      obtain ⟨h', ps, ph, hx⟩ := hx
      exact ⟨_, hx, beq_self_eq_true _⟩
    | _ => trivial

/-- **Fallback votes are backed by the right own vote**: whenever the node's Votor casts a notar-fallback vote for
    `(s, h)`, it has before cast a skip vote for `s` or a notar vote for a *different* block of `s`; whenever it casts a
    skip-fallback vote for `s`, it has before cast a notar vote for `s`. -/
theorem node_fallback_backed (e : Pool.Epoch) (ops : List NodeOp)
    (hown : OwnVotesFromVotor e.own { pool := { epoch := e } } [] ops = true) (a b : List Votor.Item) (s : Nat) :
    (∀ h, (nodeRun { pool := { epoch := e } } ops).votor.log = a ++ .out (.notarFallback s h) :: b →
      .out (.skip s) ∈ b ∨ ∃ h' ps ph, h' ≠ h ∧ .out (.notar s h' ps ph) ∈ b) ∧
    ((nodeRun { pool := { epoch := e } } ops).votor.log = a ++ .out (.skipFallback s) :: b →
      ∃ h ps ph, .out (.notar s h ps ph) ∈ b) := by
  have hi := (node_votor_inv { epoch := e } ops).1.hist
  have hf := (nodeRun_finv e ops [] _ (FInv.init e) (fun _ h => nomatch h) hown).votor
  constructor
  · intro h hl
    obtain ⟨rest, rfl⟩ := hi.split a _ b hl
    rcases hf.split_next hl with hx | ⟨h', hne, ps, ph, hx⟩
    · exact Or.inl (List.mem_cons_of_mem _ hx)
    · exact Or.inr ⟨h', ps, ph, hne, List.mem_cons_of_mem _ hx⟩
  · intro hl
    obtain ⟨rest, rfl⟩ := hi.split a _ b hl
    obtain ⟨h', ps, ph, hx⟩ := hf.split_next hl
    exact ⟨h', ps, ph, List.mem_cons_of_mem _ hx⟩

/-- **Fallback votes only in slots where the node already voted** (the clause of C05, in full): for every run of the
    composed node from its initial state — every interleaving of network votes and certificates (anything other
    validators can sign), reconstructed blocks, queue pumps, blockstore events and timeouts, across window boundaries and
    pruning — in which votes signed by the node itself only come from its own Votor, every notar-fallback / skip-fallback
    vote the Votor casts for slot `s` is preceded in its history by an initial vote (notar or skip) of the Votor in `s`. -/
theorem node_fallback_only_after_vote (e : Pool.Epoch) (ops : List NodeOp)
    (hown : OwnVotesFromVotor e.own { pool := { epoch := e } } [] ops = true)
    (a b : List Votor.Item) (s : Nat) (x : Votor.Item)
    (hx : x = .out (.skipFallback s) ∨ ∃ h, x = .out (.notarFallback s h))
    (hl : (nodeRun { pool := { epoch := e } } ops).votor.log = a ++ x :: b) : ∃ y ∈ b, y.isInit s = true := by
  obtain ⟨es, _, hrun, hp⟩ := node_pool_ordered e ops hown
  exact Votor.fallback_only_after_vote_partial es hp a b s x hx (by rw [← hl, hrun]; rfl)

/-- the same on what an observer of the network sees: in the list of all broadcasts of the run, in order, every fallback
    vote for `s` comes after a notar or skip vote for `s` -/
theorem node_fallback_only_after_vote_broadcasts (e : Pool.Epoch) (ops : List NodeOp)
    (hown : OwnVotesFromVotor e.own { pool := { epoch := e } } [] ops = true)
    (pre post : List Votor.Out) (s : Nat) (x : Votor.Out)
    (hx : x = .skipFallback s ∨ ∃ h, x = .notarFallback s h)
    (hl : nodeRunOuts { pool := { epoch := e } } ops = pre ++ x :: post) :
    ∃ y ∈ pre, y = .skip s ∨ ∃ h ps ph, y = .notar s h ps ph := by
  have hout := nodeRun_outs ops ({ pool := { epoch := e } } : Node)
  rw [hl] at hout
  have h0 : outsOf ({ pool := { epoch := e } } : Node).votor.log = [.timer 0] := rfl
  rw [h0, ← List.append_assoc] at hout
  obtain ⟨a, b, hab, hb⟩ := outsOf_split hout
  obtain ⟨y, hy, hyi⟩ := node_fallback_only_after_vote e ops hown a b s (.out x)
    (by rcases hx with rfl | ⟨h, rfl⟩; exact Or.inl rfl; exact Or.inr ⟨h, rfl⟩) hab
  cases y with
  | ev ev => simp [Votor.Item.isInit] at hyi
  | out o =>
    have ho : o ∈ [Votor.Out.timer 0] ++ pre := by rw [← hb]; exact mem_outsOf.mpr hy
    cases o with
    | notar s' h ps ph =>
      simp only [Votor.Item.isInit, beq_iff_eq] at hyi; subst hyi
      exact ⟨_, by simpa using ho, Or.inr ⟨h, ps, ph, rfl⟩⟩
    | skip s' =>
      simp only [Votor.Item.isInit, beq_iff_eq] at hyi; subst hyi
      exact ⟨_, by simpa using ho, Or.inl rfl⟩
    | _ => simp [Votor.Item.isInit] at hyi

/-- **Safe-to-notar fallback votes are never for the block the node notarized**: in such a run, if the Votor casts a
    notar-fallback vote for `(s, h)` and (at any time) a notar vote for `(s, h')`, then `h' ≠ h`. -/
theorem node_fallback_not_for_own_block (e : Pool.Epoch) (ops : List NodeOp)
    (hown : OwnVotesFromVotor e.own { pool := { epoch := e } } [] ops = true) (s h h' ps ph : Nat)
    (hf : .out (.notarFallback s h) ∈ (nodeRun { pool := { epoch := e } } ops).votor.log)
    (hn : .out (.notar s h' ps ph) ∈ (nodeRun { pool := { epoch := e } } ops).votor.log) : h' ≠ h := by
  have hi := (node_votor_inv { epoch := e } ops).1
  obtain ⟨a, b, hab⟩ := List.append_of_mem hf
  have hsub : ∀ y ∈ b, y ∈ (nodeRun { pool := { epoch := e } } ops).votor.log := by intro y hy; rw [hab]; simp [hy]
  rcases (node_fallback_backed e ops hown a b s).1 h hab with hm | ⟨h'', ps', ph', hne, hm⟩
  · cases hi.init_unique s _ _ hn (hsub _ hm) (beq_self_eq_true _) (beq_self_eq_true _)
  · have := hi.init_unique s _ _ hn (hsub _ hm) (beq_self_eq_true _) (beq_self_eq_true _)
    simp only [Votor.Item.out.injEq, Votor.Out.notar.injEq] at this
    rw [this.2.1]; exact hne

/-! ### the premise is needed, and satisfiable by runs in which the fallback votes are really cast -/

/-- 5 equal validators, the node is validator 0 -/
def demoEpoch : Pool.Epoch := { stakes := [1, 1, 1, 1, 1], own := 0 }

/-- the node times out in window 0 (skip votes for 1, 2, 3), its skip vote for slot 2 loops back into its pool, two others
    notarize block 7 of slot 2 whose parent `(1, 5)` has a notar-fallback certificate: the pool raises safe-to-notar and
    Votor answers with the notar-fallback vote -/
def demoS2N : List NodeOp :=
  [.timeout 1, .recvCert ⟨.nf, 1, 5, [1, 2], [3], 3⟩, .recvVote ⟨.skip, 2, 0, 0⟩, .recvVote ⟨.notar, 2, 7, 1⟩,
   .recvVote ⟨.notar, 2, 7, 2⟩, .poolBlock (2, 7) (1, 5), .pump, .pump]

/-- non-vacuity (safe-to-notar): the premise holds and the fallback vote is cast, after the skip vote -/
example : OwnVotesFromVotor 0 { pool := { epoch := demoEpoch } } [] demoS2N = true ∧
    nodeRunOuts { pool := { epoch := demoEpoch } } demoS2N =
      [.skip 1, .skip 2, .skip 3, .cert .notarFallback 1 5, .notarFallback 2 7] := by decide +kernel

/-- non-vacuity (safe-to-skip): the node notarizes block 9 of slot 1, the vote loops back, two others skip: safe-to-skip,
    skip-fallback vote (and the skip votes for the rest of the window) -/
example :
    let ops : List NodeOp := [.votorBlock 1 ⟨9, 0, 0⟩, .recvVote ⟨.notar, 1, 9, 0⟩, .recvVote ⟨.skip, 1, 0, 1⟩,
      .recvVote ⟨.skip, 1, 0, 2⟩, .pump]
    OwnVotesFromVotor 0 { pool := { epoch := demoEpoch } } [] ops = true ∧
    nodeRunOuts { pool := { epoch := demoEpoch } } ops = [.notar 1 9 0 0, .skipFallback 1, .skip 2, .skip 3] := by
  decide +kernel

/-- **The unforgeability premise is necessary**: the same run as `demoS2N` without the timeout — the skip vote "of validator
    0" for slot 2 delivered to node 0 was never cast by its Votor (a forgery) — makes the pool raise safe-to-notar for the
    unvoted slot, and Votor broadcasts the notar-fallback vote *before* its initial (skip) vote of slot 2. -/
theorem node_fallback_needs_unforgeability :
    OwnVotesFromVotor 0 { pool := { epoch := demoEpoch } } [] demoS2N.tail = false ∧
    nodeRunOuts { pool := { epoch := demoEpoch } } demoS2N.tail =
      [.cert .notarFallback 1 5, .notarFallback 2 7, .skip 1, .skip 2, .skip 3] := by decide +kernel

end AgModel.Node
