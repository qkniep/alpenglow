import AgModel.Proofs.BlockstoreOwn
import AgModel.Props.C15
/-!
# C13 — the blockstore rebuilds exactly the disseminated block, once, and flags bad ones
-/
namespace AgModel.Blockstore

/-- `flag_leader_misbehavior` notifies at most once. -/
theorem flag_once (sd : SlotData) :
    (flag sd).1.misbehaved = true ∧ ((flag sd).2 = if sd.misbehaved then [] else [.invalidBlock]) := by
  unfold flag; cases h : sd.misbehaved <;> simp [h]

/-- **A shred whose data/coding type does not fit its index is ignored** (D15 `fix:`): on an unflagged slot it
    changes nothing, sends nothing and flags nobody - whatever else it carries. (This is why `conflicting_slice_flagged`
    and `contradictory_marker_flagged` below have the premise `s.ty = true`: the blockstore cannot tell a relay's flip
    from the leader's doing, so it neither stores nor blames; at node level a conflicting commitment is still reported,
    by `try_new`, before the type is looked at - C12 `node_conflict_reported`.) -/
theorem wrong_type_ignored (env : Nat → Content) (sd : SlotData) (s : Shred) (hm : sd.misbehaved = false)
    (hty : s.ty = false) : addDissem env sd s = (sd, .err .wrongType, []) := by
  rw [addDissem_eq env sd s hm, addShred_wrongType env sd.dis s hty]
  rfl

/-- what a dissemination step sends is read off its answer: `InvalidBlock` for an answer that gets the slot flagged (nothing
    if it is flagged already), else the answer's own event; in any state, for any shred -/
theorem addDissem_events (env : Nat → Content) (sd : SlotData) (s : Shred) :
    (addDissem env sd s).2.2 =
      if isBadErr (addDissem env sd s).2.1 then (if sd.misbehaved then [] else [.invalidBlock])
      else evOf (addDissem env sd s).2.1 := by
  by_cases hm : sd.misbehaved = true
  · rw [addDissem_flagged env sd s hm, if_pos hm]; rfl
  · rw [addDissem_eq env sd s (Bool.eq_false_iff.mpr hm), flagIfBad_res, flagIfBad_events, if_neg hm]
    exact congrArg (if isBadErr _ then · else _) ((flag_once _).2.trans (if_neg hm))

theorem addDissem_cases (env : Nat → Content) (sd : SlotData) (s : Shred) (h : sd.misbehaved = false) :
    ((addDissem env sd s).1.misbehaved = false ∧ (∀ e ∈ (addDissem env sd s).2.2, e ≠ .invalidBlock)) ∨
    ((addDissem env sd s).1.misbehaved = true ∧ (addDissem env sd s).2.2 = [.invalidBlock]) := by
  have hne : (addShred env sd.dis s).2 ≠ .ev .invalidBlock :=
    addShred_ind (P := fun r => r.2 ≠ .ev .invalidBlock) nofun fun _ => addShredCore_ne_invalidBlock env sd.dis s
  rw [addDissem_eq env sd s h]
  unfold flagIfBad
  split
  · exact Or.inr ⟨(flag_once _).1, (flag_once _).2.trans (if_neg (by rw [h]; nofun))⟩
  · exact Or.inl ⟨h, fun e he h' => hne (h' ▸ mem_evOf.mp he)⟩

/-- **InvalidBlock exactly once, nothing from dissemination afterwards.** For every sequence of
    dissemination shreds whatsoever (any order, duplication, any mix of validly signed slices), the
    events sent to Votor are a sequence without `InvalidBlock`, optionally followed by exactly one
    `InvalidBlock` — after which the slot is flagged and nothing (no `Block`, no `FirstShred`) is
    announced from dissemination any more. -/
theorem invalid_once_then_silent (env : Nat → Content) (sd : SlotData) (ss : List Shred)
    (h : sd.misbehaved = false) :
    ∃ pre, (∀ e ∈ pre, e ≠ Event.invalidBlock) ∧
      (((runDissem env sd ss).2 = pre ∧ (runDissem env sd ss).1.misbehaved = false) ∨
       ((runDissem env sd ss).2 = pre ++ [.invalidBlock] ∧ (runDissem env sd ss).1.misbehaved = true)) := by
  induction ss generalizing sd with
  | nil => exact ⟨[], by simp, Or.inl ⟨rfl, h⟩⟩
  | cons s rest ih =>
    rcases addDissem_cases env sd s h with ⟨hm, hne⟩ | ⟨hm, hev⟩
    · obtain ⟨pre, hpre, hcase⟩ := ih (addDissem env sd s).1 hm
      refine ⟨(addDissem env sd s).2.2 ++ pre, fun e he => (List.mem_append.mp he).elim (hne e) (hpre e), ?_⟩
      simp only [runDissem]
      rcases hcase with ⟨h1, h2⟩ | ⟨h1, h2⟩
      · left; exact ⟨by rw [h1], h2⟩
      · right; exact ⟨by rw [h1, List.append_assoc], h2⟩
    · refine ⟨[], by simp, Or.inr ?_⟩
      simp only [runDissem]
      rw [runDissem_flagged env _ rest hm]
      simp [hev, hm]

theorem flagged_refuses (env : Nat → Content) (sd : SlotData) (s : Shred) (h : sd.misbehaved = true) :
    addDissem env sd s = (sd, .err .invalidShred, []) := addDissem_flagged env sd s h

/-- shreds of the wrong type are invisible in every delivery to every slot: an unflagged slot ignores them
    (`wrong_type_ignored`), a flagged one refuses whatever comes -/
theorem runDissem_filter_ty (env : Nat → Content) (sd : SlotData) (ss : List Shred) :
    runDissem env sd ss = runDissem env sd (ss.filter (·.ty)) := by
  induction ss generalizing sd with
  | nil => rfl
  | cons s rest ih =>
    cases hty : s.ty with
    | true => simp only [List.filter_cons, hty, if_true, runDissem, ih]
    | false =>
      simp only [List.filter_cons, hty, Bool.false_eq_true, if_false]
      rw [← ih sd]
      cases hm : sd.misbehaved with
      | true => rw [runDissem_flagged env sd _ hm, runDissem_flagged env sd _ hm]
      | false => simp only [runDissem, wrong_type_ignored env sd s hm hty, List.nil_append]

/-- **Only well-formed blocks are ever announced** (the safety half of `bad_block_flagged`, for every
    state and every shred, dissemination or repair): whenever `add_shred` announces a block,
    * its hash is the double-Merkle root of the reconstructed slices' roots, in slice order,
    * the first slice carries a parent, every slice's transactions decode and the block's
      transactions are their concatenation,
    * at most one later slice switches the parent, never to the current parent, and the announced
      parent is the switched one (else the first slice's),
    * the announced parent is in an earlier slot (fix D3),
    and exactly this block is what is stored as `completed`. -/
theorem announced_block_wellformed (env : Nat → Content) (b b' : BlockData) (s : Shred) (info : BlockInfo)
    (h : addShredCore env b s = (b', .ev (.block info))) :
    ∃ (b1 : BlockData) (first : RSlice) (p0 : Nat × Nat) (txs : List Nat),
      let vals := mapVals b1.cap b1.slices
      info.hash = (Merkle.Tree.new (vals.map (·.root))).root ∧
      b1.slices 0 = some first ∧ first.parent = some p0 ∧
      (∀ r ∈ vals, ∃ t, r.txs = some t) ∧ txs = vals.flatMap (fun r => r.txs.getD []) ∧
      ((switches vals = [] ∧ info.parent = p0) ∨
        (∃ r, switches vals = [r] ∧ r.parent = some info.parent ∧ info.parent ≠ p0)) ∧
      info.parent.1 < b1.slot ∧
      b'.completed = some ⟨info.hash, info.parent, txs⟩ := by
  obtain ⟨b1, hb1⟩ := addShred_block_origin env b b' s info h
  obtain ⟨txs, hcomp, hslot, hhash, first, p0, hf, hp0, hfold⟩ := tryReconstructBlock_complete hb1
  obtain ⟨htx1, htx2⟩ := foldSlices_txs hfold
  refine ⟨b1, first, p0, txs, hhash, hf, hp0, htx1, by simpa using htx2, ?_, hslot, hcomp⟩
  rcases foldSlices_parent hfold with h1 | ⟨_, r, h2, h3, h4⟩
  · exact Or.inl h1
  · exact Or.inr ⟨r, h2, h3, h4⟩

theorem addDissem_equivocation (env : Nat → Content) (sd : SlotData) (s : Shred) (hm : sd.misbehaved = false)
    (hty : s.ty = true) (h : (addShredCore env sd.dis s).2 = .err .equivocation) :
    (addDissem env sd s).2 = (.err .equivocation, [.invalidBlock]) ∧ (addDissem env sd s).1.misbehaved = true := by
  rw [addDissem_of_ty env sd s hm hty, h]
  simp [flagIfBad, isBadErr, flag, hm]

/-- **Conflicting slices are flagged.** A validly signed shred (of the type that fits its index) whose commitment
    differs from the one cached for its slice index is answered `Equivocation`, and (on the dissemination path of a slot
    not yet flagged) exactly one `InvalidBlock` is sent and the slot is flagged. -/
theorem conflicting_slice_flagged (env : Nat → Content) (sd : SlotData) (s : Shred) (c : Commitment)
    (hm : sd.misbehaved = false) (hty : s.ty = true) (hc : sd.dis.cache s.slice = some c) (hne : c ≠ s.commitment) :
    (addDissem env sd s).2 = (.err .equivocation, [.invalidBlock]) ∧ (addDissem env sd s).1.misbehaved = true :=
  addDissem_equivocation env sd s hm hty
    (by rw [addShredCore_of_cache_none (cacheStep_eq_none_iff.mpr ⟨c, hc, hne⟩)])

/-- **Contradictory last-slice markers are flagged**, in both arrival orders: once slice `l` is marked
    last, a shred of a later slice, another last marker, or an unmarked shred of slice `l` is
    `Equivocation`; and a last marker on slice `k` arriving after any shred of a slice beyond `k` is
    `Equivocation` too (fix D2). -/
theorem contradictory_marker_flagged (env : Nat → Content) (sd : SlotData) (s : Shred)
    (hm : sd.misbehaved = false) (hty : s.ty = true)
    (hbad : (∃ l, sd.dis.lastSlice = some l ∧ ¬ ((s.slice < l ∧ s.isLast = false) ∨ (s.slice = l ∧ s.isLast = true))) ∨
            (sd.dis.lastSlice = none ∧ s.isLast = true ∧ ∃ k, s.slice < k ∧ k < sd.dis.cap ∧ (sd.dis.cache k).isSome)) :
    (addDissem env sd s).2 = (.err .equivocation, [.invalidBlock]) ∧ (addDissem env sd s).1.misbehaved = true := by
  refine addDissem_equivocation env sd s hm hty ?_
  cases hcs : cacheStep sd.dis s with
  | none => rw [addShredCore_of_cache_none hcs]
  | some b1 =>
    obtain ⟨c, rfl, _, hoth, _⟩ := cacheStep_some hcs
    rw [addShredCore_of_cache_some hcs, lastStep_eq_none_iff.mpr ?_]
    rcases hbad with h | ⟨hn, hil, k, hk1, hk2, hk3⟩
    · exact Or.inr h
    · -- the cached slice `k` beyond the shred's is still cached after stage 1
      refine Or.inl ⟨hn, hil, List.any_eq_true.mpr ⟨k, List.mem_range.mpr hk2, ?_⟩⟩
      change (decide (s.slice < k) && (c k).isSome) = true
      rw [hoth k (by omega), hk3, decide_eq_true hk1]
      rfl

/-! ### blocks of a correct leader

`HBlock` describes a block as the leader cut it (`n ≥ 1` slices, roots, parent on the first slice and
optionally one handover switch, transactions); `HBlock.WF` says it is what a *correct* leader produces
(every slice decodes to what was encoded, the handover rules hold, the parent is in an earlier slot);
`HBlock.Honest s` says `s` is one of the leader's `64·n` shreds. The delivery `ss` below is an
arbitrary list of such shreds: any order, any duplication, any subset, interleaved across slices. -/

open HBlock

def GoodSd (B : HBlock) (cap : Nat) (sd : SlotData) : Prop := sd.misbehaved = false ∧ Good B cap sd.dis

theorem addDissem_good (B : HBlock) (env : Nat → Content) (cap : Nat) (hwf : B.WF env cap)
    (sd : SlotData) (s : Shred) (hg : GoodSd B cap sd) (hs : B.Honest s) :
    GoodSd B cap (addDissem env sd s).1 ∧ HonestRes B (addDissem env sd s).2.1 := by
  obtain ⟨h1, h2⟩ := addShred_good B env cap hwf sd.dis s hg.2 hs
  rw [addDissem_of_ty env sd s hg.1 hs.ty]
  unfold flagIfBad
  rw [if_neg (by rw [h2.ok]; nofun)]
  exact ⟨⟨hg.1, h1⟩, h2⟩

/-- a slot announces a block at most once, whatever is delivered to it: a step that sends `Block` closes the open
    `completed`, and no step reopens it -/
theorem addDissem_block_count (env : Nat → Content) (sd : SlotData) (s : Shred) (info : BlockInfo) :
    (addDissem env sd s).2.2.count (.block info) + (if (addDissem env sd s).1.dis.completed.isSome then 0 else 1) ≤
      (if sd.dis.completed.isSome then 0 else 1) := by
  rw [addDissem_events]
  cases hm : sd.misbehaved with
  | true => rw [addDissem_flagged env sd s hm]; exact Nat.le_of_eq (Nat.zero_add _)
  | false =>
    rw [addDissem_eq env sd s hm, flagIfBad_dis, flagIfBad_res]
    cases hty : s.ty with
    | false => rw [addShred_wrongType env sd.dis s hty]; exact Nat.le_of_eq (Nat.zero_add _)
    | true =>
      rw [addShred_of_ty env sd.dis s hty]
      rcases addShredCore_completed env sd.dis s with ⟨h1, h2⟩ | ⟨h0, b1, info', e, hr⟩
      · -- `completed` untouched: whatever is sent is no block
        rw [h1]
        refine Nat.le_of_eq ((congrArg (· + _) ?_).trans (Nat.zero_add _))
        cases hr : (addShredCore env sd.dis s).2 with
        | ev e => cases h2 e hr; rfl
        | err e => cases e <;> rfl
        | _ => rfl
      · obtain ⟨_, hcc, _⟩ := tryReconstructBlock_complete e
        rw [hr, hcc, h0]
        exact List.count_le_length (l := [Event.block info'])

/- `honest_block_once` is proved in two layers. `honest_never_flagged` (safety, from ANY store state that
   holds only the leader's data): never flagged, only the leader's block, at most once. The exact layer
   below (`honest_run_exact` … `leader_fast_path_equal`, from a fresh slot): the store and the events
   are a *function of the set of delivered shreds*, which gives existence, exactly-once, timeliness,
   order independence and the equality with the leader's own fast path. -/

/-- **A correct leader's block: never flagged, announced at most once, and only as itself**
    (`honest_block_once`, safety layer — for all block shapes, all deliveries, all `Good` start states).
    For every delivery `ss` of the leader's shreds into a store holding only the leader's data:
    * no `InvalidBlock` is ever sent and the slot is never flagged (so no shred was answered
      `Equivocation` / `InvalidShred`);
    * every `Block` event carries exactly the leader's block: hash = double-Merkle root of the slice
      roots, the leader's (switched) parent; and the stored block has the leader's transactions;
    * the `Block` event is sent at most once;
    * everything the store holds afterwards (shreds, reconstructed slices, cached commitments, last
      slice index, completed block) is the leader's (`Good`). -/
theorem honest_never_flagged_typed (B : HBlock) (env : Nat → Content) (cap : Nat) (hwf : B.WF env cap)
    (sd : SlotData) (hg : GoodSd B cap sd) (ss : List Shred) (hss : ∀ s ∈ ss, B.Honest s) :
    GoodSd B cap (runDissem env sd ss).1 ∧
    (∀ e ∈ (runDissem env sd ss).2, e = .firstShred ∨ e = .block B.block.info) ∧
    ((runDissem env sd ss).2.count (.block B.block.info) ≤ (if sd.dis.completed.isSome then 0 else 1)) := by
  induction ss generalizing sd with
  | nil => exact ⟨hg, nofun, Nat.zero_le _⟩
  | cons s rest ih =>
    have hs := hss s List.mem_cons_self
    obtain ⟨hg1, hres⟩ := addDissem_good B env cap hwf sd s hg hs
    obtain ⟨ih1, ih2, ih3⟩ := ih (addDissem env sd s).1 hg1 (fun x hx => hss x (List.mem_cons_of_mem _ hx))
    have hcnt := addDissem_block_count env sd s B.block.info
    simp only [runDissem]
    refine ⟨ih1, fun e he => ?_, by rw [List.count_append]; exact Nat.le_trans (Nat.add_le_add_left ih3 _) hcnt⟩
    rcases List.mem_append.mp he with he | he
    · rw [addDissem_events, if_neg (by rw [hres.ok]; nofun)] at he
      have hr := mem_evOf.mp he
      rcases hres with h | h | h | h <;> rw [h] at hr <;> cases hr
      · exact Or.inl rfl
      · exact Or.inr rfl
    · exact ih2 e he

/-- a shred of the leader's block as it may arrive: the leader's shred, except that whoever passed it on may have
    flipped the (unauthenticated) data/coding type -/
def HBlock.HonestUpToType (B : HBlock) (s : Shred) : Prop := B.Honest { s with ty := true }

theorem HBlock.Honest.upToType {B : HBlock} {s : Shred} (hs : B.Honest s) : B.HonestUpToType s := by
  have := hs.ty
  cases s; simp_all [HBlock.HonestUpToType]

theorem HBlock.HonestUpToType.honest {B : HBlock} {s : Shred} (hs : B.HonestUpToType s) (hty : s.ty = true) :
    B.Honest s := by
  cases s; simp_all [HBlock.HonestUpToType]

/-- **Relayed type flips are invisible** (D15 `fix:`): from a store that holds only the leader's data, a delivery of
    the leader's shreds some of which had their data/coding type flipped on the way behaves - state and events -
    exactly like the delivery without those shreds. Every theorem below about deliveries of the leader's own shreds
    (`honest_run_exact`, `honest_block_timely`, `delivery_order_independent`, …) therefore applies to the deliveries
    with flips through this equation (which holds in every state, for every delivery: `runDissem_filter_ty`). -/
theorem relayed_type_flips_ignored (B : HBlock) (env : Nat → Content) (cap : Nat) (hwf : B.WF env cap)
    (sd : SlotData) (hg : GoodSd B cap sd) (ss : List Shred) (hss : ∀ s ∈ ss, B.HonestUpToType s) :
    runDissem env sd ss = runDissem env sd (ss.filter (·.ty)) ∧ ∀ s ∈ ss.filter (·.ty), B.Honest s :=
  ⟨runDissem_filter_ty env sd ss, fun s hs => (hss s (List.mem_filter.mp hs).1).honest (List.mem_filter.mp hs).2⟩

/-- **A correct leader's block: never flagged, announced at most once, and only as itself - whatever relays do to
    the data/coding type of its shreds** (`honest_block_once`, safety layer).
    The statement of `honest_never_flagged_typed` for every delivery of shreds that are the leader's *up to the
    unauthenticated type*. (Without the D15 `fix:` one flipped shred makes the layout check of its slice fail as soon as
    it is stored and gets the leader flagged: `tag_flip_flagged_old_witness`.) -/
theorem honest_never_flagged (B : HBlock) (env : Nat → Content) (cap : Nat) (hwf : B.WF env cap)
    (sd : SlotData) (hg : GoodSd B cap sd) (ss : List Shred) (hss : ∀ s ∈ ss, B.HonestUpToType s) :
    GoodSd B cap (runDissem env sd ss).1 ∧
    (∀ e ∈ (runDissem env sd ss).2, e = .firstShred ∨ e = .block B.block.info) ∧
    ((runDissem env sd ss).2.count (.block B.block.info) ≤ (if sd.dis.completed.isSome then 0 else 1)) := by
  obtain ⟨heq, hh⟩ := relayed_type_flips_ignored B env cap hwf sd hg ss hss
  rw [heq]
  exact honest_never_flagged_typed B env cap hwf sd hg _ hh

/-- the very first shred of a correct leader's block is announced as `FirstShred` -/
theorem honest_first_shred (B : HBlock) (env : Nat → Content) (cap : Nat) (s : Shred) (hs : B.Honest s) (hcap : B.n ≤ cap) :
    (addDissem env (SlotData.new cap B.slot) s).2 = (.ev .firstShred, [.firstShred]) := by
  -- stages 1 and 2 store nothing
  have hsh : ∀ i, (B.staged (BlockData.new cap B.slot) s).shreds i = none := by
    unfold HBlock.staged
    split
    · exact fun i => Option.eq_none_iff_forall_ne_some.mpr fun a h => nomatch (retainLe_eq_some h).2
    · exact fun _ => rfl
  rw [addDissem_of_ty env _ s rfl hs.ty, show (SlotData.new cap B.slot).dis = BlockData.new cap B.slot from rfl,
    addShredCore_own (good_new B cap) hs]
  rcases storeStep_cases env (B.staged (BlockData.new cap B.slot) s) s with ⟨_, arr, h1, _⟩ | ⟨_, ⟨_, e⟩ | ⟨he, _⟩⟩
  · exact nomatch (hsh _).symm.trans h1
  · rw [e]; rfl
  · rw [(mapEmpty_iff _ _).mpr fun i _ => hsh i] at he; cases he

/-- **Afterwards everything served is the leader's** (`get_shred`, `get_slice_root`, `get_block`,
    `get_last_slice_index` on the disseminated block): whatever the store returns for the block's
    hash is the leader's shred / slice root / block / slice count. -/
theorem honest_served_is_leaders (B : HBlock) (cap : Nat) (sd : SlotData) (hg : GoodSd B cap sd)
    (hc : sd.dis.completed = some B.block) (hrep : repGet sd.rep B.block.hash = none) :
    getBlock sd B.block.hash = some B.block ∧ disseminatedHash sd = some B.block.hash ∧
    (∀ i j s, getShred sd B.block.hash i j = some s → i < B.n ∧ j < TOTAL_SHREDS ∧ s = B.shred i j) ∧
    (∀ i r, getSliceRoot sd B.block.hash i = some r → i < B.n ∧ r = B.root i) ∧
    (∀ l, getLastSliceIndex sd B.block.hash = some l → l + 1 = B.n) := by
  have hbd : blockData sd B.block.hash = some sd.dis := by unfold blockData; simp [hc]
  refine ⟨by simp [getBlock, hbd, hc], by simp [disseminatedHash, hc], ?_, ?_, ?_⟩
  · intro i j s h
    simp only [getShred, hbd, Option.bind_some, Option.bind_eq_some_iff] at h
    obtain ⟨arr, ha, h⟩ := h
    exact ⟨(hg.2.shreds i arr ha).1, (hg.2.shreds i arr ha).2 j s h⟩
  · intro i r h
    simp only [getSliceRoot, hbd, Option.bind_some, Option.bind_eq_some_iff, Option.map_eq_some_iff] at h
    obtain ⟨arr, ha, f, hf, hr⟩ := h
    obtain ⟨j, hj⟩ := present_mem arr f (List.mem_of_mem_head? hf)
    refine ⟨(hg.2.shreds i arr ha).1, ?_⟩
    rw [← hr, ((hg.2.shreds i arr ha).2 j f hj).2]; rfl
  · intro l h
    simp only [getLastSliceIndex, hbd, Option.bind_some] at h
    exact hg.2.last l h

/-! ### completeness: the store and the events are a function of the delivered set

`distinctShreds ss i` is the number of distinct shred indices of slice `i` occurring in the delivery `ss`
(`(List.range TOTAL_SHREDS).countP fun j => ss.any fun s => i == s.slice && j == s.idx`);
`Enough B ss` says every slice `i < B.n` of the block — including the last-marked one — has at least
`DATA_SHREDS` (32) distinct shreds in `ss`. The Reed–Solomon law used is `HBlock.WF.envok`: any
`DATA_SHREDS` of the `TOTAL_SHREDS` shreds of a slice root the leader signed decode to the payload the
leader encoded (the decoder `env` is a parameter; `exEnv` below is a lawful instance). All theorems are
for a fresh slot (`SlotData.new`), every well-formed block, every list of the leader's shreds. -/

/-- **Exact run.** After any delivery `ss` of a correct leader's shreds (any order, duplicates, any
    subset, interleaved across slices) into a fresh slot, the slot's state is the canonical state of
    the *set* of delivered shreds (never flagged, no repair data), and the events sent to Votor are
    exactly: `FirstShred` iff something was delivered, then `Block(B)` iff every slice has ≥ 32
    distinct shreds — nothing else, in this order. -/
theorem honest_run_exact (B : HBlock) (env : Nat → Content) (cap : Nat) (hwf : B.WF env cap)
    (ss : List Shred) (hss : ∀ s ∈ ss, B.Honest s) :
    (runDissem env (SlotData.new cap B.slot) ss).1 = ⟨canon B cap (delivered ss), [], false⟩ ∧
    (runDissem env (SlotData.new cap B.slot) ss).2 =
      (if ss = [] then [] else [.firstShred]) ++ (if Enough B ss then [.block B.block.info] else []) := by
  obtain ⟨h1, h2⟩ := runDissem_fresh B env cap hwf.cut ss hss
  exact ⟨h1 fun _ => hwf.pslot, by rw [h2, show doneEv B = .block B.block.info from if_pos hwf.pslot]⟩

/-- once every slice has 32 distinct shreds, state and events no longer depend on the delivery -/
theorem honest_run_enough (B : HBlock) (env : Nat → Content) (cap : Nat) (hwf : B.WF env cap)
    (ss : List Shred) (hss : ∀ s ∈ ss, B.Honest s) (hen : Enough B ss) :
    runDissem env (SlotData.new cap B.slot) ss = (⟨canonFull B cap, [], false⟩, [.firstShred, .block B.block.info]) := by
  have hne : ss ≠ [] := fun h => not_enough_nil B hwf.npos (h ▸ hen)
  obtain ⟨a1, a2⟩ := honest_run_exact B env cap hwf ss hss
  rw [canon_full cap hwf.npos hen] at a1
  rw [if_neg hne, if_pos hen] at a2
  exact Prod.ext a1 a2

/-- fix D3 in general: a delivery that completes a correctly cut block whose parent is not in an earlier slot announces
    the first shred and then `InvalidBlock`, never the block -/
theorem late_parent_flagged (B : HBlock) (env : Nat → Content) (cap : Nat) (hwf : B.Cut env cap)
    (hlate : ¬ B.fparent.1 < B.slot) (ss : List Shred) (hss : ∀ s ∈ ss, B.Honest s) (hen : Enough B ss) :
    (runDissem env (SlotData.new cap B.slot) ss).2 = [.firstShred, .invalidBlock] := by
  rw [(runDissem_fresh B env cap hwf ss hss).2, if_neg fun (e : ss = []) => not_enough_nil B hwf.npos (e ▸ hen),
    if_pos hen, show doneEv B = .invalidBlock from if_neg hlate]
  rfl

/-- **One step, exactly** (`pre` = what was delivered before, `s` = the shred delivered now): the answer
    of `add_shred_from_dissemination` and the events it sends. `Duplicate` iff the very shred is stored
    already or its slice is already decoded; else `FirstShred` iff nothing was delivered before; else
    `Block(B)` iff now every slice has ≥ 32 distinct shreds; else nothing. -/
theorem honest_step_exact (B : HBlock) (env : Nat → Content) (cap : Nat) (hwf : B.WF env cap)
    (pre : List Shred) (s : Shred) (hss : ∀ x ∈ pre ++ [s], B.Honest x) :
    (addDissem env (runDissem env (SlotData.new cap B.slot) pre).1 s).2.1 =
      (if delivered pre s.slice s.idx = true ∨ DATA_SHREDS ≤ distinctShreds pre s.slice then .err .duplicate
       else if pre = [] then .ev .firstShred
       else if Enough B (pre ++ [s]) then .ev (.block B.block.info) else .none) ∧
    (addDissem env (runDissem env (SlotData.new cap B.slot) pre).1 s).2.2 =
      (if pre = [] then [.firstShred]
       else if ¬ Enough B pre ∧ Enough B (pre ++ [s]) then [.block B.block.info] else []) := by
  have hpre : ∀ x ∈ pre, B.Honest x := fun x hx => hss x (List.mem_append_left _ hx)
  have hs : B.Honest s := hss s (by simp)
  have r12 := (addDissem_exact (env := env) (sd := ⟨canon B cap (delivered pre), [], false⟩) hwf.cut rfl
    (canon_exact B cap (delivered pre)) hs).1
  rw [← (runDissem_fresh B env cap hwf.cut pre hpre).1 fun _ => hwf.pslot] at r12
  have r1 : _ = resOf B (delivered pre) s := congrArg Prod.fst r12
  have r2 : _ = stepEvents B (delivered pre) s := congrArg Prod.snd r12
  have hemp := empty_delivered_iff B pre hpre
  have hfull : Full B (dadd (delivered pre) s) ↔ Enough B (pre ++ [s]) := by
    rw [← delivered_append_one]; exact Iff.rfl
  refine ⟨?_, ?_⟩
  · rw [r1]
    unfold resOf distinctShreds doneRes
    rw [if_pos hwf.pslot]
    by_cases hdup : delivered pre s.slice s.idx = true ∨ DATA_SHREDS ≤ cnt (delivered pre) s.slice
    · rw [if_pos hdup, if_pos hdup]
    · rw [if_neg hdup, if_neg hdup, ite_iff hemp, ite_iff hfull]
  · rw [r2]
    unfold stepEvents doneEv
    rw [if_pos hwf.pslot, ite_iff hemp]
    by_cases hnil : pre = []
    · rw [if_pos hnil, if_pos hnil]
    · rw [if_neg hnil, if_neg hnil]
      apply ite_iff
      rw [hfull]; exact Iff.rfl

/-- **Announced iff enough arrived, exactly once, only as itself** (`honest_block_once`, completeness).
    For every delivery `ss` — hence for every prefix of every delivery — of a correct leader's shreds:
    the `Block` event of `B` (hash = double-Merkle root of the slice roots, the leader's parent after
    the single legal handover, see `HBlock.block`) has been emitted **iff** every slice of `B`
    (including the last-marked one) has at least `DATA_SHREDS` distinct shreds in `ss`; it is emitted
    exactly once in that case and no other `Block` event, no `InvalidBlock`, ever; and the block is
    stored as `completed` iff it was announced. -/
theorem honest_block_announced_iff (B : HBlock) (env : Nat → Content) (cap : Nat) (hwf : B.WF env cap)
    (ss : List Shred) (hss : ∀ s ∈ ss, B.Honest s) :
    (.block B.block.info ∈ (runDissem env (SlotData.new cap B.slot) ss).2 ↔ Enough B ss) ∧
    (runDissem env (SlotData.new cap B.slot) ss).2.count (.block B.block.info) = (if Enough B ss then 1 else 0) ∧
    (∀ e ∈ (runDissem env (SlotData.new cap B.slot) ss).2, e = .firstShred ∨ e = .block B.block.info) ∧
    (runDissem env (SlotData.new cap B.slot) ss).1.dis.completed = (if Enough B ss then some B.block else none) ∧
    (runDissem env (SlotData.new cap B.slot) ss).1.misbehaved = false := by
  obtain ⟨h1, h2⟩ := honest_run_exact B env cap hwf ss hss
  rw [h1, h2]
  have hnn := not_enough_nil B hwf.npos
  refine ⟨?_, ?_, ?_, ?_, rfl⟩
  · by_cases hnil : ss = []
    · subst hnil; simp [hnn]
    · by_cases hen : Enough B ss <;> simp [hnil, hen]
  · by_cases hnil : ss = []
    · subst hnil; simp [hnn]
    · by_cases hen : Enough B ss <;> simp [hnil, hen]
  · intro e he
    rcases List.mem_append.mp he with he | he
    · exact Or.inl (List.mem_singleton.mp (List.mem_ite_nil_left.mp he).2)
    · exact Or.inr (List.mem_singleton.mp (List.mem_ite_nil_right.mp he).2)
  · simp only [canon]
    exact ite_iff (enough_iff_full B ss).symm _ _

/-- **As soon as possible, never again.** After the deliveries `pre`, the step delivering `s` emits the
    `Block` event of `B` **iff** `pre` did not yet contain 32 distinct shreds of every slice and
    `pre ++ [s]` does — i.e. exactly in the step in which, for the first time, every slice (including
    the last-marked one) has `DATA_SHREDS` distinct shreds; never before, never afterwards; that step's
    return value is `Ok(Some(Block))`, and a step never emits any other `Block`. -/
theorem honest_block_timely (B : HBlock) (env : Nat → Content) (cap : Nat) (hwf : B.WF env cap)
    (pre : List Shred) (s : Shred) (hss : ∀ x ∈ pre ++ [s], B.Honest x) :
    (.block B.block.info ∈ (addDissem env (runDissem env (SlotData.new cap B.slot) pre).1 s).2.2 ↔
      (¬ Enough B pre ∧ Enough B (pre ++ [s]))) ∧
    ((addDissem env (runDissem env (SlotData.new cap B.slot) pre).1 s).2.1 = .ev (.block B.block.info) ↔
      (¬ Enough B pre ∧ Enough B (pre ++ [s]))) ∧
    (∀ info, .block info ∈ (addDissem env (runDissem env (SlotData.new cap B.slot) pre).1 s).2.2 →
      info = B.block.info) := by
  have r2 := (honest_step_exact B env cap hwf pre s hss).2
  have hpre : ∀ x ∈ pre, B.Honest x := fun x hx => hss x (List.mem_append_left _ hx)
  have hs : B.Honest s := hss s (by simp)
  -- a single shred is never enough
  have hone : pre = [] → ¬ Enough B (pre ++ [s]) := by
    intro hnil
    subst hnil
    rw [enough_iff_full, delivered_append_one]
    exact not_full_add_of_empty B _ s hs.1 hs.2.1 (empty_dnone B)
  have h1 : .block B.block.info ∈ (addDissem env (runDissem env (SlotData.new cap B.slot) pre).1 s).2.2 ↔
      (¬ Enough B pre ∧ Enough B (pre ++ [s])) := by
    rw [r2]
    by_cases hnil : pre = []
    · rw [if_pos hnil]
      exact ⟨fun h => (nomatch List.mem_singleton.mp h), fun h => absurd h.2 (hone hnil)⟩
    · rw [if_neg hnil]
      split
      · exact ⟨fun _ => ‹_›, fun _ => List.mem_singleton.mpr rfl⟩
      · exact ⟨fun h => (nomatch h), fun h => absurd h ‹_›⟩
  refine ⟨h1, ?_, fun info hi => ?_⟩
  · -- the step's events are those of its answer
    have hg := (honest_never_flagged_typed B env cap hwf (SlotData.new cap B.slot) ⟨rfl, good_new B cap⟩ pre hpre).1
    rw [← h1, addDissem_events, if_neg (by rw [(addDissem_good B env cap hwf _ s hg hs).2.ok]; nofun), mem_evOf]
  · rw [r2] at hi
    split at hi
    · cases List.mem_singleton.mp hi
    · split at hi
      · cases List.mem_singleton.mp hi; rfl
      · cases hi

/-- **`FirstShred` exactly once, in the step of the first accepted shred of the slot.** A step emits
    `FirstShred` iff nothing was delivered before it (the first shred of a correct leader is always
    accepted); hence a non-empty delivery contains exactly one `FirstShred`, and it is the first event. -/
theorem first_shred_once (B : HBlock) (env : Nat → Content) (cap : Nat) (hwf : B.WF env cap) :
    (∀ (pre : List Shred) (s : Shred), (∀ x ∈ pre ++ [s], B.Honest x) →
      (.firstShred ∈ (addDissem env (runDissem env (SlotData.new cap B.slot) pre).1 s).2.2 ↔ pre = [])) ∧
    (∀ (ss : List Shred), (∀ s ∈ ss, B.Honest s) →
      (runDissem env (SlotData.new cap B.slot) ss).2.count .firstShred = (if ss = [] then 0 else 1) ∧
      (ss ≠ [] → (runDissem env (SlotData.new cap B.slot) ss).2.head? = some .firstShred)) := by
  constructor
  · intro pre s hss
    rw [(honest_step_exact B env cap hwf pre s hss).2]
    by_cases hnil : pre = []
    · simp [hnil]
    · rw [if_neg hnil]
      split <;> simp [hnil]
  · intro ss hss
    rw [(honest_run_exact B env cap hwf ss hss).2]
    by_cases hnil : ss = []
    · subst hnil; simp [not_enough_nil B hwf.npos]
    · by_cases hen : Enough B ss <;> simp [hnil, hen]

/-- **Order independence.** Two deliveries of a correct leader's shreds that contain the same *set* of
    shreds (in any orders, with any duplications) end in the same slot state — the same stored block,
    shreds, slices, cache, marker, Merkle leaves — and send the same events. -/
theorem delivery_order_independent (B : HBlock) (env : Nat → Content) (cap : Nat) (hwf : B.WF env cap)
    (ss₁ ss₂ : List Shred) (h₁ : ∀ s ∈ ss₁, B.Honest s) (hset : ∀ s, s ∈ ss₁ ↔ s ∈ ss₂) :
    runDissem env (SlotData.new cap B.slot) ss₁ = runDissem env (SlotData.new cap B.slot) ss₂ := by
  have h₂ : ∀ s ∈ ss₂, B.Honest s := fun s hs => h₁ s ((hset s).mpr hs)
  obtain ⟨a1, a2⟩ := honest_run_exact B env cap hwf ss₁ h₁
  obtain ⟨b1, b2⟩ := honest_run_exact B env cap hwf ss₂ h₂
  have hd : delivered ss₁ = delivered ss₂ := delivered_congr ss₁ ss₂ hset
  have hnil : ss₁ = [] ↔ ss₂ = [] := by
    rw [List.eq_nil_iff_forall_not_mem, List.eq_nil_iff_forall_not_mem]
    exact forall_congr' fun s => not_congr (hset s)
  have hen : Enough B ss₁ ↔ Enough B ss₂ := by
    rw [enough_iff_full, enough_iff_full, hd]
  apply Prod.ext
  · rw [a1, b1, hd]
  · rw [a2, b2, ite_iff hnil, ite_iff hen]

/-- **The leader's fast path stores what a follower reconstructs.** The leader handing its `n` slices,
    in order, to `add_own_slice` on a fresh slot never panics, and ends in exactly the state — stored
    block, all shreds, cache, last-slice marker, Merkle leaves — and with exactly the events
    (`[FirstShred, Block(B)]`) of a follower that was delivered ≥ 32 distinct shreds of every slice in
    any order. -/
theorem leader_fast_path_equal (B : HBlock) (env : Nat → Content) (cap : Nat) (hwf : B.WF env cap)
    (ss : List Shred) (hss : ∀ s ∈ ss, B.Honest s) (hen : Enough B ss) :
    ownRun B (SlotData.new cap B.slot) (List.range B.n) =
      ((runDissem env (SlotData.new cap B.slot) ss).1, true, (runDissem env (SlotData.new cap B.slot) ss).2) := by
  rw [ownRun_fresh hwf, honest_run_enough B env cap hwf ss hss hen]

/-- **Afterwards everything is served** (complement of `honest_served_is_leaders`): once ≥ 32 distinct
    shreds of every slice were delivered, the store serves the block, the slice count, *every* one of
    the `64·n` shreds (also those never received: the decoder rebuilt them), every slice root, and a
    double-Merkle proof for every slice, which verifies against the block hash. -/
theorem honest_serves_everything (B : HBlock) (env : Nat → Content) (cap : Nat) (hwf : B.WF env cap)
    (ss : List Shred) (hss : ∀ s ∈ ss, B.Honest s) (hen : Enough B ss) (hn : B.n ≤ 2 ^ 32) :
    let sd := (runDissem env (SlotData.new cap B.slot) ss).1
    getBlock sd B.block.hash = some B.block ∧ disseminatedHash sd = some B.block.hash ∧
    getLastSliceIndex sd B.block.hash = some (B.n - 1) ∧
    (∀ i j, i < B.n → j < TOTAL_SHREDS → getShred sd B.block.hash i j = some (B.shred i j)) ∧
    (∀ i, i < B.n → getSliceRoot sd B.block.hash i = some (B.root i)) ∧
    (∀ i, i < B.n → ∃ π, createProof sd B.block.hash i = some (some π) ∧
      Merkle.checkProof (B.root i) i B.block.hash π = true) := by
  intro sd
  have hsd : sd = ⟨canonFull B cap, [], false⟩ := congrArg Prod.fst (honest_run_enough B env cap hwf ss hss hen)
  have hbd : blockData sd B.block.hash = some (canonFull B cap) := by
    rw [hsd]; simp [blockData, canonFull]
  have hlen : B.roots.length = B.n := by simp [HBlock.roots]
  refine ⟨?_, ?_, ?_, ?_, ?_, ?_⟩
  · simp [getBlock, hbd, canonFull]
  · rw [hsd]; simp [disseminatedHash, canonFull]
  · simp [getLastSliceIndex, hbd, canonFull]
  · intro i j hi hj
    simp [getShred, hbd, canonFull, HBlock.fullArr, hi, hj]
  · intro i hi
    have hpres : (present (B.fullArr i)).head? = some (B.shred i 0) := by
      unfold present HBlock.fullArr
      have : TOTAL_SHREDS = 63 + 1 := by decide
      rw [this, List.range_succ_eq_map]
      simp
    simp [getSliceRoot, hbd, canonFull, hi, hpres]
    rfl
  · intro i hi
    refine ⟨(Merkle.Tree.new B.roots).createProof i, ?_, ?_⟩
    · simp [createProof, hbd, canonFull, hlen, hi]
    · have := Merkle.complete B.roots i (by rw [hlen]; exact hi) (by rw [hlen]; exact hn)
      have hget : B.roots.getD i 0 = B.root i := by
        simp [HBlock.roots, List.getD, hi]
      rw [hget] at this
      exact this

/-! ### non-vacuity and witnesses of the repaired defects -/

/-- a concrete two-slice block of a correct leader in slot 5 with parent (3, #7) -/
def exB : HBlock :=
  { slot := 5, n := 2, root := fun i => i + 1, sz := fun _ => 2,
    parent := fun i => if i = 0 then some (3, 7) else none, txs := fun i => [10 + i], fparent := (3, 7) }

def exEnv : Nat → Content := fun r =>
  if r = 1 then .ok (some (3, 7)) (some [10]) else if r = 2 then .ok none (some [11]) else .bad

/-- the hypotheses of the honest-block theorems are satisfiable (`exEnv` is a lawful decoder for `exB`) -/
theorem exB_wf : exB.WF exEnv 3 :=
  { npos := by decide, ncap := by decide, szpos := by intro i; simp [exB],
    envok := by
      intro i hi
      match i, hi with
      | 0, _ => rfl
      | 1, _ => rfl,
    fold := ⟨(3, 7), rfl, by decide⟩, pslot := by decide }

/-- 63 shreds: all 32 of the last slice first, then 31 of slice 0 — one short -/
def exPre : List Shred := (List.range 32).map (exB.shred 1) ++ (List.range 31).map (fun j => exB.shred 0 (j + 20))

theorem exPre_honest : ∀ x ∈ exPre ++ [exB.shred 0 5], exB.Honest x :=
  List.forall_mem_append.mpr ⟨List.forall_mem_append.mpr
    ⟨exB.honest_run (c := 0) (by decide) (by decide), exB.honest_run (by decide) (by decide)⟩,
    List.forall_mem_singleton.mpr (exB.shred_honest (by decide) (by decide))⟩

theorem exPre_timely : ¬ Enough exB exPre ∧ Enough exB (exPre ++ [exB.shred 0 5]) := by
  rw [enough_iff_full, enough_iff_full, delivered_append_one, exPre, delivered_append, delivered_first, delivered_run]
  decide

/-- the slot of the examples is `exB`'s; stated for `SlotData.new` so that rewriting with it leaves the shred indices alone
    (unifying `5` with `exB.slot` under the projections of a run makes the elaborator evaluate the run) -/
theorem exSlot : SlotData.new 3 5 = SlotData.new 3 exB.slot := rfl

/-- non-vacuity of `honest_block_timely`: on this delivery the right-hand side holds for the 64th shred
    (and fails one step earlier), so that very step announces the block -/
example : ¬ Enough exB exPre ∧ Enough exB (exPre ++ [exB.shred 0 5]) := exPre_timely

example : .block exB.block.info ∈
    (addDissem exEnv (runDissem exEnv (SlotData.new 3 5) exPre).1 (exB.shred 0 5)).2.2 := by
  rw [exSlot]
  exact (honest_block_timely exB exEnv 3 exB_wf exPre (exB.shred 0 5) exPre_honest).1.mpr exPre_timely

/-- non-vacuity of `delivery_order_independent` / `leader_fast_path_equal`: the reversed delivery with
    the last shred duplicated ends in the same state with the same events, which are the leader's own -/
example : runDissem exEnv (SlotData.new 3 5) (exPre ++ [exB.shred 0 5]) =
    runDissem exEnv (SlotData.new 3 5) (exB.shred 0 5 :: (exPre ++ [exB.shred 0 5]).reverse) :=
  delivery_order_independent exB exEnv 3 exB_wf _ _ exPre_honest (by intro s; simp; exact or_comm)

example : ownRun exB (SlotData.new 3 5) (List.range 2) =
    ((runDissem exEnv (SlotData.new 3 5) (exPre ++ [exB.shred 0 5])).1, true, [.firstShred, .block exB.block.info]) := by
  have h := leader_fast_path_equal exB exEnv 3 exB_wf _ exPre_honest exPre_timely.2
  rw [(honest_run_exact exB exEnv 3 exB_wf _ exPre_honest).2, if_neg (by simp), if_pos exPre_timely.2] at h
  exact h

/-- … and a concrete delivery (last slice first, 32 shreds each, then a duplicate) announces the first
    shred and the block exactly once, never an invalid block -/
example :
    (runDissem exEnv (SlotData.new 3 5)
      ((List.range 32).map (exB.shred 1) ++ (List.range 32).map (fun j => exB.shred 0 (j + 20)) ++ [exB.shred 0 3])).2
      = [.firstShred, .block exB.block.info] := by
  rw [exSlot, honest_run_enough exB exEnv 3 exB_wf _ ?_ ?_]
  · exact List.forall_mem_append.mpr ⟨List.forall_mem_append.mpr
      ⟨exB.honest_run (c := 0) (by decide) (by decide), exB.honest_run (by decide) (by decide)⟩,
      List.forall_mem_singleton.mpr (exB.shred_honest (by decide) (by decide))⟩
  · rw [enough_iff_full, delivered_append, delivered_append, delivered_first, delivered_run]
    decide

/-- the whole block, last slice first, 32 shreds of each slice -/
theorem exBoth_honest : ∀ s ∈ (List.range 32).map (exB.shred 1) ++ (List.range 32).map (exB.shred 0), exB.Honest s :=
  List.forall_mem_append.mpr
    ⟨exB.honest_run (c := 0) (by decide) (by decide), exB.honest_run (c := 0) (by decide) (by decide)⟩

theorem exBoth_enough : Enough exB ((List.range 32).map (exB.shred 1) ++ (List.range 32).map (exB.shred 0)) := by
  rw [enough_iff_full, delivered_append, delivered_first, delivered_first]
  decide

/-- a conflicting slice (same index, other root) at the end is flagged once, after the block: the leader's 64 shreds
    complete the block, the three shreds after them are run on the completed state -/
example :
    (runDissem exEnv (SlotData.new 3 5)
      ((List.range 32).map (exB.shred 1) ++ (List.range 32).map (exB.shred 0) ++
        [⟨0, false, 9, 5, 2, true⟩, ⟨0, false, 9, 6, 2, true⟩, exB.shred 1 40])).2
      = [.firstShred, .block exB.block.info, .invalidBlock] := by
  rw [exSlot, runDissem_append, honest_run_enough exB exEnv 3 exB_wf _ exBoth_honest exBoth_enough]
  decide

/-- `exB` announced for slot 3, in which its parent (3, #7) is not earlier -/
def exB3 : HBlock := { exB with slot := 3 }

/-- witness of defect D3 (repaired): the same block in slot 3 (parent slot 3 is not earlier) is flagged
    and never announced; witness of D2 (repaired): a shred of slice 2 followed by the last marker on
    slice 1 is equivocation -/
theorem d3_d2_witness :
    (runDissem exEnv (SlotData.new 3 3)
      ((List.range 32).map (exB.shred 1) ++ (List.range 32).map (exB.shred 0))).2 = [.firstShred, .invalidBlock] ∧
    (runDissem exEnv (SlotData.new 3 5) [⟨2, false, 2, 0, 2, true⟩, exB.shred 1 0]).2 = [.firstShred, .invalidBlock] := by
  refine ⟨?_, by decide⟩
  -- the cut does not depend on the slot; the delivery completes the block, whose parent is not in an earlier slot
  have hcut : exB3.Cut exEnv 3 := exB_wf.cut.reslot 3
  exact late_parent_flagged exB3 exEnv 3 hcut (by decide) _ exBoth_honest exBoth_enough

/-- `add_shred_from_dissemination` / a delivery before the D15 `fix:`: `addShredCore` without the type check -/
def addDissemOld (env : Nat → Content) (sd : SlotData) (s : Shred) : SlotData × AddRes × List Event :=
  if sd.misbehaved then (sd, .err .invalidShred, [])
  else
    let (b, r) := addShredCore env sd.dis s
    let sd := { sd with dis := b }
    if isBadErr r then
      let (sd, evs) := flag sd
      (sd, r, evs)
    else (sd, r, evOf r)

def runDissemOld (env : Nat → Content) : SlotData → List Shred → SlotData × List Event
  | sd, [] => (sd, [])
  | sd, s :: rest =>
    let (sd', _, evs) := addDissemOld env sd s
    let (sd'', evs') := runDissemOld env sd' rest
    (sd'', evs ++ evs')

theorem runDissemOld_flagged (env : Nat → Content) (sd : SlotData) (ss : List Shred) (h : sd.misbehaved = true) :
    runDissemOld env sd ss = (sd, []) := by
  induction ss with
  | nil => rfl
  | cons s rest ih => simp [runDissemOld, addDissemOld, h, ih]

theorem runDissemOld_append (env : Nat → Content) (sd : SlotData) (xs ys : List Shred) :
    runDissemOld env sd (xs ++ ys) =
      ((runDissemOld env (runDissemOld env sd xs).1 ys).1,
        (runDissemOld env sd xs).2 ++ (runDissemOld env (runDissemOld env sd xs).1 ys).2) := by
  induction xs generalizing sd with
  | nil => rfl
  | cons x rest ih => simp only [List.cons_append, runDissemOld, ih, List.append_assoc]

theorem runDissemOld_of_ty (env : Nat → Content) (sd : SlotData) (ss : List Shred) (h : ∀ s ∈ ss, s.ty = true) :
    runDissemOld env sd ss = runDissem env sd ss := by
  induction ss generalizing sd with
  | nil => rfl
  | cons s rest ih =>
    have e : addDissemOld env sd s = addDissem env sd s := by
      unfold addDissemOld addDissem
      rw [addShred_of_ty env sd.dis s (h s List.mem_cons_self)]
    simp only [runDissemOld, runDissem, e, ih _ fun x hx => h x (List.mem_cons_of_mem _ hx)]

/-- a well-typed delivery followed by a shred that gets the slot flagged: whatever comes after is refused -/
theorem runDissemOld_flagging (env : Nat → Content) (sd : SlotData) (xs ys : List Shred) (s : Shred)
    (hty : ∀ x ∈ xs, x.ty = true)
    (h : (addDissemOld env (runDissem env sd xs).1 s).2.2 = [.invalidBlock] ∧
      (addDissemOld env (runDissem env sd xs).1 s).1.misbehaved = true) :
    (runDissemOld env sd (xs ++ s :: ys)).2 = (runDissem env sd xs).2 ++ [.invalidBlock] ∧
      (runDissemOld env sd (xs ++ s :: ys)).1.misbehaved = true := by
  rw [runDissemOld_append, runDissemOld_of_ty env sd xs hty]
  simp only [runDissemOld]
  rw [runDissemOld_flagged env _ ys h.2, h.1]
  exact ⟨by simp, h.2⟩

/-- the leader's shred (0, 7) with its data/coding type flipped by a relay -/
def exFlip : Shred := { exB.shred 0 7 with ty := false }

/-- **Witness of defect D15 and of its repair.** A delivery of shreds of the correct leader's block `exB`
    (all of slice 1, then 31 genuine shreds of slice 0 and the type-flipped one): the blockstore without the fix stores the
    flipped shred and runs `deshred` on its slice at once; the layout check, which comes before the shreds are counted, fails
    on it and the *correct* leader is flagged (`InvalidBlock`) in that very step, the block is never announced, the genuine
    shreds of the slice are refused afterwards. The repaired blockstore answers the flipped shred `WrongType`, and the same
    delivery followed by one more genuine shred announces the block; the flipped shred is `HonestUpToType`, so
    `honest_never_flagged` applies to it. -/
theorem tag_flip_flagged_old_witness :
    (runDissemOld exEnv (SlotData.new 3 5)
      ((List.range 32).map (exB.shred 1) ++ exFlip :: (List.range 31).map (fun j => exB.shred 0 (j + 20)))).2
        = [.firstShred, .invalidBlock] ∧
    (runDissemOld exEnv (SlotData.new 3 5)
      ((List.range 32).map (exB.shred 1) ++ exFlip :: (List.range 31).map (fun j => exB.shred 0 (j + 20))
        ++ [exB.shred 0 5, exB.shred 0 7])).2 = [.firstShred, .invalidBlock] ∧
    (addDissem exEnv (runDissem exEnv (SlotData.new 3 5) ((List.range 32).map (exB.shred 1))).1 exFlip).2
        = (.err .wrongType, []) ∧
    (runDissem exEnv (SlotData.new 3 5)
      ((List.range 32).map (exB.shred 1) ++ exFlip :: (List.range 31).map (fun j => exB.shred 0 (j + 20))
        ++ [exB.shred 0 5])).2 = [.firstShred, .block exB.block.info] ∧
    exB.HonestUpToType exFlip ∧ ¬ exB.Honest exFlip := by
  have hup : exB.HonestUpToType exFlip := exB.shred_honest (i := 0) (j := 7) (by decide) (by decide)
  rw [exSlot]
  have hP : ∀ s ∈ (List.range 32).map (exB.shred 1), exB.Honest s := exB.honest_run (c := 0) (by decide) (by decide)
  -- the 32 shreds of slice 1 are the leader's: the store is the function of what was delivered, not enough yet
  obtain ⟨hst, hev⟩ := honest_run_exact exB exEnv 3 exB_wf _ hP
  have hD := delivered_first exB 1 32
  rw [if_neg (by simp), if_neg (show ¬ Enough exB _ from by rw [enough_iff_full, hD]; decide)] at hev
  rw [hD] at hst
  -- the flipped shred itself is answered `InvalidShred`: its slice cannot be decoded with it
  have hold := runDissemOld_flagging exEnv (SlotData.new 3 exB.slot) ((List.range 32).map (exB.shred 1))
    ((List.range 31).map (fun j => exB.shred 0 (j + 20))) exFlip (fun s hs => (hP s hs).ty) (by rw [hst]; decide +kernel)
  rw [hev] at hold
  refine ⟨hold.1, ?_, ?_, ?_, hup, fun h => absurd h.ty (by decide)⟩
  · -- flagged after the first delivery: the two further shreds are refused
    rw [runDissemOld_append, runDissemOld_flagged _ _ _ hold.2, hold.1]; rfl
  · rw [wrong_type_ignored exEnv _ exFlip (by rw [hst]) rfl]
  · -- without the flipped shred this is the delivery `exPre ++ [exB.shred 0 5]`
    have hss : ∀ s ∈ (List.range 32).map (exB.shred 1) ++ exFlip :: (List.range 31).map (fun j => exB.shred 0 (j + 20))
        ++ [exB.shred 0 5], exB.HonestUpToType s := by
      refine List.forall_mem_append.mpr ⟨List.forall_mem_append.mpr ⟨fun s hs => (hP s hs).upToType,
        List.forall_mem_cons.mpr ⟨hup, fun s hs => (exB.honest_run (by decide) (by decide) s hs).upToType⟩⟩,
        List.forall_mem_singleton.mpr (exB.shred_honest (by decide) (by decide)).upToType⟩
    rw [(relayed_type_flips_ignored exB exEnv 3 exB_wf _ ⟨rfl, good_new exB 3⟩ _ hss).1,
      show List.filter (·.ty) _ = exPre ++ [exB.shred 0 5] from by decide,
      honest_run_enough exB exEnv 3 exB_wf _ exPre_honest exPre_timely.2]

end AgModel.Blockstore
