import AgModel.Props.C13Producer
import AgModel.Proofs.ProducerLoop
/-!
# C13, leader side — the window loop of `block_production_loop`

All theorems are about `AgModel.BlockProducer.Loop.produceWindow` (one iteration of
`for first_slot_in_window in Slot::windows()` of `block_producer.rs`) and quantify over every leader schedule
`leader`, every node `me`, every window `w` and every input `i : WindowIn` (what `wait_for_first_slot` observed, the
inputs of every production of the window and the hashes the blockstore reported).
-/
namespace AgModel.BlockProducer.Loop
open AgModel.Blockstore

/-- **A node produces nothing in a window it does not lead.** -/
theorem only_own_windows (leader : Nat → Nat) (me w : Nat) (i : WindowIn) (h : leader (w * W) ≠ me) :
    (produceWindow leader me w i).blocks = [] ∧ (produceWindow leader me w i).verdict = .notLeader := by
  simp [produceWindow, entry, h]

/-- blocks are produced only on the verdicts `complete` / `stuck` -/
theorem no_blocks_unless_entered (leader : Nat → Nat) (me w : Nat) (i : WindowIn)
    (h : (produceWindow leader me w i).verdict = .notLeader ∨ (produceWindow leader me w i).verdict = .skip ∨
      (produceWindow leader me w i).verdict = .waiting) : (produceWindow leader me w i).blocks = [] := by
  rcases produceWindow_cases leader me w i with ⟨h0, _⟩ | ⟨m, p, _, hp⟩
  · exact h0
  · rw [hp, fin] at h
    cases hb : (produceSlots i.eq (slotsOf w) m p i.blocks).2 <;> simp [hb] at h

/-- **`SlotReady::Skip` produces nothing.** -/
theorem skip_produces_nothing (leader : Nat → Nat) (me w : Nat) (i : WindowIn)
    (h : (produceWindow leader me w i).verdict = .skip) : (produceWindow leader me w i).blocks = [] :=
  no_blocks_unless_entered leader me w i (Or.inr (Or.inl h))

/-- while `wait_for_first_slot` has not returned nothing is produced -/
theorem waiting_produces_nothing (leader : Nat → Nat) (me w : Nat) (i : WindowIn)
    (h : (produceWindow leader me w i).verdict = .waiting) : (produceWindow leader me w i).blocks = [] :=
  no_blocks_unless_entered leader me w i (Or.inr (Or.inr h))

/-- the window is skipped when the first thing that becomes true is `finalized_slot() >= first_slot_in_window` -/
theorem skip_characterised (leader : Nat → Nat) (me w : Nat) (i : WindowIn) (hl : leader (w * W) = me) (hw : w ≠ 0)
    (h1 : i.first.already = none) (h2 : i.first.prFirst = none) (h3 : i.first.prevBlock = none)
    (h4 : i.first.finalizedLater = true) : (produceWindow leader me w i).verdict = .skip := by
  simp [produceWindow, entry, waitForFirstSlot, hl, hw, h1, h2, h3, h4]

/-- ... and the loop keeps waiting when none of the four has happened -/
theorem waiting_characterised (leader : Nat → Nat) (me w : Nat) (i : WindowIn) (hl : leader (w * W) = me) (hw : w ≠ 0)
    (h1 : i.first.already = none) (h2 : i.first.prFirst = none) (h3 : i.first.prevBlock = none)
    (h4 : i.first.finalizedLater = false) : (produceWindow leader me w i).verdict = .waiting := by
  simp [produceWindow, entry, waitForFirstSlot, hl, hw, h1, h2, h3, h4]

/-- **At most one block per slot, in slot order, only slots of the window, never slot 0**: the produced slots are a
    prefix of the window's slots (window 0: without the genesis slot). -/
theorem one_block_per_slot (leader : Nat → Nat) (me w : Nat) (i : WindowIn) :
    (∃ k, (produceWindow leader me w i).blocks.map (·.slot) =
      (if w = 0 then (windowSlots 0).drop 1 else windowSlots w).take k) ∧
    ((produceWindow leader me w i).blocks.map (·.slot)).Pairwise (· < ·) ∧
    ((produceWindow leader me w i).blocks.map (·.slot)).Nodup ∧
    ∀ b ∈ (produceWindow leader me w i).blocks, b.slot / W = w ∧ b.slot ≠ 0 := by
  obtain ⟨k, hk⟩ := blocks_slots_prefix leader me w i
  refine ⟨⟨k, by rw [hk, slotsOf_eq]⟩, ?_, ?_, fun b hb => ?_⟩
  · rw [hk]; exact List.Pairwise.sublist (List.take_sublist _ _) List.pairwise_lt_range'
  · rw [hk]; exact List.Nodup.sublist (List.take_sublist _ _) List.nodup_range'
  · have := blocks_slot_bounds hb
    exact ⟨Nat.div_eq_of_lt_le this.1 (Nat.succ_mul w W ▸ this.2.1), this.2.2⟩

/-- **A completed iteration produced exactly one block for every slot of the window** (except genesis), in slot
    order. -/
theorem complete_window_all_slots (leader : Nat → Nat) (me w : Nat) (i : WindowIn)
    (h : (produceWindow leader me w i).verdict = .complete) :
    (produceWindow leader me w i).blocks.map (·.slot) =
      if w = 0 then List.range' 1 (W - 1) else List.range' (w * W) W := by
  rcases produceWindow_cases leader me w i with ⟨_, hv⟩ | ⟨m, p, _, hp⟩
  · rw [h] at hv
    rcases hv with hv | hv | hv <;> cases hv
  · rw [hp] at h ⊢
    have h2 : (produceSlots i.eq (slotsOf w) m p i.blocks).2 = true := by
      cases hb : (produceSlots i.eq (slotsOf w) m p i.blocks).2 with
      | true => rfl
      | false => rw [fin, hb] at h; cases h
    exact ((produceSlots_slots i.eq _ m p i.blocks).2 h2).trans (slotsOf_eq w)

/-- **The first block of a window is built on what `wait_for_first_slot` returned**: genesis in window 0; the
    ParentReady parent when that was seen first; otherwise the block of the previous slot - and then the final parent is
    that optimistic parent or the ParentReady received in one of the block's slices (one switch at most, only to a
    different hash). -/
theorem first_block_parent (leader : Nat → Nat) (me w : Nat) (i : WindowIn) (b : Produced) (rest : List Produced)
    (hb : (produceWindow leader me w i).blocks = b :: rest) :
    (w = 0 → b.slot = 1 ∧ b.parent = (0, 0)) ∧
    (∀ p, w ≠ 0 → waitForFirstSlot (w * W) { i.first with genesisWindow := false } = some (.ready p) →
      b.slot = w * W ∧ b.parent = p) ∧
    (∀ p, w ≠ 0 → waitForFirstSlot (w * W) { i.first with genesisWindow := false } = some (.parentReadyNotSeen p) →
      b.slot = w * W ∧ (∃ h, i.first.prevBlock = some h ∧ p = (w * W - 1, h)) ∧
      ∃ bi, i.blocks.head? = some bi ∧
        (b.parent = p ∨ ∃ si ∈ bi.ins, si.pr = some b.parent ∧ b.parent.2 ≠ p.2)) := by
  obtain ⟨m, q, bi, he, hbs, rfl⟩ := first_block_shape hb
  refine ⟨fun hw => ?_, fun p hw hr => ?_, fun p hw hr => ?_⟩
  · obtain ⟨rfl, rfl⟩ := he.1 hw
    exact ⟨if_pos hw, produce_ready_parent rfl⟩
  · have hq := hr.symm.trans (he.2 hw)
    cases m with
    | ready => cases hq; exact ⟨if_neg hw, produce_ready_parent rfl⟩
    | notReady => cases hq
  · have hq := hr.symm.trans (he.2 hw)
    cases m with
    | ready => cases hq
    | notReady =>
      cases hq
      have hns := waitFor_notSeen hr
      exact ⟨if_neg hw, hns, bi, hbs,
        (run_parent ⟨.notReady, firstSlot w, q, i.eq⟩ bi.ins (init _)).imp_right (·.2)⟩

/-- the first block's parent is in an earlier slot whenever the ParentReady parents the leader sees for this window
    are (Pool, C06) -/
theorem first_block_parent_earlier (leader : Nat → Nat) (me w : Nat) (i : WindowIn) (b : Produced)
    (rest : List Produced) (hb : (produceWindow leader me w i).blocks = b :: rest)
    (h1 : ∀ p, i.first.already = some p → p.1 < w * W) (h2 : ∀ p, i.first.prFirst = some p → p.1 < w * W)
    (h3 : ∀ bi, i.blocks.head? = some bi → ∀ si ∈ bi.ins, ∀ np, si.pr = some np → np.1 < w * W) :
    b.parent.1 < b.slot := by
  obtain ⟨m, q, bi, he, hbs, rfl⟩ := first_block_shape hb
  refine produce_parent_lt (entered_parent_lt he h1 h2) fun si hsi np hnp => ?_
  exact Nat.lt_of_lt_of_le (h3 bi hbs si hsi np hnp) (firstSlot_bounds w).2.1

/-- **Every later block of the window is built on the block just produced in the previous slot.** -/
theorem later_blocks_chain (leader : Nat → Nat) (me w : Nat) (i : WindowIn) (pre : List Produced) (a b : Produced)
    (post : List Produced) (h : (produceWindow leader me w i).blocks = pre ++ a :: b :: post) :
    b.slot = a.slot + 1 ∧ b.parent = (a.slot, a.hash) := by
  obtain ⟨m, p, _, hbl⟩ := entered (h ▸ List.append_ne_nil_of_right_ne_nil _ (List.cons_ne_nil _ _))
  exact produceSlots_chain pre (hbl ▸ h)

/-- **Produced blocks pass Votor's parent test** (`V.parentOk`, C05 `notar_parent_ok`): the first block of a window
    when its parent is among the ParentReady parents Votor holds for the slot (window 0: genesis is notarized from the
    start); every later block as soon as the node voted for the block of the previous slot - the one it is built on. -/
theorem produced_blocks_pass_parent_check (leader : Nat → Nat) (me w : Nat) (i : WindowIn) (v : AgModel.Votor.V) :
    (∀ b rest, (produceWindow leader me w i).blocks = b :: rest → b.slot % AgModel.Votor.W = 0 →
      (v.getS b.slot).parentsReady.contains b.parent = true →
      v.parentOk b.slot ⟨b.hash, b.parent.1, b.parent.2⟩ = true) ∧
    (∀ b rest, (produceWindow leader me w i).blocks = b :: rest → w = 0 → (v.getS 0).votedNotar = some 0 →
      v.parentOk b.slot ⟨b.hash, b.parent.1, b.parent.2⟩ = true) ∧
    (∀ pre a b post, (produceWindow leader me w i).blocks = pre ++ a :: b :: post →
      (v.getS a.slot).votedNotar = some a.hash →
      b.slot % AgModel.Votor.W ≠ 0 ∧ v.parentOk b.slot ⟨b.hash, b.parent.1, b.parent.2⟩ = true) := by
  refine ⟨fun b rest _ hm hc => ?_, fun b rest hb hw hg => ?_, fun pre a b post hb hv => ?_⟩
  · exact (if_pos hm : v.parentOk _ _ = _).trans hc
  · obtain ⟨h1, h2⟩ := (first_block_parent leader me w i b rest hb).1 hw
    rw [h1, h2]
    exact parentOk_later (by decide) rfl hg
  · obtain ⟨h1, h2⟩ := later_blocks_chain leader me w i pre a b post hb
    have ha := (blocks_slot_bounds (hb ▸ List.mem_append_right _ List.mem_cons_self)).1
    have hb' := (blocks_slot_bounds
      (hb ▸ List.mem_append_right _ (List.mem_cons_of_mem _ List.mem_cons_self))).2.1
    have hm : b.slot % AgModel.Votor.W ≠ 0 := by
      rw [show AgModel.Votor.W = 4 from rfl]
      rw [W_eq] at ha hb'
      omega
    exact ⟨hm, parentOk_later hm (by rw [h2, h1]) (by rw [h2]; exact hv)⟩

/-- the hypothesis of the genesis-window case holds from the start -/
theorem votor_init_genesis_notarized : (AgModel.Votor.init.getS 0).votedNotar = some 0 := by decide

/-- ... and then `try_notar` casts the notar vote (slot not pruned, not voted yet) -/
theorem produced_blocks_get_notar_vote (leader : Nat → Nat) (me w : Nat) (i : WindowIn) (v : AgModel.Votor.V) :
    (∀ b rest, (produceWindow leader me w i).blocks = b :: rest → b.slot % AgModel.Votor.W = 0 →
      (v.getS b.slot).parentsReady.contains b.parent = true →
      v.firstUnpruned ≤ b.slot → (v.getS b.slot).voted = false →
      (v.tryNotar b.slot ⟨b.hash, b.parent.1, b.parent.2⟩).2 = true) ∧
    (∀ b rest, (produceWindow leader me w i).blocks = b :: rest → w = 0 → (v.getS 0).votedNotar = some 0 →
      v.firstUnpruned ≤ b.slot → (v.getS b.slot).voted = false →
      (v.tryNotar b.slot ⟨b.hash, b.parent.1, b.parent.2⟩).2 = true) ∧
    (∀ pre a b post, (produceWindow leader me w i).blocks = pre ++ a :: b :: post →
      (v.getS a.slot).votedNotar = some a.hash →
      v.firstUnpruned ≤ b.slot → (v.getS b.slot).voted = false →
      (v.tryNotar b.slot ⟨b.hash, b.parent.1, b.parent.2⟩).2 = true) := by
  obtain ⟨p1, p2, p3⟩ := produced_blocks_pass_parent_check leader me w i v
  exact ⟨fun b rest hb hm hc h1 h2 => tryNotar_of_parentOk h1 h2 (p1 b rest hb hm hc),
    fun b rest hb hw hg h1 h2 => tryNotar_of_parentOk h1 h2 (p2 b rest hb hw hg),
    fun pre a b post hb hv h1 h2 => tryNotar_of_parentOk h1 h2 (p3 pre a b post hb hv).2⟩

/-- **The produced blocks define a parent function** (the `parentOf` with "block `(s, h)` has parent `p`" that the C02
    `timely_*` theorems take as input): looking a produced block up by its id gives the parent it was added to the
    pool with - well defined because there is one block per slot. -/
theorem produced_parent_function (leader : Nat → Nat) (me w : Nat) (i : WindowIn) :
    ∀ b ∈ (produceWindow leader me w i).blocks,
      parentOfBlocks (produceWindow leader me w i).blocks (b.slot, b.hash) = b.parent := by
  intro b hb
  unfold parentOfBlocks
  rw [find_slot_of_nodup _ (one_block_per_slot leader me w i).2.2.1 b hb]

/-- **Every produced block is a completed run of the per-block producer** on one of the window's inputs, for the
    block's slot, ending with the block's parent - so every per-block theorem of `C13Producer` applies to it. -/
theorem produced_block_reconstructed (leader : Nat → Nat) (me w : Nat) (i : WindowIn) :
    ∀ b ∈ (produceWindow leader me w i).blocks, ∃ c ins, c.slot = b.slot ∧ c.eqDeltas = i.eq ∧
      (produce c ins).1.status = .done ∧ (produce c ins).1.parent = b.parent ∧ ins ∈ i.blocks.map (·.ins) := by
  intro b hb
  obtain ⟨m, p, _, hbl⟩ := entered (List.ne_nil_of_mem hb)
  obtain ⟨m', par', bi, h1, _, h5, h6⟩ := produceSlots_mem _ hbl.symm b hb
  exact ⟨⟨m', b.slot, par', i.eq⟩, bi.ins, rfl, rfl, h5, h6, List.mem_map_of_mem h1⟩

/-- **Leader window → followers**: `leader_to_follower` for every block of the window. Under its hypotheses (decoder
    `env` faithful on the produced slices, shred sizes non-zero, slice capacity, ParentReady parents in earlier slots)
    every honest delivery of a produced block's shreds makes the follower announce exactly a block with the parent the
    leader added it to its pool with, iff it received enough shreds of every slice. (`h3` speaks of the inputs of every
    block of the window, read or not; its `∨ np.1 = 0` is for window 0, where `w * W = 0`.) -/
theorem produced_block_leader_to_follower (leader : Nat → Nat) (me w : Nat) (i : WindowIn)
    (root sz : Nat → Nat) (env : Nat → Content) (cap : Nat) (hcap : MAX_SLICES ≤ cap) (hsz : ∀ j, sz j ≠ 0)
    (h1 : ∀ p, i.first.already = some p → p.1 < w * W) (h2 : ∀ p, i.first.prFirst = some p → p.1 < w * W)
    (h3 : ∀ bi ∈ i.blocks, ∀ si ∈ bi.ins, ∀ np, si.pr = some np → np.1 < w * W ∨ np.1 = 0) :
    ∀ b ∈ (produceWindow leader me w i).blocks, ∃ c ins, c.slot = b.slot ∧ ins ∈ i.blocks.map (·.ins) ∧
      (produce c ins).1.status = .done ∧ (produce c ins).1.parent = b.parent ∧
      ((∀ o ∈ (produce c ins).2, env (root o.index) = .ok o.payload.parent (some (txIds o))) →
        ∀ ss : List Shred, (∀ s ∈ ss, (toHBlock c root sz (produce c ins)).Honest s) →
          (toHBlock c root sz (produce c ins)).block.parent = b.parent ∧
          (.block (toHBlock c root sz (produce c ins)).block.info ∈
              (runDissem env (SlotData.new cap c.slot) ss).2 ↔
            Enough (toHBlock c root sz (produce c ins)) ss)) := by
  intro b hb
  obtain ⟨m, p, he, hbl⟩ := entered (List.ne_nil_of_mem hb)
  obtain ⟨m', par', bi, g1, g2, g5, g6⟩ := produceSlots_mem _ hbl.symm b hb
  refine ⟨⟨m', b.slot, par', i.eq⟩, bi.ins, rfl, List.mem_map_of_mem g1, g5, g6, fun henv ss hss => ?_⟩
  have hlo := blocks_slot_bounds hb
  have hpr : ∀ si ∈ bi.ins, ∀ np, si.pr = some np → np.1 < b.slot := fun si hsi np hnp =>
    (h3 bi g1 si hsi np hnp).elim (fun h => Nat.lt_of_lt_of_le h hlo.1) fun h => h ▸ Nat.pos_of_ne_zero hlo.2.2
  have := leader_to_follower ⟨m', b.slot, par', i.eq⟩ bi.ins root sz env cap g5 hcap hsz henv
    (g2 (entered_parent_lt he h1 h2)) hpr ss hss
  exact ⟨this.1.trans g6, this.2.2.2.1⟩

/-! ### non-vacuity -/

/-- the round-robin schedule over 4 validators, one window each -/
def exLeader : Nat → Nat := fun s => s / W % 4
/-- a slice that times out with one transaction (with `delta_block == delta_first_slice` it completes a ready block) -/
def exSlice : SliceIn := ⟨[⟨0, 10⟩], true, false, none⟩

/-- (a) validator 1 leads window 1 (slots 4..7), ParentReady (2, #7) first: four blocks, chained -/
example : produceWindow exLeader 1 1
      ⟨⟨false, none, some (2, 7), none, false⟩, true, [⟨[exSlice], 11⟩, ⟨[exSlice], 12⟩, ⟨[exSlice], 13⟩, ⟨[exSlice], 14⟩]⟩ =
    ⟨.complete, [⟨4, 11, (2, 7)⟩, ⟨5, 12, (4, 11)⟩, ⟨6, 13, (5, 12)⟩, ⟨7, 14, (6, 13)⟩]⟩ := by decide

/-- (b) optimistic handover: the block of slot 3 (#9) is seen first, the first block starts on (3, #9), its second
    slice receives ParentReady (2, #7): the block's parent becomes (2, #7); the next production is still running -/
example : produceWindow exLeader 1 1
      ⟨⟨false, none, none, some 9, false⟩, true,
        [⟨[⟨[], true, false, none⟩, ⟨[⟨0, 10⟩], true, true, some (2, 7)⟩], 11⟩, ⟨[exSlice], 12⟩, ⟨[], 13⟩]⟩ =
    ⟨.stuck, [⟨4, 11, (2, 7)⟩, ⟨5, 12, (4, 11)⟩]⟩ := by decide

/-- (c) a later slot was finalized first: the window is skipped -/
example : produceWindow exLeader 1 1 ⟨⟨false, none, none, none, true⟩, true, [⟨[exSlice], 11⟩]⟩ = ⟨.skip, []⟩ := by
  decide

/-- (d) the genesis window: slot 0 is not produced, slot 1 is built on genesis -/
example : produceWindow exLeader 0 0
      ⟨⟨false, none, none, none, false⟩, true, [⟨[exSlice], 11⟩, ⟨[exSlice], 12⟩, ⟨[exSlice], 13⟩, ⟨[exSlice], 14⟩]⟩ =
    ⟨.complete, [⟨1, 11, (0, 0)⟩, ⟨2, 12, (1, 11)⟩, ⟨3, 13, (2, 12)⟩]⟩ := by decide

/-- (e) validator 2 does not lead window 1; validator 1 still waits when nothing has happened -/
example : produceWindow exLeader 2 1 ⟨⟨false, none, some (2, 7), none, false⟩, true, [⟨[exSlice], 11⟩]⟩ = ⟨.notLeader, []⟩ ∧
    produceWindow exLeader 1 1 ⟨⟨false, none, none, none, false⟩, true, [⟨[exSlice], 11⟩]⟩ = ⟨.waiting, []⟩ := by
  decide

/-- the Votor hypotheses of `produced_blocks_pass_parent_check` are satisfiable: after ParentReady(4, (2, #7)) the first
    block of example (a) gets the notar vote, and then so does the second -/
example :
    let v0 := AgModel.Votor.init.upd 4 (fun s => { s with parentsReady := [(2, 7)] })
    let r1 := v0.tryNotar 4 ⟨11, 2, 7⟩
    r1.2 = true ∧ (r1.1.getS 4).votedNotar = some 11 ∧ (r1.1.tryNotar 5 ⟨12, 4, 11⟩).2 = true := by decide

end AgModel.BlockProducer.Loop
