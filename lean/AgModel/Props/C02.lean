import AgModel.Spec.Protocol
/-!
# C02 — Progress once the network is timely (the stake arithmetic)

Timing lives in the runtime (tokio timers, task scheduling, UDP) and cannot be exhibited by a theorem;
what *can* be stated is that nothing in the voting logic is stuck: whenever the responsive correct
validators have all cast their initial vote in a slot and see each other's votes, the stake figures in
every one of their pools force the fallback votes that complete a certificate. The event-level halves
("the condition holding in the pool produces the event in the same step", "the event makes Votor cast
the vote") are C06 / C05 / C03 / C07; their composition along a timely schedule of the cluster of node models is
`Props/C02Cluster.lean`; the timed composition is explored on the real `Pool` + `Votor` pairs by
`harness/src/bin/cluster.rs --timed` (see cfg/C02.json).

`R` is the set of responsive correct validators, `n b` = "notarized `b`", `sk` = "skipped".
-/
namespace AgModel.Spec

open Classical

variable {V Block : Type} [Fintype V] (stake : V → ℕ)

/-- **≥ 80 % responsive: no slot is stuck, whatever the leader did.** If every responsive validator cast one
    initial vote, then either some block has ≥ 40 % of the stake among them (safe-to-notar's stake clause holds
    in each of their pools, so all of them end up in notar ∪ notar-fallback of that block), or for *every*
    block `c` the responsive stake outside `c` is ≥ 40 % (safe-to-skip's stake clause holds for every
    validator that notarized, whatever block is the most voted one in its pool). -/
theorem stake_clause_dichotomy_80 (R sk : V → Prop) (n : Block → V → Prop)
    (hvote : ∀ v, R v → sk v ∨ ∃ b, n b v)
    (h80 : Strong (w stake R) (total stake)) :
    (∃ b, Weak (w stake (fun v => R v ∧ n b v)) (total stake)) ∨
    (∀ c, Weak (w stake (fun v => R v ∧ ¬ n c v)) (total stake)) := by
  by_cases h : ∃ b, Weak (w stake (fun v => R v ∧ n b v)) (total stake)
  · exact Or.inl h
  · right
    intro c
    have hc : ¬ Weak (w stake (fun v => R v ∧ n c v)) (total stake) := fun hw => h ⟨c, hw⟩
    have hsplit : w stake R ≤ w stake (fun v => R v ∧ ¬ n c v) + w stake (fun v => R v ∧ n c v) :=
      Nat.le_trans (w_mono stake fun v hv => (Classical.em (n c v)).symm.imp (And.intro hv) (And.intro hv)) (w_or_le stake _ _)
    exact (Weak_iff _ _).mpr (fractions_rest (a := 2) (b := 2) ((Strong_iff _ _).mp h80) hsplit fun h => hc ((Weak_iff _ _).mpr h))

/-- once every responsive validator is in notar(b) ∪ notar-fallback(b), the notar-fallback certificate exists -/
theorem nf_cert_of_all_responsive (R : V → Prop) (nb nfb : V → Prop)
    (hall : ∀ v, R v → nb v ∨ nfb v) (h60 : Q (w stake R) (total stake)) :
    Q (w stake (fun v => nb v ∨ nfb v)) (total stake) :=
  Q_mono h60 (w_mono stake hall)

/-- once every responsive validator is in skip ∪ skip-fallback, the skip certificate exists -/
theorem skip_cert_of_all_responsive (R : V → Prop) (sk sf : V → Prop)
    (hall : ∀ v, R v → sk v ∨ sf v) (h60 : Q (w stake R) (total stake)) :
    Q (w stake (fun v => sk v ∨ sf v)) (total stake) :=
  Q_mono h60 (w_mono stake hall)

/-- **> 60 % responsive, at most one block voted (correct or crashed/silent leader).** One of the three
    conditions holds: ≥ 40 % notarized the block, ≥ 40 % skipped, or ≥ 20 % notarized it and notar + skip ≥ 60 %
    (the second clause of safe-to-notar). -/
theorem no_stuck_60_single_block (R sk nb : V → Prop)
    (hvote : ∀ v, R v → sk v ∨ nb v)
    (h60 : Q (w stake R) (total stake)) :
    Weak (w stake (fun v => R v ∧ nb v)) (total stake) ∨ Weak (w stake (fun v => R v ∧ sk v)) (total stake) ∨
    (Weakest (w stake (fun v => R v ∧ nb v)) (total stake) ∧
      Q (w stake (fun v => (R v ∧ nb v) ∨ (R v ∧ sk v))) (total stake)) := by
  have h1 : w stake R ≤ w stake (fun v => (R v ∧ nb v) ∨ (R v ∧ sk v)) :=
    w_mono stake fun v hv => (hvote v hv).symm.imp (And.intro hv) (And.intro hv)
  -- if neither the first nor the second clause (≥ 40 % notarized, ≥ 40 % skipped) holds, then the third does
  refine (Classical.em _).imp_right fun _ => (Classical.em _).imp_right fun hS => ⟨?_, Q_mono h60 h1⟩
  -- 60 % responsive, less than 40 % of them skipped: at least 20 % notarized
  have := fractions_rest (a := 1) (b := 2) ((Q_iff _ _).mp h60) (Nat.le_trans h1 (w_or_le stake _ _))
    fun h => hS ((Weak_iff _ _).mpr h)
  rw [Nat.one_mul] at this
  exact (Weakest_iff _ _).mpr this

/-- **Fast path**: ≥ 80 % notarization stake for one block is a fast-finalization certificate (one round). -/
theorem fast_path (nb : V → Prop) (h : Strong (w stake nb) (total stake)) :
    Strong (w stake nb) (total stake) ∧ Q (w stake nb) (total stake) :=
  ⟨h, h.toQ⟩

/-- the 60 % bound does not extend to equivocating leaders: 39 % / 21 % split, 40 % silent — none of the
    conditions holds (the statement of C02 does not claim progress there) -/
theorem stuck_60_equivocation_counterexample :
    let T := 100; let x := 39; let z := 21; let y := 0
    5 * (x + y + z) ≥ 3 * T ∧ ¬ (5 * x ≥ 2 * T) ∧ ¬ (5 * (y + z) ≥ 2 * T) ∧
    ¬ (5 * z ≥ 2 * T) ∧ ¬ (5 * x ≥ T ∧ 5 * (x + y) ≥ 3 * T) ∧ ¬ (5 * z ≥ T ∧ 5 * (z + y) ≥ 3 * T ∧ 5 * z ≥ 2 * T) := by decide

end AgModel.Spec
