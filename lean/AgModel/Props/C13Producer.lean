import AgModel.Proofs.BlockProducerE2E
import AgModel.Props.C13
/-!
# C13, leader side — what `block_producer.rs` disseminates is exactly what a follower reconstructs

All theorems are about `AgModel.BlockProducer` (model of `src/consensus/block_producer.rs`, tied to the code by the
`bp` harness / `drv_bp` correspondence) and quantify over every producer configuration `c` (both entry points, every
slot and parent), every input `ins : List SliceIn` (every transaction stream and sizes, every pattern of deadlines and
clock readings, every ParentReady arrival point or none) - hence every number of slices and every handover point.
-/
namespace AgModel.BlockProducer
open AgModel.Blockstore

/-- **Every produced slice fits the slice budget** - and still fits after *any* parent is assigned to it (defect
    D28: `apply_parent_ready` may set `payload.parent` on a slice that was filled without one); the `usize`
    subtraction `buffer_space - buffer.len()` never underflows; the shredder's `expect` never fires. -/
theorem slice_fits_budget (c : Cfg) (ins : List SliceIn) :
    (∀ o ∈ (produce c ins).2,
      o.payload.encLen ≤ MAX_DATA_PER_SLICE ∧
      (∀ p, ({ o.payload with parent := some p } : Payload).encLen ≤ MAX_DATA_PER_SLICE) ∧
      o.payload.dataLen ≤ bufferSpace) ∧
    (produce c ins).1.status ≠ .panicked := by
  have sp := produce_spec c ins
  refine ⟨fun o ho => ?_, sp.alive⟩
  obtain ⟨_, h2, _⟩ := sp.ok o ho
  exact ⟨encLen_le _ h2, fun p => encLen_le _ h2, h2⟩

/-- the receive loop alone, for every stream of arrivals: the buffer never exceeds `buffer_space`; a slice reported
    full has no room for another maximum-size transaction, one not reported full has (and consumed all arrivals) -/
theorem fill_budget (arr : List Tx) :
    dataLen (fill 0 [] arr).txs ≤ bufferSpace ∧
    ((fill 0 [] arr).full = true → bufferSpace - dataLen (fill 0 [] arr).txs < MAX_TRANSACTION_SIZE + LEN) ∧
    ((fill 0 [] arr).full = false →
      (fill 0 [] arr).rest = [] ∧ dataLen (fill 0 [] arr).txs + MAX_TRANSACTION_SIZE + LEN ≤ bufferSpace) :=
  fill_room 0 [] arr room_init

/-- **The transaction count prefix equals the number of serialised transactions**; the serialised transactions are
    exactly the acceptable ones (`len ≤ MAX_TRANSACTION_SIZE`) among the arrivals the slice consumed, in order:
    oversized ones are dropped, never counted, never serialised. -/
theorem tx_count_prefix (arr : List Tx) :
    (fill 0 [] arr).count = (fill 0 [] arr).txs.length ∧
    ∃ consumed, arr = consumed ++ (fill 0 [] arr).rest ∧
      (fill 0 [] arr).txs = consumed.filter (fun t => decide (t.len ≤ MAX_TRANSACTION_SIZE)) :=
  fill_consumed 0 [] arr rfl

/-- ... and so for every slice of every produced block -/
theorem produced_count_prefix (c : Cfg) (ins : List SliceIn) :
    ∀ o ∈ (produce c ins).2, o.payload.count = o.payload.txs.length ∧ ∀ t ∈ o.payload.txs, t.len ≤ MAX_TRANSACTION_SIZE :=
  fun o ho => ((produce_spec c ins).ok o ho).2.2

/-- **Exactly one slice is marked last and it is the final one**; slice indices are `0, 1, …, n-1` with
    `n ≤ MAX_SLICES_PER_BLOCK`, every header carries the block's slot; a block that is not (yet) complete has no
    last marker at all. -/
theorem exactly_one_last (c : Cfg) (ins : List SliceIn) :
    (produce c ins).2.map (·.index) = List.range (produce c ins).2.length ∧
    (produce c ins).2.length ≤ MAX_SLICES ∧
    (∀ o ∈ (produce c ins).2, o.slot = c.slot) ∧
    ((produce c ins).1.status = .done →
      ∃ pre l, (produce c ins).2 = pre ++ [l] ∧ l.isLast = true ∧ ∀ o ∈ pre, o.isLast = false) ∧
    ((produce c ins).1.status ≠ .done → ∀ o ∈ (produce c ins).2, o.isLast = false) := by
  have sp := produce_spec c ins
  exact ⟨List.range_eq_range' ▸ sp.index, sp.count, fun o ho => (sp.ok o ho).1, sp.last, sp.notLast⟩

/-- **The parent appears in slice 0 and in at most one later slice** - exactly as the follower's reconstruction
    (`Blockstore.foldSlices`) accepts: the first slice carries a parent `p0`; either no later slice carries one and the
    producer's parent is `p0`, or exactly one does, it carries the producer's final parent, and that differs from `p0`;
    the follower's fold over the produced slices succeeds with the producer's parent and all transactions. -/
theorem parent_in_first_slice_one_switch (c : Cfg) (root : Nat → Nat) (ins : List SliceIn)
    (hne : (produce c ins).2 ≠ []) :
    ∃ o p0, (produce c ins).2.head? = some o ∧ o.index = 0 ∧ o.payload.parent = some p0 ∧
      foldSlices ((produce c ins).2.map (rsOf root)) p0 false [] =
        some ((produce c ins).1.parent, (produce c ins).2.flatMap txIds) ∧
      ((switches ((produce c ins).2.map (rsOf root)) = [] ∧ (produce c ins).1.parent = p0) ∨
       (∃ r, switches ((produce c ins).2.map (rsOf root)) = [r] ∧ r.parent = some (produce c ins).1.parent ∧
          (produce c ins).1.parent ≠ p0)) := by
  obtain ⟨o, p, h1, h2, h3, h4⟩ := fold_produce c root ins hne
  refine ⟨o, p, h1, h2, h3, h4, ?_⟩
  rcases foldSlices_parent h4 with h | ⟨_, r, hr⟩
  · exact Or.inl h
  · exact Or.inr ⟨r, hr⟩

/-- the producer's final parent is in an earlier slot whenever the parent it was called with and every ParentReady it
    receives are (what the follower's D3 check demands of the announced parent) -/
theorem final_parent_earlier (c : Cfg) (ins : List SliceIn) (hp : c.parent.1 < c.slot)
    (hpr : ∀ si ∈ ins, ∀ np, si.pr = some np → np.1 < c.slot) : (produce c ins).1.parent.1 < c.slot :=
  produce_parent_lt hp hpr

/-- **Leader → follower, end to end.** Let the producer (either entry point, any inputs) complete a block: slices
    `outs`, final parent `P = (produce c ins).1.parent`. Let `B` be these slices as a block (`toHBlock`; by
    `toHBlock_faithful` slice `i` of `B` has exactly the header and payload of `outs[i]`), `root i` the signed root of
    slice `i` and `env` any decoder that decodes each of these roots to what was encoded. The given parent and every
    ParentReady are in earlier slots (`assert_eq!(parent_slot, slot.prev())`; Pool, C06). Then for EVERY delivery `ss`
    of the leader's shreds (any order, duplicates, subsets, interleaving) into a fresh follower slot:
    * `B.block` has the producer's parent `P`, the double-Merkle root of the slice roots as hash, and the
      concatenation of the admitted transactions;
    * the follower emits the `Block` event of exactly this block **iff** it received ≥ 32 distinct shreds of every
      slice, exactly once; it never emits `InvalidBlock` nor any other block, and is never flagged;
    * when it did, the leader's own fast path (`add_own_slice` of the `n` slices in order, never panicking) has stored
      the identical state and sent the identical events. -/
theorem leader_to_follower (c : Cfg) (ins : List SliceIn) (root sz : Nat → Nat) (env : Nat → Content) (cap : Nat)
    (hd : (produce c ins).1.status = .done) (hcap : MAX_SLICES ≤ cap) (hsz : ∀ i, sz i ≠ 0)
    (henv : ∀ o ∈ (produce c ins).2, env (root o.index) = .ok o.payload.parent (some (txIds o)))
    (hp : c.parent.1 < c.slot) (hpr : ∀ si ∈ ins, ∀ np, si.pr = some np → np.1 < c.slot)
    (ss : List Shred) (hss : ∀ s ∈ ss, (toHBlock c root sz (produce c ins)).Honest s) :
    let B := toHBlock c root sz (produce c ins)
    let run := runDissem env (SlotData.new cap c.slot) ss
    B.block.parent = (produce c ins).1.parent ∧
    B.block.hash = (Merkle.Tree.new ((List.range (produce c ins).2.length).map root)).root ∧
    B.block.txs = (produce c ins).2.flatMap txIds ∧
    (.block B.block.info ∈ run.2 ↔ Enough B ss) ∧
    run.2.count (.block B.block.info) = (if Enough B ss then 1 else 0) ∧
    (∀ e ∈ run.2, e = .firstShred ∨ e = .block B.block.info) ∧
    Event.invalidBlock ∉ run.2 ∧
    run.1.misbehaved = false ∧
    run.1.dis.completed = (if Enough B ss then some B.block else none) ∧
    (Enough B ss → ownRun B (SlotData.new cap c.slot) (List.range B.n) = (run.1, true, run.2)) := by
  intro B run
  have hwf : B.WF env cap := produce_wf c root sz env cap ins hd hcap hsz henv hp hpr
  obtain ⟨a1, a2, a3, a4, a5⟩ := honest_block_announced_iff B env cap hwf ss hss
  refine ⟨rfl, rfl, toHBlock_allTxs c root sz _, a1, a2, a3, ?_, a5, a4, ?_⟩
  · intro hin
    rcases a3 _ hin with h | h <;> cases h
  · intro hen
    exact leader_fast_path_equal B env cap hwf ss hss hen

/-- the block of `leader_to_follower` is literally the produced slices (headers and payloads), so its shreds are the
    produced shreds -/
theorem produced_block_is_the_slices (c : Cfg) (root sz : Nat → Nat) (ins : List SliceIn)
    (hd : (produce c ins).1.status = .done) :
    (List.range (toHBlock c root sz (produce c ins)).n).map (toHBlock c root sz (produce c ins)).rslice =
      (produce c ins).2.map (rsOf root) := toHBlock_faithful c root sz ins hd

/-- the side effects of a completed production, in the order of the code: per slice `shred`, the 64 `send`s in index
    order, `add_own_slice`; finally `pool.add_block` with the final parent -/
theorem effects_order (c : Cfg) (ins : List SliceIn) (hd : (produce c ins).1.status = .done) :
    effects c ins = (produce c ins).2.flatMap sliceEffects ++ [.poolAddBlock c.slot (produce c ins).1.parent] := by
  simp [effects, hd]

/-! ### non-vacuity -/

/-- an optimistic block in slot 9 built on (8, #5): slice 0 times out with one transaction and an oversize one, during
    slice 1 the ParentReady names (6, #7) while 70 maximum-size transactions arrive (the slice fills up after 62, its
    parent is assigned afterwards), slice 2 takes the rest and ends the block at its deadline -/
def exCfg : Cfg := ⟨.notReady, 9, (8, 5), false⟩
def exIns : List SliceIn :=
  [⟨[⟨0, 100⟩, ⟨1, 513⟩], true, false, none⟩,
   ⟨(List.range 70).map (fun i => ⟨2 + i, 512⟩), false, false, some (6, 7)⟩,
   ⟨[⟨72, 0⟩], true, false, none⟩]

/-- the whole run, evaluated once -/
private theorem exProduce : produce exCfg exIns =
    (⟨3, true, [], (6, 7), .done⟩,
     [⟨9, 0, false, ⟨some (8, 5), 1, [⟨0, 100⟩]⟩⟩,
      ⟨9, 1, false, ⟨some (6, 7), 62, (List.range 62).map (fun i => ⟨2 + i, 512⟩)⟩⟩,
      ⟨9, 2, true, ⟨none, 9, (List.range 8).map (fun i => ⟨64 + i, 512⟩) ++ [⟨72, 0⟩]⟩⟩]) := by
  decide +kernel

example : (produce exCfg exIns).1.status = .done ∧ (produce exCfg exIns).1.parent = (6, 7) ∧
    (produce exCfg exIns).2.map (fun o => (o.index, o.isLast, o.payload.parent, o.payload.count, o.payload.encLen)) =
      [(0, false, some (8, 5), 1, 165), (1, false, some (6, 7), 62, 32297), (2, true, none, 9, 4185)] := by
  rw [exProduce]; decide

/-- a slice filled to the last byte of the buffer gets its parent afterwards and is exactly `MAX_DATA_PER_SLICE` long
    (the D28 boundary): 61 maximum-size transactions, one of 462 bytes, one more of maximum size -/
example : ((produce ⟨.notReady, 9, (8, 5), false⟩
      [⟨[], true, false, none⟩,
       ⟨(List.range 61).map (fun i => ⟨i, 512⟩) ++ [⟨61, 462⟩, ⟨62, 512⟩], false, false, some (6, 7)⟩]).2.map
        (fun o => (o.payload.parent, o.payload.encLen))) = [(some (8, 5), 57), (some (6, 7), MAX_DATA_PER_SLICE)] := by
  decide +kernel

/-- the behaviour before fix D28 (buffer sized with the parent the slice was produced with, here `None`):
    the same slice would have been allowed 40 bytes more and no longer fit once the parent is assigned -/
theorem d28_witness : MAX_DATA_PER_SLICE - PARENT_NONE - LEN + PARENT_SOME + LEN > MAX_DATA_PER_SLICE := by decide

/-- the hypotheses of `leader_to_follower` are satisfiable: the example block, its three slices' roots 1, 2, 3 -/
def exEnvP : Nat → Content := fun r =>
  match (produce exCfg exIns).2[r - 1]? with
  | some o => if r = 0 then .bad else .ok o.payload.parent (some (txIds o))
  | none => .bad

example : (produce exCfg exIns).1.status = .done ∧ MAX_SLICES ≤ 1024 ∧
    (∀ o ∈ (produce exCfg exIns).2, exEnvP (o.index + 1) = .ok o.payload.parent (some (txIds o))) ∧
    exCfg.parent.1 < exCfg.slot ∧ (∀ si ∈ exIns, ∀ np, si.pr = some np → np.1 < exCfg.slot) := by
  refine ⟨by rw [exProduce], by decide, ?_, by decide, by decide⟩
  unfold exEnvP
  rw [exProduce]
  decide

/-- `wait_for_first_slot`: the ParentReady first -> ready producer; the block of the previous slot first -> optimistic
    producer on that block; a later finalisation -> skip -/
example : waitForFirstSlot 8 ⟨false, none, some (5, 3), some 9, true⟩ = some (.ready (5, 3)) ∧
    waitForFirstSlot 8 ⟨false, none, none, some 9, true⟩ = some (.parentReadyNotSeen (7, 9)) ∧
    waitForFirstSlot 8 ⟨false, none, none, none, true⟩ = some .skip ∧
    waitForFirstSlot 8 ⟨false, none, none, none, false⟩ = none := by decide

end AgModel.BlockProducer
