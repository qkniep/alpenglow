import AgModel.Proofs.ProgressCluster
import AgModel.Proofs.ProgressSkip
import AgModel.Proofs.ProgressOrder
import AgModel.Proofs.BundleReplay
import AgModel.Props.C10Cluster
/-!
# C02 — progress of the cluster of executable model nodes under timely delivery

Timing itself (tokio timers, scheduling, UDP) is not a theorem; what is: **once messages are delivered before the timeouts fire,
the logic finalizes the correct leader's blocks.** The statements are about runs of the cluster model of `Spec/Cluster.lean`
(`n` composed nodes `PoolImpl ∘ queue ∘ Votor`, the models kept equal to the code by the correspondence checks) that follow the
*timely schedule* of `Proofs/ProgressDefs.lean` (`deliverBlock`, `pumpAll`, `exchange`, `deliverTimeouts`): every message a
correct node broadcasts reaches every correct node, and no timeout of a slot fires before the votes of that slot are exchanged.

They hold for **every** configuration — any number of validators, any stakes with positive total, any Byzantine set (silent in
the schedule itself) — and any cluster state in which every correct node is *ready for slot `s` with parent `p`* (`CReady`; a
conjunction of explicit facts about each node's Votor, pool slot states, finality tracker and parent-ready tracker that holds in
the initial cluster for `s = 1`, `p =` genesis: `init_ready`, and is re-established by every theorem below).

`hi` is any bound on the slots involved that the pools still accept: `hi < highest_finalized_slot + 2 · SLOTS_PER_EPOCH` at
every correct node (`PoolImpl` rejects votes for later slots as out of bounds; the bound moves with finalization).
-/
namespace AgModel.Cluster
open AgModel.NodePanic AgModel.Pool

/-- **In the initial cluster every correct node is ready for slot 1 with the genesis block as parent.** (The genesis
    `ParentReady` needs no event: slot 1 is not the first slot of its window, and `Votor::new` starts with the genesis block
    notarized in slot 0.) -/
theorem init_ready (c : Cfg) (hi : Nat) (hhi : hi < 2 * Gen.SLOTS_PER_EPOCH) : CReady c hi 1 (0, 0) (init c) := by
  intro i _
  refine ⟨rfl, rfl, rfl, ?_, fun t _ => rfl, (fun k hk => by exact absurd hk (by simp [init])), ?_⟩
  · refine ⟨by decide, Nat.le_refl _, Nat.le_refl _, (by show hi < 0 + 2 * Gen.SLOTS_PER_EPOCH; omega), ?_, fun b _ => rfl, ?_, Nat.le_refl _, ?_, ?_, ?_, ?_, rfl⟩
    · intro t ht
      show (if t = 0 then _ else none) = none
      rw [if_neg (by simp only [] at ht; omega)]
    · exact Or.inr ⟨rfl, rfl, rfl, rfl⟩
    · intro t h1 h2; simp only [] at h1; omega
    · exact ⟨rfl, rfl, rfl⟩
    · intro t ht
      have : ParentReady.get ParentReady.init t = {} := by
        unfold ParentReady.get ParentReady.init
        simp only []
        rw [if_neg (by omega)]; rfl
      rw [show (init c i).pool.pr = ParentReady.init from rfl, this]
      exact ⟨rfl, rfl, rfl⟩
    · intro _; exact ⟨rfl, rfl, rfl⟩
  · refine ⟨rfl, (by show 0 < 1; omega), ?_, ?_, (fun h => by exact absurd h (by decide)), fun _ => ⟨rfl, rfl⟩, fun j => rfl, rfl⟩
    · intro t ht
      have : (init c i).votor.getS t = {} := by
        show ((Votor.lookup [(0, Votor.genesisState)] t).getD {}) = {}
        simp only [Votor.lookup]
        rw [if_neg (by omega)]; rfl
      rw [this]; exact freshS_default
    · intro x hx
      have : x = (0, Votor.genesisState) := by simpa [init, Votor.init] using hx
      subst this; rfl

/-! ## Stage A — lock-step delivery finalizes a correct leader's block -/

/-- **Fast path: one voting round.** With the correct validators holding at least 80 % of the stake, from a cluster state in
    which every correct node is ready for slot `s` with parent `p`, for a block `(s, h)` whose parent is `p`: after
    `deliverBlock; pumpAll; exchange; pumpAll` — the block reaches every correct node, one exchange of votes, every Votor drains
    its queue — the pool of **every** correct node holds a fast-finalization certificate for `(s, h)`. The schedule is `Valid`
    (it delivers only votes that their senders' Votors have cast), and no node that was alive is dead afterwards. -/
theorem timely_fast_finalization (c : Cfg) (hpos : 0 < c.stakes.sum) (hi s h : Nat) (p : Nat × Nat) (st : State) (hs : s ≤ hi)
    (hr : CReady c hi s p st) (hp : c.parentOf (s, h) = p) (h80 : 4 * c.stakes.sum ≤ 5 * correctStake c) :
    Valid c st (fastSched c (s, h) st) ∧
    (∀ i, (st i).dead = false → (run st (fastSched c (s, h) st) i).dead = false) ∧
    ∀ i ∈ correctIds c, PoolFinalized (run st (fastSched c (s, h) st)) i (Blk.mk' s h) := by
  have m := fast_master c hpos hs hr hp
  refine ⟨valid_fastSched c _ st, alive_of_correct (fun i hi' => (m i hi').alive) (fun i hi => by simp only [run_fastSched, fastRun, roundRun, phaseRun, if_neg hi]), ?_⟩
  exact fun i hi' => (m i hi').finalized (Or.inl ((cStrong_iff c).mpr h80))

/-- **Slow path: two voting rounds.** With the correct validators holding at least 60 % of the stake (the property assumes more
    than 60 %): after one more `exchange; pumpAll` (the finalization votes) the pool of every correct node holds a
    notarization certificate for `(s, h)` and a finalization certificate for slot `s` (or, with ≥ 80 %, also the
    fast-finalization certificate); the schedule is valid, nobody died, and **every correct node is ready for slot `s + 1`
    with parent `(s, h)`** — progress is inductive. -/
theorem timely_finalization (c : Cfg) (hpos : 0 < c.stakes.sum) (hi s h : Nat) (p : Nat × Nat) (st : State) (hs : s ≤ hi)
    (hr : CReady c hi s p st) (hp : c.parentOf (s, h) = p) (h60 : 3 * c.stakes.sum ≤ 5 * correctStake c) :
    Valid c st (slotSched c (s, h) st) ∧
    (∀ i, (st i).dead = false → (run st (slotSched c (s, h) st) i).dead = false) ∧
    (∀ i ∈ correctIds c, PoolFinalized (run st (slotSched c (s, h) st)) i (Blk.mk' s h)) ∧
    CReady c hi (s + 1) (s, h) (run st (slotSched c (s, h) st)) := by
  have hq := (cQuorum_iff c).mpr h60
  obtain ⟨m, r'⟩ := slot_master c hpos hs hr hp hq
  refine ⟨valid_slotSched c _ st, alive_of_correct (fun i hi' => (m i hi').alive) (fun i hi => by simp only [run_slotSched, slotRun, fastRun, roundRun, phaseRun, if_neg hi]), ?_, r'⟩
  exact fun i hi' => (m i hi').finalized (Or.inr ⟨hq, hq⟩)

/-- … from the initial cluster: the first block of the first leader window, built on genesis -/
theorem first_block_finalized (c : Cfg) (hpos : 0 < c.stakes.sum) (h : Nat) (hp : c.parentOf (1, h) = (0, 0))
    (h60 : 3 * c.stakes.sum ≤ 5 * correctStake c) :
    Valid c (init c) (slotSched c (1, h) (init c)) ∧
    (∀ i, (run (init c) (slotSched c (1, h) (init c)) i).dead = false) ∧
    (∀ i ∈ correctIds c, PoolFinalized (run (init c) (slotSched c (1, h) (init c))) i (Blk.mk' 1 h)) ∧
    (4 * c.stakes.sum ≤ 5 * correctStake c →
      ∀ i ∈ correctIds c, PoolFinalized (run (init c) (fastSched c (1, h) (init c))) i (Blk.mk' 1 h)) := by
  have hr := init_ready c 1 (by decide)
  obtain ⟨a1, a2, a3, _⟩ := timely_finalization c hpos 1 1 h (0, 0) (init c) (Nat.le_refl _) hr hp h60
  exact ⟨a1, fun i => a2 i rfl, a3, fun h80 => (timely_fast_finalization c hpos 1 1 h (0, 0) (init c) (Nat.le_refl _) hr hp h80).2.2⟩

/-! ## Stage B — a chain of blocks of correct leaders: the whole leader window, and the next windows -/

/-- the blocks `(s, h₀), (s+1, h₁), …` form a chain on top of `p` -/
def chainOk (c : Cfg) : Nat × Nat → Nat → List Nat → Prop
  | _, _, [] => True
  | p, s, h :: hs => c.parentOf (s, h) = p ∧ chainOk c (s, h) (s + 1) hs

def blocksFrom (s : Nat) : List Nat → List (Nat × Nat)
  | [] => []
  | h :: hs => (s, h) :: blocksFrom (s + 1) hs

def lastBlock : Nat × Nat → Nat → List Nat → Nat × Nat
  | p, _, [] => p
  | _, s, h :: hs => lastBlock (s, h) (s + 1) hs

/-- node `i`'s pool reported `b` finalized at some point of the run `evs` from `st` (slot states are pruned once a later slot is
    finalized, so "at the end" would be too strong) -/
def FinalizedDuring (st : State) (evs : List Ev) (i : Nat) (b : Blk) : Prop :=
  ∃ k, PoolFinalized (run st (evs.take k)) i b

theorem FinalizedDuring.append_left {st : State} {a b : List Ev} {i : Nat} {x : Blk} (h : FinalizedDuring st a i x) :
    FinalizedDuring st (a ++ b) i x := by
  obtain ⟨k, hk⟩ := h
  refine ⟨min k a.length, ?_⟩
  rw [List.take_append_of_le_length (Nat.min_le_right _ _)]
  have : a.take (min k a.length) = a.take k := by
    rw [List.take_eq_take_iff]; omega
  rw [this]; exact hk

theorem FinalizedDuring.append_right {st : State} {a b : List Ev} {i : Nat} {x : Blk} (h : FinalizedDuring (run st a) b i x) :
    FinalizedDuring st (a ++ b) i x := by
  obtain ⟨k, hk⟩ := h
  refine ⟨a.length + k, ?_⟩
  rw [List.take_append, List.take_of_length_le (by omega), run_append]
  simpa using hk

theorem FinalizedDuring.at_end {st : State} {a : List Ev} {i : Nat} {x : Blk} (h : PoolFinalized (run st a) i x) :
    FinalizedDuring st a i x := ⟨a.length, by rw [List.take_length]; exact h⟩

/-- **The blocks of correct leaders, delivered in slot order, are all finalized by every correct node** — the whole leader
    window and any number of following windows: for every chain `(s, h₀) ← (s+1, h₁) ← …` on top of `p`, from every state in
    which every correct node is ready for `s` with parent `p`, with ≥ 60 % correct stake: the timely schedule is valid, nobody
    dies, every block of the chain is reported finalized by the pool of every correct node during the run, and at the end
    every correct node is ready for the next slot with the last block as parent (in particular `ParentReady` for the first
    slot of the next window has been announced and handled: `chain_next_window_ready`). -/
theorem timely_chain (c : Cfg) (hpos : 0 < c.stakes.sum) (hi : Nat) (h60 : 3 * c.stakes.sum ≤ 5 * correctStake c) :
    ∀ (hs : List Nat) (p : Nat × Nat) (s : Nat) (st : State), s + hs.length ≤ hi + 1 → CReady c hi s p st → chainOk c p s hs →
    Valid c st (windowSched c (blocksFrom s hs) st) ∧
    (∀ i, (st i).dead = false → (run st (windowSched c (blocksFrom s hs) st) i).dead = false) ∧
    (∀ b ∈ blocksFrom s hs, ∀ i ∈ correctIds c, FinalizedDuring st (windowSched c (blocksFrom s hs) st) i (Blk.mk' b.1 b.2)) ∧
    CReady c hi (s + hs.length) (lastBlock p s hs) (run st (windowSched c (blocksFrom s hs) st)) := by
  intro hs
  induction hs with
  | nil =>
    intro p s st _ hr _
    refine ⟨valid_windowSched c _ st, fun i hd => hd, ?_, by simpa [lastBlock, windowSched, blocksFrom, run] using hr⟩
    intro b hb; simp [blocksFrom] at hb
  | cons h hs ih =>
    intro p s st hlen hr hc
    obtain ⟨hp, hc'⟩ := hc
    obtain ⟨_, a2, a3, a4⟩ := timely_finalization c hpos hi s h p st (by simp at hlen; omega) hr hp h60
    obtain ⟨_, b2, b3, b4⟩ := ih (s, h) (s + 1) (run st (slotSched c (s, h) st)) (by simp at hlen ⊢; omega) a4 hc'
    refine ⟨valid_windowSched c _ st, ?_, ?_, ?_⟩ <;> simp only [blocksFrom, windowSched]
    · intro i hd
      rw [run_append]
      exact b2 i (a2 i hd)
    · intro b hb i hi'
      rcases List.mem_cons.mp hb with rfl | hb
      · exact (FinalizedDuring.at_end (a3 i hi')).append_left
      · exact (b3 b hb i hi').append_right
    · rw [run_append]
      have : s + (h :: hs).length = s + 1 + hs.length := by simp; omega
      rw [this]
      exact b4

/-- what `CReady` says when `s` is the first slot of a window (as after `timely_chain` for a chain that ends at the last slot
    of a window, or after `silent_leader_skipped`): every correct node's Votor holds `p` as a ready parent for `s` (it has
    handled `ParentReady(s, p)`), and so does the pool's parent-ready tracker -/
theorem chain_next_window_ready (c : Cfg) (hi s : Nat) (p : Nat × Nat) (st : State) (hr : CReady c hi s p st)
    (hw : s % Votor.W = 0) (i : Nat) (hi' : i ∈ correctIds c) :
    ((st i).votor.getS s).parentsReady.contains p = true ∧ ParentReady.parentsReady (st i).pool.pr s = [p] := by
  refine ⟨(hr i hi').votor.parentW hw, ?_⟩
  rw [ParentReady.parentsReady_eq_get, (hr i hi').trk.atS.2.2, if_pos ((isWindowStart_iff s).mpr hw)]

/-! ## Stage D — a window whose leader is silent or crashed is skipped and does not block the next one -/

/-- **Silent / crashed leader.** From any state in which every correct node is ready for slot `s` with parent `p` (`s` the first
    slot of a window, or any later slot of it: the leader crashed mid-window), with ≥ 60 % correct stake: no block is delivered,
    the timeouts of the slots `s … E-1` of the window fire at every correct node (`E = wEnd s`, the first slot of the next
    window), one exchange of the skip votes and every Votor draining its queue. Then the pool of every correct node holds a
    **skip certificate for every slot `s ≤ t < E`**, and **every correct node is ready for the first slot `E` of the next window
    with the same parent `p`** (its pool announced `ParentReady(E, p)`, its Votor handled it: `chain_next_window_ready`) — the
    window does not block the next one. The schedule is valid and nobody dies. -/
theorem silent_leader_skipped (c : Cfg) (hpos : 0 < c.stakes.sum) (hi s : Nat) (p : Nat × Nat) (st : State)
    (hE : wEnd s ≤ hi + 1) (hr : CReady c hi s p st) (h60 : 3 * c.stakes.sum ≤ 5 * correctStake c) :
    Valid c st (skipSched c s (List.range' s (wEnd s - s)) st) ∧
    (∀ i, (st i).dead = false → (run st (skipSched c s (List.range' s (wEnd s - s)) st) i).dead = false) ∧
    (∀ i ∈ correctIds c, ∀ t, s ≤ t → t < wEnd s →
      ∃ a x, (run st (skipSched c s (List.range' s (wEnd s - s)) st) i).pool.getSlot t = some a ∧ a.cSkip = some x) ∧
    CReady c hi (wEnd s) p (run st (skipSched c s (List.range' s (wEnd s - s)) st)) := by
  have hq := (cQuorum_iff c).mpr h60
  obtain ⟨m, r'⟩ := skip_master c hpos hE hr hq
  refine ⟨valid_skipSched c _ _ st, alive_of_correct (fun i hi' => (r' i hi').alive) (fun i hi => by simp only [run_skipSched, skipRun, roundRun, phaseRun, if_neg hi]), ?_, r'⟩
  · intro i hi' t h1 h2
    have hsk := m i hi' t h1 h2
    have hsome : ((run st (skipSched c s (List.range' s (wEnd s - s)) st) i).pool.slotState t).2.cSkip.isSome = true := by
      rw [hsk.cSkip]; exact hq
    cases hg : (run st (skipSched c s (List.range' s (wEnd s - s)) st) i).pool.getSlot t with
    | none =>
      rw [slotState_snd_of_none hg] at hsome
      cases hsome
    | some a =>
      rw [slotState_snd_of_some hg] at hsome
      obtain ⟨x, hx⟩ := Option.isSome_iff_exists.mp hsome
      exact ⟨a, x, rfl, hx⟩

/-- a plan: `some hs` — the next leader(s) are correct and their blocks `(s, h₀), (s+1, h₁), …` arrive in time (any number of
    consecutive slots, also across window boundaries); `none` — the leader of the current window is silent from the current
    slot on, the timeouts of the rest of the window fire -/
abbrev Plan := List (Option (List Nat))

def planSched (c : Cfg) : Plan → Nat → State → List Ev
  | [], _, _ => []
  | some hs :: rest, s, st =>
    windowSched c (blocksFrom s hs) st ++ planSched c rest (s + hs.length) (run st (windowSched c (blocksFrom s hs) st))
  | none :: rest, s, st =>
    skipSched c s (List.range' s (wEnd s - s)) st ++
      planSched c rest (wEnd s) (run st (skipSched c s (List.range' s (wEnd s - s)) st))

/-- the blocks of the plan form a chain (blocks after a skipped window build on the last block before it) -/
def planOk (c : Cfg) : Plan → Nat × Nat → Nat → Prop
  | [], _, _ => True
  | some hs :: rest, p, s => chainOk c p s hs ∧ planOk c rest (lastBlock p s hs) (s + hs.length)
  | none :: rest, p, s => planOk c rest p (wEnd s)

def planEnd : Plan → Nat × Nat → Nat → (Nat × Nat) × Nat
  | [], p, s => (p, s)
  | some hs :: rest, p, s => planEnd rest (lastBlock p s hs) (s + hs.length)
  | none :: rest, p, s => planEnd rest p (wEnd s)

def planBlocks : Plan → Nat → List (Nat × Nat)
  | [], _ => []
  | some hs :: rest, s => blocksFrom s hs ++ planBlocks rest (s + hs.length)
  | none :: rest, s => planBlocks rest (wEnd s)

def planRun (c : Cfg) : Plan → Nat → State → State
  | [], _, st => st
  | some hs :: rest, s, st => planRun c rest (s + hs.length) (windowRun c (blocksFrom s hs) st)
  | none :: rest, s, st => planRun c rest (wEnd s) (skipRun c s (List.range' s (wEnd s - s)) st)

theorem run_planSched (c : Cfg) (pl : Plan) (s : Nat) (st : State) : run st (planSched c pl s st) = planRun c pl s st := by
  induction pl generalizing s st with
  | nil => rfl
  | cons a rest ih => cases a <;> simp only [planSched, run_append, run_windowSched, run_skipSched, ih, planRun]

theorem valid_planSched (c : Cfg) (pl : Plan) (s : Nat) (st : State) : Valid c st (planSched c pl s st) := by
  induction pl generalizing s st with
  | nil => trivial
  | cons a rest ih =>
    cases a <;> simp only [planSched, valid_append]
    · exact ⟨valid_skipSched c _ _ st, ih _ _⟩
    · exact ⟨valid_windowSched c _ st, ih _ _⟩

/-- **Progress over any sequence of leader windows** with correct leaders (blocks delivered in time) and silent / crashed
    leaders (timeouts), from any state in which every correct node is ready — in particular from the initial cluster
    (`init_ready`): the timely schedule is valid, nobody dies, **every block of a correct leader is reported finalized by the
    pool of every correct node**, windows of silent leaders are skipped, and at the end every correct node is ready for the
    next slot: the highest finalized slot keeps advancing for as long as the plan goes on. -/
theorem timely_progress (c : Cfg) (hpos : 0 < c.stakes.sum) (hi : Nat) (h60 : 3 * c.stakes.sum ≤ 5 * correctStake c) :
    ∀ (pl : Plan) (p : Nat × Nat) (s : Nat) (st : State), (planEnd pl p s).2 ≤ hi + 1 → CReady c hi s p st → planOk c pl p s →
    Valid c st (planSched c pl s st) ∧
    (∀ i, (st i).dead = false → (run st (planSched c pl s st) i).dead = false) ∧
    (∀ b ∈ planBlocks pl s, ∀ i ∈ correctIds c, FinalizedDuring st (planSched c pl s st) i (Blk.mk' b.1 b.2)) ∧
    CReady c hi (planEnd pl p s).2 (planEnd pl p s).1 (run st (planSched c pl s st)) := by
  have hmono : ∀ (pl : Plan) (p : Nat × Nat) (s : Nat), s ≤ (planEnd pl p s).2 := by
    intro pl
    induction pl with
    | nil => intro p s; exact Nat.le_refl _
    | cons a rest ih =>
      intro p s
      cases a with
      | none => exact Nat.le_trans (Nat.le_of_lt (lt_wEnd s)) (ih p (wEnd s))
      | some hs => exact Nat.le_trans (Nat.le_add_right _ _) (ih (lastBlock p s hs) (s + hs.length))
  intro pl
  induction pl with
  | nil =>
    intro p s st _ hr _
    exact ⟨valid_planSched c _ s st, fun i hd => hd, fun b hb => by simp [planBlocks] at hb, hr⟩
  | cons a rest ih =>
    intro p s st hend hr hok
    cases a with
    | some hs =>
      obtain ⟨hc, hok'⟩ := hok
      have hlen : s + hs.length ≤ hi + 1 := Nat.le_trans (hmono rest _ _) hend
      obtain ⟨_, a2, a3, a4⟩ := timely_chain c hpos hi h60 hs p s st hlen hr hc
      obtain ⟨_, b2, b3, b4⟩ := ih (lastBlock p s hs) (s + hs.length) _ hend a4 hok'
      refine ⟨valid_planSched c _ s st, ?_⟩
      simp only [planSched, planBlocks, planEnd]
      refine ⟨?_, ?_, by rw [run_append]; exact b4⟩
      · intro i hd; rw [run_append]; exact b2 i (a2 i hd)
      · intro b hb i hi'
        rcases List.mem_append.mp hb with hb | hb
        · exact (a3 b hb i hi').append_left
        · exact (b3 b hb i hi').append_right
    | none =>
      have hlen : wEnd s ≤ hi + 1 := Nat.le_trans (hmono rest _ _) hend
      obtain ⟨_, a2, _, a4⟩ := silent_leader_skipped c hpos hi s p st hlen hr h60
      obtain ⟨_, b2, b3, b4⟩ := ih p (wEnd s) _ hend a4 hok
      refine ⟨valid_planSched c _ s st, ?_⟩
      simp only [planSched, planBlocks, planEnd]
      refine ⟨?_, ?_, by rw [run_append]; exact b4⟩
      · intro i hd; rw [run_append]; exact b2 i (a2 i hd)
      · intro b hb i hi'
        exact (b3 b hb i hi').append_right

/-- in a cluster that is ready for slot `s` with parent `p`, every correct node's highest finalized slot — as its Votor knows
    it (`highest_final_cert_slot`) and as its pool's finality tracker knows it (`highest_finalized_slot`) — is the slot of `p` -/
theorem ready_watermarks (c : Cfg) (hi s : Nat) (p : Nat × Nat) (st : State) (hr : CReady c hi s p st) (i : Nat)
    (hi' : i ∈ correctIds c) : (st i).votor.hfcs = p.1 ∧ (st i).pool.fin.highest = p.1 :=
  ⟨(hr i hi').votor.hfcsEq, (hr i hi').trk.highEq⟩

/-- **Every correct node's highest finalized slot advances to the slot of the last block of the plan** (with
    `timely_progress`): after the timely schedule of any plan it is the slot of the plan's last block (of `p` for a plan
    without blocks) — at every correct node, in Votor and in the pool — and (`hfcs_never_decreases`) it never goes back,
    whatever happens afterwards. -/
theorem timely_progress_watermark (c : Cfg) (hpos : 0 < c.stakes.sum) (hi : Nat) (h60 : 3 * c.stakes.sum ≤ 5 * correctStake c)
    (pl : Plan) (p : Nat × Nat) (s : Nat) (st : State) (hend : (planEnd pl p s).2 ≤ hi + 1) (hr : CReady c hi s p st)
    (hok : planOk c pl p s) (i : Nat) (hi' : i ∈ correctIds c) :
    (run st (planSched c pl s st) i).votor.hfcs = (planEnd pl p s).1.1 ∧
    (run st (planSched c pl s st) i).pool.fin.highest = (planEnd pl p s).1.1 :=
  ready_watermarks c hi _ _ _ (timely_progress c hpos hi h60 pl p s st hend hr hok).2.2.2 i hi'

/-- **Monotonicity**: in every run of the cluster — valid or not, any events at any node, timeouts, Byzantine messages — the
    highest finalized slot known to a node's Votor never decreases -/
theorem hfcs_never_decreases (st : State) (evs : List Ev) (i : Nat) : (st i).votor.hfcs ≤ (run st evs i).votor.hfcs := by
  rw [run_proj]
  exact nodeRun_hfcs_mono _ _

/-! ## Stage C (partial) — the order of deliveries

The full statement — *every* `Valid` run segment that contains the deliveries of the timely schedule in any interleaving, with
arbitrary additional Byzantine votes / certificates and duplicated or reordered deliveries mixed in, no timeout for the slots of
the window, all correct queues drained at the end, finalizes the block — is **not** proved. Proved (`…_partial`):

* the nodes are independent (`interleaving_between_nodes_irrelevant`): any interleaving *between* nodes of the same per-node sequences reaches the
  same state — the nodes need not run in lock-step with each other;
* at each node the votes of a round may arrive from the senders in **any order**, a different one at every node, and any
  number of **surplus pumps** is harmless; what the nodes of Byzantine validators receive is arbitrary.

Missing: votes / certificates that are not part of the schedule mixed in (Byzantine votes for other blocks, received
certificates), duplicates other than the re-delivered notarization votes of round 2, votes of round 2 overtaking the pumps of
round 1 at a node. -/

/-- **The nodes are independent**: two runs with the same projection to every node reach the same cluster state — the
    interleaving of the events of different nodes is irrelevant -/
theorem interleaving_between_nodes_irrelevant (st : State) (evs evs' : List Ev) (h : ∀ i, proj i evs = proj i evs') :
    run st evs = run st evs' := by
  funext i
  rw [run_proj, run_proj, h i]

/-- the operations of one slot at one node: block, pumps, the notarization votes in the order `L1`, pumps, notarization and
    finalization votes in the order `L2`, pumps -/
def slotOps (c : Cfg) (b : Nat × Nat) (L1 L2 : List Nat) (m0 m1 m2 : Nat) : List NodeOp :=
  blockOps c b ++ List.replicate m0 .pump ++ L1.map (fun j => NodeOp.recvVote ⟨.notar, b.1, b.2, j⟩) ++
    List.replicate m1 .pump ++
    L2.flatMap (fun j => [NodeOp.recvVote ⟨.notar, b.1, b.2, j⟩, NodeOp.recvVote ⟨.final, b.1, 0, j⟩]) ++ List.replicate m2 .pump

/-- **`timely_finalization` for every interleaving that keeps the per-node order of the phases** — `_partial`, see above: for
    every run `evs` (no validity hypothesis is needed for the conclusion) whose projection to each correct node `i` is
    `slotOps` for some orders `L1 i`, `L2 i` of the correct validators and pump counts `m1 ≥ 4`, `m2 ≥ 1` (the queue of a
    round never holds more), whatever `evs` does at the nodes of Byzantine validators: every correct pool reports `(s, h)`
    finalized and every correct node is ready for slot `s + 1`. -/
theorem timely_finalization_interleaved_partial (c : Cfg) (hpos : 0 < c.stakes.sum) (hi s h : Nat) (p : Nat × Nat) (st : State)
    (hs : s ≤ hi) (hr : CReady c hi s p st) (hp : c.parentOf (s, h) = p) (h60 : 3 * c.stakes.sum ≤ 5 * correctStake c)
    (evs : List Ev)
    (hshape : ∀ i ∈ correctIds c, ∃ L1 L2 m0 m1 m2, L1.Perm (correctIds c) ∧ L2.Perm (correctIds c) ∧ 4 ≤ m1 ∧ 1 ≤ m2 ∧
      proj i evs = slotOps c (s, h) L1 L2 m0 m1 m2) :
    (∀ i ∈ correctIds c, PoolFinalized (run st evs) i (Blk.mk' s h)) ∧ CReady c hi (s + 1) (s, h) (run st evs) := by
  have hq : cQuorum c = true := (cQuorum_iff c).mpr h60
  have key : ∀ i ∈ correctIds c, NReady (c.epoch i) hi (s + 1) (s, h) (run st evs i) ∧
      PoolFinalized (run st evs) i (Blk.mk' s h) := by
    intro i hi'
    obtain ⟨L1, L2, m0, m1, m2, p1, p2, hm1, hm2, hproj⟩ := hshape i hi'
    have := node_slot_any_order (e := c.epoch i) (by exact hpos) hs (hr i hi') (correctIds c) L1 L2 (correctIds_nodup c)
      (fun j hj => (mem_correctIds.mp hj).1) p1 p2 hq m0 m1 m2 hm1 hm2 (run st evs i)
      (by rw [run_proj, hproj]; unfold slotOps blockOps; rw [hp])
    exact ⟨this.1, this.2 _ i rfl⟩
  exact ⟨fun i hi' => (key i hi').2, fun i hi' => (key i hi').1⟩

/-! ## Stage C — monotonicity: what a pool reports finalized stays reported until the slot is pruned -/

/-- **Extra valid events cannot undo a finalization.** In every valid, admitted run of the cluster with less than 20 %
    Byzantine stake — arbitrary interleavings, Byzantine votes and certificates, duplicates, timeouts —: if after the prefix
    `pre` the pool of node `i` reports block `b` finalized (`PoolImpl::get_final_certs`), then after any continuation `post` it
    still does, as long as `b`'s slot is at or above the pool's pruning watermark (`first_unpruned_slot`; below it the slot
    state is dropped, the block being finalized or an ancestor of a finalized one). The held certificates are never
    replaced or lost: every held certificate is logged (C18 `hl_poolRun`), every logged certificate of a retained slot is
    held by kind and block (`held_poolRun`, `LogHeld.agrees`). -/
theorem poolFinalized_persists (c : Cfg) (pre post : List Ev) (hv : Valid c (init c) (pre ++ post))
    (hw : Admitted c (pre ++ post)) (hb : 5 * Spec.w (stakeFn c) (byz c) < Spec.total (stakeFn c)) (i : ℕ) (b : Blk)
    (hf : PoolFinalized (run (init c) pre) i b)
    (hkeep : (run (init c) (pre ++ post) i).pool.fin.first ≤ b.slot) : PoolFinalized (run (init c) (pre ++ post)) i b := by
  have hvp : Valid c (init c) pre := ((valid_append c _ pre post).mp hv).1
  have hwp : Admitted c pre := fun x hx => hw x (List.mem_append_left _ hx)
  obtain ⟨hp1, _⟩ := cluster_pools_consistent c pre hvp hwp hb i
  obtain ⟨hp2, hc2⟩ := cluster_pools_consistent c (pre ++ post) hv hw hb i
  have hops : poolOps (proj i (pre ++ post)) = poolOps (proj i pre) ++ poolOps (proj i post) := by
    rw [proj_append]; unfold poolOps; rw [List.filterMap_append]
  generalize poolOps (proj i pre) = ops1 at *
  generalize poolOps (proj i post) = ops2 at *
  rw [hops] at hp2 hc2
  rw [poolLog_append] at hc2
  -- held ⇒ logged, for the pool after `pre`
  have hall := hl_poolRun (c.epoch i) ops1
  -- logged ⇒ held, for the pool after `pre ++ post`
  have hheld := held_poolRun (c.epoch i) (ops1 ++ ops2)
  have hall2 := hl_poolRun (c.epoch i) (ops1 ++ ops2)
  rw [poolLog_append] at hheld hall2
  rw [← hp2] at hheld hall2
  obtain ⟨st, hg, hor⟩ := hf
  rw [hp1] at hg
  obtain ⟨hwf, hlog⟩ := hall st (getSlot_mem _ _ _ hg).1
  have hsl : st.slot = b.slot := (getSlot_mem _ _ _ hg).2
  obtain ⟨w1, _, _, w4, w5⟩ := hwf
  -- a certificate of `st` is still held, by kind and block, in the state of `b`'s slot after `pre ++ post`
  have hkept : ∀ x, x ∈ st.certs → x.slot = st.slot →
      ∃ st', (run (init c) (pre ++ post) i).pool.getSlot b.slot = some st' ∧
        ∃ x' ∈ st'.store x.kind, (x.kind = .notar ∨ x.kind = .nf ∨ x.kind = .ff → x'.hash = x.hash) := by
    intro x hx hs
    obtain ⟨st', h1, x', h2, _, _, h3⟩ :=
      hheld.agrees hall2 hc2.safe (List.mem_append_left _ (hlog x hx)) (by rw [hs, hsl]; exact hkeep)
    rw [hs, hsl] at h1
    exact ⟨st', h1, x', h2, h3⟩
  rcases hor with ⟨x, hx, hxh⟩ | ⟨hfin, x, hx, hxh⟩
  · obtain ⟨hk, hs⟩ := w4 x hx
    obtain ⟨st', h1, c', hc', hh⟩ := hkept x ((mem_certs st x).mpr (Or.inr (Or.inl hx))) hs
    rw [hk] at hc' hh
    exact ⟨st', h1, Or.inl ⟨c', Option.mem_toList.mp hc', (hh (Or.inr (Or.inr rfl))).trans hxh⟩⟩
  · obtain ⟨y, hy⟩ := Option.isSome_iff_exists.mp hfin
    obtain ⟨hky, hsy⟩ := w5 y hy
    obtain ⟨hkx, hsx⟩ := w1 x hx
    obtain ⟨st1, g1, y', hy', _⟩ := hkept y ((mem_certs st y).mpr (Or.inl hy)) hsy
    obtain ⟨st2, g2, c', hc', hh⟩ := hkept x ((mem_certs st x).mpr (Or.inr (Or.inr (Or.inl hx)))) hsx
    rw [g1] at g2
    cases g2
    rw [hky] at hy'
    rw [hkx] at hc' hh
    exact ⟨st1, g1, Or.inr ⟨Option.isSome_iff_exists.mpr ⟨y', Option.mem_toList.mp hy'⟩, c', Option.mem_toList.mp hc',
      (hh (Or.inl rfl)).trans hxh⟩⟩

/-- **A correct node that notarized a block of slot `s` never casts a skip vote for `s`** — in any valid run, whatever is mixed
    in (its skip vote could only come from a timeout *before* the block, which is what "no premature timeout" excludes): the
    log form of C01 `cluster_notar_no_skip`. -/
theorem notarized_never_skipped (c : Cfg) (evs : List Ev) (hv : Valid c (init c) evs) (hpos : 0 < c.stakes.sum) (v : Fin c.n)
    (hc : c.correct v.val = true) (s h ps ph : ℕ)
    (hm : Votor.Item.out (.notar s h ps ph) ∈ (run (init c) evs v.val).votor.log) :
    Votor.Item.out (.skip s) ∉ (run (init c) evs v.val).votor.log := by
  obtain ⟨F⟩ := nodeFacts c evs hv v.val hc
  intro hsk
  -- both are initial votes of slot `s`, and a Votor casts one per slot
  cases F.inv.init_unique s _ _ hm hsk (beq_self_eq_true s) (beq_self_eq_true s)

namespace Progress

/-- a pool's answer, as a Boolean (for evaluation) -/
def finB (st : State) (i s h : Nat) : Bool :=
  match (st i).pool.getSlot s with
  | none => false
  | some a => (match a.cFf with | some x => x.hash == h | none => false) ||
      (a.cFin.isSome && (match a.cNotar with | some x => x.hash == h | none => false))

/-- every block's parent is the block with the same hash in the previous slot (genesis for slot 1); block `(8, 9)` is built on
    `(3, 7)` (the window 4–7 in between is skipped) -/
def par : Nat × Nat → Nat × Nat
  | (8, 9) => (3, 7)
  | (s + 1, h) => (s, if s = 0 then 0 else h)
  | _ => (0, 0)

/-- six validators with stakes 3, 1, 1, 1, 1, 2; the last one is Byzantine (2/9 > 20 %: the progress theorems do not need the
    Byzantine bound, only the correct stake 7/9 ≥ 60 %; it is below 80 %: slow path) -/
def c6 : Cfg := { stakes := [3, 1, 1, 1, 1, 2], correct := fun i => decide (i < 5), parentOf := par }

/-- five validators with equal stake, one Byzantine: the correct stake is exactly 80 %: fast path -/
def c5 : Cfg := { stakes := [1, 1, 1, 1, 1], correct := fun i => decide (i < 4), parentOf := par }

/-- **Non-vacuity (slow path)**: the premises of `timely_finalization` hold for `c6` in the initial cluster; its conclusion,
    for the five correct nodes — and the same computed by evaluation of the model -/
example : ∀ i ∈ correctIds c6, PoolFinalized (run (init c6) (slotSched c6 (1, 7) (init c6))) i (Blk.mk' 1 7) :=
  (first_block_finalized c6 (by decide) 7 rfl (by decide)).2.2.1

example : correctIds c6 = [0, 1, 2, 3, 4] ∧
    (List.range 5).all (fun i => finB (run (init c6) (slotSched c6 (1, 7) (init c6))) i 1 7) = true ∧
    (List.range 5).all (fun i => finB (run (init c6) (fastSched c6 (1, 7) (init c6))) i 1 7) = false := by
  rw [run_slotSched, run_fastSched]; decide +kernel

/-- **Non-vacuity (fast path)**: one voting round suffices for `c5` -/
example : ∀ i ∈ correctIds c5, PoolFinalized (run (init c5) (fastSched c5 (1, 7) (init c5))) i (Blk.mk' 1 7) :=
  (first_block_finalized c5 (by decide) 7 rfl (by decide)).2.2.2 (by decide)

example : (List.range 4).all (fun i => finB (run (init c5) (fastSched c5 (1, 7) (init c5))) i 1 7) = true := by
  rw [run_fastSched]; decide +kernel

/-- **Non-vacuity (windows)**: the blocks of slots 1–3 (first window), the window 4–7 is skipped (silent leader), block `(8, 9)`
    built on `(3, 7)`: the premises of `timely_progress` hold; all four blocks are finalized at every correct node -/
def plan : Plan := [some [7, 7, 7], none, some [9]]

theorem plan_ok : planOk c6 plan (0, 0) 1 ∧ (planEnd plan (0, 0) 1).2 = 9 ∧ planBlocks plan 1 = [(1, 7), (2, 7), (3, 7), (8, 9)] := by
  refine ⟨⟨⟨rfl, rfl, rfl, trivial⟩, ⟨rfl, trivial⟩, trivial⟩, by decide, by decide⟩

example : ∀ b ∈ [(1, 7), (2, 7), (3, 7), (8, 9)], ∀ i ∈ correctIds c6,
    FinalizedDuring (init c6) (planSched c6 plan 1 (init c6)) i (Blk.mk' b.1 b.2) := by
  have h := (timely_progress c6 (by decide) 100 (by decide) plan (0, 0) 1 (init c6) (by rw [plan_ok.2.1]; decide)
    (init_ready c6 100 (by decide)) plan_ok.1).2.2.1
  rw [plan_ok.2.2] at h
  exact h

example : ∀ i ∈ correctIds c6, (run (init c6) (planSched c6 plan 1 (init c6)) i).votor.hfcs = 8 := fun i hi' =>
  (timely_progress_watermark c6 (by decide) 100 (by decide) plan (0, 0) 1 (init c6) (by rw [plan_ok.2.1]; decide)
    (init_ready c6 100 (by decide)) plan_ok.1 i hi').1

/-- … and by evaluation: at the end every correct node's finality tracker has slot 8 as its highest finalized slot, and its
    Votor is past slot 8 -/
example : (List.range 5).all (fun i => (run (init c6) (planSched c6 plan 1 (init c6)) i).pool.fin.highest == 8 &&
    (run (init c6) (planSched c6 plan 1 (init c6)) i).votor.hfcs == 8) = true := by
  rw [run_planSched]; decide +kernel

def c4 : Cfg := { stakes := [41, 20, 20, 19], correct := fun _ => true, parentOf := par }

/-- **No premature timeouts is necessary.** One correct validator with 41 % (> 40 %) of the stake times out in slot 1 *before*
    the block arrives (it skips the window); then the timely schedule for block `(1, 7)` runs, and two more voting rounds. The
    run is valid, all validators are correct and alive — and no pool ever reports `(1, 7)` finalized: the block has 59 % of the
    notarization votes, the other three validators cast skip-fallback votes, slot 1 gets a skip certificate at every node. -/
theorem premature_timeout_blocks_finalization :
    let st0 := step (init c4) (0, .timeout 1)
    let evs := slotSched c4 (1, 7) st0
    let evs' := evs ++ round c4 1 (run st0 evs)
    let evs'' := evs' ++ round c4 1 (run st0 evs')
    Valid c4 (init c4) ((0, .timeout 1) :: evs'') ∧ 3 * c4.stakes.sum ≤ 5 * correctStake c4 ∧
    (List.range 4).all (fun i => !(run st0 evs'' i).dead && !finB (run st0 evs) i 1 7 && !finB (run st0 evs') i 1 7 &&
      !finB (run st0 evs'') i 1 7 &&
      (match (run st0 evs'' i).pool.getSlot 1 with | some a => a.cSkip.isSome && a.cNotar.isNone | none => false)) = true := by
  refine ⟨?_, by decide, ?_⟩
  · -- valid for every configuration; with the concrete one the elaborator would start evaluating `Valid`
    generalize c4 = c
    have v := valid_slotSched c (1, 7) (step (init c) (0, .timeout 1))
    generalize slotSched c (1, 7) (step (init c) (0, .timeout 1)) = evs at v ⊢
    exact ⟨trivial, valid_then_round c 1 _ _ (valid_then_round c 1 _ _ v)⟩
  · simp only [run_append, run_round, run_slotSched]
    decide +kernel

end Progress

end AgModel.Cluster
