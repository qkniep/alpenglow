import AgModel.Proofs.SamplerPart
/-!
# C17 — committee sampling yields a well-formed, stake-respecting committee

Statements about `AgModel.Sampler` (exact-arithmetic model of `rotor/sampling_strategy.rs`; FA1 seats
as repaired by fix D18).  The random source is a parameter: a theorem about "every draw" is a theorem
about every committee satisfying the strategy's validity predicate (`fa1wValid`, `fa1pValid`,
`fa2Valid`, `iidValid`, `decayValid`, `binsValid`) — the predicates the driver evaluates on every
committee the real samplers return.  All theorems hold for every validator count, every stake
distribution with positive total, every committee size `k ≥ 1`.

Not theorems (f64 / `rand` are outside the model; decided by the differential run, level
translation_validation): that the real constructors compute this structure (compared on every case),
that a draw is a function of the validator set and the RNG only (two constructions, same seed), that
FA2's f64 `round`/fallback weights behave like the exact ones away from x.5 boundaries.

`partition` is `PartitionSampler::new` *as repaired* (fix D8: bins of exactly `total` units, every
validator contributing `stake · num_bins` units): it can be constructed for every validator set with
positive total stake (`partition_total`).  The algorithm before that fix is kept as `partitionOld`
with decided witnesses of its panic (`partition_d8_witness`, `partition_d8_witness_rotor`); that
`partitionOld w order b = none ↔ partitionDegenerate w b` for every order is not proved.
-/
namespace AgModel.Sampler

/-- **No `Stake` underflow.** The stake removed for the pre-allocated seats never exceeds the stake
    (`v.stake -= …` cannot panic), for every stake, total and `k ≥ 1`. -/
theorem fa1_cut_le (T k s : Nat) (hk : 0 < k) : cut T k s ≤ s :=
  calc s * k / T * T / k ≤ s * k / k := Nat.div_le_div_right (Nat.div_mul_le_self _ _)
    _ = s := Nat.mul_div_cancel s hk

/-- **Seats never exceed `k`** (`k as usize - required_samples.len()` cannot underflow). -/
theorem fa1_seats_sum_le_k (stakes : List Nat) (k : Nat) (hT : 0 < total stakes) :
    (required stakes k).length ≤ k := by
  have h := sum_div_le (total stakes) hT (stakes.map (· * k))
  have hk : stakes.sum * k / total stakes = k := Nat.mul_div_cancel_left k hT
  rw [List.map_map, sum_map_mul, hk] at h
  rw [required, requiredFrom_length]
  exact h

theorem fa1_eq (stakes : List Nat) (k : Nat) (hk : 0 < k) (hT : 0 < total stakes) :
    fa1 stakes k = some ⟨required stakes k, k - (required stakes k).length, (residuals stakes k).all (· == 0),
      if (residuals stakes k).all (· == 0) then stakes else residuals stakes k⟩ := by
  have hne : stakes ≠ [] := by rintro rfl; exact Nat.lt_irrefl 0 hT
  have h1 : ¬ (k = 0 ∨ total stakes = 0) := fun h => h.elim (Nat.ne_of_gt hk) (Nat.ne_of_gt hT)
  rw [fa1, if_neg hne, if_neg h1]
  exact if_neg (Nat.not_lt_of_le (fa1_seats_sum_le_k stakes k hT))

/-- **The FA1 pre-processing is total**: for positive total stake and `k ≥ 1` it returns the
    required samples and `k' = k − #required` (no panic), so required + fallback seats = `k`. -/
theorem fa1_constructs (stakes : List Nat) (k : Nat) (hk : 0 < k) (hT : 0 < total stakes) :
    ∃ f, fa1 stakes k = some f ∧ f.req = required stakes k ∧ f.req.length + f.kPrime = k ∧
      f.weights.length = stakes.length := by
  refine ⟨_, fa1_eq stakes k hk hT, rfl, Nat.add_sub_cancel' (fa1_seats_sum_le_k stakes k hT), ?_⟩
  show (if _ then stakes else residuals stakes k).length = stakes.length
  split
  · rfl
  · exact List.length_map ..

/-- The fallback weights FA1 hands to the fallback sampler have positive total: the stakes themselves,
    or residuals that are not all zero. -/
theorem fa1_weights_pos (stakes : List Nat) (k : Nat) (f : Fa1) (hk : 0 < k) (hT : 0 < total stakes)
    (h : fa1 stakes k = some f) : 0 < total f.weights := by
  rw [fa1_eq stakes k hk hT] at h
  cases h
  show 0 < total (if _ then stakes else residuals stakes k)
  split
  · exact hT
  · rename_i hz
    simp only [List.all_eq_true, beq_iff_eq, Classical.not_forall] at hz
    obtain ⟨r, hr, hr0⟩ := hz
    exact List.sum_pos_iff_exists_pos_nat.mpr ⟨r, hr, Nat.pos_of_ne_zero hr0⟩

/-- **Deterministic seats.** Validator `v` occurs exactly `floor(stake_v · k / total)` times among the
    required samples. -/
theorem fa1_required_count (stakes : List Nat) (k v : Nat) (hv : v < stakes.length) :
    (required stakes k).count v = stakes.getD v 0 * k / total stakes := required_count stakes k v

/-- Only members of the set occur among the required samples. -/
theorem fa1_required_members (stakes : List Nat) (k v : Nat) (h : v ∈ required stakes k) :
    v < stakes.length := by
  -- a validator that occurs has a seat, and past the end of the list `getD` answers stake 0, which has none
  have hpos := List.count_pos_iff.mpr h
  rw [required_count] at hpos
  refine Nat.lt_of_not_le fun hle => ?_
  rw [List.getD_eq_getElem?_getD, List.getElem?_eq_none hle, Option.getD_none, seats, Nat.zero_mul, Nat.zero_div] at hpos
  exact Nat.lt_irrefl 0 hpos

/-- **Floor guarantee.** Any committee that starts with the required samples gives every validator at
    least `floor(f·k)` seats. -/
theorem fa1_floor_guarantee (stakes : List Nat) (k : Nat) (c : List Nat)
    (hp : c.take (required stakes k).length = required stakes k) (v : Nat) (hv : v < stakes.length) :
    stakes.getD v 0 * k / total stakes ≤ c.count v := by
  rw [← fa1_required_count stakes k v hv]
  exact count_le_of_take_eq c _ hp v

theorem fa1_committee_of_tail (stakes : List Nat) (k : Nat) (c : List Nat) (f : Fa1)
    (hreq : f.req = required stakes k) (hsum : f.req.length + f.kPrime = k)
    (hwlen : f.weights.length = stakes.length) (hpre : c.take f.req.length = f.req)
    (hlen : (c.drop f.req.length).length = f.kPrime) (hmem : ∀ v ∈ c.drop f.req.length, v < f.weights.length) :
    c.length = k ∧ (∀ v ∈ c, v < stakes.length) ∧ floorGuarantee stakes k c = true := by
  have hc : f.req ++ c.drop f.req.length = c := by
    have := List.take_append_drop f.req.length c
    rwa [hpre] at this
  refine ⟨by rw [← hc, List.length_append, hlen]; exact hsum, fun v hv => ?_,
    floor_of_prefix stakes k c (hreq ▸ hpre)⟩
  rcases List.mem_append.mp (hc ▸ hv) with h1 | h1
  · exact fa1_required_members stakes k v (hreq ▸ h1)
  · exact hwlen ▸ hmem v h1

/-- **Exact size, membership, zero weight never drawn** for the IID stake-weighted strategy. -/
theorem iid_committee (weights : List Nat) (k : Nat) (c : List Nat) (h : iidValid weights k c = true) :
    c.length = k ∧ ∀ v ∈ c, v < weights.length ∧ 0 < weights.getD v 0 := by
  unfold iidValid at h
  simp only [Bool.and_eq_true, beq_iff_eq, List.all_eq_true, decide_eq_true_eq] at h
  exact h

theorem uniform_committee (n k : Nat) (c : List Nat) (h : uniformValid n k c = true) :
    c.length = k ∧ ∀ v ∈ c, v < n := by
  unfold uniformValid at h
  simp only [Bool.and_eq_true, beq_iff_eq, List.all_eq_true, decide_eq_true_eq] at h
  exact h

/-- **FA1 with IID stake-weighted fallback: every draw is well formed.**  Exactly `k` members of the
    set, the floor guarantee for every validator. -/
theorem fa1w_committee (stakes : List Nat) (k : Nat) (c : List Nat) (hk : 0 < k) (hT : 0 < total stakes)
    (h : fa1wValid stakes k c = true) :
    c.length = k ∧ (∀ v ∈ c, v < stakes.length) ∧ floorGuarantee stakes k c = true := by
  obtain ⟨f, hf, hreq, hsum, hwlen⟩ := fa1_constructs stakes k hk hT
  rw [fa1wValid, hf] at h
  simp only [Bool.and_eq_true, beq_iff_eq] at h
  obtain ⟨hlen, hmem⟩ := iid_committee f.weights f.kPrime _ h.2
  exact fa1_committee_of_tail stakes k c f hreq hsum hwlen h.1 hlen (fun v hv => (hmem v hv).1)

/-- **The partition sampler can always be constructed** — for every stake vector with positive
    total, every number of bins `≥ 1` and every order listing the validators of non-zero stake once
    (the fixed-seed shuffle): no panic, exactly `num_bins` bins, none empty (every
    `WeightedIndex::new` succeeds), **every bin holds exactly `total` units** (= `total/num_bins`
    stake), every entry has positive weight and names a validator of the set, and **every validator's
    units are conserved** (its weights over all bins sum to `stake · num_bins`, so its share of the
    bins is proportional to its stake). -/
theorem partition_total (weights order : List Nat) (numBins : Nat) (hB : 0 < numBins)
    (hT : 0 < total weights) (hord : orderOk weights order = true) :
    ∃ bins, partition weights order numBins = some bins ∧ bins.length = numBins ∧
      (∀ b ∈ bins, b ≠ [] ∧ binSum b = total weights ∧ ∀ e ∈ b, 0 < e.2 ∧ e.1 < weights.length) ∧
      ∀ v, v < weights.length → (bins.map (unitsIn v)).sum = weights.getD v 0 * numBins := by
  obtain ⟨hf, hp⟩ := partition_run hB hT hord
  have hall := hf.bins_full hT
  have hpart := (partition_eq_some hB).mpr ⟨rfl, fun b hb => (hall b hb).1⟩
  have hsum := fun v => (sum_unitsIn_binsOf hf.last.1 v).trans (hp v)
  refine ⟨_, hpart, (partition_length hpart).1, fun b hb => ⟨(hall b hb).1, (hall b hb).2.1, fun e he => ?_⟩,
    fun v hv => ?_⟩
  · -- an entry of positive weight gives its validator units, so the validator occurs in the order
    have h2 := (hall b hb).2.2 e he
    have hpos := sum_unitsIn_pos hb he rfl h2
    rw [hsum] at hpos
    exact ⟨h2, (orderOk_spec hord).1 _ (List.count_pos_iff.1 (Nat.pos_of_mul_pos_right hpos))⟩
  · rw [hsum, (orderOk_spec hord).2 v hv]
    split
    · rename_i h0; rw [h0, Nat.zero_mul, Nat.zero_mul]
    · exact Nat.one_mul _

/-- **Structure of a constructed partition sampler** (any order): exactly `num_bins` bins, none
    empty, and a draw has exactly one validator per bin. -/
theorem partition_bins (weights order : List Nat) (numBins : Nat) (bins : List (List (Nat × Nat)))
    (h : partition weights order numBins = some bins) :
    bins.length = numBins ∧ (∀ b ∈ bins, b ≠ []) ∧ ∀ c, binsValid bins c = true → c.length = numBins := by
  obtain ⟨hl, hne⟩ := partition_length h
  exact ⟨hl, hne, fun c hc => (binsValid_spec bins c hc).1.trans hl⟩

/-- **Every draw of the partition sampler is well formed**: exactly `num_bins` members (one per
    bin), each a validator of the set with non-zero stake. -/
theorem partition_draw (weights order : List Nat) (numBins : Nat) (bins : List (List (Nat × Nat)))
    (c : List Nat) (hT : 0 < total weights) (hord : orderOk weights order = true)
    (h : partition weights order numBins = some bins) (hc : binsValid bins c = true) :
    c.length = numBins ∧ ∀ v ∈ c, v < weights.length ∧ 0 < weights.getD v 0 := by
  refine ⟨(partition_bins weights order numBins bins h).2.2 c hc, fun v hv => ?_⟩
  obtain ⟨b, hb, e, he, he1, he2⟩ := (binsValid_spec bins c hc).2 v hv
  rcases Nat.eq_zero_or_pos numBins with rfl | hB
  · cases h; cases hb
  · obtain ⟨bins', hp, _, hall, hcons⟩ := partition_total weights order numBins hB hT hord
    obtain rfl : bins' = bins := Option.some.inj (hp.symm.trans h)
    have hlt : v < weights.length := he1 ▸ ((hall b hb).2.2 e he).2
    -- `v` has units in bin `b`, and all its units together are `stake · num_bins`
    have hpos := sum_unitsIn_pos hb he he1 he2
    rw [hcons v hlt] at hpos
    exact ⟨hlt, Nat.pos_of_mul_pos_right hpos⟩

/-- **FA1 with partition fallback can always be constructed**: for positive
    total stake, `k ≥ 1` and a shuffle of the fallback validators, FA1 pre-processing and the
    partition of its fallback weights into `k'` bins both succeed. -/
theorem fa1p_constructs (stakes : List Nat) (k : Nat) (order : List Nat) (hk : 0 < k)
    (hT : 0 < total stakes) (hord : ∀ f, fa1 stakes k = some f → orderOk f.weights order = true) :
    ∃ f bins, fa1 stakes k = some f ∧ partition f.weights order f.kPrime = some bins ∧
      bins.length = f.kPrime ∧ f.req.length + f.kPrime = k := by
  obtain ⟨f, hf, _, hsum, _⟩ := fa1_constructs stakes k hk hT
  rcases Nat.eq_zero_or_pos f.kPrime with h0 | h0
  · exact ⟨f, [], hf, by rw [h0]; rfl, h0.symm, hsum⟩
  · obtain ⟨bins, hp, hl, _⟩ := partition_total f.weights order f.kPrime h0
      (fa1_weights_pos stakes k f hk hT hf) (hord f hf)
    exact ⟨f, bins, hf, hp, hl, hsum⟩

/-- **FA1 with partition fallback: every draw is well formed** (it rests on `partition_total`, which
    holds for the loop as repaired by fix D8 only).  Exactly `k` members of the validator set, the floor
    guarantee for every validator. -/
theorem fa1p_committee (stakes : List Nat) (k : Nat) (order c : List Nat) (hk : 0 < k)
    (hT : 0 < total stakes) (hord : ∀ f, fa1 stakes k = some f → orderOk f.weights order = true)
    (h : fa1pValid stakes k order c = true) :
    c.length = k ∧ (∀ v ∈ c, v < stakes.length) ∧ floorGuarantee stakes k c = true := by
  obtain ⟨f, hf, hreq, hsum, hwlen⟩ := fa1_constructs stakes k hk hT
  rw [fa1pValid, hf] at h
  simp only [Bool.and_eq_true, beq_iff_eq] at h
  cases hp : partition f.weights order f.kPrime with
  | none => rw [hp] at h; cases h.2
  | some bins =>
    rw [hp] at h
    obtain ⟨hlen, hmem⟩ := partition_draw f.weights order f.kPrime bins _
      (fa1_weights_pos stakes k f hk hT hf) (hord f hf) hp h.2
    exact fa1_committee_of_tail stakes k c f hreq hsum hwlen h.1 hlen (fun v hv => (hmem v hv).1)

/-- D8 witnesses on the algorithm before the fix (`partitionOld`): 6 equal stakes do not fill 4
    bins; `Rotor::new_fa1` on 100 equal stakes (k = 64) hits the degenerate condition. -/
theorem partition_d8_witness : partitionOld [1, 1, 1, 1, 1, 1] [0, 1, 2, 3, 4, 5] 4 = none := by decide

theorem partition_d8_witness_rotor :
    (fa1 (List.replicate 100 1) 64).map (fun f => (f.kPrime, partitionDegenerate f.weights f.kPrime)) = some (64, true) := by
  decide +kernel

/-- … and the same inputs on the repaired algorithm: four bins of 6 units each. -/
theorem partition_d8_fixed :
    partition [1, 1, 1, 1, 1, 1] [0, 1, 2, 3, 4, 5] 4 =
      some [[(0, 4), (1, 2)], [(1, 2), (2, 4)], [(3, 4), (4, 2)], [(4, 2), (5, 4)]] := by decide

theorem partition_d8_fixed_rotor :
    ((fa1 (List.replicate 100 1) 64).bind (fun f => partition f.weights (List.range 100) f.kPrime)).map (·.length) = some 64 := by
  -- no seat is pre-allocated (`64/100 < 1`), the fallback weights are the stakes: an instance of `partition_total`
  have hf : fa1 (List.replicate 100 1) 64 = some ⟨[], 64, false, List.replicate 100 1⟩ := by decide +kernel
  have ho := orderOk_range (List.replicate 100 1) fun x hx => by rw [(List.mem_replicate.mp hx).2]; decide
  rw [List.length_replicate] at ho
  obtain ⟨bins, hp, hl, _⟩ := partition_total (List.replicate 100 1) (List.range 100) 64 (Nat.succ_pos _)
    (by decide) ho
  rw [hf, Option.bind_some]
  dsimp only
  rw [hp]
  exact congrArg some hl

theorem fa2_eq (stakes : List Nat) (k : Nat) (hk : 0 < k) (hT : 0 < total stakes) :
    fa2 stakes k = if (stakes.map (roundSeats (total stakes) k)).sum > k then none
      else some (required stakes k, (List.range stakes.length).filter (fun i =>
        roundSeats (total stakes) k (stakes.getD i 0) * total stakes > stakes.getD i 0 * k)) := by
  have hne : stakes ≠ [] := by rintro rfl; exact Nat.lt_irrefl 0 hT
  have h1 : ¬ (k = 0 ∨ total stakes = 0) := fun h => h.elim (Nat.ne_of_gt hk) (Nat.ne_of_gt hT)
  rw [fa2, if_neg hne, if_neg h1]

/-- The FA2 constructor panics exactly when the half-up rounded seats exceed `k` (D9). -/
theorem fa2_panics_iff (stakes : List Nat) (k : Nat) (hk : 0 < k) (hT : 0 < total stakes) :
    fa2 stakes k = none ↔ k < (stakes.map (roundSeats (total stakes) k)).sum := by
  rw [fa2_eq stakes k hk hT]
  split
  · rename_i h; exact ⟨fun _ => h, fun _ => rfl⟩
  · rename_i h; exact ⟨nofun, fun h' => absurd h' h⟩

/-- D9 witness: 128 equal stakes, k = 64 — every `0.5` rounds up, the assertion fails. -/
theorem fa2_d9_witness : fa2 (List.replicate 128 1) 64 = none := by decide +kernel

/-- **Every FA2 draw is well formed**: `k` members, floor guarantee. -/
theorem fa2_committee (stakes : List Nat) (k : Nat) (c : List Nat) (h : fa2Valid stakes k c = true) :
    c.length = k ∧ (∀ v ∈ c, v < stakes.length) ∧ floorGuarantee stakes k c = true := by
  unfold fa2Valid at h
  simp only [Bool.and_eq_true, beq_iff_eq, List.all_eq_true, decide_eq_true_eq] at h
  exact ⟨h.1.1, h.2, floor_of_prefix stakes k c h.1.2⟩

/-- The required samples FA2 starts from are the FA1 ones. -/
theorem fa2_required (stakes : List Nat) (k : Nat) (req med : List Nat) (hT : 0 < total stakes)
    (h : fa2 stakes k = some (req, med)) : req = required stakes k := by
  rcases Nat.eq_zero_or_pos k with rfl | hk
  · have hne : stakes ≠ [] := by rintro rfl; exact Nat.lt_irrefl 0 hT
    rw [fa2, if_neg hne, if_pos (Or.inl rfl)] at h
    cases h
  · rw [fa2_eq stakes k hk hT] at h
    split at h
    · cases h
    · cases h; rfl

/-- **Seat cap of the decaying-acceptance sampler.**  Whatever the random source does, a committee
    accepted by the rule `random() ≥ count/max_samples` from fresh counters never contains a validator
    more than `ceil(max_samples)` times; it has `k` members of non-zero weight. -/
theorem decay_cap (weights : List Nat) (num den k : Nat) (c : List Nat) (hden : 0 < den)
    (h : decayValid weights num den k c = true) :
    c.length = k ∧ (∀ v ∈ c, v < weights.length ∧ 0 < weights.getD v 0) ∧ ∀ v, c.count v ≤ capOf num den := by
  unfold decayValid at h
  rw [Bool.and_eq_true] at h
  have ⟨hl, hm⟩ := iid_committee weights k c h.1
  have hz : ∀ w, (List.replicate weights.length 0).getD w 0 = 0 := by
    intro w; simp [List.getD_eq_getElem?_getD, List.getElem?_replicate]; split <;> simp
  refine ⟨hl, hm, fun v => ?_⟩
  obtain ⟨counts', hr⟩ := Option.isSome_iff_exists.mp h.2
  have := decayReplay_spec hden hr (fun v hv => by rw [List.length_replicate]; exact (hm v hv).1)
    (fun w => by rw [hz w]; exact Nat.zero_le _) v
  rw [hz v, Nat.zero_add] at this
  exact this.1 ▸ this.2

/-! ## Non-vacuity -/

example : fa1 [52, 52, 1, 1, 1, 1, 1, 1] 8 = some ⟨[0, 0, 0, 1, 1, 1], 2, false, [11, 11, 1, 1, 1, 1, 1, 1]⟩ := by decide
example : fa1wValid [52, 52, 1, 1, 1, 1, 1, 1] 8 [0, 0, 0, 1, 1, 1, 5, 0] = true := by decide
example : partition [1, 1, 1, 1] [2, 0, 3, 1] 2 = some [[(2, 2), (0, 2)], [(3, 2), (1, 2)]] := by decide
example : orderOk [3, 0, 1, 1] [2, 0, 3] = true ∧ partition [3, 0, 1, 1] [2, 0, 3] 3 = some [[(2, 3), (0, 2)], [(0, 5)], [(0, 2), (3, 3)]] := by decide
example : fa1pValid [3, 1, 1, 1, 1, 1] 4 [4, 0, 2, 5, 1, 3] [0, 4, 2, 1] = true := by decide
example : decayValid [5, 1, 1] 3 2 4 [0, 0, 1, 2] = true ∧ decayValid [5, 1, 1] 3 2 4 [0, 0, 0, 2] = false := by decide
example : fa2 [3, 1] 4 = some ([0, 0, 0, 1], []) := by decide

end AgModel.Sampler
