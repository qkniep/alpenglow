import AgModel.Proofs.SeamRepair
import AgModel.Proofs.SeamRegen
import AgModel.Proofs.ShredInstance
import AgModel.Props.C12Seam
import AgModel.Props.C14Live
/-! The repair half of the seam between the two shred models (`Model/RepairAbs.lean`) as theorems (C14 / C12): the
    simulation theorem and what it transfers from `Props/C14.lean` / `Props/C14Live.lean` to raw responses; then
    `served_sigOk` without the hypothesis of its `_partial` form, and an injective interning `ridInj`. -/
namespace AgModel.Seam.Repair
open AgModel.Shred (Env validate)
open AgModel.Blockstore (Content Event HBlock)
open AgModel.Repair (Req Store Sys Ev)
open AgModel.Merkle (H)

def absEv (env : Env) (rid : RootId) (pk : Nat → Nat) : FEv → Ev
  | .resp r => .resp (absResp env rid pk r)
  | .timeout => .timeout
  | .start b => .start b

/-- the coarse system a fine requester stands for -/
def FSys.sys (σ : FSys) : Sys := ⟨σ.st, σ.store⟩

theorem rootsAgree_init (rid : RootId) (store : Store) : RootsAgree rid ⟨AgModel.Repair.RepairSt.init, [], store⟩ := rfl

theorem fStep_refines (env : Env) (cenv : Nat → Content) {rid : RootId} (hinj : ∀ a b, rid a = rid b → a = b)
    (pk : Nat → Nat) (cap : Nat) {σ : FSys} (hR : RootsAgree rid σ) (e : FEv) :
    RootsAgree rid (fStep env cenv rid pk cap σ e).1 ∧
    ((fStep env cenv rid pk cap σ e).1.sys, (fStep env cenv rid pk cap σ e).2) =
      AgModel.Repair.stepEv cenv cap σ.sys (absEv env rid pk e) := by
  cases e with
  | resp r =>
    obtain ⟨h1, h2⟩ := fHandle_refines env cenv rid hinj pk cap σ hR r
    refine ⟨h1, ?_⟩
    simp only [fStep, absEv, AgModel.Repair.stepEv, FSys.sys]
    rw [← h2]
  | timeout => exact ⟨(AgModel.Repair.fireTimeout_frame σ.st).1.trans hR, rfl⟩
  | start b =>
    refine ⟨Eq.trans ?_ hR, rfl⟩
    show (AgModel.Repair.repairBlock cap σ.st σ.store b).1.sliceRoots = σ.st.sliceRoots
    unfold AgModel.Repair.repairBlock
    split <;> rfl

/-- **Simulation (refinement) for the repair path, every schedule of raw events.** For every sequence of raw repair
    responses - any variant, any proof, any root hash, any shred bytes / header / signature / Merkle path / type /
    index, replies to requests never made, replays -, timeouts and `repair_block` calls: running the fine requester
    (`handle_response` in code order on the raw data: header checks, root re-derived from the payload against the
    proven root hash, last-slice flag, `has_expected_type`, `try_new(_, None, leader(slot))`, then
    `add_shred_from_repair`) gives exactly the requester state, the blockstore and the outputs (requests sent,
    blockstore events, `pool.add_block`, panics) of the coarse model `Repair.run` on the abstraction of the events,
    where a raw shred response abstracts to the coarse response with `sigOk` := "`try_new(_, None, leader)` accepts
    it". So the coarse model is run on exactly the raw responses that pass the fine checks, and every theorem of
    `Props/C14.lean` / `Props/C14Live.lean` about `Repair.run` speaks about raw responses. `hinj`: no SHA-256
    collision among slice roots (the coarse model compares interned roots, the code compares hashes). -/
theorem repair_refines (env : Env) (cenv : Nat → Content) (rid : RootId) (hinj : ∀ a b, rid a = rid b → a = b)
    (pk : Nat → Nat) (cap : Nat) (σ : FSys) (hR : RootsAgree rid σ) (evs : List FEv) :
    RootsAgree rid (fRun env cenv rid pk cap σ evs).1 ∧
    ((fRun env cenv rid pk cap σ evs).1.sys, (fRun env cenv rid pk cap σ evs).2) =
      AgModel.Repair.run cenv cap σ.sys (evs.map (absEv env rid pk)) := by
  induction evs generalizing σ with
  | nil => exact ⟨hR, rfl⟩
  | cons e rest ih =>
    obtain ⟨h1, h2⟩ := fStep_refines env cenv hinj pk cap hR e
    obtain ⟨i1, i2⟩ := ih _ h1
    refine ⟨i1, ?_⟩
    simp only [fRun, List.map_cons, AgModel.Repair.run]
    rw [← h2, ← i2]

theorem addRepair_events_block {cenv : Nat → Content} {sd : Blockstore.SlotData} {h : H} {s : Blockstore.Shred}
    {info : Blockstore.BlockInfo} (hin : Event.block info ∈ (Blockstore.addRepair cenv sd h s).2.2) :
    (Blockstore.addRepair cenv sd h s).2.1 = .ev (.block info) := by
  unfold Blockstore.addRepair at hin ⊢
  rw [Blockstore.flagIfBad_events] at hin
  rw [Blockstore.flagIfBad_res]
  split at hin
  · unfold Blockstore.flag at hin
    split at hin <;> simp at hin
  · exact Blockstore.mem_evOf.mp hin

/-- **Announced only under the requested hash - raw responses** (C14 `repair_announces_requested_hash` transferred).
    Whatever raw response arrives in whatever requester state: if the step sends a `Block` event to Votor, then the
    response is a shred response to an outstanding `Shred(b, i, j)` request whose raw shred is for `b`'s slot, slice
    `i`, index `j`, re-derives the slice root proven for `(b, i)`, carries the type fitting its index and passes
    `ValidatedShred::try_new(_, None, leader(b.slot))` - and the announced block hashes to the requested `b.hash`. -/
theorem raw_repair_announces_requested_hash (env : Env) (cenv : Nat → Content) (rid : RootId) (pk : Nat → Nat) (cap : Nat)
    (σ : FSys) (resp : FResp) (info : Blockstore.BlockInfo)
    (hev : Event.block info ∈ (fHandle env cenv rid pk cap σ resp).2.events) :
    ∃ b i j raw v, resp = .shred (.shred b i j) raw ∧ Req.shred b i j ∈ σ.st.outstanding ∧
      raw.header.slot = b.slot ∧ raw.header.sliceIdx = i ∧ raw.index = j ∧
      frootGet σ.froots (b, i) = some (raw.sliceRoot env) ∧ raw.typeOk = true ∧
      validate env raw none (pk b.slot) = .ok v ∧ info.hash = b.hash := by
  rcases fHandle_cases env cenv rid pk cap σ resp with ⟨_, h⟩ | ⟨b, i, j, raw, v, rfl, hout, ha⟩
  · rw [h] at hev; cases hev
  · rw [fHandle_accepts hout ha, AgModel.Repair.ingest_eq, AgModel.Repair.shredOut_events] at hev
    obtain ⟨h1, h2, h3, hr, _, hty, hv⟩ := ha
    exact ⟨b, i, j, raw, v, rfl, hout, h1, h2, h3, hr, hty, hv,
      AgModel.Repair.repair_announces_requested_hash cenv _ b.hash _ info (addRepair_events_block hev)⟩

/-- `RepOk` of every slot's data is kept along every schedule of raw events, from any requester state: the store is
    only written by `add_shred_from_repair` (`fHandle_cases`), which keeps it (C14 `addRepair_repOk`) -/
theorem fRun_repOk (env : Env) (cenv : Nat → Content) (rid : RootId) (pk : Nat → Nat) (cap : Nat) (σ : FSys)
    (hok : ∀ slot, AgModel.Repair.RepOk (AgModel.Repair.storeGet cap σ.store slot)) (evs : List FEv) (slot : Nat) :
    AgModel.Repair.RepOk (AgModel.Repair.storeGet cap (fRun env cenv rid pk cap σ evs).1.store slot) := by
  induction evs generalizing σ with
  | nil => exact hok slot
  | cons e rest ih =>
    refine ih _ fun slot' => ?_
    cases e with
    | timeout => exact hok slot'
    | start b => exact hok slot'
    | resp r =>
      simp only [fStep]
      rcases fHandle_cases env cenv rid pk cap σ r with ⟨hs, _⟩ | ⟨b, i, j, raw, v, rfl, hout, ha⟩
      · rw [hs]; exact hok slot'
      · rw [fHandle_accepts hout ha, AgModel.Repair.ingest_eq, AgModel.Repair.storeGet_storeSet]
        by_cases hsl : slot' = b.slot
        · rw [if_pos hsl]; exact AgModel.Repair.addRepair_repOk cenv _ b.hash _ (hok _)
        · rw [if_neg hsl]; exact hok slot'

/-- **Stored only under the matching id - raw schedules** (C14 `addRepair_repOk` / `getBlock_hash` transferred): along
    every schedule of raw events, `get_block((slot, h))` only ever returns a block hashing to `h`. (`hinj` and `hR`
    are not needed: `fRun_repOk`.) -/
theorem raw_getBlock_hash (env : Env) (cenv : Nat → Content) (rid : RootId) (hinj : ∀ a b, rid a = rid b → a = b)
    (pk : Nat → Nat) (cap : Nat) (σ : FSys) (hR : RootsAgree rid σ)
    (hok : ∀ slot, AgModel.Repair.RepOk (AgModel.Repair.storeGet cap σ.store slot)) (evs : List FEv)
    (slot : Nat) (h : H) (blk : Blockstore.Block)
    (hg : Blockstore.getBlock (AgModel.Repair.storeGet cap (fRun env cenv rid pk cap σ evs).1.store slot) h = some blk) :
    blk.hash = h :=
  AgModel.Repair.getBlock_hash _ h blk (fRun_repOk env cenv rid pk cap σ hok evs slot) hg

/-- **Repair completes on every fair schedule of RAW events** (C14 `repair_completes` transferred through
    `repair_refines`). `evs` is any finite schedule of raw events at the fine requester - raw responses of any kind
    from anybody (a shred response is raw bytes with a signature field; whether it is "signed" is decided by the fine
    `try_new`), timeouts, `repair_block` calls. Fairness and admissibility are those of C14 read on the abstraction of
    the raw events. Then no request about `B` stays outstanding, `get_block(id B)` returns exactly `B`, it was announced
    in the completing step, nothing panicked, and the fine / coarse root tables agree. -/
theorem raw_repair_completes (B : HBlock) (env : Env) (cenv : Nat → Content) (cap : Nat) (hwf : B.WF cenv cap)
    (hroots : ∀ i, i < B.n → B.root i ≠ 0)
    (rid : RootId) (hinj : ∀ a b, rid a = rid b → a = b) (pk : Nat → Nat)
    (sdH : Blockstore.SlotData) (hH : AgModel.Repair.Holds B cap sdH)
    (σ : FSys) (hR : RootsAgree rid σ) (hinv : AgModel.Repair.RepInv B cap σ.sys)
    (hstore : AgModel.Repair.StoreInv cap σ.store)
    (evs : List FEv) (hadm : ∀ e ∈ evs, AgModel.Repair.Admissible B (absEv env rid pk e))
    (hfair : AgModel.Repair.Fair cenv cap (AgModel.Repair.respOf sdH) (AgModel.Repair.bidOf B) σ.sys
      (evs.map (absEv env rid pk))) :
    (∀ r ∈ (fRun env cenv rid pk cap σ evs).1.st.outstanding, AgModel.Repair.Req.bid r ≠ AgModel.Repair.bidOf B) ∧
    Blockstore.getBlock (AgModel.Repair.storeGet cap (fRun env cenv rid pk cap σ evs).1.store B.slot) B.block.hash
      = some B.block ∧
    ((AgModel.Repair.spotOf cap B σ.store).completed = none →
      ∃ o ∈ (fRun env cenv rid pk cap σ evs).2, AgModel.Repair.Announced B o) ∧
    (∀ o ∈ (fRun env cenv rid pk cap σ evs).2, o.panic = false) ∧
    RootsAgree rid (fRun env cenv rid pk cap σ evs).1 := by
  obtain ⟨hra, hsim⟩ := repair_refines env cenv rid hinj pk cap σ hR evs
  have hadm' : ∀ e ∈ evs.map (absEv env rid pk), AgModel.Repair.Admissible B e := by
    intro e he
    obtain ⟨e0, he0, rfl⟩ := List.mem_map.mp he
    exact hadm e0 he0
  obtain ⟨c1, c2, c3, c4, _, _⟩ :=
    AgModel.Repair.repair_completes B cenv cap hwf hroots sdH hH σ.sys hinv hstore _ hadm' hfair
  rw [← hsim] at c1 c2 c3 c4
  exact ⟨c1, c2, c3, c4, hra⟩

end AgModel.Seam.Repair

namespace AgModel.Seam
open AgModel.Shred (Env VShred Bytes)
open AgModel.Blockstore (Content)
open AgModel.Merkle (H)

/-- **`sigOk = true` of the responder model is a theorem** (C14; `served_sigOk_partial` with its hypothesis
    `RegenBacked` discharged by `regenBacked_of_faithful`). A node that ingested ANY sequence of raw shreds through
    `handle_disseminator_shred` answers a repair request for a shred (`try_build_response`, model `Repair.answer`,
    which sets `sigOk = true`) only with the abstraction of a fine shred of that slot which passes
    `ValidatedShred::try_new(_, None, leader_pk)` - for the shreds it stored AND for the shreds it regenerated after
    reconstructing a slice. Hypotheses (`hinj` is only handed on to `served_sigOk_partial`, which does not use it): the
    contracts `L` of the external crates (only `leafId_inj`: no SHA-256 collision on leaf data, is used) and `Faithful`: the coarse decoding
    environment says "decodes" only for code word roots. `Faithful` is not an assumption about peers or the leader: it
    relates the two models' decoders (the fine `deshred` ends with `check_merkle_tree`, the coarse one is a lookup); it
    holds for what the harness supplies (`faithful_of_leader`) and for every self-checking environment
    (`served_sigOk_checked`: no hypothesis on the environment at all). Without it the *coarse model* regenerates
    shreds the code never would (an environment that "decodes" a root which is no 64-leaf tree). -/
theorem served_sigOk (env : Env) (L : env.Laws) (cenv : Nat → Content) (rid : RootId)
    (hinj : ∀ a b, rid a = rid b → a = b) (pk cap slot : Nat) (hF : Faithful env rid cenv) (ss : List Shred.Shred)
    (b : AgModel.Repair.Bid) (i j : Nat) (r : AgModel.Repair.Req) (hslot : Nat) (cs : Blockstore.Shred) (ok : Bool)
    (ha : AgModel.Repair.answer (FNode.run env cenv rid pk (FNode.new cap slot) ss).1.abs (.shred b i j)
      = some (.shred r hslot cs ok)) :
    ok = true ∧ ∃ x : VShred, ServedOk env rid pk x cs ∧ x.shred.header.slot = slot :=
  served_sigOk_partial env cenv rid hinj pk cap slot (regenBacked_of_faithful env L cenv rid pk slot hF) ss b i j r hslot cs ok ha

/-- the same for ANY decoding oracle, re-checked (`checkedCenv`): no hypothesis on the environment -/
theorem served_sigOk_checked (env : Env) (L : env.Laws) (dec : Nat → Option (List Bytes × Content)) (rid : RootId)
    (hinj : ∀ a b, rid a = rid b → a = b) (pk cap slot : Nat) (ss : List Shred.Shred)
    (b : AgModel.Repair.Bid) (i j : Nat) (r : AgModel.Repair.Req) (hslot : Nat) (cs : Blockstore.Shred) (ok : Bool)
    (ha : AgModel.Repair.answer (FNode.run env (checkedCenv env rid dec) rid pk (FNode.new cap slot) ss).1.abs (.shred b i j)
      = some (.shred r hslot cs ok)) :
    ok = true ∧ ∃ x : VShred, ServedOk env rid pk x cs ∧ x.shred.header.slot = slot :=
  served_sigOk env L _ rid hinj pk cap slot (checkedCenv_faithful env rid hinj dec) ss b i j r hslot cs ok ha

/-- an explicit interning of the free hash term algebra `Merkle.H` into `Nat` (Gödel numbering; never `0`, the id of
    the empty leaf) -/
def ridInj : H → Nat
  | .leaf d => 3 * d + 1
  | .node l r => 3 * AgModel.Shred.Instance.pair (ridInj l) (ridInj r) + 2
  | .junk n => 3 * n + 3

theorem ridInj_mod (a : H) : ridInj a % 3 = match a with | .leaf _ => 1 | .node _ _ => 2 | .junk _ => 0 := by
  cases a <;> simp only [ridInj, Nat.mul_add_mod] <;> rfl

/-- **an injective `rid` exists, explicitly**: the hypothesis `hinj` of `node_refines_blockstore`, `repair_refines`,
    `served_sigOk_checked`, … is satisfiable (non-vacuity) -/
theorem ridInj_injective : ∀ a b, ridInj a = ridInj b → a = b := by
  -- equal values have equal residues, hence the same arm (`hm`), and each arm `x ↦ 3 * x + c` is injective
  intro a
  induction a with
  | leaf d =>
    intro b h
    have hm := ridInj_mod b
    rw [← h, ridInj_mod] at hm
    cases b with
    | leaf d' => rw [Nat.eq_of_mul_eq_mul_left (by decide : 0 < 3) (Nat.add_right_cancel h)]
    | node _ _ => cases hm
    | junk _ => cases hm
  | junk n =>
    intro b h
    have hm := ridInj_mod b
    rw [← h, ridInj_mod] at hm
    cases b with
    | junk n' => rw [Nat.eq_of_mul_eq_mul_left (by decide : 0 < 3) (Nat.add_right_cancel h)]
    | node _ _ => cases hm
    | leaf _ => cases hm
  | node l r ihl ihr =>
    intro b h
    have hm := ridInj_mod b
    rw [← h, ridInj_mod] at hm
    cases b with
    | leaf _ => cases hm
    | junk _ => cases hm
    | node l' r' =>
      have hp : AgModel.Shred.Instance.pair (ridInj l) (ridInj r) = AgModel.Shred.Instance.pair (ridInj l') (ridInj r') :=
        Nat.eq_of_mul_eq_mul_left (by decide : 0 < 3) (Nat.add_right_cancel h)
      have h1 := congrArg AgModel.Shred.Instance.fstP hp
      have h2 := congrArg AgModel.Shred.Instance.sndP hp
      rw [AgModel.Shred.Instance.fstP_pair, AgModel.Shred.Instance.fstP_pair] at h1
      rw [AgModel.Shred.Instance.sndP_pair, AgModel.Shred.Instance.sndP_pair] at h2
      rw [ihl _ h1, ihr _ h2]

theorem ridInj_ne_zero (a : H) : ridInj a ≠ 0 := by cases a <;> simp [ridInj]

section Witness
open AgModel.Exec.ShredEnv
open AgModel.Shred (wOut wS wFlipped wJunk)

def wBid : AgModel.Repair.Bid := ⟨7, .leaf 9⟩
def wReq : AgModel.Repair.Req := .shred wBid 3 3
/-- a requester waiting for shred 3 of slice 3 (the last slice) of a block in slot 7, slice root proven -/
def wSys : Repair.FSys :=
  ⟨⟨[wReq], [wReq], [((wBid, 3), ridEx (wOut.getD 3 default).root)], [(wBid, 3)]⟩, [((wBid, 3), (wOut.getD 3 default).root)], []⟩

/-- **Non-vacuity of the repair simulation**: the genuine raw shred of the leader (key 5) is accepted - request done,
    the slot's data stored, no panic -; the same shred with a junk signature, with its type flipped,
    under another leader key, or a shred of another index leaves the request outstanding and the store untouched; the
    coarse model on the abstraction of the raw response does the same; `RootsAgree` holds of the start state. -/
theorem repair_witness :
    (Repair.fHandle toyEnv cenvEx ridEx (fun _ => 5) 4 wSys (.shred wReq wS)).1.st.outstanding = [] ∧
    (Repair.fHandle toyEnv cenvEx ridEx (fun _ => 5) 4 wSys (.shred wReq wS)).2.panic = false ∧
    (Repair.fHandle toyEnv cenvEx ridEx (fun _ => 5) 4 wSys (.shred wReq wS)).1.store.length = 1 ∧
    (Repair.fHandle toyEnv cenvEx ridEx (fun _ => 5) 4 wSys (.shred wReq (wJunk 3))).1.st.outstanding = [wReq] ∧
    (Repair.fHandle toyEnv cenvEx ridEx (fun _ => 5) 4 wSys (.shred wReq (wJunk 3))).1.store.length = 0 ∧
    (Repair.fHandle toyEnv cenvEx ridEx (fun _ => 5) 4 wSys (.shred wReq wFlipped)).1.st.outstanding = [wReq] ∧
    (Repair.fHandle toyEnv cenvEx ridEx (fun _ => 6) 4 wSys (.shred wReq wS)).1.st.outstanding = [wReq] ∧
    (Repair.fHandle toyEnv cenvEx ridEx (fun _ => 5) 4 wSys (.shred wReq { wS with index := 4 })).1.st.outstanding = [wReq] ∧
    (AgModel.Repair.handleResponse cenvEx 4 wSys.st wSys.store
      (Repair.absResp toyEnv ridEx (fun _ => 5) (.shred wReq wS))).1.outstanding = [] ∧
    (AgModel.Repair.handleResponse cenvEx 4 wSys.st wSys.store
      (Repair.absResp toyEnv ridEx (fun _ => 5) (.shred wReq (wJunk 3)))).1.outstanding = [wReq] ∧
    Repair.sigOkOf toyEnv 5 wS = true ∧ Repair.sigOkOf toyEnv 5 (wJunk 3) = false := by
  decide +kernel

example : Repair.RootsAgree ridEx wSys := by simp only [Repair.RootsAgree, wSys, List.map]

end Witness

end AgModel.Seam
