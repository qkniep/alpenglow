import AgModel.Proofs.PoolCerts
/-!
# C03 — Certificates a node emits are valid, justified by accepted votes, and timely

Statements are about the per-slot state machine of the pool model (`AgModel.Pool`): `slotStep` is what
`PoolImpl::add_vote / add_cert / add_block` do to the state of one slot (admission filter,
`SlotState::add_vote`, adding the created certificates, received certificates, parent
notifications); `slotRun` runs an arbitrary finite history of such operations. Everything is
unbounded in the number of validators, the stakes (any `List Nat` with positive total), the block
hashes and the length and order of the history.
-/
namespace AgModel.Pool

def Reachable (e : Epoch) (st : SlotState) : Prop := ∃ slot ops, st = (slotRun e { slot := slot } ops).1

theorem reachable_inv (e : Epoch) (hpos : 0 < e.total) (st : SlotState) (h : Reachable e st) : Inv e st := by
  obtain ⟨slot, ops, rfl⟩ := h
  exact slotRun_Inv e ops _ (Inv.init e slot hpos)

/-- the vote stores and counters are in order in every reachable state, whatever the stakes -/
theorem reachable_invV (e : Epoch) (st : SlotState) (h : Reachable e st) : InvV e st := by
  obtain ⟨slot, ops, rfl⟩ := h
  exact slotRun_invariant (slotStep_InvV e) ops _ (InvV.init e slot)

/-- **Counters are recounts; each validator is counted at most once per class.** In every reachable
    state every running stake total equals the stake of the *distinct* validators whose vote of that
    class (and block) is stored, `notar_or_skip` is the total of all notar voters plus the skip voters,
    and `top_notar` is the maximum notar stake over all blocks. -/
theorem counters_are_recounts (e : Epoch) (hpos : 0 < e.total) (st : SlotState) (h : Reachable e st) :
    (∀ b, lookupD st.sNotar b = stakeOf e (st.notarVoters e.n b)) ∧
    (∀ b, lookupD st.sNf b = stakeOf e (st.nfVoters e.n b)) ∧
    st.sSkip = stakeOf e (st.skipVoters e.n) ∧ st.sSf = stakeOf e (st.sfVoters e.n) ∧
    st.sFin = stakeOf e (st.finVoters e.n) ∧
    st.sNotarOrSkip = stakeOf e ((List.range e.n).filter (fun v => (st.vNotar.lookup v).isSome)) + st.sSkip ∧
    (∀ b, lookupD st.sNotar b ≤ st.sTopNotar) ∧ (st.sTopNotar = 0 ∨ ∃ b, lookupD st.sNotar b = st.sTopNotar) := by
  have i := reachable_invV e st h
  exact ⟨i.cNotar, i.cNf, i.cSkip, i.cSf, i.cFin, i.cNotarOrSkip, i.topGe, i.topAttained⟩

/-- **Timeliness (⇒).** In every reachable state, as soon as the accepted stake reaches a threshold the
    certificate of that type is held: 60 % notar ⇒ notarization, 80 % notar ⇒ fast-finalization,
    60 % notar + notar-fallback for a block ⇒ notar-fallback for that block, 60 % skip + skip-fallback
    ⇒ skip, 60 % finalize ⇒ finalization. (Certificates are added in the same step that makes the
    threshold true: `slotStep` is one step.) -/
theorem cert_timely (e : Epoch) (hpos : 0 < e.total) (st : SlotState) (h : Reachable e st) :
    (∀ b, e.isQuorum (lookupD st.sNotar b) = true → st.cNotar.isSome = true) ∧
    (∀ b, e.isStrong (lookupD st.sNotar b) = true → st.cFf.isSome = true) ∧
    (∀ b, e.isQuorum (lookupD st.sNf b + lookupD st.sNotar b) = true → st.isNf b = true) ∧
    (e.isQuorum (st.sSkip + st.sSf) = true → st.cSkip.isSome = true) ∧
    (e.isQuorum st.sFin = true → st.cFin.isSome = true) := by
  have i := (reachable_inv e hpos st h).2
  exact ⟨i.tNotar, i.tFf, i.tNf, i.tSkip, i.tFin⟩

/-- what "valid and justified" means for a certificate created in state `s` (the state after the
    crossing vote was stored): signers of each aggregate are exactly the validators whose matching
    vote is stored, the two aggregates are disjoint, the declared stake is the stake of the signers
    and meets the type's threshold. -/
def Justified (e : Epoch) (s : SlotState) (c : Cert) : Prop :=
  c.slot = s.slot ∧
  match c.kind with
  | .notar => c.sig1 = s.notarVoters e.n c.hash ∧ c.sig2 = [] ∧ c.stake = stakeOf e c.sig1 ∧ e.isQuorum c.stake = true
  | .ff => c.sig1 = s.notarVoters e.n c.hash ∧ c.sig2 = [] ∧ c.stake = stakeOf e c.sig1 ∧ e.isStrong c.stake = true
  | .nf => c.sig1 = s.notarVoters e.n c.hash ∧ c.sig2 = s.nfVoters e.n c.hash ∧ (∀ x ∈ c.sig1, x ∉ c.sig2) ∧
      c.stake = stakeOf e c.sig1 + stakeOf e c.sig2 ∧ e.isQuorum c.stake = true
  | .skip => c.sig1 = s.skipVoters e.n ∧ c.sig2 = s.sfVoters e.n ∧ (∀ x ∈ c.sig1, x ∉ c.sig2) ∧
      c.stake = stakeOf e c.sig1 + stakeOf e c.sig2 ∧ e.isQuorum c.stake = true
  | .final => c.sig1 = s.finVoters e.n ∧ c.sig2 = [] ∧ c.stake = stakeOf e c.sig1 ∧ e.isQuorum c.stake = true

private theorem mem_notarVoters (s : SlotState) (n h x : Nat) : x ∈ s.notarVoters n h ↔ x < n ∧ s.vNotar.lookup x = some h := by
  simp [SlotState.notarVoters]
private theorem mem_nfVoters (s : SlotState) (n h x : Nat) : x ∈ s.nfVoters n h ↔ x < n ∧ (x, h) ∈ s.vNf := by
  simp [SlotState.nfVoters]

theorem newCerts_justified (e : Epoch) (s : SlotState) (v : Vote) (i : InvV e s) :
    ∀ c ∈ s.newCerts e v, Justified e s c := by
  intro c hc
  have disj : ∀ x ∈ s.notarVoters e.n v.hash, x ∉ s.nfVoters e.n v.hash := fun x hx hx2 =>
    i.noNotarNfSame x v.hash ((mem_nfVoters s e.n v.hash x).mp hx2).2 ((mem_notarVoters s e.n v.hash x).mp hx).2
  obtain ⟨k, _, rfl, hq, _⟩ := mem_newCerts_iff.mp hc
  cases k <;> dsimp only [due, certOf, threshold, SlotState.counted, mkNfCert, notarCertOf, skipCertOf, ffCertOf, finCertOf] at hq
  · rw [i.cNotar] at hq
    exact ⟨rfl, rfl, rfl, rfl, hq⟩
  · rw [i.cNf, i.cNotar, Nat.add_comm] at hq
    exact ⟨rfl, rfl, rfl, disj, rfl, hq⟩
  · rw [i.cSkip, i.cSf] at hq
    exact ⟨rfl, rfl, rfl, fun x hx hx2 => i.noSkipSf x
      (List.contains_iff_mem.mp (List.mem_filter.mp (hx : x ∈ (List.range e.n).filter (s.vSkip.contains ·))).2)
      (List.contains_iff_mem.mp (List.mem_filter.mp (hx2 : x ∈ (List.range e.n).filter (s.vSf.contains ·))).2), rfl, hq⟩
  · rw [i.cNotar] at hq
    exact ⟨rfl, rfl, rfl, rfl, hq⟩
  · rw [i.cFin] at hq
    exact ⟨rfl, rfl, rfl, rfl, hq⟩

structure SameVotes (a b : SlotState) : Prop where
  slot : a.slot = b.slot
  notar : a.vNotar = b.vNotar
  nf : a.vNf = b.vNf
  skip : a.vSkip = b.vSkip
  sf : a.vSf = b.vSf
  fin : a.vFin = b.vFin

theorem SameVotes.of_coreEq {a b : SlotState} (h : CoreEq a b) : SameVotes a b :=
  ⟨h.congr (·.slot) fun _ => rfl, h.congr (·.vNotar) fun _ => rfl, h.congr (·.vNf) fun _ => rfl,
   h.congr (·.vSkip) fun _ => rfl, h.congr (·.vSf) fun _ => rfl, h.congr (·.vFin) fun _ => rfl⟩

theorem SameVotes.addCert (a : SlotState) (c : Cert) : SameVotes a (a.addCert c) := by
  obtain ⟨_, _, _, _, _, h⟩ := addCert_writes a c
  rw [h]
  exact ⟨rfl, rfl, rfl, rfl, rfl, rfl⟩

theorem Justified.of_sameVotes {e : Epoch} {a b : SlotState} {c : Cert} (h : SameVotes a b) (j : Justified e a c) :
    Justified e b c := by
  unfold Justified at *
  unfold SlotState.notarVoters SlotState.nfVoters SlotState.skipVoters SlotState.sfVoters SlotState.finVoters at *
  rw [← h.slot, ← h.notar, ← h.nf, ← h.skip, ← h.sf, ← h.fin]
  exact j

/-- **Soundness of created certificates.** Every certificate created by an admitted vote in a reachable
    state is justified in the resulting state: its signers are exactly the validators whose matching
    votes are stored — including the vote that crossed the threshold —, each counted once, the two
    halves are disjoint, and the declared stake is their stake and meets the threshold. -/
theorem cert_sound (e : Epoch) (hpos : 0 < e.total) (st : SlotState) (hr : Reachable e st) (v : Vote) :
    ∀ c ∈ (slotStep e st (.vote v)).2.1, Justified e (slotStep e st (.vote v)).1 c :=
  slotStep_core_cases e st (.vote v) (fun b cs => ∀ c ∈ cs, Justified e b c)
    (fun h j c hc => (j c hc).of_sameVotes (SameVotes.of_coreEq h)) (fun _ h => absurd h List.not_mem_nil)
    (fun x ha c hc => addCerts_keeps (Q := (Justified e · c)) (fun s c' j => j.of_sameVotes (SameVotes.addCert s c')) _ _
      (newCerts_justified e _ x (stored_InvV e st x (reachable_invV e st hr) ha) c hc))
    (fun _ _ _ h => absurd h List.not_mem_nil)

/-- the crossing vote is among the signers of the certificate(s) it creates -/
theorem cert_includes_crossing_vote (e : Epoch) (st : SlotState) (v : Vote) (hv : v.signer < e.n) (ha : Adm st v) :
    ∀ c ∈ (st.stored e v).newCerts e v, v.signer ∈ c.sig1 ∨ v.signer ∈ c.sig2 := by
  have hN : v.kind = .notar → v.signer ∈ (st.stored e v).notarVoters e.n v.hash := fun hk => by
    have hn := (adm_notar_facts st v hk ha).2.1
    simp [SlotState.notarVoters, hv, SlotState.stored, hk, lookup_after_store _ _ _ _ hn]
  have hNf : v.kind = .nf → v.signer ∈ (st.stored e v).nfVoters e.n v.hash := fun hk => by
    simp [SlotState.nfVoters, hv, SlotState.stored, hk]
  have hS : v.kind = .skip → v.signer ∈ (st.stored e v).skipVoters e.n := fun hk => by
    simp [SlotState.skipVoters, hv, SlotState.stored, hk]
  have hSf : v.kind = .sf → v.signer ∈ (st.stored e v).sfVoters e.n := fun hk => by
    simp [SlotState.sfVoters, hv, SlotState.stored, hk]
  have hF : v.kind = .final → v.signer ∈ (st.stored e v).finVoters e.n := fun hk => by
    simp [SlotState.finVoters, hv, SlotState.stored, hk]
  intro c hc
  obtain ⟨k, hk, rfl, _⟩ := mem_newCerts_iff.mp hc
  -- by the rows of `feeds`: the vote is in the first aggregate, a fallback vote in the second
  unfold feeds at hk
  cases hv : v.kind <;> rw [hv] at hk <;> simp only [List.mem_cons, List.not_mem_nil, or_false] at hk
  · rcases hk with rfl | rfl | rfl <;> exact Or.inl (hN hv)
  · exact hk ▸ Or.inr (hNf hv)
  · exact hk ▸ Or.inl (hS hv)
  · exact hk ▸ Or.inr (hSf hv)
  · exact hk ▸ Or.inl (hF hv)

theorem certDup_coreEq {a b : SlotState} (h : CoreEq a b) (x : Cert) : certDup a x = certDup b x :=
  h.congr (certDup · x) fun _ => rfl

theorem newCerts_not_held (e : Epoch) (st : SlotState) (v : Vote) :
    ∀ c ∈ (st.stored e v).newCerts e v, certDup st c = false := by
  intro c hc
  obtain ⟨_, _, _, _, hn⟩ := mem_newCerts_iff.mp hc
  rw [certDup_stored] at hn; exact hn

/-- the certificates created in one step have pairwise different types: they are a sublist of one certificate per type -/
theorem newCerts_keys_nodup (e : Epoch) (s : SlotState) (v : Vote) : ((s.newCerts e v).map certKey).Nodup := by
  have one : ∀ (c : Prop) [Decidable c] (x : Cert), ((if c then [x] else []).map certKey).Nodup := fun c _ x =>
    List.Nodup.sublist ((ite_sublist c x).map certKey) (List.pairwise_singleton _ _)
  unfold SlotState.newCerts
  cases v.kind <;> dsimp only
  · refine List.Nodup.sublist ((((ite_sublist _ _).append (ite_sublist _ _)).append (ite_sublist _ _)).map certKey) ?_
    simp [certKey, mkNfCert, notarCertOf, ffCertOf]
  all_goals exact one _ _

/-- step form of **at most once**: what a step creates was not held before and is held afterwards, and is of
    pairwise different types; whatever is held stays held (any operation). -/
theorem created_fresh_then_held (e : Epoch) (st : SlotState) (op : SlotOp) :
    (∀ c ∈ (slotStep e st op).2.1, certDup st c = false ∧ certDup (slotStep e st op).1 c = true) ∧
    (∀ x, certDup st x = true → certDup (slotStep e st op).1 x = true) ∧
    ((slotStep e st op).2.1.map certKey).Nodup := by
  refine slotStep_core_cases e st op (fun b cs => (∀ c ∈ cs, certDup st c = false ∧ certDup b c = true) ∧
      (∀ x, certDup st x = true → certDup b x = true) ∧ (cs.map certKey).Nodup)
    (fun hc ⟨h1, h2, h3⟩ => ⟨fun c hcs => ⟨(h1 c hcs).1, certDup_coreEq hc c ▸ (h1 c hcs).2⟩,
      fun x hx => certDup_coreEq hc x ▸ h2 x hx, h3⟩)
    ⟨fun _ h => absurd h List.not_mem_nil, fun _ hx => hx, List.nodup_nil⟩ (fun v _ => ?_)
    (fun c _ => ⟨fun _ h => absurd h List.not_mem_nil, fun x h => (certDup_addCert_iff st c x).mpr (Or.inl h), List.nodup_nil⟩)
  exact ⟨fun c hc => ⟨newCerts_not_held e st v c hc, (certDup_addCerts_iff _ _ c).mpr (Or.inr ⟨c, hc, rfl⟩)⟩,
    fun x hx => (certDup_addCerts_iff _ _ x).mpr (Or.inl ((certDup_stored e st v x).trans hx)), newCerts_keys_nodup e _ v⟩

/-- **At most once.** Over an arbitrary history of a slot, no two created certificates have the same type
    (same block for notar-fallback), and none has a type that was already held at the start. -/
theorem cert_once (e : Epoch) (ops : List SlotOp) (st : SlotState) :
    ((slotRun e st ops).2.1.map certKey).Nodup ∧ ∀ c ∈ (slotRun e st ops).2.1, certDup st c = false := by
  induction ops generalizing st with
  | nil => exact ⟨List.nodup_nil, fun _ h => absurd h List.not_mem_nil⟩
  | cons op ops ih =>
    obtain ⟨hn, hf⟩ := ih (slotStep e st op).1
    obtain ⟨h1, h2, h3⟩ := created_fresh_then_held e st op
    simp only [slotRun]
    constructor
    · rw [List.map_append, List.nodup_append]
      refine ⟨h3, hn, ?_⟩
      -- a later certificate of the type of one created in this step would have been held when it was created
      intro a ha b hb hab
      obtain ⟨c, hc, rfl⟩ := List.mem_map.mp ha
      obtain ⟨c', hc', rfl⟩ := List.mem_map.mp hb
      have held := (h1 c hc).2
      rw [certDup_key _ c c' hab, hf c' hc'] at held
      cases held
    · intro c hc
      rcases List.mem_append.mp hc with hc | hc
      · exact (h1 c hc).1
      · cases hd : certDup st c
        · rfl
        · have := hf c hc
          rw [h2 c hd] at this; cases this

/-- Non-vacuity: 3 validators with stakes 3, 1, 1 (total 5, so 60 % = 3 exactly): validator 1 and 2 notarize block 7
    (2/5: nothing), then validator 0 does: the step creates notar-fallback, notarization and
    fast-finalization certificates, each signed by all three. -/
example :
    let e : Epoch := { stakes := [3, 1, 1], own := 0 }
    let r := slotRun e { slot := 4 } [.vote ⟨.notar, 4, 7, 1⟩, .vote ⟨.notar, 4, 7, 2⟩, .vote ⟨.notar, 4, 7, 0⟩]
    r.2.1.map (fun c => (c.kind, c.sig1, c.stake)) =
      [(.nf, [0, 1, 2], 5), (.notar, [0, 1, 2], 5), (.ff, [0, 1, 2], 5)] ∧ 0 < e.total := by decide

end AgModel.Pool
