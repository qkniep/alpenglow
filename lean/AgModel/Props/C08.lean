import AgModel.Proofs.Finality
import AgModel.Proofs.FinalityRun
import AgModel.Proofs.FinalitySafeDec
/-!
# C08 — per-node finality tracking and pruning (property theorems)

Model: `AgModel.Finality` (= `src/consensus/pool/finality_tracker.rs` after the D14 and D27 `fix:` commits), tied to the
real tracker by the correspondence run of `harness/src/bin/c08.rs`; the pool-level half (bounds checks,
`PoolImpl::prune`) is in `AgModel.PoolTrack` / `Props/C08Pool.lean`.

The run-level theorems (`safe_run_no_panic`, `reports_exact`, `reported_once`, `reports_timely`, `order_independent`,
`retained_exact`, `watermark_exact`, `highest_exact`) quantify over every operation sequence from the initial
tracker whose history satisfies the decidable safety premise `Safe`.
The one-step theorems quantify over every tracker state satisfying the invariant `Inv` (established by `inv_init`,
preserved by every successful operation: `step_preserves_inv`, hence along every operation sequence of any
length: `run_preserves_inv`) and every operation (any slots, any hashes, any order).
-/
namespace AgModel.Finality

theorem inv_initial : Inv init := inv_init

theorem step_preserves_inv {t : Tracker} (hi : Inv t) {op : Op} {t' : Tracker} {ev : Event}
    (h : step t op = .ok t' ev) : Inv t' := (step_spec hi h).inv

/-- `run_inv` adds that `highest_finalized_slot` and the watermark never decrease along the run. -/
theorem run_preserves_inv {ops : List Op} {t' : Tracker} {evs : List Event}
    (h : run init ops = some (t', evs)) : Inv t' := (run_inv inv_init h).1

/-- "its highest finalized slot never decreases" -/
theorem highest_monotone {t : Tracker} (hi : Inv t) {op : Op} {t' : Tracker} {ev : Event}
    (h : step t op = .ok t' ev) : t.highest ≤ t'.highest := (step_spec hi h).highest

/-- the pruning watermark never decreases and never overtakes the highest finalized slot -/
theorem watermark_monotone {t : Tracker} (hi : Inv t) {op : Op} {t' : Tracker} {ev : Event}
    (h : step t op = .ok t' ev) : t.first ≤ t'.first ∧ t'.first ≤ t'.highest :=
  ⟨(step_spec hi h).first, (step_spec hi h).inv.first_le⟩

/-- "once it is decided the node neither retains ... anything older": after every operation no status and no
    parent link below the watermark is retained. -/
theorem retained_bounded {t : Tracker} (hi : Inv t) {op : Op} {t' : Tracker} {ev : Event}
    (h : step t op = .ok t' ev) :
    (∀ s, s < t'.first → t'.status s = none) ∧ (∀ b, b.1 < t'.first → t'.parents b = none) :=
  ⟨(step_spec hi h).inv.st_pruned, (step_spec hi h).inv.par_pruned⟩

/-- A decided slot (finalized, implicitly finalized, implicitly skipped) stays decided *with the same block*
    under every later operation, until it is pruned: no certificate arriving late for a slot that is
    already decided changes the answer.  (This is what D14 violated before its fix, see `d14_old_*`
    below.) -/
theorem decided_stable {t : Tracker} (hi : Inv t) {op : Op} {t' : Tracker} {ev : Event}
    (h : step t op = .ok t' ev) (s : Nat) (hd : Dec (t.status s)) :
    s < t'.first ∨ (Dec (t'.status s) ∧ finalHash (t'.status s) = finalHash (t.status s)) :=
  (step_spec hi h).stable s hd

/-- Known parent links are kept until their block is pruned. -/
theorem parents_kept {t : Tracker} (hi : Inv t) {op : Op} {t' : Tracker} {ev : Event}
    (h : step t op = .ok t' ev) (b p : Nat × Nat) (hp : t.parents b = some p) :
    b.1 < t'.first ∨ t'.parents b = some p :=
  (step_spec hi h).parents_stable b p hp

/-- "nothing is discarded before the whole prefix below it is decided": `prune` moves the watermark only
    across slots whose status is decided ... -/
theorem watermark_prefix (t : Tracker) (s : Nat) (h1 : t.first < s) (h2 : s ≤ (prune t).first) :
    Dec (t.status s) := prune_only_decided t s h1 h2

/-- ... changes no answer at or above the new watermark ... -/
theorem prune_lossless (t : Tracker) (s : Nat) (h : (prune t).first ≤ s) :
    (prune t).status s = t.status s ∧ ∀ hh, (prune t).parents (s, hh) = t.parents (s, hh) :=
  ⟨prune_status_ge h, fun _ => prune_parents_ge h⟩

/-- ... and goes all the way to the end of the decided prefix in the same step ("catches up"): the slot
    after the new watermark is not decided (the fuel of the model's loop is never what stops it). -/
theorem catches_up {t : Tracker} (h : Inv t) : ¬ Dec (t.status ((prune t).first + 1)) := by
  by_cases hlt : (prune t).first < t.highest
  · exact prune_stops hlt
  · exact fun hd => hlt (h.dec_le _ hd)

/-- "reports slot s finalized with block b exactly when it holds ..." — soundness, one step:
    a block is reported as directly finalized only by its fast-finalization certificate, or by its notarization
    certificate when the finalization certificate of the slot is already held (`FinalPendingNotar`), or by the
    finalization certificate of its slot when its notarization certificate is already held (`Notarized`).

    (The full run-level statement is `reports_exact` / `reported_once` / `reports_timely` below.) -/
theorem finalized_justified_partial {t : Tracker} {op : Op} {t' : Tracker} {ev : Event} {b : Nat × Nat}
    (h : step t op = .ok t' ev) (hb : ev.finalized = some b) :
    op = .fastFinal b ∨ (op = .notar b ∧ t.status b.1 = some .finalPending) ∨
    (op = .final b.1 ∧ t.status b.1 = some (.notarized b.2)) := by
  have c := step_cases t op
  rw [h] at c
  cases c with
  | idle | set | link => cases hb
  | linkWalk _ _ _ _ _ hr =>
    obtain ⟨m, hw, _⟩ := walkPrune_walk hr
    rw [walk_finalized hw] at hb; cases hb
  | fin hf hc hr =>
    obtain ⟨m, hw, _⟩ := hfb_walk hr
    rw [walk_finalized hw] at hb
    cases hb
    generalize t.status _ = o at hc
    cases hc with
    | fast => exact Or.inl rfl
    | notar => exact Or.inr (Or.inl ⟨rfl, rfl⟩)
    | final => exact Or.inr (Or.inr ⟨rfl, rfl⟩)

/-! ### whole runs: the reports are exactly the naive closure of the history

Definitions (in `Proofs/FinalitySpec.lean`, `Proofs/FinalityRun.lean`; no reference to the tracker):

* the *history* of a run is the list of operations applied so far (`add_parent`, `mark_fast_finalized`,
  `mark_notarized`, `mark_finalized`; `prune` is not an input — the tracker prunes by itself at the end of every
  operation that decides a slot, so every theorem below holds *with pruning interleaved wherever the code does it*);
* `Direct H b` : `fastFinal b ∈ H`, or `final b.1 ∈ H` and `notar b ∈ H` (genesis counts as notarized);
* `Final H b`  : inductive closure of `Direct` under the parent links of `H`;
* `Skip H s`   : `s` strictly between a `Final` block and its parent;
* `repF evs` / `repS evs` : all blocks reported finalized (`finalized` and `implicitly_finalized` of all events) /
  all slots reported `implicitly_skipped`, in order of emission;
* `Safe H` : the safety premise (decidable, `instance : Decidable (Safe G)`): parents have smaller slots, one parent
  per block, one finalized block per slot, no finalized block strictly between a finalized block and its parent,
  one notarized block per slot and it agrees with the **directly** finalized one (`Direct`) if there is one, no
  finalization certificate for an implicitly skipped slot.  These are consequences of consensus safety (C01) for
  the certificate sets a correct node can hold.

  The premise does not say "… and the notarized block is the `Final` one" (also for a block finalized only through a
  descendant).  Two assertions of the code demanded that until the D27 repair (`fix:` commit), and it is *not* a
  consequence of safety: one equivocating leader (< 20 % of the stake) can give an implicitly finalized block a
  notarized sibling, see `d27_*` below.
-/

/-- Under the safety premise no operation sequence panics (none of the `assert!`s / "consensus safety violation"
    panics of the tracker is reachable). -/
theorem safe_run_no_panic {ops : List Op} (sf : Safe ops) : ∃ t evs, run init ops = some (t, evs) := by
  obtain ⟨t, evs, h, _⟩ := run_runInv ops [] init [] runInv_init sf
  exact ⟨t, evs, h⟩

/-- **reports_exact.**  After every run from the initial tracker over a safe history `ops`:
    a block of a slot ≥ 1 has been reported finalized (directly or implicitly) iff it is in the closure `Final ops`;
    every reported block is in the closure; a slot has been reported implicitly skipped iff it is in `Skip ops`.
    Genesis `(0,0)` is the one block the statement's restriction "not yet below the watermark when the information
    arrives" bites on: it is reported iff the walk reaches it while the watermark is still 0 — in particular
    whenever the watermark is still 0 at the end (`t.first = 0`); see `genesis_report_depends_on_order`. -/
theorem reports_exact {ops : List Op} (sf : Safe ops) {t : Tracker} {evs : List Event}
    (h : run init ops = some (t, evs)) :
    (∀ b, (1 ≤ b.1 ∨ t.first = 0) → (b ∈ repF evs ↔ Final ops b)) ∧
    (∀ b, b ∈ repF evs → Final ops b) ∧
    (∀ s, s ∈ repS evs ↔ Skip ops s) :=
  have ri := runInv_of_run sf h
  ⟨fun b hb => ri.final_iff sf b hb, ri.soundF, fun s => ri.skip_iff sf s⟩

/-- **reported_once.**  Over the whole run every slot is reported at most once — as finalized (with one block)
    or as implicitly skipped, never both, never twice. -/
theorem reported_once {ops : List Op} (sf : Safe ops) {t : Tracker} {evs : List Event}
    (h : run init ops = some (t, evs)) : ((repF evs).map (·.1) ++ repS evs).Nodup := by
  have ri := runInv_of_run sf h
  rw [List.nodup_append]
  refine ⟨ri.nodupF, ri.nodupS, ?_⟩
  intro x hx y hy e
  subst e
  obtain ⟨b, hb, rfl⟩ := List.mem_map.mp hx
  exact sf.final_not_skip (ri.soundF b hb) (ri.soundS _ hy)

/-- **reports_timely.**  Every report is emitted by the very operation that completes its condition: the event of
    the operation `op` applied after the history `pre` contains exactly what is in the closure of `pre ++ [op]` and
    was not in the closure of `pre`. -/
theorem reports_timely {pre : List Op} {op : Op} (sf : Safe (pre ++ [op])) {t1 : Tracker} {evs1 : List Event}
    (h1 : run init pre = some (t1, evs1)) {t2 : Tracker} {ev : Event} (h2 : step t1 op = .ok t2 ev) :
    (∀ b, (1 ≤ b.1 ∨ t2.first = 0) → (b ∈ evF ev ↔ (Final (pre ++ [op]) b ∧ ¬ Final pre b))) ∧
    (∀ s, s ∈ ev.implSkipped ↔ (Skip (pre ++ [op]) s ∧ ¬ Skip pre s)) := by
  have sf1 : Safe pre := sf.sub (sub_append_left pre op)
  have ri1 := runInv_of_run sf1 h1
  have ri2 := runInv_of_run sf (run_snoc h1 h2)
  have ndF := ri2.nodupF
  have ndS := ri2.nodupS
  rw [repF_snoc, List.map_append, List.nodup_append] at ndF
  rw [repS_snoc, List.nodup_append] at ndS
  constructor
  · intro b hb
    have hb1 : 1 ≤ b.1 ∨ t1.first = 0 :=
      hb.imp_right (fun e => Nat.le_zero.mp (Nat.le_trans (step_spec ri1.inv h2).first (Nat.le_of_eq e)))
    exact mem_new_iff (ri1.final_iff sf1 b hb1) (by rw [← repF_snoc]; exact ri2.final_iff sf b hb)
      (fun x y => ndF.2.2 b.1 (List.mem_map.mpr ⟨b, x, rfl⟩) b.1 (List.mem_map.mpr ⟨b, y, rfl⟩) rfl)
  · intro s
    exact mem_new_iff (ri1.skip_iff sf1 s) (by rw [← repS_snoc]; exact ri2.skip_iff sf s)
      (fun x y => ndS.2.2 s x s y rfl)

/-- **Pruning is lossless over whole runs.**  However often the tracker has pruned, the answer it holds for a
    slot at or above the watermark is the one the *complete* history demands: finalized with `h` iff `(s,h)` is in
    the closure, implicitly skipped iff in `Skip`, and otherwise exactly the certificates seen for the slot. -/
theorem retained_exact {ops : List Op} (sf : Safe ops) {t : Tracker} {evs : List Event}
    (h : run init ops = some (t, evs)) (s : Nat) (hw : t.first ≤ s) :
    (∀ hh, finalHash (t.status s) = some hh ↔ Final ops (s, hh)) ∧
    (t.status s = some .implSkipped ↔ Skip ops s) ∧
    (¬ Dec (t.status s) → ((∀ hh, t.status s = some (.notarized hh) ↔ NotarH ops (s, hh)) ∧
                            (t.status s = some .finalPending ↔ FinH ops s))) := by
  have ri := runInv_of_run sf h
  have ok := ri.rel.slot s hw
  exact ⟨fun hh => ⟨slotOK_final ok, fun a => ri.rel.final_complete sf a hw⟩,
    ⟨slotOK_skip ok, fun a => ri.rel.skip_complete sf a hw⟩, slotOK_undecided sf.notar_fun ok⟩

/-- **A `Finalized` status means a direct finalization** (fast-finalization certificate, or finalization +
    notarization certificate) — the status the remaining hash assertions of `mark_notarized` /
    `handle_implicitly_finalized` compare against. -/
theorem finalized_status_direct {ops : List Op} (sf : Safe ops) {t : Tracker} {evs : List Event}
    (h : run init ops = some (t, evs)) (s : Nat) (hw : t.first ≤ s) (hh : Nat)
    (e : t.status s = some (.finalized hh)) : Direct ops (s, hh) := by
  have ok := (runInv_of_run sf h).rel.slot s hw
  rw [e] at ok; exact ok

/-- **A notarized sibling does not disturb the answer** (D27).  If the history finalizes `(s, b)` and also contains
    the notarization certificate of a *different* block `(s, b')` of that slot — whichever arrived first —, the
    retained status of the slot is `ImplicitlyFinalized(b)`: the finalized block wins, the notarization of the
    sibling is forgotten, nothing panics (`safe_run_no_panic`), and `(s, b)` is what was reported (`reports_exact`). -/
theorem notarized_sibling_exact {ops : List Op} (sf : Safe ops) {t : Tracker} {evs : List Event}
    (h : run init ops = some (t, evs)) (s : Nat) (hw : t.first ≤ s) (b b' : Nat)
    (hf : Final ops (s, b)) (hn : NotarH ops (s, b')) (hne : b' ≠ b) :
    t.status s = some (.implFinalized b) := by
  rcases finalHash_eq_some.mp (((retained_exact sf h s hw).1 b).mpr hf) with e | e
  · exact absurd (congrArg Prod.snd (sf.notar_direct (s, b') (s, b) hn (finalized_status_direct sf h s hw b e) rfl)) hne
  · exact e

/-- **The watermark is exactly the end of the decided prefix of the history**: every slot `1 … first` is decided
    by the history ("nothing is discarded before the whole prefix below it is decided") and slot `first + 1` is
    not (the watermark has caught up when the operation returns). -/
theorem watermark_exact {ops : List Op} (sf : Safe ops) {t : Tracker} {evs : List Event}
    (h : run init ops = some (t, evs)) :
    (∀ s, 1 ≤ s → s ≤ t.first → (Skip ops s ∨ ∃ hh, Final ops (s, hh))) ∧
    ¬ (Skip ops (t.first + 1) ∨ ∃ hh, Final ops (t.first + 1, hh)) :=
  (runInv_of_run sf h).watermark sf

/-- **`highest_finalized_slot` is exactly the highest slot of a finalized block of the history** (0 = genesis if
    there is none). -/
theorem highest_exact {ops : List Op} (sf : Safe ops) {t : Tracker} {evs : List Event}
    (h : run init ops = some (t, evs)) :
    (∀ b, Final ops b → b.1 ≤ t.highest) ∧ (t.highest = 0 ∨ ∃ b, Final ops b ∧ b.1 = t.highest) := by
  have ri := runInv_of_run sf h
  exact ⟨fun _ hb => ri.final_le_highest sf hb, ri.hiAtt⟩

/-- **order_independent.**  Two runs over the same *set* of inputs (any order, any multiplicities; the tracker
    prunes whenever it does) end with the same watermark, the same answer for every slot at or above it (`view`
    forgets only whether a block was finalized directly or through a descendant), and the same set of reports
    (modulo genesis, see `genesis_report_depends_on_order`). -/
theorem order_independent {ops1 ops2 : List Op} (hset : ∀ op, op ∈ ops1 ↔ op ∈ ops2) (sf : Safe ops1)
    {t1 t2 : Tracker} {evs1 evs2 : List Event}
    (h1 : run init ops1 = some (t1, evs1)) (h2 : run init ops2 = some (t2, evs2)) :
    t1.first = t2.first ∧ t1.highest = t2.highest ∧
    (∀ s, t1.first ≤ s → view (t1.status s) = view (t2.status s)) ∧
    (∀ b, 1 ≤ b.1 → (b ∈ repF evs1 ↔ b ∈ repF evs2)) ∧
    (∀ s, s ∈ repS evs1 ↔ s ∈ repS evs2) := by
  -- both runs keep the invariant for the history `ops1`: it reads the history through membership only
  have hs' : Sub ops2 ops1 := fun o h => (hset o).mpr h
  have ri1 := runInv_of_run sf h1
  have ri2 := (runInv_of_run (sf.sub hs') h2).of_sub hs' (fun o h => (hset o).mp h)
  have hf := Nat.le_antisymm (ri1.first_le sf ri2) (ri2.first_le sf ri1)
  exact ⟨hf, Nat.le_antisymm (ri1.highest_le sf ri2) (ri2.highest_le sf ri1),
    fun s a => view_eq sf ri1.rel ri2.rel s a (hf ▸ a),
    fun b hb => (ri1.final_iff sf b (Or.inl hb)).trans (ri2.final_iff sf b (Or.inl hb)).symm,
    fun s => (ri1.skip_iff sf s).trans (ri2.skip_iff sf s).symm⟩

/-- Two orders of the same inputs both run to the end (corollary of `safe_run_no_panic`). -/
theorem order_independent_runs {ops1 ops2 : List Op} (hset : ∀ op, op ∈ ops1 ↔ op ∈ ops2) (sf : Safe ops1) :
    (∃ t evs, run init ops1 = some (t, evs)) ∧ (∃ t evs, run init ops2 = some (t, evs)) :=
  ⟨safe_run_no_panic sf, safe_run_no_panic (sf.sub (fun o h => (hset o).mpr h))⟩

/-! #### the safety premise is needed, and satisfiable -/

/-- Non-vacuity: the out-of-order history of the first example below is safe (kernel-evaluated through the
    `Decidable (Safe _)` instance) … -/
example : Safe [.fastFinal (5, 3), .final 1, .parent (5, 3) (2, 2), .parent (1, 1) (0, 0), .parent (2, 2) (1, 1)] := by
  decide

/-- … and so is one that uses every kind of input, finalization before notarization, a duplicate, a side block
    `(2,9)` notarized in a skipped slot, and inputs for slots that are already pruned when they arrive. -/
def sampleHistory : List Op :=
  [.final 3, .notar (1, 1), .notar (3, 3), .parent (3, 3) (1, 1), .notar (2, 9), .final 1, .parent (1, 1) (0, 0),
   .fastFinal (3, 3), .parent (2, 9) (1, 1), .fastFinal (4, 4), .parent (4, 4) (3, 3), .notar (1, 1)]

example : Safe sampleHistory := by decide +kernel

example : (run init sampleHistory).map (fun r => (r.1.first, r.1.highest, repF r.2, repS r.2)) =
    some (4, 4, [(3, 3), (1, 1), (4, 4)], [2]) := by decide

/-- Without the premise "no finalized block strictly between a finalized block and its parent" the reports are
    *not* the closure although nothing panics: `(1,1)`, `(2,2)` are fast-finalized (watermark 2), then `(3,3)` with
    parent `(1,1)`.  The closure demands slot 2 skipped (and finalized): the tracker reports no skip. -/
theorem unsafe_history_not_exact :
    let ops : List Op := [.fastFinal (1, 1), .fastFinal (2, 2), .parent (3, 3) (1, 1), .fastFinal (3, 3)]
    ¬ Safe ops ∧ Skip ops 2 ∧ (run init ops).map (fun r => repS r.2) = some [] := by
  refine ⟨by decide, ?_, by decide⟩
  exact ⟨(3, 3), (1, 1), .direct (Or.inl (by decide)), by decide, by decide, by decide⟩

/-- Without "one finalized block per slot" the tracker panics ("consensus safety violation"); for the other
    uniqueness premises see `unsafe_histories_still_panic`. -/
theorem unsafe_history_panics :
    ¬ Safe [.fastFinal (1, 1), .fastFinal (1, 2)] ∧ run init [.fastFinal (1, 1), .fastFinal (1, 2)] = none := by
  constructor <;> decide

/-- The assertions that remain after the D27 repair are the ones safety implies; each is still reachable by an unsafe
    history (none of these histories is `Safe`, each run panics):
    two notarization certificates in one slot; a fast-finalization next to a different notarized block (both
    orders); a notarization certificate completing a *direct* finalization of a sibling of an implicitly finalized
    block (`Finalized` first, then the walk); a fast-finalization of a different block than the implicitly finalized
    one; a finalization certificate for an implicitly skipped slot. -/
theorem unsafe_histories_still_panic :
    (¬ Safe [.notar (1, 1), .notar (1, 2)] ∧ run init [.notar (1, 1), .notar (1, 2)] = none) ∧
    (¬ Safe [.notar (1, 1), .fastFinal (1, 2)] ∧ run init [.notar (1, 1), .fastFinal (1, 2)] = none) ∧
    (¬ Safe [.fastFinal (1, 1), .notar (1, 2)] ∧ run init [.fastFinal (1, 1), .notar (1, 2)] = none) ∧
    (¬ Safe [.final 2, .notar (2, 5), .parent (3, 3) (2, 2), .fastFinal (3, 3)] ∧
      run init [.final 2, .notar (2, 5), .parent (3, 3) (2, 2), .fastFinal (3, 3)] = none) ∧
    (¬ Safe [.parent (3, 3) (2, 2), .fastFinal (3, 3), .fastFinal (2, 5)] ∧
      run init [.parent (3, 3) (2, 2), .fastFinal (3, 3), .fastFinal (2, 5)] = none) ∧
    (¬ Safe [.parent (4, 4) (2, 2), .fastFinal (4, 4), .final 3] ∧
      run init [.parent (4, 4) (2, 2), .fastFinal (4, 4), .final 3] = none) := by
  decide +kernel

/-- What the repaired tracker can no longer notice (it would need one more status): slot 2 holds a finalization
    certificate (`FinalPendingNotar`), `(2,2)` becomes implicitly finalized — the status forgets the certificate —
    and then the notarization certificate of the sibling `(2,5)` arrives, which makes `(2,5)` *directly* finalized:
    a genuine safety violation (`¬ Safe`).  Before the D27 fix the code panicked here; the repaired code ignores the
    certificate (and reports nothing for `(2,5)`).  Likewise when the sibling's notarization came first, was
    replaced by `ImplicitlyFinalized(2)`, and the finalization certificate of the slot arrives last (second history).
    In the arrival orders in which the direct finalization of `(2,5)` completes *before* the ancestor walk reaches
    slot 2 the violation is still caught (`unsafe_histories_still_panic`, fourth history). -/
theorem unsafe_history_undetected_after_d27 :
    let ops : List Op := [.final 2, .parent (3, 3) (2, 2), .fastFinal (3, 3), .notar (2, 5)]
    let ops' : List Op := [.notar (2, 5), .parent (3, 3) (2, 2), .fastFinal (3, 3), .final 2]
    ¬ Safe ops ∧ Direct ops (2, 5) ∧ Final ops (2, 2) ∧
    (run init ops).map (fun r => (r.1.status 2, repF r.2)) = some (some (.implFinalized 2), [(3, 3), (2, 2)]) ∧
    ¬ Safe ops' ∧
    (run init ops').map (fun r => (r.1.status 2, repF r.2)) = some (some (.implFinalized 2), [(3, 3), (2, 2)]) := by
  refine ⟨by decide, by decide, ?_, by decide, by decide, by decide⟩
  exact .step (c := (3, 3)) (.direct (Or.inl (by decide))) (by decide)

/-- Genesis is the one report that depends on the order of arrival: if the link `(1,1) → genesis` is known before
    `(1,1)` is finalized, genesis is reported as implicitly finalized; if it arrives afterwards the watermark has
    already left slot 0 and the walk stops silently.  Both histories are safe; all other reports agree. -/
theorem genesis_report_depends_on_order :
    (run init [.parent (1, 1) (0, 0), .fastFinal (1, 1)]).map (fun r => repF r.2) = some [(1, 1), (0, 0)] ∧
    (run init [.fastFinal (1, 1), .parent (1, 1) (0, 0)]).map (fun r => repF r.2) = some [(1, 1)] ∧
    Safe [.parent (1, 1) (0, 0), .fastFinal (1, 1)] := by
  decide

/-! ### non-vacuity: concrete runs (evaluated by the kernel) -/

def events (ops : List Op) : Option (List Event) := (run init ops).map (·.2)
def summary (ops : List Op) : Option (Nat × Nat) := (run init ops).map (fun r => (r.1.highest, r.1.first))

/-- final-before-notar, children-before-parents, a gap that closes later: block (5,3) is fast-finalized first,
    the finalization certificate of slot 1 arrives without its notarization, then the chain 5 → 2 → 1 → genesis
    becomes known out of order; slots 3, 4 are implicitly skipped, (1,1) is finalized through its child although
    its notarization certificate never arrives, and the watermark jumps from 0 to 5 in the last step. -/
example : events [.fastFinal (5, 3), .final 1, .parent (5, 3) (2, 2), .parent (1, 1) (0, 0), .parent (2, 2) (1, 1)] =
    some [⟨some (5, 3), [], []⟩, {}, ⟨none, [(2, 2)], [3, 4]⟩, {}, ⟨none, [(1, 1), (0, 0)], []⟩] := by
  decide

example : summary [.fastFinal (5, 3), .final 1, .parent (5, 3) (2, 2), .parent (1, 1) (0, 0)] = some (5, 0) ∧
    summary [.fastFinal (5, 3), .final 1, .parent (5, 3) (2, 2), .parent (1, 1) (0, 0), .parent (2, 2) (1, 1)] =
      some (5, 5) := by decide

/-- a conflicting fast-finalization is a "consensus safety violation" panic -/
example : events [.notar (1, 1), .fastFinal (1, 2)] = none := by decide

/-! ### D14, D27: the code before the `fix:` commits -/

/-- one operation of the code before the D14 and D27 fixes (the `…Old` functions at the end of `Model/Finality.lean`) -/
def stepOld (t : Tracker) : Op → Res
  | .parent b p => addParentOld t b p
  | .fastFinal b => markFastFinalizedOld t b
  | .notar b => markNotarizedOld t b
  | .final s => markFinalizedOld t s

def runOld (t : Tracker) : List Op → Option (Tracker × List Event)
  | [] => some (t, [])
  | op :: rest =>
    match stepOld t op with
    | .panic => none
    | .ok t1 ev =>
      match runOld t1 rest with
      | some (t2, evs) => some (t2, ev :: evs)
      | none => none

/-- Old code: fast-final, final, notar certificates of one slot (a benign order) report block (1,7) finalized
    twice; the repaired code reports it once. -/
theorem d14_old_reports_twice :
    (runOld init [.fastFinal (1, 7), .final 1, .notar (1, 7)]).map (·.2) =
      some [⟨some (1, 7), [], []⟩, {}, ⟨some (1, 7), [], []⟩] ∧
    events [.fastFinal (1, 7), .final 1, .notar (1, 7)] = some [⟨some (1, 7), [], []⟩, {}, {}] := by
  decide

/-- Old code: after notar + fast-final of (2,5), a late final certificate downgrades slot 2 to `FinalPendingNotar`;
    the parent link registered afterwards no longer finalizes the ancestor (1,4) and the watermark stays at 0.
    The repaired code finalizes (1,4) — and genesis, the link 1 → 0 having been delivered first — and moves the
    watermark to 2. -/
theorem d14_old_loses_ancestor :
    (runOld init [.parent (1, 4) (0, 0), .notar (2, 5), .fastFinal (2, 5), .final 2, .parent (2, 5) (1, 4)]).map
        (fun r => (r.2.getLast?, r.1.first)) = some (some {}, 0) ∧
    (run init [.parent (1, 4) (0, 0), .notar (2, 5), .fastFinal (2, 5), .final 2, .parent (2, 5) (1, 4)]).map
        (fun r => (r.2.getLast?, r.1.first)) = some (some ⟨none, [(1, 4), (0, 0)], []⟩, 2) := by
  decide

/-! ### D27: a notarized sibling of an implicitly finalized block

Protocol scenario (no correct node breaks a rule; one equivocating leader with 10 % of the stake): the leader shows
`B' = (4,5)` to 60 % of the stake and `B = (4,4)` to 40 %.  `B'` gets a notarization certificate; `notar(B) = 40 %` makes
safe-to-notar(`B`) hold at the `B'`-voters, their notar-fallback votes give `B` a notar-fallback certificate.  Nobody
can finalize slot 4.  Both blocks are ready parents; the next leader builds `C = (8,9)` on `B`; `C` is finalized by
everybody; `B` becomes implicitly finalized.  The finality tracker of a node holding the notarization certificate
of `B'` receives `mark_notarized(B')`, `add_parent(C, B)`, `mark_fast_finalized(C)` in some order. -/

/-- the sibling's certificate arrives first, … -/
def d27First : List Op := [.notar (4, 5), .parent (8, 9) (4, 4), .fastFinal (8, 9)]
/-- … or after the implicit finalization -/
def d27Late : List Op := [.parent (8, 9) (4, 4), .fastFinal (8, 9), .notar (4, 5)]

/-- Both histories satisfy the safety premise, and would **not** with `Final` for `Direct` in `notar_direct`: the clause
    `∀ b b', NotarH b → Final b' → b.1 = b'.1 → b = b'` fails for `b = (4,5)`, `b' = (4,4)`. -/
theorem d27_histories_safe :
    Safe d27First ∧ Safe d27Late ∧
    NotarH d27First (4, 5) ∧ Final d27First (4, 4) ∧ ¬ Direct d27First (4, 4) := by
  refine ⟨by decide, by decide, by decide, ?_, by decide⟩
  exact .step (c := (8, 9)) (.direct (Or.inl (by decide))) (by decide)

/-- Repaired code: both orders run to the end, report `(8,9)` finalized, `(4,4)` implicitly finalized and slots
    5, 6, 7 implicitly skipped in the event of `mark_fast_finalized`, nothing for `(4,5)`, and end with slot 4
    `ImplicitlyFinalized(4)` (instances of `safe_run_no_panic`, `reports_exact`, `notarized_sibling_exact`). -/
theorem d27_runs_without_panic :
    events d27First = some [{}, {}, ⟨some (8, 9), [(4, 4)], [5, 6, 7]⟩] ∧
    events d27Late = some [{}, ⟨some (8, 9), [(4, 4)], [5, 6, 7]⟩, {}] ∧
    (run init d27First).map (fun r => (r.1.status 4, r.1.highest, r.1.first)) = some (some (.implFinalized 4), 8, 0) ∧
    (run init d27Late).map (fun r => (r.1.status 4, r.1.highest, r.1.first)) = some (some (.implFinalized 4), 8, 0) := by
  decide

/-- Old code: both orders end in a `"consensus safety violation"` panic — the first in
    `handle_implicitly_finalized` (called from `mark_fast_finalized`), the second in `mark_notarized`. -/
theorem d27_old_panics :
    runOld init d27First = none ∧ (runOld init (d27First.take 2)).isSome = true ∧
    runOld init d27Late = none ∧ (runOld init (d27Late.take 2)).isSome = true := by
  decide

end AgModel.Finality
