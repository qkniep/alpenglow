import AgModel.Proofs.ParentReadyRun
import AgModel.Proofs.PoolWiring
import AgModel.Proofs.PoolNoPanic
/-!
# C07 — parent-ready (property theorems)

Model: `AgModel.ParentReady` (= `parent_ready_tracker.rs` + `parent_ready_state.rs`); tied to the real code by the
correspondence run of `harness/src/bin/c07.rs` (direct tracker ops, all orders of small mark sets, and certificates through
a real `PoolImpl` against `AgModel.PoolTrack`, the two trackers with the pool's pruning).  The pool theorems of the third
part are about the full pool model `AgModel.Pool` instead.

**Main statement (theorems of the second part of this file, over whole runs).**  Runs are lists of `Op`
(`nf`, `skip`, `fin` = `handle_finalization`, `prune`, `wait`) from `init`; `hist ops` is the ghost history of the marks
the tracker *accepted* (a mark below the root at the time of the call is ignored by the code and not recorded).
Premise `SafeRun ops` (decidable on the op list): prune roots are monotone and a slot used as prune root is never —
before or after — accepted as a skip mark, unless it is the first slot of a window
(`safeRun_of_roots_never_skipped`: the plain syntactic form implies it).  Under `SafeRun`, for every run:

* `ready_iff` — for every window start `s ≥ root` and block `b`:
  `b ∈ parentsReady t s ↔ b.1 < s ∧ b ∈ (hist ops).nf ∧ ∀ u, b.1 < u < s → u ∈ (hist ops).sk`
  (+ `ready_only_for_live_window_starts`, `order_independent`, `order_independent_perm`);
* `run_never_panics` — no operation hits `add_to_ready`'s `assert!` (and the forward loops end by `break`, not by
  fuel: `fwd_exact`); `run_ok_of_single_waits` — no panic at all when each slot is waited for at most once;
* `announced_once` — the concatenation of all announcement lists of the run has no duplicate;
  `announce_exact_on_certificate_paths` — `mark_notar_fallback` / `mark_skipped` announce exactly the pairs that
  enter a ready list in that step (`handle_finalization` announces one highest-slot pair of its batch, by design);
* `waiter_woken_by_first_ready`, `waiter_means_not_ready` — a waiter is woken exactly by the first parent that becomes
  ready for its slot.

The premise is necessary: `ready_iff_fails_if_skipped_slot_becomes_root`, `ready_iff_fails_if_root_is_skipped_later`,
`panic_if_prune_roots_decrease`, `ready_iff_fails_if_prune_roots_decrease` (`decide`d runs, replayed on the real
tracker by the harness shape `pr-witness`); non-vacuity: `demoRun`.

The first part has one-step lemmas that hold for arbitrary tracker states (no premise).
The third part (`namespace AgModel.Pool`) is the tracker inside `PoolImpl`; it is introduced there.
-/
namespace AgModel.ParentReady

/-- Announcements ⊆ query, certificate path (`mark_notar_fallback`). -/
theorem announce_subset_query_nf {t : Tracker} {id : Nat × Nat} {t' : Tracker}
    {ann : List (Nat × (Nat × Nat))} {w : List Wake} (h : markNotarFallback t id = some (t', ann, w)) :
    ∀ a ∈ ann, isWindowStart a.1 = true ∧ a.2 ∈ parentsReady t' a.1 := (markNotarFallback_ok h).2

/-- Announcements ⊆ query, certificate path (`mark_skipped`). -/
theorem announce_subset_query_skip {t : Tracker} {ms : Nat} {t' : Tracker}
    {ann : List (Nat × (Nat × Nat))} {w : List Wake} (h : markSkipped t ms = some (t', ann, w)) :
    ∀ a ∈ ann, isWindowStart a.1 = true ∧ a.2 ∈ parentsReady t' a.1 := (markSkipped_ok h).2

/-- Announcements ⊆ query, finalization path (`handle_finalization`). -/
theorem announce_subset_query_finalization {t : Tracker} {ev : Finality.Event} {t' : Tracker}
    {ann : List (Nat × (Nat × Nat))} {w : List Wake} (h : handleFinalization t ev = some (t', ann, w)) :
    ∀ a ∈ ann, isWindowStart a.1 = true ∧ a.2 ∈ parentsReady t' a.1 := (handleFinalization_ok h).2

/-- A finalization batch announces at most one pair, and it is one with the highest slot of the batch
    ("keep only highest slot ParentReady"). -/
theorem finalization_announces_highest (l : List (Nat × (Nat × Nat))) :
    (lastMax l).toList.length ≤ 1 ∧ (l ≠ [] → ∃ x, lastMax l = some x ∧ x ∈ l ∧ ∀ y ∈ l, y.1 ≤ x.1) := by
  constructor
  · cases lastMax l <;> simp
  · intro hne
    cases hl : lastMax l with
    | none => exact absurd (lastMax_none hl) hne
    | some x => exact ⟨x, rfl, lastMax_spec hl⟩

/-- Skip marks, notar-fallback marks and ready parents are never lost by any operation other than `prune`
    (so a pair that was ready stays answered by the query: order of arrival cannot retract an answer). -/
theorem marks_never_lost_nf {t : Tracker} {id : Nat × Nat} {t' : Tracker}
    {ann : List (Nat × (Nat × Nat))} {w : List Wake} (h : markNotarFallback t id = some (t', ann, w)) :
    Grow t t' := (markNotarFallback_ok h).1

theorem marks_never_lost_skip {t : Tracker} {ms : Nat} {t' : Tracker}
    {ann : List (Nat × (Nat × Nat))} {w : List Wake} (h : markSkipped t ms = some (t', ann, w)) :
    Grow t t' := (markSkipped_ok h).1

theorem marks_never_lost_finalization {t : Tracker} {ev : Finality.Event} {t' : Tracker}
    {ann : List (Nat × (Nat × Nat))} {w : List Wake} (h : handleFinalization t ev = some (t', ann, w)) :
    Grow t t' := (handleFinalization_ok h).1

/-- "each (s, b) pair at most once" on the state: no operation that returns (does not hit the `assert!`) leaves a
    duplicate in a ready list. -/
theorem ready_lists_stay_duplicate_free {t t' : Tracker} (g : Grow t t')
    (h : ∀ s, (get t s).ready.Nodup) : ∀ s, (get t' s).ready.Nodup := fun s => g.nodup s (h s)

/-- Ready parents exist only for first slots of leader windows. -/
theorem ready_only_at_window_starts {t t' : Tracker} (g : Grow t t')
    (h : ∀ s, isWindowStart s = false → (get t s).ready = []) :
    ∀ s, isWindowStart s = false → parentsReady t' s = [] := by
  intro s hs
  rw [parentsReady_eq_get, g.nonstart s hs]; exact h s hs

theorem init_ready_empty : ∀ s, (get init s).ready = [] := by
  intro s
  simp only [get, init]
  split <;> rfl

/-- "a waiter registered for s is woken with a ready parent": when the first parent becomes ready for a slot with a
    registered waiter, exactly that parent is sent to the waiter, the waiter is deregistered and the parent is the
    slot's ready list. -/
theorem waiter_woken_with_ready_parent {t : Tracker} {s : Nat} {id : Nat × Nat} {t' : Tracker} {w : List Wake}
    (h : addToReady t s id = some (t', w)) (hw : (get t s).waiter = true) (hr : (get t s).ready = []) :
    w = [(s, id)] ∧ (get t' s).waiter = false ∧ (get t' s).ready = [id] := by
  rw [addToReady_eq (by rw [hr]; exact List.not_mem_nil)] at h
  cases h
  rw [get_put_same]
  simp [wakesOf, addSt, hr, hw]

/-- `wait_for_parent_ready` answers immediately exactly when a parent is ready, with a member of the ready list ... -/
theorem wait_ready_is_member {t : Tracker} {s : Nat} {t' : Tracker} {b : Nat × Nat}
    (h : waitForParentReady t s = .ready t' b) : b ∈ parentsReady t s := by
  rcases waitForParentReady_cases t s with ⟨b', rest, hs, e⟩ | ⟨_, e⟩ | ⟨_, e⟩ <;> rw [e] at h <;> cases h
  rw [parentsReady_eq_get, ← (sortBlocks_perm _).mem_iff, hs]
  exact List.mem_cons_self

/-- ... and registers a waiter only when none is ready. -/
theorem wait_registers_only_if_not_ready {t : Tracker} {s : Nat} {t' : Tracker}
    (h : waitForParentReady t s = .waiting t') : parentsReady t s = [] ∧ (get t' s).waiter = true := by
  rcases waitForParentReady_cases t s with ⟨_, _, _, e⟩ | ⟨_, e⟩ | ⟨hnil, e⟩ <;> rw [e] at h <;> cases h
  exact ⟨(parentsReady_eq_get t s).trans hnil, by rw [get_put_same]⟩

/-- Marks for pruned (decided) slots are ignored: nothing is re-created, nothing is announced again. -/
theorem below_root_ignored_nf (t : Tracker) (id : Nat × Nat) (h : id.1 < t.root) :
    markNotarFallback t id = some (t, [], []) := by
  unfold markNotarFallback; simp [h]

theorem below_root_ignored_skip (t : Tracker) (ms : Nat) (h : ms < t.root) :
    markSkipped t ms = some (t, [], []) := by
  unfold markSkipped; simp [h]

/-- "discarding decided slots never causes a pair to be lost": `prune` changes no answer at or above the new root,
    and retains nothing below it. -/
theorem prune_loses_nothing (t : Tracker) (r s : Nat) :
    (r ≤ s → parentsReady (prune t r) s = parentsReady t s ∧ get (prune t r) s = get t s) ∧
    (s < r → (prune t r).states s = none) := by
  constructor
  · intro h
    have : ¬ s < r := by omega
    simp [parentsReady, prune, get, this]
  · intro h; simp [prune, h]

def announcedBy (ops : List (Tracker → Res)) : Option (List (List (Nat × (Nat × Nat)))) :=
  (ops.foldl (fun acc op => acc.bind (fun (t, l) => (op t).map (fun r => (r.1, l ++ [r.2.1])))) (some (init, []))).map (·.2)

/-- out-of-order skips (the repository's `out_of_order_skips` test): skip 3, skip 2, notar-fallback (1,7), skip 1 -/
example : announcedBy [(markSkipped · 3), (markSkipped · 2), (markNotarFallback · (1, 7)), (markSkipped · 1)] =
    some [[], [], [(4, (1, 7))], [(4, (0, 0))]] := by decide

/-- two fully skipped windows: one mark announces the parent for both window starts; re-delivery announces nothing -/
example : announcedBy [(markSkipped · 7), (markSkipped · 6), (markSkipped · 5), (markSkipped · 4), (markSkipped · 3),
      (markSkipped · 2), (markNotarFallback · (1, 7)), (markNotarFallback · (1, 7)), (markSkipped · 4)] =
    some [[], [], [], [], [], [], [(4, (1, 7)), (8, (1, 7))], [], []] := by decide +kernel

/-- a finalization batch keeps only its highest pair -/
example : announcedBy [(markSkipped · 4), (markSkipped · 5), (markSkipped · 6), (markSkipped · 7),
      (handleFinalization · ⟨some (3, 9), [(2, 8)], []⟩)] = some [[], [], [], [], [(8, (3, 9))]] := by decide

/-! ## Whole runs: exactness (`ready_iff`), panic-freedom, announcements at most once

The operations `Op`, `run`, the ghost history `hist`, the premise `SafeRun` and the induction over a run
(`reach_inv`, invariant `RInv`) are in `Proofs/ParentReadyRun.lean`. -/

theorem reach (ops : List Op) (hs : SafeRun ops) :
    (∃ st, run ops = .ok st ∧ RInv ops st) ∨ (run ops = .error .waiterAssert ∧ ¬ (waitSlots ops).Nodup) :=
  reach_inv ops hs

theorem rinv_of_run {ops : List Op} {st : RunState} (hs : SafeRun ops) (hrun : run ops = .ok st) : RInv ops st := by
  rcases reach ops hs with ⟨st', hrun', ri⟩ | ⟨herr, _⟩
  · rw [hrun] at hrun'; cases hrun'; exact ri
  · rw [hrun] at herr; cases herr

/-- **`ready_iff` (exactness).**  In every state reached by a run that respects the premise on pruning, for every first
    slot `s` of a leader window at or above the root and every block `b = (ps, h)`:
    `b` is answered by `parents_ready(s)` **iff** `ps < s`, `b` was accepted as notar-fallback / finalized mark (genesis
    counts) and every slot strictly between `ps` and `s` was accepted as skip mark — whatever the order of arrival,
    however marks, finalization events, waits and prunes are interleaved. -/
theorem ready_iff {ops : List Op} {st : RunState} (hs : SafeRun ops) (hrun : run ops = .ok st)
    {s : Nat} (hroot : (hist ops).root ≤ s) (hws : isWindowStart s = true) (b : Nat × Nat) :
    b ∈ parentsReady st.t s ↔ b.1 < s ∧ b ∈ (hist ops).nf ∧ ∀ u, b.1 < u → u < s → u ∈ (hist ops).sk := by
  rw [parentsReady_eq_get, (rinv_of_run hs hrun).inv.ready s b hroot]
  exact ⟨fun h => h.2, fun h => ⟨hws, h⟩⟩

/-- … and slots that are not the first of a window, and pruned slots, have no ready parents. -/
theorem ready_only_for_live_window_starts {ops : List Op} {st : RunState} (hs : SafeRun ops) (hrun : run ops = .ok st)
    {s : Nat} (h : isWindowStart s = false ∨ s < (hist ops).root) : parentsReady st.t s = [] := by
  have ri := rinv_of_run hs hrun
  rw [parentsReady_eq_get]
  by_cases hr : s < (hist ops).root
  · exact ri.inv.low s hr
  · have hws := h.resolve_right hr
    apply List.eq_nil_iff_forall_not_mem.mpr
    intro p hp
    have := ((ri.inv.ready s p (by omega)).mp hp).1
    rw [hws] at this; cases this

/-- the tracker's root is the last prune root -/
theorem run_root {ops : List Op} {st : RunState} (hs : SafeRun ops) (hrun : run ops = .ok st) :
    st.t.root = (hist ops).root :=
  (rinv_of_run hs hrun).inv.root

/-- **No panic in `add_to_ready`**: no operation of any run that respects the premise hits
    `assert!(!ready_ids.contains(&id))` (nor runs a forward loop out of fuel: `fwd_exact` shows the loops end by
    `break`). -/
theorem run_never_panics {ops : List Op} (hs : SafeRun ops) : run ops ≠ .error .readyAssert := by
  rcases reach ops hs with ⟨st', hrun', _⟩ | ⟨herr, _⟩
  · rw [hrun']; intro h; cases h
  · rw [herr]; intro h; cases h

/-- … and when `wait_for_parent_ready` is called at most once per slot (the block producer waits once per window) no
    operation panics at all. -/
theorem run_ok_of_single_waits {ops : List Op} (hs : SafeRun ops) (hw : (waitSlots ops).Nodup) :
    ∃ st, run ops = .ok st := by
  rcases reach ops hs with ⟨st', hrun', _⟩ | ⟨_, hnd⟩
  · exact ⟨st', hrun'⟩
  · exact absurd hw hnd

/-- **Each `(s, b)` pair is announced at most once over a whole run**: the concatenation of the announcement lists of
    all operations (certificate paths and finalization batches; pruning in between) has no duplicate. -/
theorem announced_once {ops : List Op} {st : RunState} (hs : SafeRun ops) (hrun : run ops = .ok st) : st.ann.Nodup :=
  (rinv_of_run hs hrun).annNodup

/-- … and an announced pair stays answered by the query until its slot is pruned. -/
theorem announced_stays_ready {ops : List Op} {st : RunState} (hs : SafeRun ops) (hrun : run ops = .ok st)
    {s : Nat} {b : Nat × Nat} (ha : (s, b) ∈ st.ann) (hroot : (hist ops).root ≤ s) : b ∈ parentsReady st.t s := by
  rw [parentsReady_eq_get]; exact (rinv_of_run hs hrun).annReady s b ha hroot

theorem mark_step {ops : List Op} {st : RunState} {op : Op} (hs : SafeRun (ops ++ [op])) (hrun : run ops = .ok st)
    (hop : (∃ b, op = .nf b) ∨ (∃ s, op = .skip s) ∨ (∃ ev, op = .fin ev)) :
    ∃ t' ann w, applyOp st.t op = .ok (t', ann, w) ∧ Step st.t t' ann w ∧
      ((∀ ev, op ≠ .fin ev) → AnnAll st.t t' ann) := by
  have ri := rinv_of_run hs.prefix hrun
  have hok := hs.rootOK
  rw [hist_snoc] at hok
  rcases hop with ⟨b, rfl⟩ | ⟨ms, rfl⟩ | ⟨ev, rfl⟩
  · obtain ⟨t', a, w, e, _, stp, hex⟩ := nf_step ri.inv b
    exact ⟨t', a, w, by simp only [applyOp, e], stp, fun _ => hex⟩
  · obtain ⟨t', a, w, e, _, stp, hex⟩ := skip_step ri.inv ms hok
    exact ⟨t', a, w, by simp only [applyOp, e], stp, fun _ => hex⟩
  · obtain ⟨t', a, w, e, _, stp⟩ := fin_step ri.inv ev hok
    exact ⟨t', a, w, by simp only [applyOp, e], stp, fun h => absurd rfl (h ev)⟩

/-- **Announcements are complete on the certificate paths**: after any run, `mark_notar_fallback` / `mark_skipped`
    announce *exactly* the pairs that enter a ready list in that very step.  (`handle_finalization` deliberately
    announces only one highest-slot pair of its batch — `finalization_announces_highest` — so there only `⊆` holds:
    `announce_subset_query_finalization`.) -/
theorem announce_exact_on_certificate_paths {ops : List Op} {st : RunState} {op : Op}
    (hs : SafeRun (ops ++ [op])) (hrun : run ops = .ok st) (hop : (∃ b, op = .nf b) ∨ (∃ s, op = .skip s)) :
    ∃ t' ann w, applyOp st.t op = .ok (t', ann, w) ∧
      ∀ s p, (s, p) ∈ ann ↔ p ∈ parentsReady t' s ∧ p ∉ parentsReady st.t s := by
  obtain ⟨t', a, w, e, stp, hex⟩ := mark_step hs hrun (hop.elim Or.inl (fun h => Or.inr (Or.inl h)))
  refine ⟨t', a, w, e, fun s p => ?_⟩
  rw [parentsReady_eq_get, parentsReady_eq_get]
  refine ⟨fun h => (stp.annNew s p h).2, fun h => hex ?_ s p h.1 h.2⟩
  rintro ev rfl
  rcases hop with ⟨_, h⟩ | ⟨_, h⟩ <;> cases h

/-- A registered waiter means that no parent is ready for its slot yet. -/
theorem waiter_means_not_ready {ops : List Op} {st : RunState} (hs : SafeRun ops) (hrun : run ops = .ok st)
    {s : Nat} (hw : (get st.t s).waiter = true) : parentsReady st.t s = [] := by
  rw [parentsReady_eq_get]; exact (rinv_of_run hs hrun).inv.waiter s hw

/-- **A waiter registered for `s` is woken exactly by the first parent that becomes ready for `s`**: after any run, a mark
    operation (certificate or finalization batch) sends `b` to the waiter of `s` iff a waiter is registered for `s` and
    `b` is the first entry of the ready list of `s` afterwards (the list was empty before: `waiter_means_not_ready`);
    the waiter stays registered exactly when the list is still empty. -/
theorem waiter_woken_by_first_ready {ops : List Op} {st : RunState} {op : Op}
    (hs : SafeRun (ops ++ [op])) (hrun : run ops = .ok st)
    (hop : (∃ b, op = .nf b) ∨ (∃ s, op = .skip s) ∨ (∃ ev, op = .fin ev)) :
    ∃ t' ann w, applyOp st.t op = .ok (t', ann, w) ∧
      (∀ s b, (s, b) ∈ w ↔ (get st.t s).waiter = true ∧ (parentsReady t' s).head? = some b) ∧
      (∀ s, (get t' s).waiter = true ↔ (get st.t s).waiter = true ∧ parentsReady t' s = []) := by
  obtain ⟨t', a, w, e, stp, _⟩ := mark_step hs hrun hop
  exact ⟨t', a, w, e, fun s p => by rw [parentsReady_eq_get]; exact stp.wake s p,
    fun s => by rw [parentsReady_eq_get]; exact stp.waiter s⟩

/-- The premise in its plain syntactic form implies `SafeRun`: the prune roots are monotone and no slot that is ever
    used as a prune root is ever submitted as a skip mark (directly or by a finalization event), before or after. -/
theorem safeRun_of_roots_never_skipped {ops : List Op} (hmono : (pruneArgs ops).Pairwise (· ≤ ·))
    (hns : ∀ r ∈ pruneArgs ops, r ∉ skipArgs ops) : SafeRun ops :=
  ⟨(hist_prunes ops).2.2 hmono, fun r hr => Or.inr (fun hm => hns r (((hist_prunes ops).1 r).mp hr) (hist_sk_sub ops r hm))⟩

/-- without pruning every mark is accepted (the root stays 0): the history is the set of submitted marks (plus
    genesis) -/
theorem hist_of_no_prune (ops : List Op) (hp : pruneArgs ops = []) :
    (hist ops).root = 0 ∧ (∀ b, b ∈ (hist ops).nf ↔ b = (0, 0) ∨ b ∈ nfArgs ops) ∧
      (∀ u, u ∈ (hist ops).sk ↔ u ∈ skipArgs ops) := by
  induction ops using snoc_induction with
  | nil =>
    exact ⟨rfl, fun b => ⟨fun h => Or.inl (List.mem_singleton.mp h), fun h => h.elim List.mem_singleton.mpr (nomatch ·)⟩,
      fun u => ⟨(nomatch ·), (nomatch ·)⟩⟩
  | snoc ops op ih =>
    rw [pruneArgs_append, List.append_eq_nil_iff] at hp
    obtain ⟨i1, i4, i5⟩ := ih hp.1
    obtain ⟨mF, mS⟩ := Hist.step_mem (hist ops) op
    rw [hist_snoc, nfArgs_append, skipArgs_append]
    refine ⟨(step_keeps _ (fun r e => by subst e; cases hp.2)).1.trans i1, fun b => ?_, fun u => ?_⟩
    · rw [mF, i1, and_iff_left (Nat.zero_le _), i4, List.mem_append, or_assoc]
    · rw [mS, i1, and_iff_left (Nat.zero_le _), i5, List.mem_append]

theorem safeRun_of_no_prune {ops : List Op} (hp : pruneArgs ops = []) : SafeRun ops :=
  safeRun_of_roots_never_skipped (hp ▸ List.Pairwise.nil) (fun r hr => by rw [hp] at hr; cases hr)

/-- **Order independence** ("whatever order the certificates arrive in"): two runs whose accepted marks are the same
    *sets* answer every query at or above both roots identically. -/
theorem order_independent {ops ops' : List Op} {st st' : RunState} (hs : SafeRun ops) (hs' : SafeRun ops')
    (hrun : run ops = .ok st) (hrun' : run ops' = .ok st')
    (hnf : ∀ b, b ∈ (hist ops).nf ↔ b ∈ (hist ops').nf) (hsk : ∀ u, u ∈ (hist ops).sk ↔ u ∈ (hist ops').sk)
    {s : Nat} (hr : (hist ops).root ≤ s) (hr' : (hist ops').root ≤ s) (hws : isWindowStart s = true) (b : Nat × Nat) :
    b ∈ parentsReady st.t s ↔ b ∈ parentsReady st'.t s := by
  rw [ready_iff hs hrun hr hws, ready_iff hs' hrun' hr' hws, hnf]
  constructor
  · rintro ⟨a, c, d⟩; exact ⟨a, c, fun u x y => (hsk u).mp (d u x y)⟩
  · rintro ⟨a, c, d⟩; exact ⟨a, c, fun u x y => (hsk u).mpr (d u x y)⟩

/-- … in particular any two orders (permutations) of the same marks, finalization events and waits (no pruning in
    between) give the same ready parents for every window start — or one of them ran into a second waiter. -/
theorem order_independent_perm {ops ops' : List Op} {st st' : RunState} (hperm : ops.Perm ops')
    (hp : pruneArgs ops = []) (hrun : run ops = .ok st) (hrun' : run ops' = .ok st')
    {s : Nat} (hws : isWindowStart s = true) (b : Nat × Nat) :
    b ∈ parentsReady st.t s ↔ b ∈ parentsReady st'.t s := by
  have hp' : pruneArgs ops' = [] :=
    List.eq_nil_iff_forall_not_mem.mpr (fun x hx => by
      have hx' : x ∈ pruneArgs ops := (hperm.flatMap_right _).mem_iff.mpr hx
      rw [hp] at hx'; cases hx')
  obtain ⟨r1, n1, k1⟩ := hist_of_no_prune ops hp
  obtain ⟨r2, n2, k2⟩ := hist_of_no_prune ops' hp'
  refine order_independent (safeRun_of_no_prune hp) (safeRun_of_no_prune hp') hrun hrun' (fun x => ?_) (fun x => ?_)
    (by omega) (by omega) hws b
  · rw [n1, n2]; exact or_congr_right (hperm.flatMap_right _).mem_iff
  · rw [k1, k2]; exact (hperm.flatMap_right _).mem_iff

def outcome (ops : List Op) : Option Panic := match run ops with | .ok _ => none | .error e => some e
def queryOf (ops : List Op) (s : Nat) : Option (List (Nat × Nat)) :=
  match run ops with | .ok st => some (parentsReady st.t s) | .error _ => none
def annOf (ops : List Op) : Option (List (Nat × (Nat × Nat))) :=
  match run ops with | .ok st => some st.ann | .error _ => none
def wakesOfRun (ops : List Op) : Option (List Wake) :=
  match run ops with | .ok st => some st.wakes | .error _ => none

/-- **The premise is necessary (1a)**: a slot is skip-marked and later used as prune root (slot 2, inside a window).
    The run is fine otherwise (monotone roots, no panic), block (1,7) is connected to window start 4 in the accepted
    history (skips 2, 3), but the backward walk of `mark_skipped(3)` is cut at the root: `parents_ready(4)` is empty. -/
theorem ready_iff_fails_if_skipped_slot_becomes_root :
    let ops : List Op := [.nf (1, 7), .skip 2, .prune 2, .skip 3]
    ¬ SafeRun ops ∧ (hist ops).mono = true ∧ (hist ops).root ≤ 4 ∧
      queryOf ops 4 = some [] ∧ Connected (hist ops) 4 (1, 7) := by decide

/-- **The premise is necessary (1b)**: … and likewise when the prune root is skip-marked *afterwards*. -/
theorem ready_iff_fails_if_root_is_skipped_later :
    let ops : List Op := [.nf (1, 7), .prune 2, .skip 2, .skip 3]
    ¬ SafeRun ops ∧ (hist ops).mono = true ∧ (hist ops).root ≤ 4 ∧
      queryOf ops 4 = some [] ∧ Connected (hist ops) 4 (1, 7) := by decide

/-- **The premise is necessary (2)**: prune roots that go backwards re-open decided slots; a re-delivered mark then hits
    `assert!(!ready_ids.contains(&id))` … -/
theorem panic_if_prune_roots_decrease :
    outcome [.nf (3, 9), .prune 4, .prune 0, .nf (3, 9)] = some .readyAssert := by decide

/-- … and the query is not exact either (the ready list of slot 4 is gone, the history still connects (1,7) to it). -/
theorem ready_iff_fails_if_prune_roots_decrease :
    let ops : List Op := [.nf (1, 7), .skip 2, .skip 3, .prune 8, .prune 0]
    ¬ SafeRun ops ∧ (hist ops).root ≤ 4 ∧ queryOf ops 4 = some [] ∧ Connected (hist ops) 4 (1, 7) := by decide

/-- The exemption of window starts in `SafeRun` is real (so `SafeRun` is strictly weaker than the syntactic premise):
    slot 4 is skip-marked *and* used as prune root; the tracker stays exact — block (3,9) reaches window start 8 through
    the retained ready list of slot 4. -/
example :
    let ops : List Op := [.nf (3, 9), .skip 4, .prune 4, .skip 5, .skip 6, .skip 7]
    SafeRun ops ∧ 4 ∈ pruneArgs ops ∧ 4 ∈ skipArgs ops ∧ queryOf ops 8 = some [(3, 9)] ∧ Connected (hist ops) 8 (3, 9) := by
  decide

/-- **Non-vacuity**: a run over four windows with out-of-order skips, two waiters, a finalization event and two prunes in
    the middle (to slot 5 inside a window, then to slot 9); marks below the root (skip 4, skip 8) are ignored.  The
    premise holds (also in its syntactic form), nothing panics, five pairs are announced (each once), both waiters
    are woken by the first parent of their window. -/
def demoRun : List Op :=
  [.nf (1, 7), .skip 2, .wait 4, .skip 3, .wait 8, .nf (5, 3), .prune 5, .skip 4, .skip 7, .skip 6, .nf (5, 2),
   .fin ⟨some (9, 1), [(8, 6)], []⟩, .skip 11, .skip 10, .wait 12, .prune 9, .skip 8, .nf (9, 4)]

example : SafeRun demoRun ∧ (pruneArgs demoRun).Pairwise (· ≤ ·) ∧ (∀ r ∈ pruneArgs demoRun, r ∉ skipArgs demoRun) ∧
    (waitSlots demoRun).Nodup ∧ outcome demoRun = none ∧
    annOf demoRun = some [(4, (1, 7)), (8, (5, 3)), (8, (5, 2)), (12, (9, 1)), (12, (9, 4))] ∧
    wakesOfRun demoRun = some [(4, (1, 7)), (8, (5, 3))] ∧
    queryOf demoRun 12 = some [(9, 1), (9, 4)] ∧ (hist demoRun).root = 9 ∧
    Connected (hist demoRun) 12 (9, 4) ∧ ¬ Connected (hist demoRun) 12 (8, 6) := by decide +kernel

end AgModel.ParentReady

/-! ## Pool-level wiring (`PoolImpl`): which certificate triggers which mark, pruning only at safe roots

Model: `AgModel.Pool` (`Model/Pool.lean`: `add_vote`, `add_cert`, `add_valid_cert`, `handle_finalization`, `prune`,
`add_block` with both trackers inside).  Helper lemmas: `Proofs/PoolWiring.lean`.

* the **ghost log** `poolLog p ops` of a pool run: the block registrations and the `CertCreated` events (one per
  `add_valid_cert`), in order — observable from the outside;
* `finOps L` : the operations the finality tracker received; `prTrace L` : the operations the parent-ready
  tracker received (`mark_notar_fallback` for notarization / notar-fallback certificates, `mark_skipped` for skip
  certificates, `handle_finalization` with each event of the finality tracker, `prune` to `first_unpruned_slot`);
* **premise** `Consistent L` (decidable): `Finality.Safe (finOps L)` (C08's premise: parents in earlier slots, one
  parent per block, at most one finalized block per slot, …), no skip certificate for the slot of a **directly**
  finalized block (fast-finalization certificate, or finalization + notarization certificate), and the only
  finalized block of slot 0 is genesis (`Finality.Safe` does not imply it, D27) — what consensus safety (C01) gives
  for the certificates a correct node can ever hold: a theorem, `Cluster.cluster_pools_consistent`
  (`Props/C10Cluster.lean`).  (The skip clause does not cover the implicitly finalized ancestors: safety does not give
  that — `Cluster.old_skip_premise_fails_on_valid_run` — and it is not needed: the prune roots are slots of directly
  finalized blocks, `first_direct` / `roots_direct`.)
-/
namespace AgModel.Pool

/-- **The consistency premise implies the premises of both tracker theorems** for the trackers inside the pool:
    `Safe` of C08 for the finality tracker's inputs and `SafeRun` of C07 for the parent-ready tracker's operations
    (the prune roots are the watermarks: monotone, genesis or the slot of a finalized block, never skip-marked). -/
theorem pool_premises {L : List LogItem} (hc : Consistent L) :
    Finality.Safe (finOps L) ∧ ParentReady.SafeRun (prTrace L) :=
  ⟨hc.safe, safeRun_prTrace hc⟩

/-- **Every reachable pool is wired**: after any sequence of votes, certificates and block registrations from the
    empty pool whose log is consistent, the pool's finality tracker is the finality tracker after `finOps L` and its
    parent-ready tracker (with the wake-ups sent so far) is the result of running `prTrace L` from
    `ParentReadyTracker::default()`. -/
theorem pool_wired (e : Epoch) (ops : List PoolOp) (hc : Consistent (poolLog { epoch := e } ops)) :
    Wired (poolRun { epoch := e } ops).1.trk (poolLog { epoch := e } ops) := by
  have := poolRun_wired ops { epoch := e } [] (Wired.init e) (by simpa using hc)
  simpa using this

/-- **`pool_marks_exact`.**  For every pool `p` reachable from the empty pool with a consistent log `L`:
    the finality tracker ran `finOps L` without panic; the parent-ready tracker ran `prTrace L` without panic; its root
    is the pool's `first_unpruned_slot`; the prune roots were monotone; and the marks it *accepted* are exactly:
    * notar-fallback mark `b`: genesis, or a notarization / notar-fallback certificate for `b` was added while `b`'s slot
      was at or above the root (`NfCertAcc`), or the finality tracker reported `b` finalized / implicitly finalized
      (= `b` is in the closure `Final` of the history, C08 `reports_exact`);
    * skip mark `s`: a skip certificate for `s` was added while `s` was at or above the root (`SkCertAcc`), or the
      finality tracker reported `s` implicitly skipped (= `Skip` of the history). -/
theorem pool_marks_exact (e : Epoch) (ops : List PoolOp) (hc : Consistent (poolLog { epoch := e } ops)) :
    ∃ fevs anns,
      Finality.run Finality.init (finOps (poolLog { epoch := e } ops)) = some ((poolRun { epoch := e } ops).1.fin, fevs) ∧
      ParentReady.run (prTrace (poolLog { epoch := e } ops)) =
        .ok ⟨(poolRun { epoch := e } ops).1.pr, anns, (poolRun { epoch := e } ops).1.wakes⟩ ∧
      (poolRun { epoch := e } ops).1.pr.root = (poolRun { epoch := e } ops).1.fin.first ∧
      (ParentReady.hist (prTrace (poolLog { epoch := e } ops))).root = (poolRun { epoch := e } ops).1.fin.first ∧
      (ParentReady.pruneArgs (prTrace (poolLog { epoch := e } ops))).Pairwise (· ≤ ·) ∧
      (∀ b, b ∈ (ParentReady.hist (prTrace (poolLog { epoch := e } ops))).nf ↔
        b = (0, 0) ∨ NfCertAcc (poolLog { epoch := e } ops) b ∨ Finality.Final (finOps (poolLog { epoch := e } ops)) b) ∧
      (∀ s, s ∈ (ParentReady.hist (prTrace (poolLog { epoch := e } ops))).sk ↔
        SkCertAcc (poolLog { epoch := e } ops) s ∨ Finality.Skip (finOps (poolLog { epoch := e } ops)) s) := by
  have w := pool_wired e ops hc
  -- nothing below uses that the pool is reachable, only that it is wired to a consistent log
  generalize poolLog { epoch := e } ops = L at hc w ⊢
  generalize (poolRun { epoch := e } ops).1 = p at w ⊢
  obtain ⟨fevs, hrun, ri, ti⟩ := trace_inv L hc.safe
  obtain ⟨anns, hpr⟩ := w.pr
  rw [w.fin] at hrun ti
  refine ⟨fevs, anns, hrun, hpr, (ParentReady.run_root (safeRun_prTrace hc) hpr).trans ti.root, ti.root, ti.sorted,
    fun b => ?_, fun s => by rw [ti.sk, ri.skip_iff hc.safe]⟩
  rw [ti.nf]
  refine ⟨Or.imp_right (Or.imp_right (ri.soundF b)), ?_⟩
  rintro (a | a | a)
  · exact Or.inl a
  · exact Or.inr (Or.inl a)
  · -- a finalized block is reported, except the one of slot 0: that is genesis, marked from the start
    obtain ⟨s, h⟩ := b
    cases s with
    | zero => exact Or.inl (congrArg (Prod.mk 0) (hc.genesis h a))
    | succ s => exact Or.inr (Or.inr ((ri.final_iff hc.safe (s + 1, h) (Or.inl (Nat.succ_pos s))).mpr a))

/-- **`pool_ready_iff` (exactness of the pool's query).**  For every pool `p` reachable from the empty pool with a
    consistent log `L`, every first slot `w` of a leader window at or above `first_unpruned_slot` and every block `b`:
    `b` is answered by `parents_ready(w)` **iff** `b` is in a slot before `w`, `b` is genesis / has an accepted
    notarization or notar-fallback certificate / is finalized in the history, and every slot strictly between is
    skip-certified (accepted) or implicitly skipped by a finalization — whatever the order of arrival and however
    finalization-driven pruning was interleaved. -/
theorem pool_ready_iff (e : Epoch) (ops : List PoolOp) (hc : Consistent (poolLog { epoch := e } ops))
    {w : Nat} (hw : (poolRun { epoch := e } ops).1.fin.first ≤ w) (hws : ParentReady.isWindowStart w = true)
    (b : Nat × Nat) :
    b ∈ ParentReady.parentsReady (poolRun { epoch := e } ops).1.pr w ↔
      b.1 < w ∧
      (b = (0, 0) ∨ NfCertAcc (poolLog { epoch := e } ops) b ∨ Finality.Final (finOps (poolLog { epoch := e } ops)) b) ∧
      ∀ u, b.1 < u → u < w →
        (SkCertAcc (poolLog { epoch := e } ops) u ∨ Finality.Skip (finOps (poolLog { epoch := e } ops)) u) := by
  obtain ⟨fevs, anns, _, hpr, _, hroot, _, hnf, hsk⟩ := pool_marks_exact e ops hc
  rw [@ParentReady.ready_iff _ ⟨_, anns, _⟩ (safeRun_prTrace hc) hpr w (by rw [hroot]; exact hw) hws b]
  simp only [hnf, hsk]

/-- … in the form without the acceptance qualifier, for blocks at or above the watermark (marks for such slots were
    never refused): certificates *in the log* and the closure of the history. -/
theorem pool_ready_iff_above (e : Epoch) (ops : List PoolOp) (hc : Consistent (poolLog { epoch := e } ops))
    {w : Nat} (hw : (poolRun { epoch := e } ops).1.fin.first ≤ w) (hws : ParentReady.isWindowStart w = true)
    (b : Nat × Nat) (hb : (poolRun { epoch := e } ops).1.fin.first ≤ b.1) :
    b ∈ ParentReady.parentsReady (poolRun { epoch := e } ops).1.pr w ↔
      b.1 < w ∧
      (b = (0, 0) ∨ (∃ c, LogItem.cert c ∈ poolLog { epoch := e } ops ∧ (c.kind = .notar ∨ c.kind = .nf) ∧ (c.slot, c.hash) = b) ∨
        Finality.Final (finOps (poolLog { epoch := e } ops)) b) ∧
      ∀ u, b.1 < u → u < w →
        (SkipCertIn (poolLog { epoch := e } ops) u ∨ Finality.Skip (finOps (poolLog { epoch := e } ops)) u) := by
  have hfs : finState (poolLog { epoch := e } ops) = (poolRun { epoch := e } ops).1.fin := (pool_wired e ops hc).fin
  rw [pool_ready_iff e ops hc hw hws b, nfCertAcc_above (by rw [hfs]; exact hb)]
  refine and_congr_right (fun _ => and_congr_right (fun _ => forall_congr' (fun u => ?_)))
  exact imp_congr_right (fun hu => imp_congr_right (fun _ =>
    or_congr_left (skCertAcc_above (by rw [hfs]; omega))))

/-- **`pool_pr_never_panics`.**  In every pool run with a consistent log the parent-ready tracker never hits
    `assert!(!ready_ids.contains(&id))` (nor any other panic): the sequence `prTrace L` of *all* calls the pool made
    to it (by `pool_wired` the tracker state is the result of exactly these calls) ran to the end, and it satisfies the
    premise `SafeRun` of the tracker theorems, so that all of C07 (`ready_iff`, `announced_once`, …) applies to it. -/
theorem pool_pr_never_panics (e : Epoch) (ops : List PoolOp) (hc : Consistent (poolLog { epoch := e } ops)) :
    ParentReady.SafeRun (prTrace (poolLog { epoch := e } ops)) ∧
    (∀ x, ParentReady.run (prTrace (poolLog { epoch := e } ops)) ≠ .error x) ∧
    ∃ anns, ParentReady.run (prTrace (poolLog { epoch := e } ops)) =
      .ok ⟨(poolRun { epoch := e } ops).1.pr, anns, (poolRun { epoch := e } ops).1.wakes⟩ ∧ anns.Nodup := by
  obtain ⟨anns, hpr⟩ := (pool_wired e ops hc).pr
  refine ⟨safeRun_prTrace hc, fun x hx => (by rw [hpr] at hx; cases hx), anns, hpr, ?_⟩
  exact ParentReady.announced_once (safeRun_prTrace hc) hpr

/-- **`pool_never_panics`.**  A pool run with a consistent log whose votes name validator indices (signature validation)
    emits no `Event.panic` at all: with C06 `pool_panic_only_from_trackers` (every `.panic` comes from the finality tracker,
    the parent-ready tracker, the signer bound of `add_vote` or `add_block`'s assertions) and the two tracker theorems
    (`Wired`, `fin_item_ok`, `pr_item_ok`) every one of these sites is unreachable — in particular `add_block`'s
    `assert!(block_id.0 > parent_id.0)` (`Safe.link_lt` on the logged registration). -/
theorem pool_never_panics (e : Epoch) (ops : List PoolOp) (hc : Consistent (poolLog { epoch := e } ops))
    (hsig : ∀ v, PoolOp.vote v ∈ ops → v.signer < e.n) : Event.panic ∉ (poolRun { epoch := e } ops).2 :=
  poolRun_no_panic_of_wired ops [] { epoch := e } [] (FlagInv.init e) (Wired.init e) hc hsig

/-- **No tracker panic, step by step.**  In a reachable pool with consistent log `L`, for every next log item `it`
    (a certificate passed to `add_valid_cert`, or a block registration) that keeps the log consistent: the finality
    operation it triggers does not panic, and none of the calls it makes to the parent-ready tracker does (the whole
    trace, which ends with exactly these calls, runs to the end).  In the pool these are the only sources of the `panic`
    events of `handle_finalization` / `applyPr` (`handleFin_panic_iff`, `applyPr_panic_iff`). -/
theorem pool_trackers_never_panic (e : Epoch) (ops : List PoolOp) (it : LogItem)
    (hc : Consistent (poolLog { epoch := e } ops ++ [it])) :
    (∀ op ∈ it.finOp, ∃ t ev, Finality.step (poolRun { epoch := e } ops).1.fin op = .ok t ev) ∧
    ∃ st, ParentReady.run (prTrace (poolLog { epoch := e } ops) ++
        (itemStep (poolRun { epoch := e } ops).1.fin it).2) = .ok st ∧
      st.t = ((poolRun { epoch := e } ops).1.trk.item it).pr := by
  have w := pool_wired e ops hc.prefix
  refine ⟨fin_item_ok w it hc, ?_⟩
  obtain ⟨anns, hpr⟩ := (w.item it hc).pr
  rw [prTrace_snoc, w.fin] at hpr
  exact ⟨_, hpr, rfl⟩

def demoEpoch : Epoch := { stakes := [1, 1, 1, 1, 1], own := 0 }
def demoCert (k : CertKind) (s h : Nat) : Cert := ⟨k, s, h, [0, 1, 2, 3], [], 4⟩

/-- **Non-vacuity**: certificates, votes (three skip votes create the skip certificate of slot 3 inside the pool) and
    block registrations over two windows, out of order, with a slow finalization (notarization + finalization
    certificate) that moves the watermark to 1 and a fast finalization that moves it to 5. -/
def demoPoolOps : List PoolOp :=
  [.cert (demoCert .skip 2 0), .cert (demoCert .notar 1 7), .block (1, 7) (0, 0), .vote ⟨.skip, 3, 0, 0⟩,
   .vote ⟨.skip, 3, 0, 1⟩, .vote ⟨.skip, 3, 0, 2⟩, .cert (demoCert .final 1 0), .cert (demoCert .nf 5 3),
   .block (5, 3) (1, 7), .cert (demoCert .skip 6 0), .cert (demoCert .ff 5 3), .cert (demoCert .skip 7 0),
   .cert (demoCert .skip 4 0)]

example : Consistent (poolLog { epoch := demoEpoch } (demoPoolOps.take 8)) ∧
    (poolLog { epoch := demoEpoch } (demoPoolOps.take 8)).length = 6 ∧
    (poolRun { epoch := demoEpoch } (demoPoolOps.take 8)).1.fin.first = 1 ∧
    ParentReady.parentsReady (poolRun { epoch := demoEpoch } (demoPoolOps.take 8)).1.pr 4 = [(1, 7)] := by decide +kernel

example : Consistent (poolLog { epoch := demoEpoch } demoPoolOps) ∧
    (poolRun { epoch := demoEpoch } demoPoolOps).1.fin.first = 5 ∧
    ParentReady.parentsReady (poolRun { epoch := demoEpoch } demoPoolOps).1.pr 8 = [(5, 3)] ∧
    Event.panic ∉ (poolRun { epoch := demoEpoch } demoPoolOps).2 := by decide +kernel

/-- **The premise "no skip certificate for a directly finalized slot" is necessary**: block (2,9) is fast-finalized (watermark
    2, parent-ready root 2) although slot 2 is skip-certified; the finality tracker's own premise `Safe` holds and
    nothing panics.  The skip certificate of slot 3 then walks back only to the root: `parents_ready(4)` lacks (1,7)
    although the accepted marks connect it to slot 4 (`ready_iff` fails for the pool). -/
theorem pool_ready_iff_needs_skip_premise :
    let ops : List PoolOp := [.cert (demoCert .notar 1 7), .block (1, 7) (0, 0), .block (2, 9) (1, 7),
      .cert (demoCert .skip 2 0), .cert (demoCert .ff 2 9), .cert (demoCert .skip 3 0)]
    let L := poolLog { epoch := demoEpoch } ops
    let p := (poolRun { epoch := demoEpoch } ops).1
    ¬ Consistent L ∧ Finality.Safe (finOps L) ∧ Event.panic ∉ (poolRun { epoch := demoEpoch } ops).2 ∧
      p.fin.first = 2 ∧ ParentReady.parentsReady p.pr 4 = [(2, 9)] ∧
      ParentReady.Connected (ParentReady.hist (prTrace L)) 4 (1, 7) := by decide +kernel

/-- **The premise `Safe` on the finality inputs is necessary**: a fast-finalization certificate that contradicts a
    notarization certificate makes the finality tracker panic ("consensus safety violation") inside the pool. -/
theorem pool_unsafe_history_panics :
    let ops : List PoolOp := [.cert (demoCert .notar 1 7), .cert (demoCert .ff 1 8)]
    ¬ Consistent (poolLog { epoch := demoEpoch } ops) ∧ Event.panic ∈ (poolRun { epoch := demoEpoch } ops).2 := by
  decide

end AgModel.Pool
