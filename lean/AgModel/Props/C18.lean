import AgModel.Proofs.PoolGlue
import AgModel.Model.Votor
import AgModel.Proofs.PoolRecover
import AgModel.Proofs.BundleReplay
/-!
# C18 — Standstill recovery re-broadcasts a bundle sufficient to catch up, at any time

`Pool.recover` is the model of `PoolImpl::recover_from_standstill` (`/repo/src/consensus/pool.rs`) as repaired for D13
(no panic at genesis). Statements on the pool model; the replay clause ("a node that starts from an
empty state and receives only this bundle reaches the same highest finalized slot and the same ready
parents") is `bundle_replay_finalized` / `bundle_replay_parents`, and is decided on
the implementation by the harness oracles `bundle-replay-finalized` / `bundle-replay-parents` (`cfg/C18.json`).
-/
namespace AgModel.Pool

/-- **Total.** Triggering recovery is safe in every pool state (also before anything beyond genesis is
    finalized): it yields exactly one `Standstill` event, for the slot after the highest finalized one.
    `Pool.recover` has no failing exit: the assertion the repaired code still makes (`pool.rs`,
    `slot.is_genesis() || !certs.is_empty()`, "no final cert") is left out of the model. That a reachable pool with a
    `Consistent` log holds the certificates of its non-genesis finalized slot, so that the assertion cannot fire there, is
    `final_certs_held` (`Proofs/BundleReplay.lean`). -/
theorem recover_total (p : Pool) :
    ∃ certs votes, p.recover = [.standstill (p.fin.highest + 1) certs votes] := by
  unfold Pool.recover
  exact ⟨_, _, rfl⟩

/-- **Contents.** The bundle consists of the certificates proving the highest finalized slot (the
    fast-finalization certificate, or finalization + notarization), every certificate held for a later
    slot, and every own vote stored for a later slot — nothing else. -/
theorem bundle_contents (p : Pool) (certs : List Cert) (votes : List Vote)
    (h : p.recover = [.standstill (p.fin.highest + 1) certs votes]) :
    (∀ c, c ∈ certs ↔ (c ∈ p.getFinalCerts p.fin.highest ∨ ∃ st ∈ p.slots, st.slot > p.fin.highest ∧ c ∈ st.certs)) ∧
    (∀ v, v ∈ votes ↔ ∃ st ∈ p.slots, st.slot > p.fin.highest ∧ v ∈ st.ownVotes p.epoch) :=
  recover_contents p certs votes h

/-- **Valid.** In a pool whose slot states satisfy the pool invariant (`PoolOk`: preserved by every pool
    operation on validated inputs — `Proofs/PoolGlue.lean`), every certificate of the bundle is valid for
    every receiver with the same epoch: signers in range and distinct, aggregates disjoint, stake of the
    signers ≥ the type's threshold. -/
theorem bundle_certs_valid (p : Pool) (hok : PoolOk p) (certs : List Cert) (votes : List Vote)
    (h : p.recover = [.standstill (p.fin.highest + 1) certs votes]) : ∀ c ∈ certs, CertOk p.epoch c := by
  intro c hc
  obtain ⟨st, hm, hcs⟩ := recover_certs_held p certs votes h c hc
  exact (hok.2 st hm).2 c hcs

/-- **Valid, at any time.** For every pool reachable from the empty pool by any sequence of validated votes,
    validated certificates and block registrations — and recovery triggered after any such prefix — every
    certificate of the bundle is valid at a receiver. -/
theorem bundle_valid_reachable (e : Epoch) (hpos : 0 < e.total) (ops : List PoolOp)
    (hrecv : ∀ c, PoolOp.cert c ∈ ops → CertOk e c) (certs : List Cert) (votes : List Vote)
    (h : (poolRun { epoch := e } ops).1.recover =
      [.standstill ((poolRun { epoch := e } ops).1.fin.highest + 1) certs votes]) :
    ∀ c ∈ certs, CertOk e c := by
  have hr := poolRun_ok ops { epoch := e } (PoolOk.init e hpos) hrecv
  have := bundle_certs_valid _ hr.1 certs votes h
  rw [hr.2] at this
  exact this

/-- the votes of the bundle are the node's own, for slots after the finalized one. That they pass validation is not a
    statement of the model: `SlotState.ownVotes` rebuilds them from the signers `add_vote` stored (i.e. admitted). -/
theorem bundle_votes_own (p : Pool) (certs : List Cert) (votes : List Vote)
    (h : p.recover = [.standstill (p.fin.highest + 1) certs votes]) :
    ∀ v ∈ votes, v.signer = p.epoch.own ∧ v.slot > p.fin.highest :=
  recover_votes_own p certs votes h

/-! non-vacuity: recovery at genesis, and after a fast finalization with later votes -/
example : ({ epoch := { stakes := [1, 1, 1], own := 0 } } : Pool).recover = [.standstill 1 [] []] := by decide

example :
    let e : Epoch := { stakes := [1, 1, 1, 1, 1], own := 0 }
    let p := (poolRun { epoch := e } [.vote ⟨.notar, 1, 7, 0⟩, .vote ⟨.notar, 1, 7, 1⟩, .vote ⟨.notar, 1, 7, 2⟩,
      .vote ⟨.notar, 1, 7, 3⟩, .vote ⟨.skip, 2, 0, 0⟩]).1
    p.fin.highest = 1 ∧
      p.recover = [.standstill 2 [⟨.ff, 1, 7, [0, 1, 2, 3], [], 4⟩] [⟨.skip, 2, 0, 0⟩]] := by decide +kernel

/-! **D17 (known finding), witness.** The last clause of the statement — "a node that starts from an empty state
and receives only this bundle reaches the same highest finalized slot" — is *false* of the code and of the
model once the sender's finalized slot is `≥ 2·SLOTS_PER_EPOCH` past genesis: the receiver's admission window
refuses every bundled certificate. Sender: two fast-finalization certificates, each inside the window of its
time; receiver: the empty pool fed the bundle. (The replay oracle of the harness decides the clause on the
implementation for all generated histories; this is the excluded point, run there as corpus case d17.) -/
theorem bundle_replay_far_witness :
    let e : Epoch := { stakes := [1, 1, 1], own := 0 }
    let sender := (poolRun { epoch := e } [.cert ⟨.ff, 35999, 1, [0, 1, 2], [], 3⟩, .cert ⟨.ff, 40000, 2, [0, 1, 2], [], 3⟩]).1
    sender.fin.highest = 40000 ∧
      sender.recover = [.standstill 40001 [⟨.ff, 40000, 2, [0, 1, 2], [], 3⟩] []] ∧
      (poolRun { epoch := e } [.cert ⟨.ff, 40000, 2, [0, 1, 2], [], 3⟩]).1.fin.highest = 0 := by decide

/-! ## The catch-up clause: a fresh pool fed only the bundle

Sender: any pool reachable from the empty pool (`poolRun`) whose ghost log (`poolLog`: block registrations +
`CertCreated` events, `Proofs/PoolWiring.lean`) is `Consistent` (C07/C08 premise: the finality inputs are `Safe`, no
skip certificate for a directly finalized slot, the only finalized block of slot 0 is genesis — met by every pool of a valid
cluster run: `Cluster.cluster_pools_consistent`), recovery triggered after this — i.e. after *every* prefix of every such
history.  Receiver: the empty pool of the same epoch, fed the bundle's certificates (`add_cert`) and own votes
(`add_vote`) in **any order**, with repetitions, every certificate at least once.

Further premises, each necessary (witness theorems below):
* `hfar`  — the finalized slot is below `2·SLOTS_PER_EPOCH` (known finding D17: `bundle_replay_far_witness`);
* `hown`  — the node's own stake is below the quorum threshold (so that its own votes alone create no certificate
  at the receiver).  Without it the *parents* clause fails in the model when a received certificate carries the
  node's own signature for a block it did not vote for (`bundle_replay_parents_needs_own_below_quorum`); for the
  *finalized-slot* clause no counterexample is known — there the premise is an artefact of the proof (the receiver's
  log is shown to be a sub-log of the sender's), see notes/C18.md;
* `hnf` (parents only) — a notar-fallback certificate for a finalized slot (or slot 0) names the finalized block
  (genesis): the bundle carries for the finalized slot only the certificates that prove it
  (`bundle_replay_parents_needs_nf_agree`).
-/

/-- **`bundle_replay_finalized`.**  A node that starts from the empty state and receives only the bundle reaches
    exactly the sender's highest finalized slot. -/
theorem bundle_replay_finalized (e : Epoch) (ops : List PoolOp)
    (hcons : Consistent (poolLog { epoch := e } ops))
    (hfar : (poolRun { epoch := e } ops).1.fin.highest < 2 * Gen.SLOTS_PER_EPOCH)
    (hown : e.isQuorum (e.stake e.own) = false)
    (certs : List Cert) (votes : List Vote)
    (hb : (poolRun { epoch := e } ops).1.recover =
      [.standstill ((poolRun { epoch := e } ops).1.fin.highest + 1) certs votes])
    (rops : List PoolOp)
    (hfed : ∀ op ∈ rops, (∃ c ∈ certs, op = .cert c) ∨ (∃ v ∈ votes, op = .vote v))
    (hall : ∀ c ∈ certs, PoolOp.cert c ∈ rops) :
    (poolRun { epoch := e } rops).1.fin.highest = (poolRun { epoch := e } ops).1.fin.highest :=
  (Replay.mk hcons hfar hown hb hfed hall).finalized

/-- **`bundle_replay_parents`.**  … and for the first slot `w` of the leader window after the finalized slot its
    `parents_ready(w)` has exactly the members of the sender's. -/
theorem bundle_replay_parents (e : Epoch) (ops : List PoolOp)
    (hcons : Consistent (poolLog { epoch := e } ops)) (hnf : NfAgree (poolLog { epoch := e } ops))
    (hfar : (poolRun { epoch := e } ops).1.fin.highest < 2 * Gen.SLOTS_PER_EPOCH)
    (hown : e.isQuorum (e.stake e.own) = false)
    (certs : List Cert) (votes : List Vote)
    (hb : (poolRun { epoch := e } ops).1.recover =
      [.standstill ((poolRun { epoch := e } ops).1.fin.highest + 1) certs votes])
    (rops : List PoolOp)
    (hfed : ∀ op ∈ rops, (∃ c ∈ certs, op = .cert c) ∨ (∃ v ∈ votes, op = .vote v))
    (hall : ∀ c ∈ certs, PoolOp.cert c ∈ rops) (b : Nat × Nat) :
    b ∈ ParentReady.parentsReady (poolRun { epoch := e } rops).1.pr (nextWindow (poolRun { epoch := e } ops).1.fin.highest) ↔
    b ∈ ParentReady.parentsReady (poolRun { epoch := e } ops).1.pr (nextWindow (poolRun { epoch := e } ops).1.fin.highest) :=
  (Replay.mk hcons hfar hown hb hfed hall).parents hnf b

theorem nextWindow_is_next (f : Nat) :
    ParentReady.isWindowStart (nextWindow f) = true ∧ f < nextWindow f ∧ nextWindow f ≤ f + ParentReady.W :=
  ⟨(nextWindow_spec f).1, (nextWindow_spec f).2.1, (nextWindow_spec f).2.2.1⟩

/-- the bundle of a pool, and the pool a fresh node reaches when fed `certs` then `votes` (`replayCV`) / `votes` then
    `certs` in reverse order (`replayVC`) -/
def bundleOf (p : Pool) : List Cert × List Vote :=
  match p.recover with
  | [.standstill _ cs vs] => (cs, vs)
  | _ => ([], [])

theorem recover_bundleOf (p : Pool) :
    p.recover = [.standstill (p.fin.highest + 1) (bundleOf p).1 (bundleOf p).2] := rfl

def replayCV (e : Epoch) (b : List Cert × List Vote) : Pool :=
  (poolRun { epoch := e } (b.1.map PoolOp.cert ++ b.2.map PoolOp.vote)).1
def replayVC (e : Epoch) (b : List Cert × List Vote) : Pool :=
  (poolRun { epoch := e } (b.2.map PoolOp.vote ++ b.1.reverse.map PoolOp.cert)).1

theorem fedBy_certs_votes (cs : List Cert) (vs : List Vote) :
    FedBy cs vs (cs.map PoolOp.cert ++ vs.map PoolOp.vote) ∧
    ∀ c ∈ cs, PoolOp.cert c ∈ cs.map PoolOp.cert ++ vs.map PoolOp.vote := by
  refine ⟨fun op hop => ?_, fun c hc => List.mem_append_left _ (List.mem_map_of_mem hc)⟩
  rcases List.mem_append.mp hop with h | h
  · obtain ⟨c, hc, rfl⟩ := List.mem_map.mp h; exact Or.inl ⟨c, hc, rfl⟩
  · obtain ⟨v, hv, rfl⟩ := List.mem_map.mp h; exact Or.inr ⟨v, hv, rfl⟩

/-- **Non-vacuity**: the demo history of C07 (`demoPoolOps`: certificates, a vote-created skip certificate, blocks,
    slow and fast finalization) extended by certificates and own votes for later slots satisfies every premise; the
    bundle carries the fast-finalization certificate of slot 5, three later certificates and two own votes; both replay
    orders reach slot 5 and the ready parent (5,3) for window start 8. -/
def demoSender : List PoolOp :=
  demoPoolOps ++ [.vote ⟨.notar, 9, 4, 0⟩, .cert (demoCert .notar 9 4), .vote ⟨.skip, 10, 0, 0⟩]

example :
    let p := (poolRun { epoch := demoEpoch } demoSender).1
    Consistent (poolLog { epoch := demoEpoch } demoSender) ∧ NfAgreeC (poolLog { epoch := demoEpoch } demoSender) ∧
    p.fin.highest = 5 ∧ demoEpoch.isQuorum (demoEpoch.stake demoEpoch.own) = false ∧
    (bundleOf p).1.map (fun c => (c.kind, c.slot)) = [(.ff, 5), (.skip, 6), (.skip, 7), (.notar, 9)] ∧
    (bundleOf p).2.length = 2 ∧ nextWindow p.fin.highest = 8 ∧
    ParentReady.parentsReady p.pr 8 = [(5, 3)] ∧
    (replayCV demoEpoch (bundleOf p)).fin.highest = 5 ∧ ParentReady.parentsReady (replayCV demoEpoch (bundleOf p)).pr 8 = [(5, 3)] ∧
    (replayVC demoEpoch (bundleOf p)).fin.highest = 5 ∧ ParentReady.parentsReady (replayVC demoEpoch (bundleOf p)).pr 8 = [(5, 3)] := by
  decide +kernel

/-- … and the theorems, instantiated on this history (the premises on the history discharged by evaluation) -/
example :
    (replayCV demoEpoch (bundleOf (poolRun { epoch := demoEpoch } demoSender).1)).fin.highest =
      (poolRun { epoch := demoEpoch } demoSender).1.fin.highest ∧
    ∀ b, b ∈ ParentReady.parentsReady (replayCV demoEpoch (bundleOf (poolRun { epoch := demoEpoch } demoSender).1)).pr
          (nextWindow (poolRun { epoch := demoEpoch } demoSender).1.fin.highest) ↔
        b ∈ ParentReady.parentsReady (poolRun { epoch := demoEpoch } demoSender).1.pr
          (nextWindow (poolRun { epoch := demoEpoch } demoSender).1.fin.highest) := by
  have ⟨hcons, hnf, hfar, hown⟩ :
      Consistent (poolLog { epoch := demoEpoch } demoSender) ∧ NfAgreeC (poolLog { epoch := demoEpoch } demoSender) ∧
      (poolRun { epoch := demoEpoch } demoSender).1.fin.highest < 2 * Gen.SLOTS_PER_EPOCH ∧
      demoEpoch.isQuorum (demoEpoch.stake demoEpoch.own) = false := by
    decide +kernel
  have hb := recover_bundleOf (poolRun { epoch := demoEpoch } demoSender).1
  have hfed := fedBy_certs_votes (bundleOf (poolRun { epoch := demoEpoch } demoSender).1).1
    (bundleOf (poolRun { epoch := demoEpoch } demoSender).1).2
  unfold replayCV
  exact ⟨bundle_replay_finalized demoEpoch demoSender hcons hfar hown _ _ hb _ hfed.1 hfed.2,
    bundle_replay_parents demoEpoch demoSender hcons ((nfAgreeC_iff hcons.safe).mp hnf) hfar hown _ _ hb _ hfed.1 hfed.2⟩

/-- **`hown` is necessary for the parents clause** (in the model; signatures are symbolic): the node holds 60 % of the
    stake, it received a notarization certificate for block (3,8) that carries its own signature, and voted for
    (3,7).  The history is `Consistent` and `NfAgree`, nothing is finalized.  A receiver that gets the own vote
    *before* the certificate creates its own notarization certificate for (3,7) and refuses the bundled one as a
    duplicate: it never learns (3,8). -/
theorem bundle_replay_parents_needs_own_below_quorum :
    let e : Epoch := { stakes := [3, 1, 1], own := 0 }
    let ops : List PoolOp := [.cert ⟨.notar, 3, 8, [0, 1], [], 4⟩, .vote ⟨.notar, 3, 7, 0⟩]
    let p := (poolRun { epoch := e } ops).1
    Consistent (poolLog { epoch := e } ops) ∧ NfAgreeC (poolLog { epoch := e } ops) ∧ p.fin.highest = 0 ∧
    e.isQuorum (e.stake e.own) = true ∧
    ParentReady.parentsReady p.pr 4 = [(3, 8), (3, 7)] ∧
    ParentReady.parentsReady (replayCV e (bundleOf p)).pr 4 = [(3, 8), (3, 7)] ∧
    ParentReady.parentsReady (replayVC e (bundleOf p)).pr 4 = [(3, 7)] := by
  decide +kernel

/-- **`hnf` is necessary**: slot 1 is fast-finalized with block (1,7) and the sender also holds a notar-fallback
    certificate for (1,9); slots 2, 3 are skip-certified.  The bundle proves slot 1 with the fast-finalization
    certificate only: the receiver does not learn the parent (1,9). -/
theorem bundle_replay_parents_needs_nf_agree :
    let e : Epoch := { stakes := [1, 1, 1, 1, 1], own := 0 }
    let ops : List PoolOp := [.cert (demoCert .nf 1 9), .cert (demoCert .ff 1 7), .cert (demoCert .skip 2 0),
      .cert (demoCert .skip 3 0)]
    let p := (poolRun { epoch := e } ops).1
    Consistent (poolLog { epoch := e } ops) ∧ ¬ NfAgreeC (poolLog { epoch := e } ops) ∧ p.fin.highest = 1 ∧
    e.isQuorum (e.stake e.own) = false ∧
    ParentReady.parentsReady p.pr 4 = [(1, 9), (1, 7)] ∧
    ParentReady.parentsReady (replayCV e (bundleOf p)).pr 4 = [(1, 7)] := by
  decide +kernel

/-- **"no skip certificate for a directly finalized slot" is necessary**: block (2,9) is fast-finalized although slot 2 is
    skip-certified; the sender still answers (1,7) for window start 4 (through the skip certificates of 2 and 3), the
    bundle starts at slot 2. -/
theorem bundle_replay_parents_needs_consistent :
    let e : Epoch := { stakes := [1, 1, 1, 1, 1], own := 0 }
    let ops : List PoolOp := [.cert (demoCert .notar 1 7), .cert (demoCert .skip 2 0), .cert (demoCert .ff 2 9),
      .cert (demoCert .skip 3 0)]
    let p := (poolRun { epoch := e } ops).1
    ¬ Consistent (poolLog { epoch := e } ops) ∧ Finality.Safe (finOps (poolLog { epoch := e } ops)) ∧ p.fin.highest = 2 ∧
    ParentReady.parentsReady p.pr 4 = [(2, 9), (1, 7)] ∧
    ParentReady.parentsReady (replayCV e (bundleOf p)).pr 4 = [(2, 9)] := by
  decide +kernel

end AgModel.Pool

namespace AgModel.Votor

theorem emitAll_log (v : V) (os : List Out) : (v.emitAll os).log = (os.map Item.out).reverse ++ v.log := by
  induction os generalizing v with
  | nil => rfl
  | cons o os ih => simp only [V.emitAll, ih, V.emit, List.map_cons, List.reverse_cons, List.append_assoc, List.singleton_append]

/-- **Always forwarded.** For every state of the voting component that has not crashed — any highest final
    certificate slot, any pruning watermark, any retired slots — a `Standstill` event makes it hand over
    *exactly* the bundle (every element, in order, nothing else), and changes nothing else. The bundle is abstract here (a
    list of element ids: the Lean pool model produces it, the harness checks the ids are the real certificates and
    votes). -/
theorem votor_forwards_bundle (v : V) (hp : v.panicked = false) (s : Nat) (bundle : List Nat) :
    (step v (.standstill s bundle)).log = (bundle.map (fun r => Item.out (.relay r))).reverse ++ .ev (.standstill s bundle) :: v.log ∧
    (step v (.standstill s bundle)).slots = v.slots ∧ (step v (.standstill s bundle)).hfcs = v.hfcs ∧
    (step v (.standstill s bundle)).panicked = false := by
  have hl : ∀ (w : V) (os : List Out), (w.emitAll os).slots = w.slots ∧ (w.emitAll os).hfcs = w.hfcs ∧ (w.emitAll os).panicked = w.panicked := by
    intro w os
    induction os generalizing w with
    | nil => exact ⟨rfl, rfl, rfl⟩
    | cons o os ih => simp only [V.emitAll]; exact ih (w.emit o)
  unfold step
  simp only [hp, Bool.false_eq_true, if_false, V.ignores, V.handle]
  obtain ⟨a, b, c⟩ := hl (v.logEv (.standstill s bundle)) (bundle.map .relay)
  refine ⟨?_, a, b, c.trans hp⟩
  rw [emitAll_log]
  simp [V.logEv, List.map_map, Function.comp_def]

example : (step { init with hfcs := 40 } (.standstill 3 [7, 8])).log = [.out (.relay 8), .out (.relay 7), .ev (.standstill 3 [7, 8])] ++ init.log := by decide

end AgModel.Votor

