import AgModel.Proofs.Route
/-!
# C16 — all nodes agree on shred routing; fault-free dissemination reaches everyone

Statements about `AgModel.Route` (model of `src/disseminator/{rotor,turbine,trivial}.rs` and of the
forwarding receive path of `consensus.rs`).  The seeded RNG, the committee sampler and the weighted
shuffle are parameters: a relay committee is any list of validators, a Turbine order is any
duplicate-free list of validators.  All theorems hold for every validator count `n`, every stake
distribution (stakes only influence *which* committee / permutation comes out), every fanout `f ≥ 1`
with `n·f + 1 < 2^64` (beyond, `own_pos * fanout + 1` overflows `usize` in the code), every slot.

Not a theorem (hidden nondeterminism cannot be expressed in a functional model): that two
*independently constructed* Rust instances compute the same committee / permutation from
`(slot, slice)` / `(slot, index_in_slot)`.  That part is decided by the differential run of
`harness/src/bin/c16.rs` (two instances per validator, different query orders, cold/warm caches);
it found D7 (`PartitionSampler::new` shuffled with the thread RNG; DESIGN.md §7).
-/
namespace AgModel.Route

/-! ## Agreement: routing is a function of (validator set, slot, slice, shred); the caches are
    transparent -/

/-- **Cache transparency.** Whatever sequence of queries and evictions one Rotor instance has seen
    (any call order, any construction time, any `quick_cache` eviction policy), every answer of
    `sample_relays` is the sampler's value at that `(slot, slice)` key. -/
theorem rotor_cache_transparent (sampler : Key → List Nat) (ops : List CacheOp) :
    ∀ a ∈ runCache sampler Cache.empty ops, a.2 = sampler a.1 :=
  runCache_sound ops (c := Cache.empty) nofun

/-- **Instances agree.** Two instances with the same (deterministic) sampler, driven by arbitrary,
    different operation sequences, give the same committee for the same `(slot, slice)`. -/
theorem rotor_instances_agree (sampler : Key → List Nat) (ops₁ ops₂ : List CacheOp)
    (a b : Key × List Nat) (ha : a ∈ runCache sampler Cache.empty ops₁)
    (hb : b ∈ runCache sampler Cache.empty ops₂) (hk : a.1 = b.1) : a.2 = b.2 := by
  rw [rotor_cache_transparent sampler ops₁ a ha, rotor_cache_transparent sampler ops₂ b hb, hk]

/-- The leader of a slot is a member of the validator set (`EpochInfo::leader` never indexes out of
    range for a non-empty set). -/
theorem leader_lt (n slot : Nat) (hn : 0 < n) : leader n slot < n := Nat.mod_lt _ hn

/-- the window constant of the model is the one in the source -/
theorem leader_def (n slot : Nat) : leader n slot = (slot / AgModel.Gen.SLOTS_PER_WINDOW) % n := rfl

/-! ## Rotor: every shred reaches everyone through exactly one relay broadcast -/

/-- **Exactly one relay broadcast.** Only the relay's `forward` sends anything. -/
theorem rotor_one_broadcast (n ldr own : Nat) (committee : List Nat) (s r : Nat)
    (hc : committee[s]? = some r) (hr : r < n) :
    rotorForward n ldr own committee s = (if own = r then .to (broadcastDests n r ldr) else .to []) := by
  rw [rotorForward, rotorRelay_eq hc hr]

/-- The relay's broadcast reaches exactly the validators other than relay and leader. -/
theorem rotor_broadcast_dests (n r l v : Nat) : v ∈ broadcastDests n r l ↔ v < n ∧ v ≠ r ∧ v ≠ l := by
  unfold broadcastDests
  simp [List.mem_filter, List.mem_range]

/-- **Rotor delivery sequence.** With relay `r = committee[shred]` (a member of the validator set) the
    loss-free run terminates and delivers first to the relay, then to everybody but relay and leader. -/
theorem rotor_run (n ldr : Nat) (committee : List Nat) (s r : Nat)
    (hc : committee[s]? = some r) (hr : r < n) :
    rotorRun n ldr committee s = r :: broadcastDests n r ldr ∧ rotorRunOk n ldr committee s = true := by
  have hfwd := fun v => rotor_one_broadcast n ldr v committee s r hc hr
  have hleaf : ∀ v ∈ broadcastDests n r ldr, rotorForward n ldr v committee s = .to [] := fun v hv => by
    rw [hfwd v, if_neg ((rotor_broadcast_dests n r ldr v).mp hv).2.1]
  have := run_leaves (fun v => rotorForward n ldr v committee s) n (broadcastDests n r ldr) hleaf
    (broadcastDests_length_le n r ldr)
  unfold rotorRun rotorRunOk
  rw [rotorSend, rotorRelay_eq hc hr]
  simp only [outDests, run, runOk, hfwd r, if_true, List.nil_append, this]
  exact ⟨trivial, rfl⟩

/-- **Rotor coverage.** Every validator other than the leader receives the shred exactly once; the
    leader receives it once if it is its own relay and never otherwise.  Any `n`, any committee. -/
theorem rotor_cover (n ldr : Nat) (committee : List Nat) (s r v : Nat)
    (hc : committee[s]? = some r) (hr : r < n) (hv : v < n) :
    (rotorRun n ldr committee s).count v = if v = ldr then (if r = ldr then 1 else 0) else 1 := by
  rw [(rotor_run n ldr committee s r hc hr).1, List.count_cons, (broadcastDests_nodup n r ldr).count]
  simp only [rotor_broadcast_dests, beq_iff_eq]
  by_cases h1 : v = ldr
  · subst h1; simp [hv]
  · by_cases h2 : r = v
    · subst h2; simp [h1]
    · simp [h1, hv, h2, Ne.symm h2]

/-- A shred index beyond the sampler's quorum size, or a relay outside the validator set, is a panic
    (`committee[shred]`, `validator(relay)`): the reason `Rotor::new`/`new_fa1` ask for
    `TOTAL_SHREDS` relays. -/
theorem rotor_short_committee_panics (n : Nat) (committee : List Nat) (s : Nat)
    (h : committee.length ≤ s) : rotorSend n committee s = .panic := by
  rw [rotorSend, rotorRelay, List.getElem?_eq_none h]

/-! ## Turbine: the forwarding graph is a tree covering everyone exactly once -/

/-- In the Turbine layout every position `q ≥ 1` is a child of exactly one position: its parent
    `(q-1)/f` (what `TurbineTree::new` computes as `parent_pos`). -/
theorem parent_unique (n f p q : Nat) (hq : 1 ≤ q) (hqn : q < n) (hf : 1 ≤ f) :
    q ∈ childPos n f p ↔ p = parentPos f q := by
  obtain ⟨q, rfl⟩ := Nat.exists_eq_add_of_le' hq
  rw [mem_childPos, parentPos, Nat.add_sub_cancel, eq_comm, Nat.div_eq_iff hf]
  omega

/-- Position 0 (the root) is nobody's child. -/
theorem root_no_parent (n f p : Nat) : 0 ∉ childPos n f p := by rw [mem_childPos]; omega

/-- A parent precedes its child, so every position is reachable from the root by induction on the position. -/
theorem parent_lt (f q : Nat) (hq : 1 ≤ q) : parentPos f q < q :=
  Nat.lt_of_le_of_lt (Nat.div_le_self (q - 1) f) (Nat.sub_one_lt_of_lt hq)

/-- What each validator does: validator `perm[i]` agrees with everybody on the root `perm[0]` and
    forwards to the validators at positions `i·f+1 … i·f+f`. -/
theorem turbine_tree (perm : List Nat) (f : Nat) (hnd : perm.Nodup) (hf : 1 ≤ f)
    (hb : perm.length * f + 1 < 2 ^ 64) (i : Nat) (h : i < perm.length) :
    turbineTree perm f perm[i] = some (perm[0]'(by omega), (perm.drop (i * f + 1)).take f) := by
  have hle : i * f ≤ perm.length * f := Nat.mul_le_mul_right f (Nat.le_of_lt h)
  cases perm with
  | nil => cases h
  | cons r rest =>
    unfold turbineTree
    simp only [posOf_getElem (r :: rest) hnd i h]
    rw [if_neg (fun hc => Nat.ne_of_gt hf hc.2),
      if_neg (Nat.not_le_of_gt (Nat.lt_of_le_of_lt (Nat.succ_le_succ hle) hb))]
    rfl

/-- **Turbine coverage (FIFO schedule).** For every duplicate-free order of the validators, every
    fanout `f ≥ 1` and every leader in the set, the loss-free run terminates and its delivery
    sequence *is* the order: every validator (the leader included, which is a node of the tree)
    receives the shred exactly once. -/
theorem turbine_run (perm : List Nat) (f ldr : Nat) (hnd : perm.Nodup) (hf : 1 ≤ f)
    (hb : perm.length * f + 1 < 2 ^ 64) (hl : ldr ∈ perm) :
    turbineRun perm f ldr = perm ∧ turbineRunOk perm f ldr = true := by
  obtain ⟨j, hj, rfl⟩ := List.getElem_of_mem hl
  -- the children of position `i` are the segment of the order from `i·f+1` to `(i+1)·f+1`
  have hfwd : ∀ i (h : i < perm.length), turbineForward perm f perm[i]
      = .to ((perm.take ((i + 1) * f + 1)).drop (i * f + 1)) := fun i h => by
    rw [turbineForward, turbine_tree perm f hnd hf hb i h, List.take_drop, Nat.succ_mul, Nat.add_right_comm]
  have := run_bfs perm (· * f + 1) (turbineForward perm f)
    (fun i _ => Nat.lt_succ_of_le (Nat.le_mul_of_pos_right i hf))
    (fun i => Nat.succ_le_succ (Nat.mul_le_mul_right f (Nat.le_succ i))) hfwd (perm.length + 1) 0
    (Nat.lt_succ_self _)
  rw [Nat.zero_mul] at this
  unfold turbineRun turbineRunOk
  rw [turbineSend, turbine_tree perm f hnd hf hb j hj]
  -- the leader's queue `[perm[0]]` is `(perm.take 1).drop 0`, by computation once `perm` is a cons
  cases perm with
  | nil => cases hj
  | cons x xs => exact this

/-- **Exactly once under Turbine.** If the shuffle output is a permutation of the validator set, every
    validator receives every shred exactly once, for every fanout and every leader. -/
theorem turbine_cover_once (perm : List Nat) (f ldr v : Nat) (hnd : perm.Nodup) (hf : 1 ≤ f)
    (hb : perm.length * f + 1 < 2 ^ 64) (hl : ldr ∈ perm) (hv : v ∈ perm) :
    (turbineRun perm f ldr).count v = 1 := by
  rw [(turbine_run perm f ldr hnd hf hb hl).1, hnd.count, if_pos hv]

theorem inflow_zero (n f : Nat) (r : Nat → Nat) : inflow n f r 0 = 0 := by
  unfold inflow
  simp only [root_no_parent, if_false]
  exact List.sum_eq_zero_iff_forall_eq_nat.mpr fun x hx => by
    obtain ⟨_, _, rfl⟩ := List.mem_map.mp hx; rfl

theorem inflow_pos (n f : Nat) (r : Nat → Nat) (q : Nat) (hq : 1 ≤ q) (hqn : q < n) (hf : 1 ≤ f) :
    inflow n f r q = r (parentPos f q) := by
  unfold inflow
  simp only [parent_unique n f _ q hq hqn hf]
  rw [sum_single, if_pos (Nat.lt_trans (parent_lt f q hq) hqn)]

/-- **Turbine coverage, schedule independent.** In *any* loss-free run the number of copies `r q`
    received by position `q` satisfies the flow equations (one copy from the leader to the root,
    plus one copy per copy received by each position that has `q` as a child — every received shred
    is forwarded, `consensus.rs::handle_disseminator_shred`).  Their only solution is `r ≡ 1`. -/
theorem turbine_flow_unique (n f : Nat) (hf : 1 ≤ f) (r : Nat → Nat)
    (h : ∀ q, q < n → r q = (if q = 0 then 1 else 0) + inflow n f r q) : ∀ q, q < n → r q = 1 := by
  intro q
  induction q using Nat.strongRecOn with
  | _ q ih =>
    intro hq
    rw [h q hq]
    by_cases h0 : q = 0
    · rw [h0, inflow_zero]; rfl
    · have hp := parent_lt f q (Nat.pos_of_ne_zero h0)
      rw [inflow_pos n f r q (Nat.pos_of_ne_zero h0) hq hf, ih _ hp (Nat.lt_trans hp hq), if_neg h0]

/-- Degenerate fanout 0: every validator but the root panics when it builds its tree
    (`(own_pos - 1) / fanout`) — `with_fanout(0)` is not a usable configuration. -/
theorem turbine_fanout_zero_panics (perm : List Nat) (hnd : perm.Nodup) (i : Nat) (h : i < perm.length)
    (hi : i ≠ 0) : turbineForward perm 0 perm[i] = .panic := by
  cases perm with
  | nil => cases h
  | cons r rest => simp [turbineForward, turbineTree, posOf_getElem (r :: rest) hnd i h, hi]

/-- The leader's single `send_to_many` reaches every validator exactly once. -/
theorem trivial_cover (n v : Nat) (hv : v < n) : (trivialRun n).count v = 1 := by
  have := run_leaves (fun _ => Out.to []) (n + 1) (List.range n) (fun _ _ => rfl)
    (List.length_range ▸ Nat.le_succ n)
  unfold trivialRun trivialSend outDests
  rw [this.1, List.count_range, if_pos hv]

/-! ## Non-vacuity -/

example : turbineRun [2, 0, 3, 1, 4] 2 4 = [2, 0, 3, 1, 4] ∧ turbineRunOk [2, 0, 3, 1, 4] 2 4 = true := by decide
example : turbineForward [2, 0, 3, 1, 4] 2 2 = .to [0, 3] ∧ turbineForward [2, 0, 3, 1, 4] 2 0 = .to [1, 4] := by decide
example : rotorRun 5 1 [3, 1, 4] 0 = [3, 0, 2, 4] ∧ rotorRun 5 1 [3, 1, 4] 1 = [1, 0, 2, 3, 4] := by decide
example : leader 5 23 = 0 ∧ leader 5 24 = 1 := by decide

end AgModel.Route
