import AgModel.Proofs.RepairResponder
import AgModel.Props.C13
/-!
# C14, second half — completion of a repair, the responder, panic-freedom

Model: `AgModel.Repair` over `AgModel.Blockstore` (as in `Props/C14.lean`). Schedules (`Ev`, `run`),
fairness (`Fair`, `Served`), the progress invariant (`RepInv`) and the blockstore invariant (`SInv`,
`StoreInv`, `BInv`) are defined in `Proofs/RepairRun.lean`, `Proofs/RepairStore.lean`,
`Proofs/BlockstoreInv.lean`; `HBlock` / `WF` (a correct leader's block) in `Proofs/BlockstoreHonest.lean`; the holder
of a block and its answers (`Holds`, `respOf`) in `Proofs/RepairResponder.lean`.
-/
namespace AgModel.Repair
open AgModel.Blockstore AgModel.Merkle

/-! ### 1. panic-freedom -/

/-- **`add_shred_from_repair` is total**: from every slot data satisfying the blockstore invariant, for
    every requested hash and every validated shred whatsoever (any slice index, shred index, last-slice
    flag, root, size class, tag — any mix of validly signed slices of a Byzantine leader), it does not
    panic (no `expect` of `try_reconstruct_slice` / `try_reconstruct_block` fires) and the invariant holds
    again (`blockstore_invariant`: it also holds for the empty slot and is preserved by dissemination). -/
theorem repair_store_total (env : Nat → Content) (sd : SlotData) (h : H) (s : Shred) (hinv : SInv sd) :
    (addRepair env sd h s).2.1 ≠ .panic ∧ SInv (addRepair env sd h s).1 :=
  ⟨(addRepair_sinv env sd h s hinv).2, (addRepair_sinv env sd h s hinv).1⟩

/-- the blockstore invariant is an invariant: it holds initially and after every
    `add_shred_from_dissemination` / `add_shred_from_repair` (none of which panics) and after every
    `add_own_slice` that passes its own `assert!(last_slice.is_none())` with a parent on the first slice -/
theorem blockstore_invariant (env : Nat → Content) (cap slot : Nat) :
    SInv (SlotData.new cap slot) ∧
    (∀ sd s, SInv sd → SInv (addDissem env sd s).1 ∧ (addDissem env sd s).2.1 ≠ .panic) ∧
    (∀ sd h s, SInv sd → SInv (addRepair env sd h s).1 ∧ (addRepair env sd h s).2.1 ≠ .panic) ∧
    (∀ sd c sz parent txs, SInv sd → sd.dis.lastSlice = none → (c.slice = 0 → parent.isSome) →
      SInv (addOwn sd c sz parent txs).1) :=
  ⟨sinv_new cap slot, fun sd s h => addDissem_sinv env sd s h, fun sd h s hi => addRepair_sinv env sd h s hi,
    fun sd c sz parent txs h1 h2 h3 => addOwn_sinv sd c sz parent txs h1 h2 h3⟩

theorem stepEv_no_panic (env : Nat → Content) (cap : Nat) (σ : Sys) (e : Ev)
    (hk : RootsKnown σ.st) (hs : StoreInv cap σ.store) :
    (stepEv env cap σ e).2.panic = false ∧ RootsKnown (stepEv env cap σ e).1.st ∧ StoreInv cap (stepEv env cap σ e).1.store := by
  cases e with
  | resp r =>
    obtain ⟨h1, h2⟩ := handleResponse_no_panic env cap σ.st σ.store r hk hs
    exact ⟨h1, handleResponse_rootsKnown env cap σ.st σ.store r hk, h2⟩
  | timeout => exact ⟨(fireTimeout_frame σ.st).2.2, fireTimeout_rootsKnown σ.st hk, hs⟩
  | start b =>
    refine ⟨?_, repairBlock_rootsKnown cap σ.st σ.store b hk, hs⟩
    show (repairBlock cap σ.st σ.store b).2.panic = false
    rcases repairBlock_cases cap σ.st σ.store b with e | e <;> rw [e]

/-- **The repair task never panics**: with the two invariants (`RootsKnown`: proven in `Props/C14.lean`
    to hold along every run; `StoreInv`) no response whatsoever reaches the `unreachable!`, a blockstore
    `expect`, the `assert_eq!(block_info.hash, block_hash)` or the `assert!` of `pool.add_block`, and both
    invariants hold again; hence no step of any schedule panics. -/
theorem repair_task_never_panics (env : Nat → Content) (cap : Nat) (evs : List Ev) (σ : Sys)
    (hk : RootsKnown σ.st) (hs : StoreInv cap σ.store) :
    (∀ o ∈ (run env cap σ evs).2, o.panic = false) ∧ RootsKnown (run env cap σ evs).1.st ∧
      StoreInv cap (run env cap σ evs).1.store := by
  induction evs generalizing σ with
  | nil => exact ⟨by simp [run], hk, hs⟩
  | cons e rest ih =>
    obtain ⟨h1, h2, h3⟩ := stepEv_no_panic env cap σ e hk hs
    obtain ⟨r1, r2, r3⟩ := ih _ h2 h3
    exact ⟨List.forall_mem_cons.mpr ⟨h1, r1⟩, r2, r3⟩

/-! ### 2. completion -/

/-- **Repair completes on every fair schedule.**
    `B`: any block of a correct leader (`n ≥ 1` slices, any shape allowed by `WF`); `sdH`: the slot data of
    a peer that holds it (`Holds`), `respOf sdH` is what that peer answers. `σ`: any state of the
    requester satisfying the progress invariant `RepInv` (`repair_block` establishes it: `repInv_begin`;
    every admissible step keeps it). `evs`: any finite schedule of events at the requester — responses of
    any kind from anybody (correct, NACK, unsolicited, replayed, wrong variant, bad proof, wrong root /
    index / slot, unsigned shreds, validly signed shreds of other slices or with the other last-slice
    marker of a Byzantine leader, responses about other blocks), timeouts, further `repair_block` calls —
    that is *fair*: every request about `B` outstanding at any point of the schedule (so every request
    ever issued or re-sent) is, at that point or later, answered by the holder while still outstanding.
    Then after the schedule no request about `B` is outstanding, `get_block(id B)` returns exactly `B`,
    if the spot was not complete at the start the block was announced in one of the steps (`Block` event to Votor and
    `pool.add_block(id, parent)`; `RepStep` has it in the step that completes the spot), and no step panicked.

    `Admissible` (see `Proofs/RepairRun.lean`) is not an assumption about responders: it only
    holds the two typing constraints of the model's response type (`padding_leaf_witness`,
    `size_class_witness`). It says nothing about the last-slice marker (fix D26: `evilLast_admissible`,
    `last_marker_no_longer_derails`) and nothing about the unauthenticated data/coding type (fix D15b):
    a response with a flipped type is admissible (`evilTag_admissible`), the requester drops it and
    keeps the request outstanding (`tag_no_longer_derails`, a concrete run; what such a shred did to the blockstore
    before that fix, once handed to it: `derail_by_tag_old`). -/
theorem repair_completes (B : HBlock) (env : Nat → Content) (cap : Nat) (hwf : B.WF env cap)
    (hroots : ∀ i, i < B.n → B.root i ≠ 0)
    (sdH : SlotData) (_hH : Holds B cap sdH)
    (σ : Sys) (hinv : RepInv B cap σ) (hstore : StoreInv cap σ.store)
    (evs : List Ev) (hadm : ∀ e ∈ evs, Admissible B e)
    (hfair : Fair env cap (respOf sdH) (bidOf B) σ evs) :
    (∀ r ∈ (run env cap σ evs).1.st.outstanding, r.bid ≠ bidOf B) ∧
    getBlock (storeGet cap (run env cap σ evs).1.store B.slot) B.block.hash = some B.block ∧
    ((spotOf cap B σ.store).completed = none → ∃ o ∈ (run env cap σ evs).2, Announced B o) ∧
    (∀ o ∈ (run env cap σ evs).2, o.panic = false) ∧
    RepInv B cap (run env cap σ evs).1 ∧ StoreInv cap (run env cap σ evs).1.store := by
  have hq := fair_quiescent env cap (respOf sdH) (bidOf B) evs σ hfair
  obtain ⟨h1, h3⟩ := run_repInv B env cap hwf hroots evs σ hinv hadm
  obtain ⟨hc, hg⟩ := repInv_quiescent_done B cap _ h1 hq
  obtain ⟨p1, _, p3⟩ := repair_task_never_panics env cap evs σ hinv.rootsKnown hstore
  exact ⟨hq, hg, fun hn => h3 hn (by rw [hc]; rfl), p1, h1, p3⟩

/-- **Repair of a block the node knows nothing about** (`repair_completes` composed with `repInv_begin`):
    on any requester state whose blockstore satisfies the invariant and that has no request, proven root
    or repair spot for `B` yet and does not hold it, `repair_block(id B)` followed by any admissible
    schedule that is fair towards `B` stores and announces `B`, and nothing panics. -/
theorem repair_completes_from_start (B : HBlock) (env : Nat → Content) (cap : Nat) (hwf : B.WF env cap)
    (hroots : ∀ i, i < B.n → B.root i ≠ 0)
    (sdH : SlotData) (hH : Holds B cap sdH)
    (σ : Sys) (hstore : StoreInv cap σ.store) (hrk : RootsKnown σ.st)
    (hnone : getBlock (storeGet cap σ.store B.slot) B.block.hash = none)
    (hspot : repGet (storeGet cap σ.store B.slot).rep B.block.hash = none)
    (hnoroots : ∀ i, rootGet σ.st.sliceRoots (bidOf B, i) = none)
    (hnoreq : ∀ r ∈ σ.st.outstanding, r.bid ≠ bidOf B)
    (evs : List Ev) (hadm : ∀ e ∈ evs, Admissible B e)
    (hfair : Fair env cap (respOf sdH) (bidOf B) (stepEv env cap σ (.start (bidOf B))).1 evs) :
    (∀ r ∈ (run env cap σ (.start (bidOf B) :: evs)).1.st.outstanding, r.bid ≠ bidOf B) ∧
    getBlock (storeGet cap (run env cap σ (.start (bidOf B) :: evs)).1.store B.slot) B.block.hash = some B.block ∧
    (∃ o ∈ (run env cap σ (.start (bidOf B) :: evs)).2, Announced B o) ∧
    (∀ o ∈ (run env cap σ (.start (bidOf B) :: evs)).2, o.panic = false) := by
  have hinv := repInv_begin B env cap hwf.npos σ (hstore B.slot).2.1 (hstore B.slot).2.2 hnone hspot hrk hnoroots hnoreq
  have hs0 := stepEv_no_panic env cap σ (.start (bidOf B)) hrk hstore
  have hstore' : (stepEv env cap σ (.start (bidOf B))).1.store = σ.store := rfl
  obtain ⟨h1, h2, h3, h4, _, _⟩ := repair_completes B env cap hwf hroots sdH hH _ hinv (by rw [hstore']; exact hstore) evs hadm hfair
  have hsp : (spotOf cap B (stepEv env cap σ (.start (bidOf B))).1.store).completed = none := by
    rw [hstore']; unfold spotOf; rw [hspot]; rfl
  obtain ⟨o, ho, ha⟩ := h3 hsp
  exact ⟨h1, h2, ⟨o, List.mem_cons_of_mem _ ho, ha⟩, List.forall_mem_cons.mpr ⟨hs0.1, h4⟩⟩

/-- **Fair schedules exist from every state, and are finite** (the hypotheses of `repair_completes` are
    satisfiable after *any* admissible prefix): from every state satisfying `RepInv` the holder answering
    the outstanding requests one at a time is a finite, admissible, fair schedule. The measure is the
    weight `mu` of the outstanding requests about `B` (last-slice root `1 + 65 n`, slice root `65`,
    shred `1`): every correct response to an outstanding request strictly decreases it (`honest_step`). -/
theorem fair_schedule_exists (B : HBlock) (env : Nat → Content) (cap : Nat) (hwf : B.WF env cap)
    (hroots : ∀ i, i < B.n → B.root i ≠ 0) (hn32 : B.n ≤ 2 ^ 32)
    (sdH : SlotData) (hH : Holds B cap sdH) (σ : Sys) (hinv : RepInv B cap σ) :
    ∃ ext : List Ev, (∀ e ∈ ext, Admissible B e) ∧
      (∀ e ∈ ext, ∃ r, r.bid = bidOf B ∧ InBlock B r ∧ e = .resp (respOf sdH r)) ∧
      Fair env cap (respOf sdH) (bidOf B) σ ext := by
  refine fair_extension B env cap hwf hroots hn32 _ (fun r hb hin => ?_) σ hinv
  have : r.bid.hash = B.block.hash := by rw [hb]; rfl
  simp [respOf, holder_answers B cap sdH hH r this hin]

/-- **A node that completed the repair holds the block** (and can serve it in turn: `Holds` is what
    `repair_completes` / `fair_schedule_exists` ask of the answering peer). -/
theorem repaired_node_holds (B : HBlock) (cap : Nat) (σ : Sys) (hinv : RepInv B cap σ) (hstore : StoreInv cap σ.store)
    (hq : ∀ r ∈ σ.st.outstanding, r.bid ≠ bidOf B) : Holds B cap (storeGet cap σ.store B.slot) := by
  obtain ⟨hc, _⟩ := repInv_quiescent_done B cap σ hinv hq
  exact ⟨(hstore B.slot).1, spotOf cap B σ.store, blockData_of_spot B cap σ.store _ hinv.nodis hc, hinv.live.good,
    by rw [hc]; rfl⟩

/-! ### 3. the responder -/

/-- **Every answer for a held block verifies at the requester and carries exactly the requested item.**
    For every slot data satisfying the blockstore invariant and every block id `b` whose block is held
    (`get_block(b)` is `Some`): the answer to `LastSliceRoot(b)` is a `LastSliceRoot` response echoing the
    request whose `(last, root, proof)` passes `check_proof_last` against `b`'s hash; for every slice
    `i ≤ last` the answer to `SliceRoot(b, i)` passes `check_proof` against the hash, and the answer to
    `Shred(b, i, j)` for each of the 64 indices is a (leader-signed) shred of slot `b.slot`, slice `i`,
    index `j`, carrying exactly the slice root that was proven, the last-slice flag `i = last` and the data/coding
    type that fits its index (`TyInv`: with the D15 fix nothing else is ever stored) — i.e.
    it passes every check of `handle_response` (`Valid`, including the flag comparison of fix D26) at a
    requester that recorded that root and that last slice index. This holds for every held block, also
    one of a Byzantine leader: a node only ever stores shreds whose flag agrees with its last-slice marker
    (`FlagInv`), so the fix cannot make an honest holder's answers unacceptable. Uses C15 `complete`,
    `complete_last`. -/
theorem responder_answers_verify (sd : SlotData) (b : Bid) (blk : Block) (hs : SInv sd) (hcap : sd.dis.cap ≤ 2 ^ 32)
    (hheld : getBlock sd b.hash = some blk) :
    ∃ l, (∃ root π, answer sd (.last b) = some (.lastRoot (.last b) l root π) ∧ checkProofLast root l b.hash π = true) ∧
      ∀ i, i ≤ l → ∃ root π, answer sd (.root b i) = some (.sliceRoot (.root b i) root π) ∧
        checkProof root i b.hash π = true ∧
        ∀ j, j < TOTAL_SHREDS → ∃ s, answer sd (.shred b i j) = some (.shred (.shred b i j) b.slot s true) ∧
          s.slice = i ∧ s.idx = j ∧ s.root = root ∧ s.isLast = decide (i = l) ∧ s.ty = true ∧
          ∀ st : RepairSt, rootGet st.sliceRoots (b, i) = some root → lastGet st.lastSlices b = some l →
            Valid st (.shred (.shred b i j) b.slot s true) := by
  have hhash := getBlock_hash sd b.hash blk hs.ok hheld
  unfold getBlock at hheld
  cases hb : blockData sd b.hash with
  | none => simp [hb] at hheld
  | some bd =>
    simp only [hb, Option.bind_some] at hheld
    obtain ⟨hbi, hbcap, hfl, hty⟩ := blockData_sinv sd b.hash bd hs hb
    obtain ⟨roots, ht, hroot⟩ := hbi.cmp blk hheld
    obtain ⟨l, hl, hlen, hlcap, _⟩ := hbi.tre roots ht
    have hlen32 : roots.length ≤ 2 ^ 32 := by omega
    have hne : roots ≠ [] := by intro h; rw [h] at hlen; simp at hlen
    have hbh : b.hash = (Tree.new roots).root := by rw [← hhash, hroot]
    refine ⟨l, ?_, ?_⟩
    · obtain ⟨root, h1, h2, h3, _⟩ := slice_queries sd b.hash bd roots l l hbi hb ht hl (Nat.le_refl l)
      refine ⟨root, (Tree.new roots).createProof l, ?_, ?_⟩
      · have hli : getLastSliceIndex sd b.hash = some l := by simp [getLastSliceIndex, hb, hl]
        simp only [answer, hli, h1, h3]
      · have := Merkle.complete_last roots hne hlen32
        rw [hlen] at this
        simp only [Nat.add_sub_cancel] at this
        have hg : roots.getD l 0 = root := by simp [List.getD_eq_getElem?_getD, h2]
        rw [hg, ← hbh] at this
        exact this
    · intro i hi
      obtain ⟨root, h1, h2, h3, arr, harr, h4⟩ := slice_queries sd b.hash bd roots l i hbi hb ht hl hi
      refine ⟨root, (Tree.new roots).createProof i, ?_, ?_, ?_⟩
      · simp only [answer, h1, h3]
      · have := Merkle.complete roots i (by omega) hlen32
        have hg : roots.getD i 0 = root := by simp [List.getD_eq_getElem?_getD, h2]
        rw [hg, ← hbh] at this
        exact this
      · intro j hj
        obtain ⟨s, hsj, hs1, hs2, hs3, hs4⟩ := h4 j hj
        have hlast : s.isLast = decide (i = l) := by
          rw [hfl i arr j s harr hsj, hl]
          exact decide_eq_decide.mpr ⟨fun e => (Option.some.inj e).symm, fun e => e ▸ rfl⟩
        have hty' := hty i arr j s harr hsj
        refine ⟨s, by simp only [answer, hs1], hs2, hs3, hs4, hlast, hty',
          fun st hst hlst => ⟨rfl, hs2, hs3, by rw [hst, hs4], ?_, hty', rfl⟩⟩
        rw [hlast, hlst]
        exact decide_eq_decide.mpr ⟨fun h => h ▸ rfl, fun h => (Option.some.inj h).symm⟩

/-- **The responder is total: never a panic, a NACK for what it cannot serve.** For every slot data
    satisfying the blockstore invariant: every request (any kind, block id, indices) is answered — the
    `assert!(index < leaves)` of `create_proof` is unreachable —; every request about a block id the node
    has no data for is NACKed; and every request about a slice beyond the last slice of a known block is
    NACKed. -/
theorem responder_total (sd : SlotData) (hs : SInv sd) :
    (∀ r, answer sd r ≠ none) ∧
    (∀ r, (∀ b, (r = .last b ∨ (∃ i, r = .root b i) ∨ (∃ i j, r = .shred b i j)) → blockData sd b.hash = none) →
      answer sd r = some (.nack r)) ∧
    (∀ b l i j, getLastSliceIndex sd b.hash = some l → l < i →
      answer sd (.root b i) = some (.nack (.root b i)) ∧ answer sd (.shred b i j) = some (.nack (.shred b i j))) := by
  refine ⟨fun r => ?_, fun r h => responder_nacks_unknown sd r h, fun b l i j hl hi => ?_⟩
  · have key : ∀ (h : H) (i root : Nat) (f : List H → Resp), getSliceRoot sd h i = some root →
        (match createProof sd h i with
          | none => some (Resp.nack r)
          | some none => none
          | some (some π) => some (f π)) ≠ none := by
      intro h i root f hsr
      -- no `assert!(index < leaves)`: the tree was built over slices `0..=last`, and nothing is held beyond the last one
      have : createProof sd h i ≠ some none := by
        unfold createProof
        unfold getSliceRoot at hsr
        cases hb : blockData sd h with
        | none => exact fun e => nomatch e
        | some bd =>
          rw [hb, Option.bind_some] at hsr
          rw [Option.bind_some]
          cases ht : bd.tree with
          | none => exact fun e => nomatch e
          | some roots =>
            have hbi := (blockData_sinv sd h bd hs hb).1
            obtain ⟨l, hl, hlen, _⟩ := hbi.tre roots ht
            by_cases hil : i < roots.length
            · simp [hil]
            · rw [(hbi.lst l i hl (by omega)).1] at hsr; cases hsr
      rcases hcp : createProof sd h i with _ | _ | π
      · exact fun e => nomatch e
      · exact absurd hcp this
      · exact fun e => nomatch e
    cases r with
    | last b =>
      unfold answer; dsimp only
      cases getLastSliceIndex sd b.hash with
      | none => exact fun e => nomatch e
      | some last =>
        dsimp only
        cases hsr : getSliceRoot sd b.hash last with
        | none => exact fun e => nomatch e
        | some root => exact key b.hash last root _ hsr
    | root b i =>
      unfold answer; dsimp only
      cases hsr : getSliceRoot sd b.hash i with
      | none => exact fun e => nomatch e
      | some root => exact key b.hash i root _ hsr
    | shred b i j =>
      unfold answer; dsimp only
      cases getShred sd b.hash i j <;> exact fun e => nomatch e
  · unfold getLastSliceIndex at hl
    cases hb : blockData sd b.hash with
    | none => simp [hb] at hl
    | some bd =>
      simp only [hb, Option.bind_some] at hl
      have := ((blockData_sinv sd b.hash bd hs hb).1.lst l i hl hi).1
      constructor
      · simp [answer, getSliceRoot, hb, this]
      · simp [answer, getShred, hb, this]

/-! ### 4. fixes D26 and D15b; the hypothesis `Admissible` is typing only; non-vacuity -/

/-- the two-slice block of `Props/C13.lean` (slot 5, parent (3, #7)) is a correct leader's block -/
theorem exB_wf : exB.WF exEnv 3 := Blockstore.exB_wf

theorem exB_roots : ∀ i, i < exB.n → exB.root i ≠ 0 := by intro i _; simp [exB]

def exBid : Bid := bidOf exB
/-- the holder's answer to `r` as an event -/
def hon (r : Req) : Ev := .resp (honestResp exB r)
def shredsOf (i : Nat) : List Ev := (List.range TOTAL_SHREDS).map (fun j => hon (.shred exBid i j))
/-- start, last-slice root, then per slice: its root and its 64 shreds -/
def schedHonest : List Ev :=
  [.start exBid, hon (.last exBid), hon (.root exBid 0)] ++ shredsOf 0 ++ [hon (.root exBid 1)] ++ shredsOf 1

/-- a Byzantine leader signed slice 0 (same root) also with the last-slice marker; a hostile peer
    answers `Shred(id, 0, 0)` with that shred: right slot / slice / index, the proven slice root, a
    valid leader signature (finding D26, fixed: the requester drops it) -/
def evilLast : Ev := .resp (.shred (.shred exBid 0 0) 5 { exB.shred 0 0 with isLast := true } true)
/-- a hostile peer flips the unauthenticated data/coding tag (D15) of the genuine shred (0, 0) -/
def evilTag : Ev := .resp (.shred (.shred exBid 0 0) 5 { exB.shred 0 0 with ty := false } true)

def schedWith (evil : Ev) : List Ev :=
  [.start exBid, hon (.last exBid), hon (.root exBid 0), evil] ++ shredsOf 0 ++ [hon (.root exBid 1)] ++ shredsOf 1

/-- the holder's answers in order on a fresh requester: the state after 3 events, after 68, and at the end; the
    schedules of the witnesses below are this one with one more response, which is dropped -/
theorem honest_run :
    (Req.shred exBid 0 0 ∈ (run exEnv 3 ⟨RepairSt.init, []⟩ (schedHonest.take 3)).1.st.outstanding ∧
      lastGet (run exEnv 3 ⟨RepairSt.init, []⟩ (schedHonest.take 3)).1.st.lastSlices exBid = some 1) ∧
    (Req.shred exBid 1 0 ∈ (run exEnv 3 ⟨RepairSt.init, []⟩ (schedHonest.take 68)).1.st.outstanding ∧
      lastGet (run exEnv 3 ⟨RepairSt.init, []⟩ (schedHonest.take 68)).1.st.lastSlices exBid = some 1) ∧
    ((run exEnv 3 ⟨RepairSt.init, []⟩ schedHonest).1.st.outstanding = [] ∧
      getBlock (storeGet 3 (run exEnv 3 ⟨RepairSt.init, []⟩ schedHonest).1.store 5) exBid.hash = some exB.block ∧
      ((run exEnv 3 ⟨RepairSt.init, []⟩ schedHonest).2.filter
        (fun o => decide (o.poolAdd = some (exBid, exB.fparent)))).length = 1 ∧
      (run exEnv 3 ⟨RepairSt.init, []⟩ schedHonest).2.all (fun o => !o.panic) = true) ∧
    (storeGet 3 (run exEnv 3 ⟨RepairSt.init, []⟩ schedHonest).1.store 5).misbehaved = false := by
  decide +kernel

theorem rootsKnown_run (evs : List Ev) : RootsKnown (run exEnv 3 ⟨RepairSt.init, []⟩ evs).1.st :=
  (repair_task_never_panics exEnv 3 evs ⟨RepairSt.init, []⟩ rootsKnown_init (storeInv_nil 3)).2.1

/-- one more response after the third event, invalid there: it is dropped, and the run ends as `honest_run` -/
theorem dropped_in_schedule (evil : Ev) (r : Resp) (he : evil = .resp r)
    (hv : ¬ Valid (run exEnv 3 ⟨RepairSt.init, []⟩ (schedHonest.take 3)).1.st r) :
    Req.shred exBid 0 0 ∈ (run exEnv 3 ⟨RepairSt.init, []⟩ ((schedWith evil).take 3)).1.st.outstanding ∧
    Req.shred exBid 0 0 ∈ (run exEnv 3 ⟨RepairSt.init, []⟩ ((schedWith evil).take 4)).1.st.outstanding ∧
    (run exEnv 3 ⟨RepairSt.init, []⟩ ((schedWith evil).take 4)).2.getLast? = some {} ∧
    (run exEnv 3 ⟨RepairSt.init, []⟩ (schedWith evil)).1.st.outstanding = [] ∧
    getBlock (storeGet 3 (run exEnv 3 ⟨RepairSt.init, []⟩ (schedWith evil)).1.store 5) exBid.hash = some exB.block ∧
    ((run exEnv 3 ⟨RepairSt.init, []⟩ (schedWith evil)).2.filter
      (fun o => decide (o.poolAdd = some (exBid, exB.fparent)))).length = 1 ∧
    (run exEnv 3 ⟨RepairSt.init, []⟩ (schedWith evil)).2.all (fun o => !o.panic) = true ∧
    (storeGet 3 (run exEnv 3 ⟨RepairSt.init, []⟩ (schedWith evil)).1.store 5).misbehaved = false := by
  subst he
  obtain ⟨⟨h1, _⟩, _, ⟨f1, f2, f3, f4⟩, f5⟩ := honest_run
  have e3 : (schedWith (.resp r)).take 3 = schedHonest.take 3 := by
    simp only [schedWith, schedHonest, List.cons_append, List.take_succ_cons, List.take_zero]
  have e4 : (schedWith (.resp r)).take 4 = schedHonest.take 3 ++ [.resp r] := by
    simp only [schedWith, schedHonest, List.cons_append, List.nil_append, List.append_assoc, List.take_succ_cons,
      List.take_zero]
  have ef : schedWith (.resp r) = schedHonest.take 3 ++ .resp r :: schedHonest.drop 3 := by
    simp only [schedWith, schedHonest, List.cons_append, List.nil_append, List.append_assoc, List.take_succ_cons,
      List.take_zero, List.drop_succ_cons, List.drop_zero]
  obtain ⟨s4, _, _, o4⟩ := run_insert_invalid exEnv 3 _ (schedHonest.take 3) [] r (rootsKnown_run _) hv
  obtain ⟨sf, hp, hq, _⟩ := run_insert_invalid exEnv 3 _ (schedHonest.take 3) (schedHonest.drop 3) r (rootsKnown_run _) hv
  rw [e3, e4, ef, s4, o4, sf, hp _ rfl, hq _ rfl, List.take_append_drop, List.append_nil]
  exact ⟨h1, h1, rfl, f1, f2, f3, f4, f5⟩

/-- Non-vacuity, concretely: on a fresh requester the holder's answers in order complete the repair —
    nothing outstanding, the block stored under its id, announced exactly once, no panic. -/
theorem honest_schedule_completes :
    (run exEnv 3 ⟨RepairSt.init, []⟩ schedHonest).1.st.outstanding = [] ∧
    getBlock (storeGet 3 (run exEnv 3 ⟨RepairSt.init, []⟩ schedHonest).1.store 5) exBid.hash = some exB.block ∧
    ((run exEnv 3 ⟨RepairSt.init, []⟩ schedHonest).2.filter (fun o => decide (o.poolAdd = some (exBid, exB.fparent)))).length = 1 ∧
    (run exEnv 3 ⟨RepairSt.init, []⟩ schedHonest).2.all (fun o => !o.panic) = true :=
  honest_run.2.2.1

theorem evilLast_invalid : ¬ Valid (run exEnv 3 ⟨RepairSt.init, []⟩ (schedHonest.take 3)).1.st
    (.shred (.shred exBid 0 0) 5 { exB.shred 0 0 with isLast := true } true) := by
  intro hv
  have h := hv.last
  rw [honest_run.1.2] at h
  exact absurd h (by decide)

/-- **Fix D26 — the last-slice marker no longer derails the repair.** The schedule that derailed the
    repair before the fix: all events but one are the holder's answers, and a hostile peer
    answers `Shred(id, 0, 0)` with the shred of slice 0 that the Byzantine leader also signed with the
    last-slice marker (right slot / slice / index, the proven slice root, valid leader signature). The
    requester proved through `LastSliceRoot` that slice 1 is the last one, so the response is dropped:
    the request is still outstanding after it, that step stores and announces nothing, and at the end of
    the very same schedule nothing is outstanding, the block is stored under its id, announced exactly
    once, and no step panicked. -/
theorem last_marker_no_longer_derails :
    Req.shred exBid 0 0 ∈ (run exEnv 3 ⟨RepairSt.init, []⟩ ((schedWith evilLast).take 3)).1.st.outstanding ∧
    Req.shred exBid 0 0 ∈ (run exEnv 3 ⟨RepairSt.init, []⟩ ((schedWith evilLast).take 4)).1.st.outstanding ∧
    (run exEnv 3 ⟨RepairSt.init, []⟩ ((schedWith evilLast).take 4)).2.getLast? = some {} ∧
    (run exEnv 3 ⟨RepairSt.init, []⟩ (schedWith evilLast)).1.st.outstanding = [] ∧
    getBlock (storeGet 3 (run exEnv 3 ⟨RepairSt.init, []⟩ (schedWith evilLast)).1.store 5) exBid.hash = some exB.block ∧
    ((run exEnv 3 ⟨RepairSt.init, []⟩ (schedWith evilLast)).2.filter
      (fun o => decide (o.poolAdd = some (exBid, exB.fparent)))).length = 1 ∧
    (run exEnv 3 ⟨RepairSt.init, []⟩ (schedWith evilLast)).2.all (fun o => !o.panic) = true ∧
    (storeGet 3 (run exEnv 3 ⟨RepairSt.init, []⟩ (schedWith evilLast)).1.store 5).misbehaved = false :=
  dropped_in_schedule evilLast _ rfl evilLast_invalid

/-- the same, the other way round: the last slice signed *without* the marker is dropped as well -/
def evilNotLast : Ev := .resp (.shred (.shred exBid 1 0) 5 { exB.shred 1 0 with isLast := false } true)

theorem missing_last_marker_rejected :
    (stepEv exEnv 3 (run exEnv 3 ⟨RepairSt.init, []⟩ ((schedWith evilLast).take 69)).1 evilNotLast).2 = {} ∧
    Req.shred exBid 1 0 ∈ (run exEnv 3 ⟨RepairSt.init, []⟩ ((schedWith evilLast).take 69)).1.st.outstanding ∧
    Req.shred exBid 1 0 ∈
      (stepEv exEnv 3 (run exEnv 3 ⟨RepairSt.init, []⟩ ((schedWith evilLast).take 69)).1 evilNotLast).1.st.outstanding := by
  have e : (schedWith evilLast).take 69 = schedHonest.take 3 ++ evilLast :: (schedHonest.drop 3).take 65 := by
    simp only [schedWith, schedHonest, List.cons_append, List.nil_append, List.append_assoc, List.take_succ_cons,
      List.take_zero, List.drop_succ_cons, List.drop_zero]
  have e68 : (run exEnv 3 ⟨RepairSt.init, []⟩ ((schedWith evilLast).take 69)).1 =
      (run exEnv 3 ⟨RepairSt.init, []⟩ (schedHonest.take 68)).1 := by
    rw [e, evilLast, (run_insert_invalid exEnv 3 _ _ _ _ (rootsKnown_run _) evilLast_invalid).1, ← List.take_add]
  have hn : ¬ Valid (run exEnv 3 ⟨RepairSt.init, []⟩ (schedHonest.take 68)).1.st
      (.shred (.shred exBid 1 0) 5 { exB.shred 1 0 with isLast := false } true) := by
    intro hv
    have h := hv.last
    rw [honest_run.2.1.2] at h
    exact absurd h (by decide)
  rw [e68, evilNotLast, stepEv_invalid (rootsKnown_run _) hn]
  exact ⟨rfl, honest_run.2.1.1, honest_run.2.1.1⟩

/-- **Why the check is needed (the old behaviour, at the blockstore).** Had the shred with the wrong
    marker been handed to `add_shred_from_repair` (as `handle_response` did before fix D26), the repair
    spot would have cached its commitment and marked slice 0 as last: the genuine shreds of slice 0 and
    of slice 1 are then rejected as `Equivocation` — and each of their requests was consumed by its
    (valid) response, so nothing retried. -/
theorem last_marker_would_poison :
    (addRepair exEnv (addRepair exEnv (SlotData.new 3 5) exBid.hash { exB.shred 0 0 with isLast := true }).1
      exBid.hash (exB.shred 0 1)).2.1 = .err .equivocation ∧
    (addRepair exEnv (addRepair exEnv (SlotData.new 3 5) exBid.hash { exB.shred 0 0 with isLast := true }).1
      exBid.hash (exB.shred 1 0)).2.1 = .err .equivocation := by
  decide

/-- `add_shred_from_repair` before the D15 `fix:`: `addShredCore`, no type check -/
def addRepairOld (env : Nat → Content) (sd : SlotData) (h : H) (s : Shred) : SlotData × AddRes × List Event :=
  let br := addShredCore env ((repGet sd.rep h).getD (BlockData.new sd.dis.cap sd.dis.slot)) s
  let p := fileRepair sd h br.1 br.2
  flagIfBad p.1 p.2

/-- `addRepairOld` fed the type-flipped shred (0, 0) and then the genuine shreds (0, 1) … (0, k) -/
def oldAfterFlip (k : Nat) : SlotData × AddRes × List Event :=
  ((List.range k).map (fun j => exB.shred 0 (j + 1))).foldl (fun acc s => addRepairOld exEnv acc.1 exBid.hash s)
    (addRepairOld exEnv (SlotData.new 3 5) exBid.hash { exB.shred 0 0 with ty := false })

/-- **The defect D15b, on the definitions before the fix** (against them `Admissible` would have to
    exclude flipped tags): that requester has no check between the signature and `add_shred_from_repair` (the
    fixed `handle_response` differs from it only by that check), so the genuine shred (0, 0) of a *correct* leader
    with its unauthenticated data/coding type flipped by the responder is handed to the blockstore - and its request
    removed. That blockstore (`addRepairOld`) stores it; the next shred of slice 0 makes `deshred` fail on the layout (the
    layout check precedes the count): `InvalidShred`, the correct leader's slot is flagged, `InvalidBlock` is sent,
    every further shred is `InvalidShred` and the block is never completed in that spot. -/
theorem derail_by_tag_old :
    (addRepairOld exEnv (SlotData.new 3 5) exBid.hash { exB.shred 0 0 with ty := false }).2.1 = .ev .firstShred ∧
    (oldAfterFlip 1).2 = (.err .invalidShred, [.invalidBlock]) ∧ (oldAfterFlip 1).1.misbehaved = true ∧
    (oldAfterFlip 31).2 = (.err .invalidShred, []) ∧
    getBlock (oldAfterFlip 63).1 exBid.hash = none := by
  decide +kernel

/-- **Fix D15b — a flipped data/coding type no longer derails the repair** (what the flipped shred did to the
    blockstore before: `derail_by_tag_old`): all events but one are the holder's answers, and a hostile peer answers `Shred(id, 0, 0)` with
    the genuine shred whose type it flipped. The response is dropped: the request is still outstanding after it, that
    step stores and announces nothing, and at the end of the very same schedule nothing is outstanding, the block is
    stored under its id, announced exactly once, no step panicked and the correct leader is not flagged. The
    blockstore itself would also have ignored the shred (`WrongType`). -/
theorem tag_no_longer_derails :
    Req.shred exBid 0 0 ∈ (run exEnv 3 ⟨RepairSt.init, []⟩ ((schedWith evilTag).take 4)).1.st.outstanding ∧
    (run exEnv 3 ⟨RepairSt.init, []⟩ ((schedWith evilTag).take 4)).2.getLast? = some {} ∧
    (run exEnv 3 ⟨RepairSt.init, []⟩ (schedWith evilTag)).1.st.outstanding = [] ∧
    getBlock (storeGet 3 (run exEnv 3 ⟨RepairSt.init, []⟩ (schedWith evilTag)).1.store 5) exBid.hash = some exB.block ∧
    ((run exEnv 3 ⟨RepairSt.init, []⟩ (schedWith evilTag)).2.filter
      (fun o => decide (o.poolAdd = some (exBid, exB.fparent)))).length = 1 ∧
    (run exEnv 3 ⟨RepairSt.init, []⟩ (schedWith evilTag)).2.all (fun o => !o.panic) = true ∧
    (storeGet 3 (run exEnv 3 ⟨RepairSt.init, []⟩ (schedWith evilTag)).1.store 5).misbehaved = false ∧
    (addRepair exEnv (SlotData.new 3 5) exBid.hash { exB.shred 0 0 with ty := false }).2 = (.err .wrongType, []) := by
  obtain ⟨_, d⟩ := dropped_in_schedule evilTag _ rfl fun hv => absurd hv.ty (by decide)
  exact ⟨d.1, d.2.1, d.2.2.1, d.2.2.2.1, d.2.2.2.2.1, d.2.2.2.2.2.1, d.2.2.2.2.2.2, by decide⟩

/-- What `Admissible` excludes and what it does not: the shred with the other last-slice marker is
    admissible (the code rejects it, nothing needs to be assumed about it); so is the flipped data/coding type
    (`evilTag_admissible`, since the D15b fix); the holder's answers are admissible (`honest_step`). -/
theorem evilLast_admissible : Admissible exB evilLast ∧ Admissible exB evilNotLast := by
  constructor
  · intro _ _ _ _ _ h
    simp [HBlock.isLast, exB] at h
  · intro _ _ _ _ _ h
    simp [HBlock.isLast, exB] at h

/-- nothing is assumed about the data/coding type: the flipped shred is an admissible event -/
theorem evilTag_admissible : Admissible exB evilTag := by
  intro _ _ _ _ _ _; rfl

/-- The size-class part of `Admissible` is a typing constraint of the model's encoding: `sz` abstracts
    the payload length, and the payload of a shred is what its Merkle path to the slice root
    authenticates, so a shred that verifies under the leader's root at index `j` has the leader's
    payload. In the model's wider response type `sz` is a free attribute, and a shred with the right
    commitment and a different size class would make the layout check of slice 0 fail for good. -/
def evilSz : Ev := .resp (.shred (.shred exBid 0 0) 5 { exB.shred 0 0 with sz := 4 } true)

theorem size_class_witness :
    ¬ Admissible exB evilSz ∧
    (run exEnv 3 ⟨RepairSt.init, []⟩ (schedWith evilSz)).1.st.outstanding = [] ∧
    getBlock (storeGet 3 (run exEnv 3 ⟨RepairSt.init, []⟩ (schedWith evilSz)).1.store 5) exBid.hash = none := by
  refine ⟨?_, by decide +kernel⟩
  intro h
  have := h rfl rfl rfl rfl rfl rfl
  simp [exB] at this

/-- The `root ≠ 0` part of `Admissible` is a typing constraint of the model's encoding, not an
    assumption about peers: data id `0` is the empty byte string of the padding leaves
    (`EMPTY_ROOTS[0] = hash_leaf(&[])`), which a 32-byte `SliceRoot` can never be. In the model's wider
    response type such a "root" does verify as last leaf at the first padding position. -/
theorem padding_leaf_witness :
    checkProofLast 0 3 (Tree.new [1, 2, 3]).root ((Tree.new [1, 2, 3, 0]).createProof 3) = true := by decide

/-- the slot data of a node that took delivery of `ss` into the empty slot `slot`. A constant of its own: the kernel
    compares `exHolder` with `delivered …` by unfolding both, but with a bare `(runDissem …).1` by running it. -/
def delivered (env : Nat → Content) (cap slot : Nat) (ss : List Shred) : SlotData :=
  (runDissem env (SlotData.new cap slot) ss).1

theorem holds_of_delivery (B : HBlock) (env : Nat → Content) (cap : Nat) (hwf : B.WF env cap) (slot : Nat)
    (hslot : B.slot = slot) (ss : List Shred) (hss : ∀ s ∈ ss, B.Honest s) (hen : Enough B ss) :
    Holds B cap (delivered env cap slot ss) := by
  subst hslot
  unfold delivered
  have hgood := (honest_never_flagged_typed B env cap hwf (SlotData.new cap B.slot) ⟨rfl, good_new B cap⟩ ss hss).1
  have hc := (honest_block_announced_iff B env cap hwf ss hss).2.2.2.1.trans (if_pos hen)
  refine ⟨runDissem_sinv env ss _ (sinv_new cap B.slot), _, ?_, hgood.2, by rw [hc]; rfl⟩
  unfold blockData
  rw [hc]
  exact if_pos rfl

/-- a peer that received 32 shreds of every slice of `exB` through dissemination -/
def exHolder : SlotData :=
  (runDissem exEnv (SlotData.new 3 5) ((List.range 32).map (exB.shred 1) ++ (List.range 32).map (exB.shred 0))).1

theorem exHolder_holds : Holds exB 3 exHolder :=
  holds_of_delivery exB exEnv 3 exB_wf 5 rfl
    ((List.range 32).map (exB.shred 1) ++ (List.range 32).map (exB.shred 0)) exBoth_honest exBoth_enough

/-- **Non-vacuity of `repair_completes`**: all its hypotheses hold together for a concrete block, holder,
    start state and a non-empty schedule (so its conclusion is not vacuous); the schedule comes from
    `fair_schedule_exists`. -/
example : ∃ (σ : Sys) (evs : List Ev), RepInv exB 3 σ ∧ StoreInv 3 σ.store ∧ (∀ e ∈ evs, Admissible exB e) ∧
    Fair exEnv 3 (respOf exHolder) (bidOf exB) σ evs ∧ evs ≠ [] ∧ (spotOf 3 exB σ.store).completed = none := by
  have hinv : RepInv exB 3 (stepEv exEnv 3 ⟨RepairSt.init, []⟩ (.start (bidOf exB))).1 :=
    repInv_begin exB exEnv 3 (by decide) ⟨RepairSt.init, []⟩ rfl rfl (by decide) rfl rootsKnown_init
      (fun _ => rfl) (by intro r hr; simp [RepairSt.init] at hr)
  obtain ⟨evs, h1, _, h3⟩ := fair_schedule_exists exB exEnv 3 exB_wf exB_roots (by decide) exHolder exHolder_holds _ hinv
  refine ⟨_, evs, hinv, storeInv_nil 3, h1, h3, ?_, by decide⟩
  rintro rfl
  exact h3 (.last (bidOf exB)) (by decide) rfl

end AgModel.Repair
