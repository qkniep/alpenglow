import AgModel.Proofs.Wire
import AgModel.Proofs.Cert
/-!
# C19 — wire format: messages round-trip exactly and fit one datagram

All statements are about `AgModel.Wire`, the byte-level model of the wincode encoding of
`ConsensusMessage` (5 vote kinds, 5 certificate types), `Shred`, `RepairRequest`, `RepairResponse`,
`Transaction` and of `alpenglow::network::deserialize` (`deserialize_exact` with the MTU
preallocation limit). The blst point decoders are an abstract parameter `k : CryptoOk`; every
theorem holds for every `k`. `c.valid m` = "m is representable" (integers in range, hashes 32 bytes,
signatures 96 / 64 bytes accepted by the point decoder, bitmask words exactly covering `num_bits`
≤ 2048 bits, indices below their bounds, vectors within the preallocation limit).
-/
namespace AgModel.Wire

/-- **Round trip**: every representable consensus message (any vote kind, any certificate type, any
    signer bitmask up to `MAX_SIGNERS` bits) decodes from its encoding to the identical message. -/
theorem consensus_decode_encode (k : CryptoOk) (m : ConsensusMsg) (h : (consensusMsg k).valid m) :
    decodeExact (consensusMsg k) ((consensusMsg k).enc m) = some m := (consensusMsg_lawful k).decode_encode m h
theorem shred_decode_encode (s : ShredW) (h : shred.valid s) : decodeExact shred (shred.enc s) = some s :=
  shred_lawful.decode_encode s h
theorem repairRequest_decode_encode (r : Nat × ReqType) (h : repairRequest.valid r) :
    decodeExact repairRequest (repairRequest.enc r) = some r := repairRequest_lawful.decode_encode r h
theorem repairResponse_decode_encode (r : RepairResponse) (h : repairResponse.valid r) :
    decodeExact repairResponse (repairResponse.enc r) = some r := repairResponse_lawful.decode_encode r h
theorem transaction_decode_encode (t : List Nat) (h : transaction.valid t) :
    decodeExact transaction (transaction.enc t) = some t := transaction_lawful.decode_encode t h

/-- **Trailing bytes are rejected** (`deserialize_exact`). -/
theorem consensus_rejects_trailing (k : CryptoOk) (m : ConsensusMsg) (h : (consensusMsg k).valid m) (t : Bytes) (ht : t ≠ []) :
    decodeExact (consensusMsg k) ((consensusMsg k).enc m ++ t) = none := (consensusMsg_lawful k).rejects_trailing m h t ht
theorem shred_rejects_trailing (s : ShredW) (h : shred.valid s) (t : Bytes) (ht : t ≠ []) :
    decodeExact shred (shred.enc s ++ t) = none := shred_lawful.rejects_trailing s h t ht
theorem repairRequest_rejects_trailing (r : Nat × ReqType) (h : repairRequest.valid r) (t : Bytes) (ht : t ≠ []) :
    decodeExact repairRequest (repairRequest.enc r ++ t) = none := repairRequest_lawful.rejects_trailing r h t ht
theorem repairResponse_rejects_trailing (r : RepairResponse) (h : repairResponse.valid r) (t : Bytes) (ht : t ≠ []) :
    decodeExact repairResponse (repairResponse.enc r ++ t) = none := repairResponse_lawful.rejects_trailing r h t ht
theorem transaction_rejects_trailing (x : List Nat) (h : transaction.valid x) (t : Bytes) (ht : t ≠ []) :
    decodeExact transaction (transaction.enc x ++ t) = none := transaction_lawful.rejects_trailing x h t ht

/-- **Stable re-encoding**: for an *arbitrary* byte string that decodes, the re-encoding decodes to
    the same message - hence encoding it again reproduces the same bytes. (The first re-encoding
    may differ from the input: `read_bitvec` drops bitmask words beyond `num_bits`.) -/
theorem consensus_reencode_stable (k : CryptoOk) (bs : Bytes) (m : ConsensusMsg) (h : decodeExact (consensusMsg k) bs = some m) :
    decodeExact (consensusMsg k) ((consensusMsg k).enc m) = some m := (consensusMsg_lawful k).reencode_stable _ _ h
theorem shred_reencode_stable (bs : Bytes) (s : ShredW) (h : decodeExact shred bs = some s) :
    decodeExact shred (shred.enc s) = some s := shred_lawful.reencode_stable _ _ h
theorem repairRequest_reencode_stable (bs : Bytes) (r : Nat × ReqType) (h : decodeExact repairRequest bs = some r) :
    decodeExact repairRequest (repairRequest.enc r) = some r := repairRequest_lawful.reencode_stable _ _ h
theorem repairResponse_reencode_stable (bs : Bytes) (r : RepairResponse) (h : decodeExact repairResponse bs = some r) :
    decodeExact repairResponse (repairResponse.enc r) = some r := repairResponse_lawful.reencode_stable _ _ h
theorem transaction_reencode_stable (bs : Bytes) (t : List Nat) (h : decodeExact transaction bs = some t) :
    decodeExact transaction (transaction.enc t) = some t := transaction_lawful.reencode_stable _ _ h

/-- A slice index ≥ `MAX_SLICES_PER_BLOCK` (any 8-byte value) is rejected wherever it occurs. -/
theorem sliceIndex_out_of_range (i : Nat) (rest : Bytes) (h : AgModel.Gen.MAX_SLICES_PER_BLOCK ≤ i) (h64 : i < 2 ^ 64) :
    sliceIndex.dec (leBytes 8 i ++ rest) = none :=
  guard_rejects u64_lawful _ i rest h64 (decide_eq_false (Nat.not_lt.2 h))

/-- A shred index ≥ `TOTAL_SHREDS` is rejected. -/
theorem shredIndex_out_of_range (i : Nat) (rest : Bytes) (h : AgModel.Gen.TOTAL_SHREDS ≤ i) (h64 : i < 2 ^ 64) :
    shredIndex.dec (leBytes 8 i ++ rest) = none :=
  guard_rejects u64_lawful _ i rest h64 (decide_eq_false (Nat.not_lt.2 h))

/-- Whatever byte string decodes as a shred, its indices are in range, its data and Merkle path are
    within the preallocation limit, its signature has 64 and every path element 32 bytes. -/
theorem decoded_shred_in_range (bs : Bytes) (s : ShredW) (h : decodeExact shred bs = some s) :
    s.sliceIndex < AgModel.Gen.MAX_SLICES_PER_BLOCK ∧ s.shredIndex < AgModel.Gen.TOTAL_SHREDS ∧
      s.data.length ≤ AgModel.Gen.MTU_BYTES ∧ s.path.length * 32 ≤ AgModel.Gen.MTU_BYTES ∧ s.sliceSig.length = 64 ∧
      ∀ p ∈ s.path, p.length = 32 := by
  obtain ⟨⟨hp, ⟨hsig, _⟩, hpl, _, hpath⟩, _⟩ := shred_lawful.decodeExact_valid h
  -- the same field tuple is representable whichever payload type the shred has
  have hf : shredFields.valid (s.slot, s.sliceIndex, s.isLast, s.shredIndex, s.data) := by
    obtain ⟨coding, _⟩ := s
    cases coding <;> exact (tagged_valid hp rfl).1
  obtain ⟨_, ⟨_, hsl⟩, _, ⟨_, hsh⟩, hd, _⟩ := hf
  exact ⟨of_decide_eq_true hsl, of_decide_eq_true hsh, Nat.le_trans (Nat.le_of_eq (Nat.mul_one _).symm) hd, hpl, hsig,
    fun p hp => (hpath p hp).1⟩

/-- Whatever decodes as an aggregate signature has a bitmask of `num_bits ≤ 2048` bits held in exactly
    `⌈num_bits/64⌉` words (dead words dropped). -/
theorem decoded_agg_bounded (k : CryptoOk) (bs : Bytes) (a : AggW) (rest : Bytes) (h : (agg k).dec bs = some (a, rest)) :
    a.words.length = wordsFor a.numBits ∧ a.numBits ≤ AgModel.Gen.MAX_SIGNERS ∧ a.sig.length = 96 := by
  obtain ⟨⟨⟨⟨hs, _⟩, _⟩, _⟩, hw, hmax⟩ := (agg_lawful k).dv _ _ _ h
  rw [wordsFor_MAX_SIGNERS] at hmax
  refine ⟨hw, ?_, hs⟩
  calc a.numBits ≤ 64 * wordsFor a.numBits := le_mul_wordsFor _
    _ = 64 * a.words.length := by rw [hw]
    _ ≤ 64 * 32 := Nat.mul_le_mul_left 64 hmax
    _ = AgModel.Gen.MAX_SIGNERS := by decide

/-- The decoded bitmask is the one `read_bitvec` (as modelled for C09) computes from the raw words:
    dropping the dead words does not change a live bit. -/
theorem agg_bits_eq_readBitvec (nb : Nat) (ws : List Nat) (h1 : ¬ ws.length > (AgModel.Gen.MAX_SIGNERS + 63) / 64)
    (h2 : ¬ nb > 64 * ws.length) :
    AgModel.Cert.readBitvec AgModel.Gen.MAX_SIGNERS nb ws = some ((⟨[], nb, ws.take (wordsFor nb)⟩ : AggW).bits) := by
  unfold AgModel.Cert.readBitvec AggW.bits
  rw [if_neg h1, if_neg h2]
  exact congrArg some (AgModel.Cert.bitsOfWords_take_take ws _ nb (wordsFor_le nb ws.length (Nat.not_lt.1 h2))
    (by unfold wordsFor; omega)).symm

/-- lengths that determine the encoded size of an aggregate: 96 signature bytes, at most 32 words -/
def AggW.sized (a : AggW) : Prop := a.sig.length = 96 ∧ a.words.length ≤ 32

def optSized : Option AggW → Prop
  | none => True
  | some a => a.sized

def CertW.sized : CertW → Prop
  | .notar _ h a _ | .fastFinal _ h a _ => h.length = 32 ∧ a.sized
  | .notarFallback _ h a1 a2 _ => h.length = 32 ∧ optSized a1 ∧ optSized a2
  | .skip _ a1 a2 _ => optSized a1 ∧ optSized a2
  | .final _ a _ => a.sized

/-- A decoded / representable aggregate has these lengths (so the bound below covers every
    certificate with up to `MAX_SIGNERS = 2048` bitmask bits, whatever the signer subset). -/
theorem agg_valid_sized (k : CryptoOk) (a : AggW) (h : (agg k).valid a) : a.sized := by
  obtain ⟨⟨⟨⟨hs, _⟩, _⟩, _⟩, _, hmax⟩ := h
  exact ⟨hs, wordsFor_MAX_SIGNERS ▸ hmax⟩

theorem agg_enc_le (k : CryptoOk) (a : AggW) (h : a.sized) : ((agg k).enc a).length ≤ 368 := by
  rw [agg_enc_length, h.1]
  have := h.2
  omega

theorem opt_agg_enc_le (k : CryptoOk) (a : Option AggW) (h : optSized a) : ((opt (agg k)).enc a).length ≤ 369 := by
  rw [opt_agg_enc_length]
  cases a with
  | none => show 1 ≤ 369; decide
  | some a => exact Nat.add_le_add_left (agg_enc_length k a ▸ agg_enc_le k a h) 1

/-- **Every certificate fits one datagram**: at most 794 bytes (two full 2048-bit halves). -/
theorem cert_fits_datagram (k : CryptoOk) (c : CertW) (h : c.sized) :
    ((consensusMsg k).enc (.cert c)).length ≤ 794 ∧ 794 ≤ AgModel.Gen.MTU_BYTES := by
  refine ⟨?_, by decide⟩
  show (leBytes 4 1 ++ (cert k).enc c).length ≤ 794
  rw [cert_enc]
  cases c <;> simp only [List.length_append, leBytes_length, u64_enc_length, blob_enc_length]
  case notar s hh a st | fastFinal s hh a st =>
    have := h.1
    have := agg_enc_le k a h.2
    omega
  case final s a st =>
    have := agg_enc_le k a h
    omega
  case notarFallback s hh a1 a2 st =>
    have := h.1
    have := opt_agg_enc_le k a1 h.2.1
    have := opt_agg_enc_le k a2 h.2.2
    omega
  case skip s a1 a2 st =>
    have := opt_agg_enc_le k a1 h.1
    have := opt_agg_enc_le k a2 h.2
    omega

/-- **Every vote is exactly 152 (with block hash) or 120 bytes.** -/
theorem vote_size (k : CryptoOk) (v : VoteW) (h : (vote k).valid v) :
    ((consensusMsg k).enc (.vote v)).length = match v with
      | .notar .. | .notarFallback .. => 152
      | _ => 120 := by
  show (leBytes 4 0 ++ (vote k).enc v).length = _
  rw [vote_enc]
  cases v with
  | notar s hh g i | notarFallback s hh g i =>
    have hv : (hashedVote k).valid (s, hh, g, i) := (tagged_valid h rfl).1
    simp only [List.length_append, leBytes_length, u64_enc_length, blob_enc_length, hv.2.1.1, hv.2.2.1.1.1]
  | skip s g i | skipFallback s g i | final s g i =>
    have hv : (plainVote k).valid (s, g, i) := (tagged_valid h rfl).1
    simp only [List.length_append, leBytes_length, u64_enc_length, blob_enc_length, hv.2.1.1.1]

/-- **Every shred a shredder produces fits one datagram**, also inside a repair response: with at
    most `MAX_DATA_PER_SHRED` payload bytes and a Merkle path of at most 6 = log2 `TOTAL_SHREDS`
    hashes a shred is at most 1325 bytes, the repair response carrying it at most 1389. -/
theorem shred_fits_datagram (s : ShredW) (hd : s.data.length ≤ AgModel.Gen.MAX_DATA_PER_SHRED) (hp : s.path.length ≤ 6)
    (hs : s.sliceSig.length = 64) (hh : ∀ p ∈ s.path, p.length = 32) :
    (shred.enc s).length ≤ 1325 ∧ 1325 + 64 ≤ AgModel.Gen.MTU_BYTES := by
  refine ⟨?_, by decide⟩
  have hmd : AgModel.Gen.MAX_DATA_PER_SHRED = 1024 := by decide
  have hb : (bool.enc s.isLast).length = 1 := rfl
  rw [shred_enc]
  simp only [List.length_append, leBytes_length, u64_enc_length, hb, byteVec_enc_length, blob_enc_length, hs,
    hashVec_enc_length s.path hh]
  omega

/-- A transaction of at most `MAX_TRANSACTION_SIZE` bytes encodes to at most 520 bytes. -/
theorem transaction_fits_datagram (t : List Nat) (h : t.length ≤ AgModel.Gen.MAX_TRANSACTION_SIZE) :
    (transaction.enc t).length ≤ 520 ∧ 520 ≤ AgModel.Gen.MTU_BYTES := by
  refine ⟨?_, by decide⟩
  have hm : AgModel.Gen.MAX_TRANSACTION_SIZE = 512 := by decide
  rw [transaction, byteVec_enc_length]
  omega

def ReqType.hashLen : ReqType → Nat
  | .lastSliceRoot _ h | .sliceRoot _ h _ | .shred _ h _ _ => h.length

theorem reqType_size (r : ReqType) (h : r.hashLen = 32) : (reqType.enc r).length ≤ 60 := by
  rw [reqType_enc]
  cases r <;> simp only [ReqType.hashLen] at h <;>
    simp only [List.length_append, leBytes_length, u64_enc_length, blob_enc_length, h] <;> omega

/-- **Every repair response fits one datagram**: a response carrying a shred is at most 64 bytes
    longer than the shred (≤ 1389 with `shred_fits_datagram`); a root response with a Merkle proof of
    at most 10 = log2 `MAX_SLICES_PER_BLOCK` hashes is at most 432 bytes; a nack at most 64. -/
theorem repairResponse_fits_datagram (r : RepairResponse) :
    match r with
    | .shred q s => q.hashLen = 32 → (repairResponse.enc r).length ≤ 64 + (shred.enc s).length
    | .lastSliceRoot q _ root pr => q.hashLen = 32 → root.length = 32 → pr.length ≤ 10 → (∀ p ∈ pr, p.length = 32) →
        (repairResponse.enc r).length ≤ 432
    | .sliceRoot q root pr => q.hashLen = 32 → root.length = 32 → pr.length ≤ 10 → (∀ p ∈ pr, p.length = 32) →
        (repairResponse.enc r).length ≤ 432
    | .nack q => q.hashLen = 32 → (repairResponse.enc r).length ≤ 64 := by
  rw [repairResponse_enc]
  cases r with
  | shred q s | nack q =>
    intro hq
    have := reqType_size q hq
    simp only [List.length_append, leBytes_length]
    omega
  | lastSliceRoot q _ root pr | sliceRoot q root pr =>
    intro hq hr hp hh
    have := reqType_size q hq
    simp only [List.length_append, leBytes_length, u64_enc_length, blob_enc_length, hr, hashVec_enc_length pr hh]
    omega

theorem repairRequest_fits_datagram (r : Nat × ReqType) (h : r.2.hashLen = 32) : (repairRequest.enc r).length ≤ 68 := by
  have := reqType_size r.2 h
  rw [repairRequest, pair, List.length_append, u64_enc_length]
  omega

/-! ## the signed bytes determine the payload (why C09 may take a signature to be over the payload itself) -/

/-- `VotePayload` serialisation is injective: two payloads with the same bytes-to-sign have the same
    kind, slot and block hash. -/
theorem encodePayload_injective (p q : PayloadW) (hp : payload.valid p) (hq : payload.valid q)
    (h : bytesToSign p = bytesToSign q) : p = q := payload_lawful.enc_injective p q hp hq h

/-! ## non-vacuity -/

/-- a concrete certificate with a 5-bit bitmask encodes to 176 bytes and round-trips; a transaction
    with a trailing byte is rejected; a word beyond `num_bits` is dropped by decoding and the
    re-encoding is stable. -/
example :
    let k : CryptoOk := ⟨fun _ => true, fun _ => true⟩
    let a : AggW := ⟨List.replicate 96 7, 5, [0b10110]⟩
    let m : ConsensusMsg := .cert (.notar 9 (List.replicate 32 1) a 6)
    ((consensusMsg k).enc m).length = 176 ∧
    decodeExact (consensusMsg k) ((consensusMsg k).enc m) = some m ∧
    decodeExact transaction [2, 0, 0, 0, 0, 0, 0, 0, 10, 11] = some [10, 11] ∧
    decodeExact transaction [2, 0, 0, 0, 0, 0, 0, 0, 10, 11, 12] = none ∧
    (agg k).dec (List.replicate 96 7 ++ leBytes 8 5 ++ leBytes 8 2 ++ leBytes 8 22 ++ leBytes 8 99) = some (a, []) := by
  decide +kernel

end AgModel.Wire
