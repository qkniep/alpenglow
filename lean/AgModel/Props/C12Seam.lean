import AgModel.Proofs.Seam
import AgModel.Proofs.SeamStore
/-! The seam between the two shred models (`Model/ShredAbs.lean`) as theorems (C12 / C13 / C14): the simulation
    theorem, what it transfers from `Props/C13.lean` to raw network input, and what the node serves to repair peers (the
    `sigOk` of C14's responder model). -/
namespace AgModel.Seam
open AgModel.Shred (Env VShred Bytes validate)
open AgModel.Blockstore (SlotData Content HBlock GoodSd runDissem Enough)

theorem inv_fresh (rid : RootId) (pk cap slot : Nat) : Inv rid pk (FNode.new cap slot) := by
  constructor <;> simp [FNode.new, FNode.cachedEntry, SlotData.new, Blockstore.BlockData.new]

/-- **Simulation (refinement), every sequence of raw shreds.** For every sequence of raw shreds - any bytes, headers,
    signatures, types, indices, Merkle paths, any order, duplicates, other slots' shreds - running the fine node
    (`try_new` with the commitment cache, then the blockstore) and abstracting gives exactly the state and the events
    of the coarse model run on the abstraction of exactly those raw shreds of the slot that pass
    `try_new(_, None, leader_pk)`; the invariant (cache soundness D34, cache agreement) is kept.
    The coarse run is `runNode`: `add_shred_from_dissemination`, except that a validly signed *conflicting* commitment
    on a shred of the *wrong type* flags the leader (`try_new` reports before the type is looked at; the blockstore
    alone would drop it): `typedConflict`. Where that case cannot occur `runNode` is `runDissem`
    (`runNode_eq_runDissem`). `hinj`: no SHA-256 collision among slice roots. -/
theorem node_refines_blockstore (env : Env) (cenv : Nat → Content) (rid : RootId)
    (hinj : ∀ a b, rid a = rid b → a = b) (pk : Nat) (n : FNode) (hI : Inv rid pk n) (ss : List Shred.Shred) :
    Inv rid pk (FNode.run env cenv rid pk n ss).1 ∧
    ((FNode.run env cenv rid pk n ss).1.abs, (FNode.run env cenv rid pk n ss).2) =
      runNode cenv n.abs (ss.filterMap (absIn env rid pk n.slot)) := by
  induction ss generalizing n with
  | nil => exact ⟨hI, rfl⟩
  | cons s rest ih =>
    obtain ⟨h1, h2, h3⟩ := handle_refines env cenv rid hinj pk n hI s
    obtain ⟨i1, i2⟩ := ih (n.handle env cenv rid pk s).1 h1
    rw [h2] at i2
    refine ⟨i1, ?_⟩
    simp only [FNode.run, List.filterMap_cons]
    cases ha : absIn env rid pk n.slot s with
    | none =>
      rw [ha] at h3
      obtain ⟨h3a, h3b⟩ := Prod.mk.inj h3
      rw [h3b, List.nil_append, ← h3a]
      exact i2
    | some cs =>
      rw [ha] at h3
      simp only [runNode] at h3 ⊢
      rw [← h3, ← i2]

/-- on deliveries of a correct leader's shreds (up to relayed type flips) the node's coarse run is the blockstore's -/
theorem runNode_eq_runDissem (B : HBlock) (cenv : Nat → Content) (cap : Nat) (hwf : B.WF cenv cap) (sd : SlotData)
    (hg : GoodSd B cap sd) (ds : List Blockstore.Shred) (hds : ∀ s ∈ ds, B.HonestUpToType s) :
    runNode cenv sd ds = runDissem cenv sd ds := by
  induction ds generalizing sd with
  | nil => rfl
  | cons s rest ih =>
    have hs := hds s List.mem_cons_self
    -- whatever a store of the leader's data has cached for the slice is the commitment of the leader's shred
    have h1 := addNode_eq_addDissem cenv (sd := sd) (cs := s) (typedConflict_of_agree fun c hc => by
      rw [(hg.2.cache _ _ hc).2]; exact (congrArg Blockstore.Shred.commitment hs.2.2).symm)
    have h2 : GoodSd B cap (Blockstore.addDissem cenv sd s).1 := by
      cases hty : s.ty with
      | false => rw [Blockstore.wrong_type_ignored cenv sd s hg.1 hty]; exact hg
      | true => exact (Blockstore.addDissem_good B cenv cap hwf sd s hg (hs.honest hty)).1
    simp only [runNode, runDissem, h1, ih _ h2 fun x hx => hds x (List.mem_cons_of_mem _ hx)]

/-- every raw shred of the sequence that passes `try_new(_, None, leader)` for the slot abstracts to a shred of the
    leader's block `B`, up to the unauthenticated data/coding type (derived from fine-level facts about a correct
    leader in `raw_honest_of_leader`) -/
def RawHonest (env : Env) (rid : RootId) (pk : Nat) (B : HBlock) (ss : List Shred.Shred) : Prop :=
  ∀ s ∈ ss, ∀ cs, absIn env rid pk B.slot s = some cs → B.HonestUpToType cs

theorem rawHonest_deliveries {env : Env} {rid : RootId} {pk : Nat} {B : HBlock} {ss : List Shred.Shred}
    (h : RawHonest env rid pk B ss) : ∀ cs ∈ ss.filterMap (absIn env rid pk B.slot), B.HonestUpToType cs := by
  intro cs hcs
  obtain ⟨s, hs, ha⟩ := List.mem_filterMap.mp hcs
  exact h s hs cs ha

/-- on raw input that is honest in this sense the node *is* the blockstore fed the abstractions of the shreds that
    validate: every theorem of `Props/C13.lean` about `runDissem` on deliveries of the leader's shreds (up to type)
    transfers through this equation -/
theorem raw_honest_run {B : HBlock} {env : Env} {cenv : Nat → Content} {cap : Nat} (hwf : B.WF cenv cap)
    {rid : RootId} (hinj : ∀ a b, rid a = rid b → a = b) {pk : Nat} {n : FNode} (hI : Inv rid pk n)
    (hslot : n.slot = B.slot) (hg : GoodSd B cap n.abs) {ss : List Shred.Shred} (hss : RawHonest env rid pk B ss) :
    Inv rid pk (FNode.run env cenv rid pk n ss).1 ∧
    ((FNode.run env cenv rid pk n ss).1.abs, (FNode.run env cenv rid pk n ss).2) =
      runDissem cenv n.abs (ss.filterMap (absIn env rid pk B.slot)) := by
  obtain ⟨hinv, hsim⟩ := node_refines_blockstore env cenv rid hinj pk n hI ss
  rw [hslot, runNode_eq_runDissem B cenv cap hwf n.abs hg _ (rawHonest_deliveries hss)] at hsim
  exact ⟨hinv, hsim⟩

/-- **C13 `honest_never_flagged` on raw network input.** A node whose store holds only a correct leader's data
    receives ANY sequence of raw shreds (garbage, mutations, replays, other slots, relayed type flips, any order,
    duplicates) among which those that validate under the leader key are the leader's up to type: no `InvalidBlock`,
    never flagged, only the leader's block is announced and at most once, and the store holds only the leader's data
    afterwards. (`Blockstore.honest_never_flagged` transferred through `node_refines_blockstore`.) -/
theorem raw_honest_never_flagged (B : HBlock) (env : Env) (cenv : Nat → Content) (cap : Nat) (hwf : B.WF cenv cap)
    (rid : RootId) (hinj : ∀ a b, rid a = rid b → a = b) (pk : Nat) (n : FNode) (hI : Inv rid pk n)
    (hslot : n.slot = B.slot) (hg : GoodSd B cap n.abs) (ss : List Shred.Shred) (hss : RawHonest env rid pk B ss) :
    GoodSd B cap (FNode.run env cenv rid pk n ss).1.abs ∧
    (FNode.run env cenv rid pk n ss).1.abs.misbehaved = false ∧
    (∀ e ∈ (FNode.run env cenv rid pk n ss).2, e = .firstShred ∨ e = .block B.block.info) ∧
    ((FNode.run env cenv rid pk n ss).2.count (.block B.block.info) ≤ (if n.abs.dis.completed.isSome then 0 else 1)) ∧
    Inv rid pk (FNode.run env cenv rid pk n ss).1 := by
  obtain ⟨hinv, hsim⟩ := raw_honest_run (cenv := cenv) hwf hinj hI hslot hg hss
  obtain ⟨h1, h2, h3⟩ := Blockstore.honest_never_flagged B cenv cap hwf n.abs hg _ (rawHonest_deliveries hss)
  rw [← hsim] at h1 h2 h3
  exact ⟨h1, h1.1, h2, h3, hinv⟩

/-- **C13 `honest_block_announced_iff` on raw network input.** A fresh slot, any sequence of raw shreds whose
    validating members are the leader's up to type; `del` = the abstractions of the raw shreds that validate and whose
    type fits their index. The `Block` event of the leader's block has been emitted iff every slice has at least
    `DATA_SHREDS` distinct shreds in `del`, exactly once in that case, no other `Block`, no `InvalidBlock`; the block
    is stored iff announced; the leader is not flagged. -/
theorem raw_honest_block_announced_iff (B : HBlock) (env : Env) (cenv : Nat → Content) (cap : Nat) (hwf : B.WF cenv cap)
    (rid : RootId) (hinj : ∀ a b, rid a = rid b → a = b) (pk : Nat) (ss : List Shred.Shred)
    (hss : RawHonest env rid pk B ss) :
    let r := FNode.run env cenv rid pk (FNode.new cap B.slot) ss
    let del := (ss.filterMap (absIn env rid pk B.slot)).filter (·.ty)
    (.block B.block.info ∈ r.2 ↔ Enough B del) ∧
    r.2.count (.block B.block.info) = (if Enough B del then 1 else 0) ∧
    (∀ e ∈ r.2, e = .firstShred ∨ e = .block B.block.info) ∧
    r.1.abs.dis.completed = (if Enough B del then some B.block else none) ∧
    r.1.abs.misbehaved = false := by
  intro r del
  have hg : GoodSd B cap (SlotData.new cap B.slot) := ⟨rfl, Blockstore.good_new B cap⟩
  obtain ⟨_, hsim⟩ := raw_honest_run (cenv := cenv) hwf hinj (inv_fresh rid pk cap B.slot) rfl hg hss
  obtain ⟨hflip, hhon⟩ := Blockstore.relayed_type_flips_ignored B cenv cap hwf _ hg _ (rawHonest_deliveries hss)
  rw [show (FNode.new cap B.slot).abs = SlotData.new cap B.slot from rfl, hflip] at hsim
  have h := Blockstore.honest_block_announced_iff B cenv cap hwf del hhon
  rw [← hsim] at h
  exact h

/-- the coarse block `B` is the abstraction of what the leader `sk` produced for the slot with the regular shredder:
    slice `i` is `sl i` (cipher key `key i`), and the abstraction of the leader's `j`-th shred of it is `B.shred i j`
    (this fixes `B.root i` = the interned root of the leader's tree and `B.sz i` = the size class of its shards,
    which are of one length) -/
def AbstractsLeader (env : Env) (rid : RootId) (sk : Nat) (B : HBlock) (sl : Nat → Shred.Slice) (key : Nat → Bytes) : Prop :=
  ∀ i j l, i < B.n → (Shred.leaderOut env .regular (sl i) sk (key i))[j]? = some l → absShred rid l = B.shred i j

/-- symbolic signatures: the leader key signed, for this slot, only the commitments of its block's slices -/
def LeaderSignedBlock (env : Env) (sk : Nat) (B : HBlock) (sl : Nat → Shred.Slice) (key : Nat → Bytes)
    (s : Shred.Shred) : Prop :=
  ∀ c, s.sig = .signed sk c → c.slot = B.slot →
    ∃ i, i < B.n ∧ c = Shred.commit (sl i).header (Shred.leaderTree env .regular (sl i) (key i)).root

/-- **`RawHonest` is a theorem about a correct leader**: if the leader key's signatures on the raw shreds are only
    over the commitments of the leader's block (nothing assumed about payload, index, path, type, header, other
    signatures - the shreds may be anything), then every raw shred that passes `try_new(_, None, leader)` abstracts
    to the leader's shred at that slice and index up to the type. Uses C12 `accepted_is_leader_shred_partial`
    (Merkle binding of payload and index, C15). -/
theorem raw_honest_of_leader (env : Env) (L : env.Laws) (rid : RootId) (sk : Nat) (B : HBlock) (sl : Nat → Shred.Slice)
    (key : Nat → Bytes) (habs : AbstractsLeader env rid sk B sl key) (ss : List Shred.Shred)
    (hss : ∀ s ∈ ss, LeaderSignedBlock env sk B sl key s) : RawHonest env rid sk B ss := by
  intro s hs cs hcs
  unfold absIn at hcs
  split at hcs
  · cases hcs
  · rename_i hslot
    have hslot : s.header.slot = B.slot := Decidable.not_not.mp hslot
    cases hv : validate env s none sk with
    | error e => rw [hv] at hcs; cases hcs
    | ok v =>
      rw [hv] at hcs
      simp only [Option.some.injEq] at hcs
      obtain ⟨_, hsig, _⟩ := (Shred.accept_none_iff env s sk v).mp hv
      obtain ⟨i, hi, hc⟩ := hss s hs _ hsig hslot
      rw [hc] at hsig
      obtain ⟨hidx, l, hl, hsl, hx⟩ :=
        Shred.accepted_is_leader_shred_partial env L .regular (sl i) sk (key i) s v none trivial hsig hv
      obtain ⟨hroot, hli, _⟩ := Shred.leaderOut_get env .regular (sl i) sk (key i) s.index l hl
      have hB := habs i s.index l hi hl
      have hh : s.header = l.shred.header := by rw [hsl]
      have hd : s.data = l.shred.data := by rw [hsl]
      have hcs' : ({ cs with ty := true } : Blockstore.Shred) = B.shred i s.index := by
        rw [← hB, ← hcs, hx]
        simp only [absShred, hh, hd, hroot, hli, Blockstore.Shred.mk.injEq, true_and]
        -- left: the leader's own shred `l` has the fitting type, as `B.shred i _` has `ty = true`
        have := congrArg Blockstore.Shred.ty hB
        simpa [absShred, HBlock.shred] using this
      unfold HBlock.HonestUpToType HBlock.Honest
      rw [hcs']
      refine ⟨hi, ?_, rfl⟩
      have : Blockstore.TOTAL_SHREDS = Pad.TOTAL := rfl
      simp only [HBlock.shred]
      rw [this]; exact hidx

def Backed (env : Env) (rid : RootId) (pk slot : Nat) (cs : Blockstore.Shred) : Prop :=
  ∃ x : VShred, ServedOk env rid pk x cs ∧ x.shred.header.slot = slot

/-- the link between the coarse decoding environment and the fine `Shredder::deshred`: when the coarse model
    regenerates the missing shreds of a slice (its environment says the root decodes), the shreds `refill` puts in are
    abstractions of fine shreds of the slot that pass `try_new(_, None, leader)`. Hypothesis of `served_sigOk_partial`;
    a theorem for every environment that decodes only code word roots (`regenBacked_of_faithful`,
    `Proofs/SeamRegen.lean`). The fine half alone is C12 `reconstructed_shreds_validate`. -/
def RegenBacked (env : Env) (cenv : Nat → Content) (rid : RootId) (pk slot : Nat) : Prop :=
  Blockstore.RegenKeeps cenv (Backed env rid pk slot)

/-- **Everything the node hands to the blockstore is backed**: whatever `try_new` accepts with the node's cache - hit
    or not - is a shred `try_new(_, None, leader)` accepts (C12 `accepted_valid_without_cache`; the cache is sound by
    `Inv.sound`, which is for `FNode` what C12 `node_cache_sound` is for `Gate`), and the blockstore is given its
    abstraction; with `RegenBacked`, everything the slot holds stays backed. -/
theorem handle_stored (env : Env) (cenv : Nat → Content) (rid : RootId) (pk : Nat) (n : FNode) (hI : Inv rid pk n)
    (hr : RegenBacked env cenv rid pk n.slot) (s : Shred.Shred)
    (h : Blockstore.SdStored (Backed env rid pk n.slot) n.abs) :
    Blockstore.SdStored (Backed env rid pk n.slot) (n.handle env cenv rid pk s).1.abs := by
  rcases handle_cases env cenv rid pk n s with e | e | ⟨v, hslot, hv, hty, e⟩ <;> rw [e]
  · exact h
  · exact Blockstore.flag_sdStored _ _ h
  · have hcs := hI.cacheSound s.header.sliceIdx
    refine Blockstore.addDissem_sdStored cenv _ hr n.sd _ h
      ⟨v, ⟨Shred.accepted_valid_without_cache env s pk _ hcs v hv, rfl⟩, ?_⟩
    rw [((Shred.accept_iff_signed env s pk _ hcs v).mp hv).2.2.2]
    exact hslot

theorem run_stored {env : Env} {cenv : Nat → Content} {rid : RootId} {pk slot : Nat} {n : FNode} (hslot : n.slot = slot)
    (hI : Inv rid pk n) (hr : RegenBacked env cenv rid pk slot) (ss : List Shred.Shred)
    (h : Blockstore.SdStored (Backed env rid pk slot) n.abs) :
    Blockstore.SdStored (Backed env rid pk slot) (FNode.run env cenv rid pk n ss).1.abs := by
  induction ss generalizing n with
  | nil => exact h
  | cons s rest ih =>
    subst hslot
    exact ih (handle_slot env cenv rid pk n s) (handle_inv env cenv hI s) (handle_stored env cenv rid pk n hI hr s h)

/-- **`sigOk = true` of the responder model is a theorem** (C14; `_partial`: under `RegenBacked`, see there).
    A node that ingested ANY sequence of raw shreds through `handle_disseminator_shred` (from a fresh slot) answers
    a repair request for a shred - `RepairRequestHandler::try_build_response`, model `Repair.answer`, which sets
    `sigOk = true` - only with the abstraction of a fine shred of that slot which passes
    `ValidatedShred::try_new(_, None, leader_pk)`: what the requester model's check `sigOk` stands for.
    The hypothesis `hr` is discharged for faithful decoding environments in `Props/C14Seam.lean` (`served_sigOk`).
    Before the D34 `fix:` in /repo the conclusion is false already for stored shreds
    (`cache_skips_signature_old_witness`); here the stored part is `handle_stored` (`Inv.sound`).
    (`hinj` is not needed: the invariant is kept whatever the interning, `handle_inv`.) -/
theorem served_sigOk_partial (env : Env) (cenv : Nat → Content) (rid : RootId) (hinj : ∀ a b, rid a = rid b → a = b)
    (pk cap slot : Nat) (hr : RegenBacked env cenv rid pk slot) (ss : List Shred.Shred)
    (b : Repair.Bid) (i j : Nat) (r : Repair.Req) (hslot : Nat) (cs : Blockstore.Shred) (ok : Bool)
    (ha : Repair.answer (FNode.run env cenv rid pk (FNode.new cap slot) ss).1.abs (.shred b i j) = some (.shred r hslot cs ok)) :
    ok = true ∧ ∃ x : VShred, ServedOk env rid pk x cs ∧ x.shred.header.slot = slot := by
  have hst := run_stored rfl (inv_fresh rid pk cap slot) hr ss (Blockstore.sdStored_new _ cap slot)
  unfold Repair.answer at ha
  simp only at ha
  cases hg : Blockstore.getShred (FNode.run env cenv rid pk (FNode.new cap slot) ss).1.abs b.hash i j with
  | none => rw [hg] at ha; simp at ha
  | some s =>
    rw [hg] at ha
    simp only [Option.some.injEq, Repair.Resp.shred.injEq] at ha
    obtain ⟨_, _, h3, h4⟩ := ha
    subst h3
    exact ⟨h4.symm, Blockstore.getShred_stored _ _ hst b.hash i j s hg⟩

section Witness
open AgModel.Exec.ShredEnv
open AgModel.Shred (wOut wS wFlipped wJunk)

/-- interning used in the examples: the example slice's root is id 1 -/
def ridEx : RootId := fun h => if h = (wOut.getD 3 default).root then 1 else 2
def cenvEx : Nat → Content := fun _ => .bad
/-- the same leader (key 5) signs a second slice for slot 7, slice 3: other content -/
def wSlice2 : Shred.Slice := ⟨⟨7, 3, true⟩, some (6, genHash 3), [9, 2, 0, 128, 0]⟩
def wOut2 : List VShred := Shred.leaderOut toyEnv .regular wSlice2 5 (keyOf 1)
/-- a shred of the conflicting slice whose data/coding type a relay flipped -/
def wConflictFlipped : Shred.Shred :=
  { (wOut2.getD 3 default).shred with isData := !(wOut2.getD 3 default).shred.isData }

def view (c : Blockstore.Shred) : Nat × Bool × Nat × Nat × Bool := (c.slice, c.isLast, c.root, c.idx, c.ty)

/-- **Non-vacuity of the abstraction**: a concrete fine shred of the leader (key 5, slot 7, slice 3, index 3) passes
    `try_new(_, None, 5)` and abstracts to the coarse shred (slice 3, last, root id 1, index 3, type fits); with its
    type flipped it still validates and abstracts to the same shred with `ty = false`; the same shred with a junk
    signature, under another key, offered to another slot, or with another index is no delivery at all. -/
theorem abs_witness :
    (absIn toyEnv ridEx 5 7 wS).map view = some (3, true, 1, 3, true) ∧
    (absIn toyEnv ridEx 5 7 wFlipped).map view = some (3, true, 1, 3, false) ∧
    absIn toyEnv ridEx 5 7 (wJunk 3) = none ∧
    absIn toyEnv ridEx 6 7 wS = none ∧
    absIn toyEnv ridEx 5 8 wS = none ∧
    absIn toyEnv ridEx 5 7 { wS with index := 4 } = none := by
  decide +kernel

/-- **Non-vacuity of the simulation**: the fine node on junk, a genuine shred, its type-flipped copy and a duplicate
    sends exactly `FirstShred`, stays unflagged and caches the slice's commitment with the signature verified for it;
    the coarse run on the abstractions of the shreds that validate sends the same. -/
theorem run_witness :
    (FNode.run toyEnv cenvEx ridEx 5 (FNode.new 4 7) [wJunk 3, wS, wFlipped, wS]).2 = [.firstShred] ∧
    (FNode.run toyEnv cenvEx ridEx 5 (FNode.new 4 7) [wJunk 3, wS, wFlipped, wS]).1.abs.misbehaved = false ∧
    (FNode.run toyEnv cenvEx ridEx 5 (FNode.new 4 7) [wJunk 3, wS, wFlipped, wS]).1.cachedEntry 3
      = some (wOut.getD 3 default).cacheEntry ∧
    (runNode cenvEx (SlotData.new 4 7) ([wJunk 3, wS, wFlipped, wS].filterMap (absIn toyEnv ridEx 5 7))).2 = [.firstShred] := by
  decide +kernel

/-- **The one place where the node is not "the blockstore on what validates"** (why the simulation is stated with
    `runNode`): after a genuine shred of slice 3, a shred of a *second* slice the leader signed for the same slot and
    index, with its type flipped on the way, makes the node flag the leader (`try_new` answers `Equivocation` before
    the type is looked at), whereas the blockstore model fed the abstraction drops it as `WrongType`. The node errs on
    the safe side: the leader did sign two commitments. -/
theorem typed_conflict_witness :
    (FNode.run toyEnv cenvEx ridEx 5 (FNode.new 4 7) [wS, wConflictFlipped]).2 = [.firstShred, .invalidBlock] ∧
    (FNode.run toyEnv cenvEx ridEx 5 (FNode.new 4 7) [wS, wConflictFlipped]).1.abs.misbehaved = true ∧
    (runNode cenvEx (SlotData.new 4 7) ([wS, wConflictFlipped].filterMap (absIn toyEnv ridEx 5 7))).2
      = [.firstShred, .invalidBlock] ∧
    (runDissem cenvEx (SlotData.new 4 7) ([wS, wConflictFlipped].filterMap (absIn toyEnv ridEx 5 7))).2 = [.firstShred] ∧
    (runDissem cenvEx (SlotData.new 4 7) ([wS, wConflictFlipped].filterMap (absIn toyEnv ridEx 5 7))).1.misbehaved = false := by
  decide +kernel

end Witness

end AgModel.Seam
