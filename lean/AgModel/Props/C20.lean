import AgModel.Model.TrieOps
import AgModel.Model.Exec
import AgModel.Proofs.TrieState
import AgModel.Proofs.LtHash
import AgModel.Proofs.Exec
/-!
# C20 — execution state: persistent map semantics, fork isolation, content commitment

Statements are about `AgModel.Trie` (model of `src/execution/state.rs`), `AgModel.LtHash` (model of
`src/execution/commitment.rs`, per-entry hash an arbitrary function) and `AgModel.Exec` (model of
`DummyExecution` in `src/execution.rs` as repaired by the D10 `fix:` commit; SHA-256 chaining a free
constructor). Keys are real addresses (`ValidKey`: 32 bytes `< 256`). The "ordinary ordered map" is
`AgModel.OrdMap`: the association list strictly sorted in the byte-lexicographic order `lexLt` of
`[u8; 32]` (what `BTreeMap<Address, _>` iterates).
-/
namespace AgModel.C20
open AgModel.Trie AgModel.OrdMap

private theorem put_keyLt_eq_lexLt (m : Map) (k : Key) (v : Nat) (hk : ValidKey k)
    (hm : ∀ kv ∈ m, ValidKey kv.1) : put keyLt m k v = put lexLt m k v :=
  put_congr keyLt lexLt m k v (fun kv hkv => chunks_lex_iff k kv.1 hk (hm kv hkv))

/-- one write to a state that represents a map (the inductive invariant): the Rust code does not panic, returns
    what the ordered map returns, and the new state represents the new map -/
theorem step_refines (s : State) (m : Map) (h : Inv s m) (op : Op) (hk : ValidKey op.key) :
    ∃ s', s.apply op = .ok s' (OrdMap.apply lexLt m op).2 ∧ Inv s' (OrdMap.apply lexLt m op).1 := by
  cases op with
  | ins k v =>
    obtain ⟨s1, e1, i1⟩ := inv_insert h k v hk
    rw [put_keyLt_eq_lexLt m k v hk h.2.2] at i1
    exact ⟨s1, e1, i1⟩
  | rem k => exact inv_remove h k

private theorem run_refines_aux {ops : List Op} {s : State} {m : Map} (h : Inv s m)
    (hv : ∀ op ∈ ops, ValidKey op.key) :
    ∃ s', State.run s ops = some (s', (OrdMap.run lexLt m ops).2) ∧ Inv s' (OrdMap.run lexLt m ops).1 := by
  induction ops generalizing s m with
  | nil => exact ⟨s, rfl, h⟩
  | cons op ops ih =>
    obtain ⟨s1, e1, i1⟩ := step_refines s m h op (hv op (List.mem_cons_self ..))
    obtain ⟨s', e2, i2⟩ := ih i1 (fun o ho => hv o (List.mem_cons_of_mem _ ho))
    exact ⟨s', by simp [State.run, e1, e2, OrdMap.run], i2⟩

private theorem inv_sorted_lexLt {s : State} {m : Map} (h : Inv s m) : Sorted lexLt m :=
  sorted_congr keyLt lexLt m (fun a ha b hb => chunks_lex_iff a.1 b.1 (h.2.2 a ha) (h.2.2 b hb)) (inv_sorted_keyLt h)

/-- **Refinement of an ordered map.** For every sequence of inserts and removals of real addresses,
    started from `State::new()`: the Rust code does not panic, every call returns what the ordered map
    returns, and afterwards `iter()` is exactly the map's sorted listing (strictly increasing in the
    byte order of `[u8; 32]`), `len()` its size, `get` its lookup (for *every* key), and the trie is in
    canonical form. -/
theorem refines_ordered_map (ops : List Op) (hv : ∀ op ∈ ops, ValidKey op.key) :
    ∃ s, State.run {} ops = some (s, (OrdMap.run lexLt [] ops).2) ∧
      s.iter = (OrdMap.run lexLt [] ops).1 ∧
      s.len = (OrdMap.run lexLt [] ops).1.length ∧
      (∀ key, s.get key = find (OrdMap.run lexLt [] ops).1 key) ∧
      Sorted lexLt s.iter ∧
      s.wf = true := by
  obtain ⟨s, e, i⟩ := run_refines_aux inv_new hv
  refine ⟨s, e, i.2.1, (inv_root i).2, fun key => inv_get i key, ?_, i.1⟩
  rw [i.2.1]; exact inv_sorted_lexLt i

theorem get_refines (s : State) (m : Map) (h : Inv s m) (key : Key) : s.get key = find m key := inv_get h key

/-- no depth at which `chunk_at` would index out of bounds is ever reached, and no other panic
    (`unreachable!`, `.expect`, `len` underflow) either: a write to a reachable state is `ok` -/
theorem no_panic (s : State) (m : Map) (h : Inv s m) (op : Op) (hk : ValidKey op.key) : s.apply op ≠ .panic := by
  obtain ⟨s', e, _⟩ := step_refines s m h op hk
  rw [e]; intro h'; cases h'

/-- `Iter::next`'s explicit-stack loop (pop; yield a leaf; push a branch's children so that they are
    popped in chunk order), started from `[root]`, yields exactly the listing `iter` used above -/
theorem iter_is_stack_loop (s : State) (h : s.wf = true) : iterStack (size s.root) [s.root] = s.iter := by
  rw [iterStack_eq (st := [s.root]) (fun n hn => List.mem_singleton.1 hn ▸ ⟨[], .inr ⟨0, (State.wf_iff.1 h).1⟩⟩)
    (by simp)]
  simp [State.iter]

/-- two canonical states with the same listing are the same value (`==` is structural equality) -/
theorem canonical (s1 s2 : State) (h1 : s1.wf = true) (h2 : s2.wf = true) (he : s1.iter = s2.iter) : s1 = s2 := by
  obtain ⟨r1, l1⟩ := State.wf_iff.1 h1
  obtain ⟨r2, l2⟩ := State.wf_iff.1 h2
  have hr : s1.root = s2.root := (canonical_aux s1.root s2.root []).1 0 0 r1 r2 he
  have hl : s1.len = s2.len := by rw [l1, l2]; exact congrArg List.length he
  cases s1; cases s2; simp_all

/-- **Equal contents are equal whatever produced them**: two operation sequences whose ordered maps
    coincide leave `==` states (in particular identical trie structure: detours through other keys,
    overwritten values and deep collapses leave no trace). -/
theorem equal_contents_equal_states (ops1 ops2 : List Op)
    (hv1 : ∀ op ∈ ops1, ValidKey op.key) (hv2 : ∀ op ∈ ops2, ValidKey op.key)
    (he : (OrdMap.run lexLt [] ops1).1 = (OrdMap.run lexLt [] ops2).1) :
    ∃ s, (State.run {} ops1).map (·.1) = some s ∧ (State.run {} ops2).map (·.1) = some s := by
  obtain ⟨s1, e1, i1⟩ := run_refines_aux inv_new hv1
  obtain ⟨s2, e2, i2⟩ := run_refines_aux inv_new hv2
  have : s1 = s2 := canonical s1 s2 i1.1 i2.1 (by rw [i1.2.1, i2.2.1, he])
  subst this
  exact ⟨s1, by simp [e1], by simp [e2]⟩

/-- and conversely `==` states have equal contents (trivially: `iter` is a function of the value) -/
theorem equal_states_equal_contents (s1 s2 : State) (h : s1 = s2) : s1.iter = s2.iter := by rw [h]

/-- every fork represents its own ordered map, which is its listing -/
def ForksInv (fs : List State) (ms : List Map) : Prop := ms = fs.map (·.iter) ∧ ∀ s ∈ fs, Inv s s.iter

private theorem forks_step_refines (fs : List State) (ms : List Map) (h : ForksInv fs ms) (op : FOp)
    (hk : op.keyValid ValidKey) :
    (forksStep fs op = none ∧ OrdMap.forksStep lexLt ms op = none) ∨
    ∃ fs' ms', forksStep fs op = some fs' ∧ OrdMap.forksStep lexLt ms op = some ms' ∧ ForksInv fs' ms' := by
  obtain ⟨rfl, hl⟩ := h
  cases op with
  | fork i =>
    simp only [Trie.forksStep, OrdMap.forksStep, List.getElem?_map]
    cases hp : fs[i]? with
    | none => exact .inl ⟨rfl, rfl⟩
    | some s =>
      refine .inr ⟨_, _, rfl, rfl, by rw [List.map_append]; rfl, fun q hq => ?_⟩
      rcases List.mem_append.1 hq with hq | hq
      · exact hl q hq
      · rw [List.mem_singleton.1 hq]; exact hl s (List.mem_of_getElem? hp)
  | write i op =>
    simp only [Trie.forksStep, OrdMap.forksStep, List.getElem?_map]
    cases hp : fs[i]? with
    | none => exact .inl ⟨rfl, rfl⟩
    | some s =>
      obtain ⟨s', e, inv'⟩ := step_refines s s.iter (hl s (List.mem_of_getElem? hp)) op hk
      simp only [Option.map_some, e]
      refine .inr ⟨_, _, rfl, rfl, by rw [List.map_set, inv'.2.1], fun q hq => ?_⟩
      rcases List.mem_or_eq_of_mem_set hq with hq | hq
      · exact hl q hq
      · rw [hq, inv'.2.1]; exact inv'

private theorem forks_run_refines {ops : List FOp} {fs : List State} {ms : List Map} (h : ForksInv fs ms)
    (hv : ∀ op ∈ ops, op.keyValid ValidKey) :
    (forksRun fs ops = none ∧ OrdMap.forksRun lexLt ms ops = none) ∨
    ∃ fs' ms', forksRun fs ops = some fs' ∧ OrdMap.forksRun lexLt ms ops = some ms' ∧ ForksInv fs' ms' := by
  induction ops generalizing fs ms with
  | nil => exact .inr ⟨fs, ms, rfl, rfl, h⟩
  | cons op ops ih =>
    rcases forks_step_refines fs ms h op (hv op (List.mem_cons_self ..)) with ⟨e1, e2⟩ | ⟨fs1, ms1, e1, e2, h1⟩
    · exact .inl ⟨by simp only [Trie.forksRun, e1], by simp only [OrdMap.forksRun, e2]⟩
    · simp only [Trie.forksRun, OrdMap.forksRun, e1, e2]
      exact ih h1 (fun o ho => hv o (List.mem_cons_of_mem _ ho))

/-- **Fork isolation, all interleavings.** Run any sequence of `fork i` / `write i op` (real addresses)
    on a family of states starting from one fresh state, and the same sequence on a family of plain
    ordered maps (values, which cannot interfere with each other). Either both reject the sequence (an
    index out of range) or both succeed, and then *every* fork is canonical and lists exactly the
    ordered map produced by its own history: no fork observes a write made to another fork after the
    split. -/
theorem fork_isolation (ops : List FOp) (hv : ∀ op ∈ ops, op.keyValid ValidKey) :
    (forksRun [{}] ops = none ∧ OrdMap.forksRun lexLt [[]] ops = none) ∨
    ∃ fs ms, forksRun [{}] ops = some fs ∧ OrdMap.forksRun lexLt [[]] ops = some ms ∧
      fs.length = ms.length ∧
      ∀ (i : Nat) (s : State) (m : Map), fs[i]? = some s → ms[i]? = some m → s.wf = true ∧ s.iter = m ∧ s.len = m.length := by
  have h0 : ForksInv [{}] [[]] := ⟨rfl, fun s hs => by rw [List.mem_singleton.1 hs]; exact inv_new⟩
  rcases forks_run_refines h0 hv with h | ⟨fs, _, e1, e2, rfl, hl⟩
  · exact .inl h
  · refine .inr ⟨_, _, e1, e2, by rw [List.length_map], fun i s m hs hm => ?_⟩
    rw [List.getElem?_map, hs] at hm
    cases hm
    have hi := hl s (List.mem_of_getElem? hs)
    exact ⟨hi.1, rfl, (inv_root hi).2⟩

/-- the frame property itself: a write to fork `i` leaves every other fork's value untouched -/
theorem write_leaves_other_forks (fs fs' : List State) (i j : Nat) (op : Op) (hj : i ≠ j)
    (h : forksStep fs (.write i op) = some fs') : fs'[j]? = fs[j]? := by
  simp only [Trie.forksStep] at h
  split at h
  · cases h
  · split at h
    · cases h
    · cases h; exact List.getElem?_set_ne hj

section lthash
open AgModel.LtHash
variable (h : Key → Nat → Lanes) (hOK : ∀ k v, LanesOK (h k v))
include hOK

private theorem commit_step {s : State} {m : Map} (i : Inv s m) (op : Op) (hk : ValidKey op.key) :
    observe (commitOf h m) ((OrdMap.apply lexLt m op).2.map (h op.key)) (op.newVal.map (h op.key)) =
      commitOf h (OrdMap.apply lexLt m op).1 := by
  have hs := inv_sorted_keyLt i
  cases op with
  | ins k v =>
    refine commit_update h hOK m _ (del m k) k (find m k) (some v) (perm_find_del m k hs) ?_
    show (put lexLt m k v).Perm _
    rw [← put_keyLt_eq_lexLt m k v hk i.2.2]
    exact put_perm m k v hs
  | rem k => exact commit_update h hOK m (del m k) (del m k) k (find m k) none (perm_find_del m k hs) (.refl _)

private theorem runCommit_aux {ops : List Op} {s : State} {m : Map} (i : Inv s m)
    (hv : ∀ op ∈ ops, ValidKey op.key) :
    ∃ s', State.runCommit h s (commitOf h m) ops = some (s', commitOf h s'.iter) ∧
      (State.run s ops).map (·.1) = some s' := by
  induction ops generalizing s m with
  | nil => exact ⟨s, by simp [State.runCommit, i.2.1], rfl⟩
  | cons op ops ih =>
    have hk : ValidKey op.key := hv op (List.mem_cons_self ..)
    obtain ⟨s1, e1, i1⟩ := step_refines s m i op hk
    obtain ⟨s', e2, e3⟩ := ih i1 (fun o ho => hv o (List.mem_cons_of_mem _ ho))
    refine ⟨s', ?_, ?_⟩
    · simp only [State.runCommit, e1]
      rw [commit_step h hOK i op hk]; exact e2
    · simp only [State.run, e1, Option.map_map]
      simpa [Option.map_map, Function.comp_def] using e3

/-- **Incremental = recomputed.** For every sequence of writes (inserts, overwrites, removals of
    present and absent keys) from the empty state and the identity commitment, folding each write with
    `observe(key, old, new)` yields exactly the commitment recomputed from the final contents
    (`for (k, v) in &state { add_entry(k, v) }`), for any per-entry hash function `h`. -/
theorem lthash_incremental_eq_recomputed (ops : List Op) (hv : ∀ op ∈ ops, ValidKey op.key) :
    ∃ s, State.runCommit h {} identity ops = some (s, commitOf h s.iter) ∧
      (State.run {} ops).map (·.1) = some s :=
  runCommit_aux h hOK inv_new hv

/-- **Order independence.** The commitment depends only on the multiset of entries, not on the order
    in which they are added. -/
theorem lthash_order_independent (l1 l2 : List (Key × Nat)) (hp : l1.Perm l2) : commitOf h l1 = commitOf h l2 := by
  have _ := hOK
  exact commitOf_perm h l1 l2 hp

/-- hence any two write sequences that reach the same contents carry the same maintained commitment -/
theorem lthash_depends_on_contents_only (ops1 ops2 : List Op)
    (hv1 : ∀ op ∈ ops1, ValidKey op.key) (hv2 : ∀ op ∈ ops2, ValidKey op.key)
    (he : (OrdMap.run lexLt [] ops1).1 = (OrdMap.run lexLt [] ops2).1) :
    (State.runCommit h {} identity ops1).map (·.2) = (State.runCommit h {} identity ops2).map (·.2) := by
  obtain ⟨s1, c1, r1⟩ := lthash_incremental_eq_recomputed h hOK ops1 hv1
  obtain ⟨s2, c2, r2⟩ := lthash_incremental_eq_recomputed h hOK ops2 hv2
  obtain ⟨s, q1, q2⟩ := equal_contents_equal_states ops1 ops2 hv1 hv2 he
  rw [r1] at q1; rw [r2] at q2
  cases q1; cases q2
  rw [c1, c2]

/-- `a += b; a -= b` restores `a` (lane-wise wrapping arithmetic is a group) -/
theorem lthash_add_sub_inverse (a b : Lanes) (ha : LanesOK a) (hb : LanesOK b) : subL (addL a b) b = a :=
  subL_addL_cancel a b ha hb

end lthash

/-- the constants the models use are the ones in the sources -/
theorem constants_are_source :
    bitsPerLevel = AgModel.Gen.STATE_BITS_PER_LEVEL ∧ LtHash.numLanes = AgModel.Gen.LTHASH_NUM_LANES ∧
    bitsPerLevel = 5 ∧ numChunks = 52 ∧ LtHash.numLanes = 1024 := by decide

/-- the trie order is the byte order of addresses, and an address is determined by its chunks -/
theorem key_order_is_byte_order (k1 k2 : Key) (h1 : ValidKey k1) (h2 : ValidKey k2) :
    keyLt k1 k2 = lexLt k1 k2 := chunks_lex_iff k1 k2 h1 h2

theorem key_determined_by_chunks (k1 k2 : Key) (h1 : ValidKey k1) (h2 : ValidKey k2)
    (h : ∀ d, d < 52 → chunkAt k1 d = chunkAt k2 d) : k1 = k2 := by
  apply chunks_injective k1 k2 h1 h2
  simp only [chunks, numChunks_eq]
  exact List.map_congr_left fun d hd => h d (List.mem_range.1 hd)

open AgModel.Exec

/-- **The engine computes the specification.** For every sequence of `begin_block` /
    `execute_transactions` / `end_block` / `finalize` calls (any block tree, any interleaving, also
    malformed feeds) the engine's state is the abstraction of the specification engine's state — which
    stores per in-flight block the seed chosen at `begin_block` and the whole transaction sequence —
    and the emitted events are identical. In the specification engine the reported commitment is *by
    definition* the fold of the block's transaction sequence over the seed, and the seed is `specSeed`. -/
theorem engine_refines_spec (ops : List Exec.Op) :
    Exec.run ops = (⟨absBlocks (grun ops).1⟩, (grun ops).2) := runFrom_refines [] ops

/-- every emitted event carries the number of streamed transactions and the fold of the complete
    transaction sequence over the seed of the block state it was read from -/
theorem engine_event_is_fold (g : GBlocks) (op : Exec.Op) (ev : Event) (h : (gstepOp g op).2 = some ev) :
    ∃ b x, op = .endB b ∧ glookup g (gendKey g b) = some x ∧
      ev = (b, x.txs.length, x.txs.foldl SH.step x.seed) := by
  cases op with
  | begin id parent => simp [gstepOp] at h
  | exec id txs => simp [gstepOp] at h
  | fin b => simp [gstepOp] at h
  | endB b =>
    simp only [gstepOp] at h
    cases hx : glookup g (gendKey g b) with
    | none => simp [hx] at h
    | some x =>
      simp only [hx, Option.some.injEq] at h
      exact ⟨b, x, rfl, hx, h.symm⟩

/-- **Seed rule.** no parent: genesis; a state completed under exactly the parent's id: its commitment
    (`Known(parent)` first, else `Pending(parent slot)`); *otherwise the parent block hash* — in
    particular when the pending block of the parent's slot is a different block or is unfinished. -/
theorem engine_seed_rule (g : GBlocks) (ps ph : Nat) :
    specSeed g none = .block 0 ∧
    (∀ x, glookup g (.known ps ph) = some x → x.completedAs = some ph → specSeed g (some (ps, ph)) = x.commitment) ∧
    (∀ x, (∀ y, glookup g (.known ps ph) = some y → y.completedAs ≠ some ph) →
      glookup g (.pending ps) = some x → x.completedAs = some ph → specSeed g (some (ps, ph)) = x.commitment) ∧
    ((∀ x, glookup g (.known ps ph) = some x → x.completedAs ≠ some ph) →
      (∀ x, glookup g (.pending ps) = some x → x.completedAs ≠ some ph) → specSeed g (some (ps, ph)) = .block ph) :=
  ⟨rfl, fun x h hc => specSeed_known g ps ph x h hc,
   fun x h1 h hc => specSeed_pending g ps ph x h1 h hc, fun h1 h2 => specSeed_unknown g ps ph h1 h2⟩

/-- slice boundaries are irrelevant: streaming `t1` then `t2` is streaming `t1 ++ t2` -/
theorem engine_streaming (e : Engine) (id : Ipb) (t1 t2 : List Nat) :
    exec (exec e id t1) id t2 = exec e id (t1 ++ t2) := by
  cases hx : lookup e.blocks id with
  | none => simp [exec, hx]
  | some ex =>
    simp only [exec, hx, lookup_insertB_self, insertB_insertB_self, List.foldl_append,
      List.length_append, Nat.add_assoc]

/-- a complete block on a completed parent: the child's commitment is the fold of its transactions
    over the parent's reported commitment (concrete end-to-end instance, also non-vacuity) -/
example :
    (Exec.run [.begin (.pending 1) none, .exec (.pending 1) [7, 8], .endB (1, 11),
               .begin (.pending 2) (some (1, 11)), .exec (.pending 2) [9], .endB (2, 22)]).2 =
      [((1, 11), 2, SH.step (SH.step (.block 0) 7) 8),
       ((2, 22), 1, SH.step (SH.step (SH.step (.block 0) 7) 8) 9)] := by decide

/-- **D10, repaired behaviour.** An unrelated pending block of the parent's slot (here slot 1 holds
    block 11, the child names parent (1, 12)) is not used: the child is seeded from block hash 12. -/
theorem d10_repaired :
    (Exec.run [.begin (.pending 1) none, .exec (.pending 1) [7], .endB (1, 11),
               .begin (.pending 2) (some (1, 12)), .endB (2, 22)]).2 =
      [((1, 11), 1, SH.step (.block 0) 7), ((2, 22), 0, .block 12)] := by decide

/-- … and a parent that is still being executed is not used either (its hash is not final) -/
theorem d10_repaired_partial_parent :
    (Exec.run [.begin (.pending 1) none, .exec (.pending 1) [7],
               .begin (.pending 2) (some (1, 11)), .exec (.pending 1) [8], .endB (1, 11), .endB (2, 22)]).2 =
      [((1, 11), 2, SH.step (SH.step (.block 0) 7) 8), ((2, 22), 0, .block 11)] := by decide

/-- **D10, witness of the behaviour before the fix**: `seedOld` takes the state of whatever is
    pending in the parent's slot — the unrelated block 11 for parent (1, 12), and a half-executed
    parent's intermediate hash. -/
theorem d10_old_behaviour :
    seedOld (exec (beginOld {} (.pending 1) none) (.pending 1) [7]) (some (1, 12)) = SH.step (.block 0) 7 ∧
    seed (exec (begin {} (.pending 1) none) (.pending 1) [7]) (some (1, 12)) = .block 12 := by decide

/-! ## Non-vacuity: concrete deep tries -/

/-- `[0xAB; 32]` and the same with the last bit flipped share 51 chunks -/
def keyA : Key := List.replicate 32 171
def keyB : Key := List.replicate 31 171 ++ [170]
def keyC : Key := 0 :: List.replicate 31 171

example : validKey keyA = true ∧ validKey keyB = true ∧ validKey keyC = true := by decide

/-- the two keys split at the deepest level (depth 51), removal collapses the whole chain again and
    leaves exactly the state that only ever contained the other key -/
example :
    (State.run {} [.ins keyA 1, .ins keyB 2, .ins keyC 3, .rem keyA, .rem keyC]).map (·.1) =
      (State.run {} [.ins keyB 2]).map (·.1) := by decide +kernel

example : ((State.run {} [.ins keyA 1, .ins keyB 2]).map (fun r => (r.1.iter, r.1.len, r.1.wf))) =
    some ([(keyB, 2), (keyA, 1)], 2, true) := by decide +kernel

end AgModel.C20
